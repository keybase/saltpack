/-
  Property C19 (first half) — sender and hidden-recipient identities stay
  hidden; visible recipients are named exactly once.

  "Appears nowhere in the bytes" is stated as *provenance*: the emitted message
  is `headerPacket (encode header) ++ payload packets`, the encoder is injective
  and adds nothing (C08), so what the bytes can carry is what the packet fields
  carry.  The theorems say, for every input,

  * which field names whom: the key-id slot of a recipient entry is `nil` for a
    hidden recipient and the recipient's public key for a visible one, in header
    order — so (recipient keys being pairwise distinct, which `Seal` checks) a
    visible recipient is named exactly once and a hidden one never;
  * which fields depend on the sender at all: only the sender secretbox (a
    secretbox under the fresh payload key) and the per-recipient authenticators
    (HMACs under keys derived from `box(sender secret, recipient key)`): the
    whole message is unchanged when the sender's key pair is replaced by another
    that yields the same secretbox and the same derived boxes (noninterference
    up to the outputs of the primitives);
  * an anonymous sender's message is the message of the ephemeral key itself;
  * a hidden recipient's public key enters only through `box(·, that key, …)`;
  * in signcryption a box-key recipient's key enters only through the derived
    shared key, its identifier slot is an HMAC of that key, and everything that
    depends on the signing key is inside a secretbox under the payload key.

  Not claimed: that primitive *outputs* never contain a key as a substring by
  coincidence (a statement about X25519/XSalsa20/SHA-512, outside this model).
  The correspondence stream `fields.*` searches the real bytes for the real keys.

  The lemmas about recipient lists (key-id column, congruence of the entries and
  MAC keys under `FieldsSameBoxes`) are in Saltpack/Proofs/Fields.lean.
-/
import Saltpack.Proofs.Fields
import Saltpack.Toy

namespace Saltpack.Props.C19
open Saltpack

/-! ## encryption -/

/-- the key-id slots of the header, in header order: `nil` for hidden
    recipients, the public key for visible ones — and nothing else -/
theorem C19_enc_kid_slots (P : Prims) (v : Version) (sender : Option Bytes) (eph pk : Bytes)
    (rs : List Encrypt.Recipient) (h : EncHeader)
    (hh : Encrypt.header P v sender eph pk rs = .ok h) :
    h.receivers.map (·.kid) = rs.map (fun r => if r.hidden then none else some r.pub) :=
  Proofs.enc_kid_slots P v sender eph pk rs h hh

/-- visible recipients are named exactly once, hidden recipients never (the
    recipient keys are pairwise distinct: `checkEncryptReceivers`) -/
theorem C19_enc_named_once (P : Prims) (v : Version) (sender : Option Bytes) (eph pk : Bytes)
    (rs : List Encrypt.Recipient) (h : EncHeader)
    (hh : Encrypt.header P v sender eph pk rs = .ok h)
    (hck : Encrypt.checkReceivers rs = .ok ()) (r : Encrypt.Recipient) (hr : r ∈ rs) :
    (h.receivers.filter (fun e => e.kid = some r.pub)).length = (if r.hidden then 0 else 1) := by
  have hk := Proofs.enc_kid_slots P v sender eph pk rs h hh
  have hc := Proofs.fields_count_named r rs (Proofs.fields_checkReceivers_nodup rs hck) hr
  rw [← List.countP_eq_length_filter]
  have h1 : h.receivers.countP (fun e => decide (e.kid = some r.pub))
      = (h.receivers.map (·.kid)).countP (fun k => decide (k = some r.pub)) := by
    rw [List.countP_map]; rfl
  rw [h1, hk, List.countP_map]
  exact hc

/-- every header field other than the sender secretbox is independent of the
    sender (the recipient entries are boxed by the *ephemeral* key) -/
theorem C19_enc_header_sender_free (P : Prims) (v : Version) (s s' : Option Bytes) (eph pk : Bytes)
    (rs : List Encrypt.Recipient) :
    (Encrypt.header P v s eph pk rs).map (fun h => { h with senderSecretbox := [] })
      = (Encrypt.header P v s' eph pk rs).map (fun h => { h with senderSecretbox := [] }) := by
  simp only [Encrypt.header]
  cases Encrypt.receiverEntries P v eph pk rs 0 <;> rfl

/-- the sender secretbox is a secretbox of the sender's public key under the
    fresh payload key -/
theorem C19_enc_sender_secretbox (P : Prims) (v : Version) (s : Bytes) (eph pk : Bytes)
    (rs : List Encrypt.Recipient) (h : EncHeader)
    (hh : Encrypt.header P v (some s) eph pk rs = .ok h) :
    h.senderSecretbox = P.sbSeal pk Nonce.senderKeySecretBox (P.boxPub s) :=
  (Proofs.fields_header_receivers P v (some s) eph pk rs h hh).2

/-- **the sender's key enters only through primitive outputs**: two sender
    secrets that give the same sender secretbox and the same key-derivation
    boxes for every recipient give the same message, byte for byte -/
theorem C19_enc_sender_noninterference (P : Prims) (bs : Nat) (v : Version) (s s' : Bytes)
    (rs : List Encrypt.Recipient) (eph pk pt : Bytes)
    (hbox : P.sbSeal pk Nonce.senderKeySecretBox (P.boxPub s) = P.sbSeal pk Nonce.senderKeySecretBox (P.boxPub s'))
    (hmac : ∀ r ∈ rs, ∀ n, P.box s r.pub n (zeros 32) = P.box s' r.pub n (zeros 32)) :
    Encrypt.sealWith P bs v (some s) rs eph pk pt = Encrypt.sealWith P bs v (some s') rs eph pk pt := by
  have hh : Encrypt.header P v (some s) eph pk rs = Encrypt.header P v (some s') eph pk rs := by
    simp only [Encrypt.header, Option.getD_some, hbox]
  have hm : ∀ hh, Encrypt.macKeysSender P v s eph hh rs 0 = Encrypt.macKeysSender P v s' eph hh rs 0 :=
    fun hh => Proofs.fields_macKeysSender_sender P v s s' eph hh rs 0 hmac
  simp only [Encrypt.sealWith, Encrypt.sealPackets, Option.getD_some, hh, hm]

/-- an anonymous sender's message is exactly the message "sent by" the
    ephemeral key: no long-term identity is an input at all -/
theorem C19_enc_anonymous (P : Prims) (bs : Nat) (v : Version) (rs : List Encrypt.Recipient) (eph pk pt : Bytes) :
    Encrypt.sealWith P bs v none rs eph pk pt = Encrypt.sealWith P bs v (some eph) rs eph pk pt := by
  have hh : Encrypt.header P v none eph pk rs = Encrypt.header P v (some eph) eph pk rs := rfl
  simp only [Encrypt.sealWith, Encrypt.sealPackets, Option.getD_some, Option.getD_none, hh]

/-- **a hidden recipient's key enters only through boxes made for it**: replace
    the hidden recipients' keys by others for which the two boxing keys (the
    ephemeral and the sender's) produce the same boxes, and the message is the
    same, byte for byte (the lists are related position by position: equal
    lengths and the relation on every pair of `rs.zip rs'`) -/
theorem C19_enc_hidden_noninterference (P : Prims) (bs : Nat) (v : Version) (sender : Option Bytes)
    (rs rs' : List Encrypt.Recipient) (eph pk pt : Bytes)
    (hck : Encrypt.checkReceivers rs = .ok ()) (hck' : Encrypt.checkReceivers rs' = .ok ())
    (hlen : rs.length = rs'.length)
    (hsame : ∀ r r', (r, r') ∈ rs.zip rs' →
        r.hidden = r'.hidden ∧ (r.hidden = false → r.pub = r'.pub) ∧
        (∀ n m, P.box eph r.pub n m = P.box eph r'.pub n m) ∧
        (∀ n m, P.box (sender.getD eph) r.pub n m = P.box (sender.getD eph) r'.pub n m)) :
    Encrypt.sealWith P bs v sender rs eph pk pt = Encrypt.sealWith P bs v sender rs' eph pk pt := by
  have hsame' : Proofs.FieldsForall₂ (Proofs.FieldsSameBoxes P (sender.getD eph) eph) rs rs' :=
    Proofs.fields_forall₂_of_zip _ rs rs' hlen hsame
  have hh : Encrypt.header P v sender eph pk rs = Encrypt.header P v sender eph pk rs' := by
    simp only [Encrypt.header, Proofs.fields_receiverEntries_congr P v (sender.getD eph) eph pk hsame' 0]
  have hm : ∀ hh, Encrypt.macKeysSender P v (sender.getD eph) eph hh rs 0
      = Encrypt.macKeysSender P v (sender.getD eph) eph hh rs' 0 :=
    fun hh => Proofs.fields_macKeysSender_congr P v (sender.getD eph) eph hh hsame' 0
  simp only [Encrypt.sealWith, Encrypt.sealPackets, hck, hck', hh, hm]

/-! ## signcryption -/

/-- the identifier slot of a box-key recipient is an HMAC of the derived shared
    key (never the key itself); a symmetric-key recipient's is the identifier
    the application chose -/
theorem C19_sc_kid_slots (P : Prims) (sender : Option Bytes) (eph pk : Bytes) (rs : List Signcrypt.Recipient) :
    (Signcrypt.header P sender eph pk rs).receivers.map (·.kid)
      = (List.zipIdx rs).map (fun (r, i) => match r with
          | .box pub => some (Signcrypt.keyIdentifier P (Signcrypt.derivedKeyFromBoxKeys P pub eph) i)
          | .sym _ ident => some ident) :=
  Proofs.fields_sc_kids P eph pk rs 0

/-- **a box-key recipient's key enters only through the derived shared key** -/
theorem C19_sc_box_noninterference (P : Prims) (bs : Nat) (sender : Option Bytes)
    (rs rs' : List Signcrypt.Recipient) (eph pk pt : Bytes)
    (hck : Signcrypt.checkReceivers rs [] = .ok ()) (hck' : Signcrypt.checkReceivers rs' [] = .ok ())
    (hlen : rs.length = rs'.length)
    (hsame : ∀ r r', (r, r') ∈ rs.zip rs' → match r, r' with
        | .box p, .box p' => Signcrypt.derivedKeyFromBoxKeys P p eph = Signcrypt.derivedKeyFromBoxKeys P p' eph
        | .sym k i, .sym k' i' => k = k' ∧ i = i'
        | _, _ => False) :
    Signcrypt.sealWith P bs sender rs eph pk pt = Signcrypt.sealWith P bs sender rs' eph pk pt := by
  have hh : Signcrypt.header P sender eph pk rs = Signcrypt.header P sender eph pk rs' := by
    simp only [Signcrypt.header,
      Proofs.fields_sc_receiverEntries_congr P eph pk (Proofs.fields_forall₂_of_zip _ rs rs' hlen hsame) 0]
  simp only [Signcrypt.sealWith, Signcrypt.sealPackets, hck, hck', hh]

/-- every header field other than the sender secretbox is independent of the
    signing key -/
theorem C19_sc_header_sender_free (P : Prims) (s s' : Option Bytes) (eph pk : Bytes) (rs : List Signcrypt.Recipient) :
    { Signcrypt.header P s eph pk rs with senderSecretbox := [] }
      = { Signcrypt.header P s' eph pk rs with senderSecretbox := [] } :=
  rfl

/-- everything that depends on the signing key is the plaintext of a secretbox
    under the payload key: the sender secretbox holds the public key (32 zero
    bytes when anonymous), each payload packet holds `signature ‖ chunk` -/
theorem C19_sc_sender_inside_secretboxes (P : Prims) (sender : Option Bytes) (eph pk hh : Bytes)
    (rs : List Signcrypt.Recipient) (i : Nat) (chunk : Bytes) (fin : Bool) (b : SigncryptBlock)
    (hb : Signcrypt.blockStruct P sender pk hh i chunk fin = .ok b) :
    (Signcrypt.header P sender eph pk rs).senderSecretbox
        = P.sbSeal pk Nonce.senderKeySecretBox (match sender with | none => zeros 32 | some s => P.sigPub s)
    ∧ ∃ sg, b.ct = P.sbSeal pk (Nonce.chunkSigncryption hh fin i) (sg ++ chunk) ∧
        (sender = none → sg = zeros 64) := by
  refine ⟨by cases sender <;> rfl, ?_⟩
  unfold Signcrypt.blockStruct at hb
  split at hb
  · cases hb
  · cases hb
    refine ⟨_, rfl, ?_⟩
    intro hs
    subst hs
    rfl

/-! ## non-vacuity -/

example : Encrypt.checkReceivers [⟨[1], false⟩, ⟨[2], true⟩] = .ok () := by decide

example :
    (match Encrypt.header Toy.prims v2 (some [7]) [9] [5] [⟨[1], false⟩, ⟨[2], true⟩] with
     | .ok h => h.receivers.map (·.kid)
     | .error _ => []) = [some [1], none] := by decide

end Saltpack.Props.C19
