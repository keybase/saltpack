/-
  C15 (hostile input) — the model's OWN decoder of hostile bytes
  (Model/Codec.lean: go-codec's typed decoding into the saltpack packet types).

  Totality of every decoder is by construction (structural / fuel recursion,
  certified by Lean's termination checker).  What is stated here:
  * whatever the bytes, an authenticator that the decoder hands to the
    receivers has exactly 32 bytes (`[32]byte`: go-codec truncates / zero-pads),
    so `C15_decrypt_no_panic`'s reading of authenticators needs no extra
    hypothesis;
  * `swallow` (surplus elements) succeeds on every encodable value within
    go-codec's depth limit and consumes exactly that value;
  * go-codec's depth limit is real: an element nested deeper than the levels left makes
    `swallow` fail (an error, not a panic) — evaluated on arrays nested 3 deep with 2 levels left.
  Tied to the real decoder by the correspondence streams `codec.list.*`.
-/
import Saltpack.Proofs.CodecTypes

namespace Saltpack.Props.C15
open Saltpack Saltpack.Msgpack Saltpack.Codec Saltpack.Proofs Saltpack.Proofs.CodecP

/-- from ANY bytes: every decoded authenticator has 32 bytes -/
theorem C15_codec_authenticators_len32 (fuel rem : Nat) (b r : Bytes) (l : List Bytes)
    (h : decAuthenticators fuel rem b = .ok (l, r)) : ∀ a ∈ l, a.length = 32 :=
  kSliceOf_all (fun a => a.length = 32) (pad32_length []) (decByteArray32_len fuel rem) h

/-- from ANY bytes: a `[32]byte` is 32 bytes whatever the stream offers (bin/str of
    any length, array or map of integers) -/
theorem C15_codec_bytearray_len32 (fuel rem : Nat) (b a r : Bytes) (h : decByteArray32 fuel rem b = .ok (a, r)) :
    a.length = 32 :=
  decByteArray32_len fuel rem b a r h

/-- surplus elements: `swallow` consumes exactly one encodable value, whatever
    it is, if it nests at most `rem` deep (go-codec: 99 at packet level) -/
theorem C15_codec_swallow_exact (v : Val) (hv : ValWF v) (rest : Bytes) (fuel rem : Nat)
    (hf : 2 * (encode v).length ≤ fuel) (hd : depth v ≤ rem) :
    swallow fuel rem (encode v ++ rest) = .ok ((), rest) :=
  swallow_encode v hv rest fuel rem hf hd

/-- non-vacuity: a value the lemma applies to -/
example : swallow 64 99 (encode (.arr [.int 7, .str [120], .arr [.nil, .bool true]]) ++ [1, 2]) = .ok ((), [1, 2]) := by
  decide +kernel

/-- the depth limit exists (so the hypothesis `depth v ≤ rem` cannot be dropped):
    the one-element arrays nested 3 deep are refused with 2 levels left -/
theorem C15_codec_depth_limit :
    swallow 64 2 (encode (.arr [.arr [.arr []]])) = .error (.err "max depth exceeded") := by
  decide +kernel

/-- a decode failure is an error value, never a stuck or partial computation:
    the signcryption block reader on a packet whose flag is the integer 2 -/
example : (decSigncryptBlock (encode (.arr [.bin [1], .int 2]))).toOption = none := by decide +kernel

end Saltpack.Props.C15
