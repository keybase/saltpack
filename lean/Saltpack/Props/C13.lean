/-
  Property C13 — results never depend on how input or output streams are
  fragmented; bounded buffering.  The statements, each with the last step of its
  proof; the lemmas are in Saltpack/Proofs (StreamLemmas, ChunkReaderAll,
  ReceiverChunks, StateBounds, ArmorWriter, PunctAll, ArmorStack*).

  Write side: the plaintext bufferer shared by the three encoder streams, the
  BaseX encoder stream and the armor encoder stream on top of it.  Read side, as
  whole-stream theorems: the chunk reader, instantiated for the three receivers;
  the punctuated reader; and the complete armor reader stack (punctuatedReader →
  framedDecoderStream → filteringReader → BaseX decoder) against the whole-text
  function `Armor.openPure` of C11.  Excluded scripts (`SrcOK`), each with a
  machine-checked counterexample in Proofs/Stack*.lean: empty non-terminal reads
  `(0, nil)` (Go's `ReadUntilPunctuation` turns one into `ErrUnexpectedEOF`; the
  property's quantifier excludes readers that return them forever, io.Reader
  discourages them), and data after the first reported condition.  WHICH error
  is reported for a malformed text can depend on the fragmentation
  (counterexample: `"h..f.!."` gives `punctuated` in one delivery and
  `trailingGarbage` byte by byte) — the property asks for the same *result*, and
  an error either way, which is what is proved.  Bounded buffering is stated as
  invariants of the reader and writer STATES, true initially and preserved by
  every call on any input.
-/
import Saltpack.Proofs.StreamLemmas
import Saltpack.Proofs.ChunkReaderAll
import Saltpack.Proofs.ReceiverChunks
import Saltpack.Proofs.StateBounds
import Saltpack.Proofs.ArmorWriter
import Saltpack.Proofs.PunctAll
import Saltpack.Proofs.ArmorStack
import Saltpack.Proofs.ArmorStackFaults

namespace Saltpack.Props.C13
open Saltpack Saltpack.Stream Saltpack.Proofs

/-- **Write-split independence** of `NewEncryptStream`, `NewSignStream`,
    `NewSigncryptSealStream`: however the plaintext is split over `Write` calls
    (empty writes included), `Close` yields exactly the chunk plan of the
    all-at-once form — hence the same packets. -/
theorem C13_write_independent (bs : Nat) (hb : 0 < bs) (v : Version) (ws : List Bytes) :
    (ws.foldl Chunker.write ({ bs := bs } : Chunker)).close v = Encrypt.chunkPlan v bs ws.flatten := by
  have hinv := foldl_write_inv Chunker.write (ChInv bs) (fun T c p h => chInv_write bs hb T c h p) ws [] { bs := bs }
    ⟨rfl, rfl, by simp, by simp, fun _ => rfl⟩
  rw [List.nil_append] at hinv
  generalize ws.foldl Chunker.write ({ bs := bs } : Chunker) = c at hinv
  generalize ws.flatten = T at hinv
  have hc := chInv_chunks bs hb T c hinv
  unfold Chunker.close Encrypt.chunkPlan
  simp only [hc]
  by_cases hv : v = v1
  · simp only [if_pos hv]
    by_cases h0 : c.buf = []
    · simp [h0]
    · simp [h0]
  · simp only [if_neg hv]
    by_cases h0 : c.buf = []
    · simp [h0, hinv.ne h0]
    · simp [h0]

/-- two splits of the same plaintext give the same plan -/
theorem C13_two_splits_agree (bs : Nat) (hb : 0 < bs) (v : Version) (ws ws' : List Bytes)
    (h : ws.flatten = ws'.flatten) :
    (ws.foldl Chunker.write ({ bs := bs } : Chunker)).close v =
    (ws'.foldl Chunker.write ({ bs := bs } : Chunker)).close v := by
  rw [C13_write_independent bs hb, C13_write_independent bs hb, h]

/-- **Bounded buffering (writers)**: after every `Write` at most one block is
    buffered, whatever the total length of the message… -/
theorem C13_writer_buffer_bounded (c : Chunker) (hb : 0 < c.bs) (p : Bytes) : (c.write p).buf.length ≤ c.bs := by
  unfold Chunker.write
  exact (drain_spec c.bs hb _ { c with buf := c.buf ++ p } rfl (by simp)).1

/-- …and no byte is lost or reordered on the way -/
theorem C13_writer_conserves (c : Chunker) (hb : 0 < c.bs) (p : Bytes) :
    (c.write p).emitted.flatten ++ (c.write p).buf = c.emitted.flatten ++ c.buf ++ p ∧ (c.write p).bs = c.bs := by
  unfold Chunker.write
  have := drain_spec c.bs hb (c.buf.length + p.length + 1) { c with buf := c.buf ++ p } rfl (by simp)
  exact ⟨by rw [this.2.2.1]; simp, this.2.1⟩

/-- **BaseX encoder stream = one-shot encoding**, whatever the write split -/
theorem C13_basex_encoder_independent (enc : Basex.Enc) (he : enc.WF) (ws : List Bytes) :
    let s1 := ws.foldl (fun (s : EncState) w => (s.write w).2.2) ({ enc := enc } : EncState)
    let r := s1.close
    r.1 = true ∧ r.2.written.flatten = Basex.encode enc ws.flatten :=
  encStream_any_split enc he ws

theorem C13_basex_encoder_bounded (s : EncState) (hb : 0 < s.enc.blockLen) (hs : s.buf.length < s.enc.blockLen) (p : Bytes) :
    (s.write p).2.2.buf.length < s.enc.blockLen := by
  -- a failing underlying write leaves the buffer as it found it, a succeeding `rest` leaves less than a block
  have rest : ∀ (s1 : EncState) (q : Bytes) (n : Nat), s1.enc = s.enc → s1.buf.length < s.enc.blockLen →
      (encRest s1 q n).2.2.buf.length < s.enc.blockLen := by
    intro s1 q n h1 h2
    obtain ⟨_, _, e3, e4⟩ := encRest_spec s1 q n
    cases hr : (encRest s1 q n).2.1 with
    | false => rw [(e3 hr).2]; exact h2
    | true => exact h1 ▸ (e4 hr).2.1 (h1 ▸ hb)
  refine write_cases s p (fun r => r.2.2.buf.length < s.enc.blockLen) (fun _ => hs) (fun _ _ => rest s p 0 rfl hs)
    (fun _ _ hl => hl) (fun _ _ _ _ => ?_) (fun _ _ _ _ => ?_)
  · show (encFringeU s p).2.buf.length < _
    rw [(encFringeU_spec s p).2.1]; exact hb
  · exact rest _ _ _ (encFringeU_spec s p).1 (by rw [(encFringeU_spec s p).2.1]; exact hb)

/-- **Armor encoder stream = whole-text armoring, whatever the write split**:
    `armorEncoderStream` (armor.go) as the state machine `ArmState`
    (Model/ArmorWriter.lean: `Write` = BaseX `encoder.Write` into a
    `bytes.Buffer`, then `spaceAndOutputBuffer` — a space after every
    `bytesPerWord` characters, a newline after every `wordsPerLine` words;
    `Close` = `encoder.Close`, spacing, last word, pad, `". " ‖ footer ‖ ".\n"`).
    For every split `ws` of the payload over `Write` calls (empty writes
    included) the text left in the output after `Close` is `Armor.sealText` of
    the concatenation — the function C11 opens again. -/
theorem C13_armor_writer_independent (par : Armor.Params) (he : par.enc.WF) (hw : 0 < par.bytesPerWord)
    (hdr ftr : Bytes) (ws : List Bytes) :
    ((ws.foldl ArmState.write (ArmState.init par hdr ftr)).close).out = Armor.sealText par hdr ftr ws.flatten :=
  armorWriter_any_split par he hw hdr ftr ws

/-- …for the shipped `Armor62Params` and the frames of a message type -/
theorem C13_armor62_writer_independent (typ : Int) (brand : Bytes) (ws : List Bytes) :
    ((ws.foldl ArmState.write
        (ArmState.init Armor.params62 (Armor.header typ brand) (Armor.footer typ brand))).close).out =
      Armor.seal62 typ brand ws.flatten :=
  armorWriter62_any_split typ brand ws

/-- bounded buffering of the armor encoder stream: after every `Write` at most
    one word (`bytesPerWord` characters) is held back, in ANY state -/
theorem C13_armor_writer_bounded (s : ArmState) (hw : 0 < s.par.bytesPerWord) (b : Bytes) :
    (s.write b).buf.length ≤ s.par.bytesPerWord :=
  armorWriter_bounded s hw b

/-- **Chunk reader**: every `Read` hands out a prefix of what is pending, never
    more than the caller's buffer, and leaves the rest: whatever buffer sizes the
    caller uses, the plaintext chunks are delivered exactly once, in order… -/
theorem C13_chunk_reader_prefix (cap : Nat) (s : CRState Source)
    (hwf : ∀ p ∈ s.chunker, p.1 = [] → p.2 ≠ none) (d : Bytes) (e : Option RErr) (s' : CRState Source)
    (h : crRead Proofs.scriptNext cap (s.chunker.length + 3) s [] = (d, e, s')) :
    d.length ≤ cap ∧ crPending s = d ++ crPending s' ∧ (∀ p ∈ s'.chunker, p.1 = [] → p.2 ≠ none) := by
  obtain ⟨h1, h2, h3, _⟩ := crRead_aux cap _ s [] d e s' hwf (by simp) h
  exact ⟨h1, by simpa using h2, h3⟩

/-- …and the end-of-message or error condition is reported only after
    everything pending was delivered, and then again on every call -/
theorem C13_chunk_reader_terminal (cap : Nat) (s : CRState Source)
    (hwf : ∀ p ∈ s.chunker, p.1 = [] → p.2 ≠ none) (d : Bytes) (x : RErr) (s' : CRState Source)
    (h : crRead Proofs.scriptNext cap (s.chunker.length + 3) s [] = (d, some x, s')) :
    crPending s' = [] ∧ crRead Proofs.scriptNext cap (s'.chunker.length + 3) s' [] = ([], some x, s') :=
  crRead_terminal cap s hwf d x s' h

/-- **Reading to the end with any buffer sizes** (chunkReader, generic in the
    chunker; instantiated for decrypt, verify and signcrypt-open below): if the
    chunker hands out the chunks `cs` and then the condition `e` (no chunk
    before the last is empty — an empty chunk without a condition is the
    panic case C15 excludes), then for every schedule of positive buffer sizes
    the bytes returned by the successive `Read`s are exactly `cs.flatten`, the
    first condition reported is `e`, and the reader is left in its terminal
    state. -/
theorem C13_chunk_reader_all {σ : Type} (next : σ → Bytes × Option RErr × σ)
    (σ0 : σ) (n : Nat) (cs : List Bytes) (e : RErr)
    (htr : chunkTrace next n σ0 = (cs, some e)) (hne : ∀ c ∈ cs.dropLast, c ≠ [])
    (caps : List Nat) (hcaps : ∀ c ∈ caps, 0 < c)
    (inner : Nat) (hi : n + 1 ≤ inner) (fuel : Nat) (hf : cs.flatten.length + 1 ≤ fuel) :
    (crReadAll next caps inner fuel 0 { chunker := σ0 } []).1 = cs.flatten ∧
    (crReadAll next caps inner fuel 0 { chunker := σ0 } []).2.1 = some e ∧
    (crReadAll next caps inner fuel 0 { chunker := σ0 } []).2.2.prevChunk = [] ∧
    (crReadAll next caps inner fuel 0 { chunker := σ0 } []).2.2.prevErr = some e :=
  crReadAll_eq next σ0 n cs e htr hne caps hcaps inner hi fuel hf

/-- two buffer-size schedules give the same bytes and the same condition -/
theorem C13_chunk_reader_caps_independent {σ : Type} (next : σ → Bytes × Option RErr × σ)
    (σ0 : σ) (n : Nat) (cs : List Bytes) (e : RErr)
    (htr : chunkTrace next n σ0 = (cs, some e)) (hne : ∀ c ∈ cs.dropLast, c ≠ [])
    (caps caps' : List Nat) (hcaps : ∀ c ∈ caps, 0 < c) (hcaps' : ∀ c ∈ caps', 0 < c)
    (inner inner' : Nat) (hi : n + 1 ≤ inner) (hi' : n + 1 ≤ inner')
    (fuel fuel' : Nat) (hf : cs.flatten.length + 1 ≤ fuel) (hf' : cs.flatten.length + 1 ≤ fuel') :
    (crReadAll next caps inner fuel 0 { chunker := σ0 } []).1 =
      (crReadAll next caps' inner' fuel' 0 { chunker := σ0 } []).1 ∧
    (crReadAll next caps inner fuel 0 { chunker := σ0 } []).2.1 =
      (crReadAll next caps' inner' fuel' 0 { chunker := σ0 } []).2.1 := by
  obtain ⟨a1, a2, _⟩ := crReadAll_eq next σ0 n cs e htr hne caps hcaps inner hi fuel hf
  obtain ⟨b1, b2, _⟩ := crReadAll_eq next σ0 n cs e htr hne caps' hcaps' inner' hi' fuel' hf'
  exact ⟨by rw [a1, b1], by rw [a2, b2]⟩

/-- **The three receivers behind the chunk reader.**  `decNext P s` is
    `decryptStream.getNextChunk` as a function on the state (remaining decoded
    objects, what the decoder reports after them, sequence number, condition
    already returned): `(nil, err)` for a read / authentication / chunk-state
    error, `(chunk, assertEndOfStream)` for the final block, `(chunk, nil)`
    otherwise.  Reading it through `chunkReader.Read` with ANY schedule of
    positive buffer sizes releases exactly the bytes of the read-to-end
    function `Decrypt.run` and then its condition (`none` ↔ `io.EOF`), and
    leaves the reader terminal.  The hypothesis of `C13_chunk_reader_all` —
    no empty chunk before the last — is DISCHARGED from `checkChunkState`
    (V2 refuses empty non-final chunks, V1: empty ⇔ final; errors and the V1
    panic branch are `(nil, err)` returns, not the reader's panic case). -/
theorem C13_decrypt_reads_any_size (P : Prims) (s : Decrypt.State) (items : List (Option EncBlock)) (tail : Tail)
    (seqno : Nat) (caps : List Nat) (hcaps : ∀ c ∈ caps, 0 < c) (inner : Nat) (hi : items.length + 2 ≤ inner)
    (fuel : Nat) (hf : (Decrypt.run P s items tail seqno).bytes.length + 1 ≤ fuel) :
    let r := crReadAll (decNext P s) caps inner fuel 0 { chunker := ⟨items, tail, seqno, none⟩ } []
    r.1 = (Decrypt.run P s items tail seqno).bytes ∧
    r.2.1 = some (toRErr (Decrypt.run P s items tail seqno).err) ∧
    r.2.2.prevChunk = [] ∧
    r.2.2.prevErr = some (toRErr (Decrypt.run P s items tail seqno).err) :=
  decrypt_reads_any_size P s items tail seqno caps hcaps inner hi fuel hf

theorem C13_signcrypt_reads_any_size (P : Prims) (s : Signcrypt.State) (items : List (Option SigncryptBlock))
    (tail : Tail) (seqno : Nat) (caps : List Nat) (hcaps : ∀ c ∈ caps, 0 < c) (inner : Nat)
    (hi : items.length + 2 ≤ inner)
    (fuel : Nat) (hf : (Signcrypt.run P s items tail seqno).bytes.length + 1 ≤ fuel) :
    let r := crReadAll (scNext P s) caps inner fuel 0 { chunker := ⟨items, tail, seqno, none⟩ } []
    r.1 = (Signcrypt.run P s items tail seqno).bytes ∧
    r.2.1 = some (toRErr (Signcrypt.run P s items tail seqno).err) ∧
    r.2.2.prevChunk = [] ∧
    r.2.2.prevErr = some (toRErr (Signcrypt.run P s items tail seqno).err) :=
  signcrypt_reads_any_size P s items tail seqno caps hcaps inner hi fuel hf

theorem C13_verify_reads_any_size (P : Prims) (s : Sign.State) (items : List (Option SigBlock)) (tail : Tail)
    (seqno : Nat) (caps : List Nat) (hcaps : ∀ c ∈ caps, 0 < c) (inner : Nat) (hi : items.length + 2 ≤ inner)
    (fuel : Nat) (hf : (Sign.run P s items tail seqno).bytes.length + 1 ≤ fuel) :
    let r := crReadAll (verNext P s) caps inner fuel 0 { chunker := ⟨items, tail, seqno, none⟩ } []
    r.1 = (Sign.run P s items tail seqno).bytes ∧
    r.2.1 = some (toRErr (Sign.run P s items tail seqno).err) ∧
    r.2.2.prevChunk = [] ∧
    r.2.2.prevErr = some (toRErr (Sign.run P s items tail seqno).err) :=
  verify_reads_any_size P s items tail seqno caps hcaps inner hi fuel hf

/-- …at the level of the entry points: what `NewDecryptStream` + `Read`s with
    any buffer sizes release is `openStream`'s `released`, then its `err`
    (after a successfully processed header the stream object is a `chunkReader`
    over the receiver's chunker, positioned at packet 1) -/
theorem C13_decrypt_open_reads_any_size (P : Prims) (valid : Validator) (kr : Keyring) (hb : Bytes) (h : EncHeader)
    (ps : PStream EncBlock) (log : List KeyCall) (st : Decrypt.State)
    (hh : Decrypt.processHeader P valid kr (P.hash hb) h = (log, .ok st))
    (caps : List Nat) (hcaps : ∀ c ∈ caps, 0 < c) (inner : Nat) (hi : ps.items.length + 2 ≤ inner)
    (fuel : Nat) (hf : (Decrypt.openStream P valid kr (.ok hb h) ps).released.length + 1 ≤ fuel) :
    let R := Decrypt.openStream P valid kr (.ok hb h) ps
    let r := crReadAll (decNext P st) caps inner fuel 0 { chunker := ⟨ps.items, ps.tail, 1, none⟩ } []
    r.1 = R.released ∧ r.2.1 = some (toRErr R.err) ∧
    r.2.2.prevChunk = [] ∧ r.2.2.prevErr = some (toRErr R.err) := by
  have hR : Decrypt.openStream P valid kr (.ok hb h) ps =
      ⟨some st.mki, (Decrypt.run P st ps.items ps.tail 1).bytes, (Decrypt.run P st ps.items ps.tail 1).err, log⟩ := by
    simp only [Decrypt.openStream, hh]
  rw [hR] at hf ⊢
  exact decrypt_reads_any_size P st ps.items ps.tail 1 caps hcaps inner hi fuel hf

theorem C13_signcrypt_open_reads_any_size (P : Prims) (kr : Keyring) (res : Signcrypt.Resolver) (hb : Bytes)
    (h : EncHeader) (ps : PStream SigncryptBlock) (log : List KeyCall) (st : Signcrypt.State)
    (hh : Signcrypt.processHeader P kr res (P.hash hb) h = (log, .ok st))
    (caps : List Nat) (hcaps : ∀ c ∈ caps, 0 < c) (inner : Nat) (hi : ps.items.length + 2 ≤ inner)
    (fuel : Nat) (hf : (Signcrypt.openStream P kr res (.ok hb h) ps).released.length + 1 ≤ fuel) :
    let R := Signcrypt.openStream P kr res (.ok hb h) ps
    let r := crReadAll (scNext P st) caps inner fuel 0 { chunker := ⟨ps.items, ps.tail, 1, none⟩ } []
    r.1 = R.released ∧ r.2.1 = some (toRErr R.err) ∧
    r.2.2.prevChunk = [] ∧ r.2.2.prevErr = some (toRErr R.err) := by
  have hR : Signcrypt.openStream P kr res (.ok hb h) ps =
      ⟨st.sender, (Signcrypt.run P st ps.items ps.tail 1).bytes, (Signcrypt.run P st ps.items ps.tail 1).err, log⟩ := by
    simp only [Signcrypt.openStream, hh]
  rw [hR] at hf ⊢
  exact signcrypt_reads_any_size P st ps.items ps.tail 1 caps hcaps inner hi fuel hf

theorem C13_verify_stream_reads_any_size (P : Prims) (valid : Validator) (kr : Keyring) (hb : Bytes) (h : SigHeader)
    (ps : PStream SigBlock) (pk : Bytes)
    (hval : Sign.validate valid h mtAttached = .ok ())
    (hpk : kr.lookupSigningPublicKey h.senderPublic = some pk)
    (hv : h.version.major = 1 ∨ h.version.major = 2)
    (caps : List Nat) (hcaps : ∀ c ∈ caps, 0 < c) (inner : Nat) (hi : ps.items.length + 2 ≤ inner)
    (fuel : Nat) (hf : (Sign.verifyStream P valid kr (.ok hb h) ps).released.length + 1 ≤ fuel) :
    let R := Sign.verifyStream P valid kr (.ok hb h) ps
    let r := crReadAll (verNext P ⟨h.version, P.hash hb, pk⟩) caps inner fuel 0
      { chunker := ⟨ps.items, ps.tail, 1, none⟩ } []
    r.1 = R.released ∧ r.2.1 = some (toRErr R.err) ∧
    r.2.2.prevChunk = [] ∧ r.2.2.prevErr = some (toRErr R.err) := by
  have hR : Sign.verifyStream P valid kr (.ok hb h) ps =
      ⟨some pk, (Sign.run P ⟨h.version, P.hash hb, pk⟩ ps.items ps.tail 1).bytes,
        (Sign.run P ⟨h.version, P.hash hb, pk⟩ ps.items ps.tail 1).err⟩ := by
    rcases hv with hv | hv <;> simp [Sign.verifyStream, hval, hpk, hv]
  rw [hR] at hf ⊢
  exact verify_reads_any_size P ⟨h.version, P.hash hb, pk⟩ ps.items ps.tail 1 caps hcaps inner hi fuel hf

/-- none of the three `getNextChunk`s ever returns the chunk reader's panic
    case (empty chunk, nil error) -/
theorem C13_receivers_never_panic_reader (P : Prims) :
    (∀ (s : Decrypt.State) σ, (decNext P s σ).1 ≠ [] ∨ (decNext P s σ).2.1 ≠ none) ∧
    (∀ (s : Signcrypt.State) σ, (scNext P s σ).1 ≠ [] ∨ (scNext P s σ).2.1 ≠ none) ∧
    (∀ (s : Sign.State) σ, (verNext P s σ).1 ≠ [] ∨ (verNext P s σ).2.1 ≠ none) :=
  ⟨fun s σ => rxNext_no_panic _ (decStep_nonfinal P s) σ, fun s σ => rxNext_no_panic _ (scStep_nonfinal P s) σ,
   fun s σ => rxNext_no_panic _ (verStep_nonfinal P s) σ⟩

/-- a reported condition (other than the model's marker for the Go panic) is
    reported again, with no data, by every later `Read` of any size -/
theorem C13_chunk_reader_sticky {σ : Type} (next : σ → Bytes × Option RErr × σ)
    (cap inner : Nat) (s : CRState σ) (d : Bytes) (x : RErr) (s1 : CRState σ)
    (h : crRead next cap inner s [] = (d, some x, s1)) (hx : x ≠ crPanic)
    (cap' inner' : Nat) (hi : 1 ≤ inner') :
    crRead next cap' inner' s1 [] = ([], some x, s1) := by
  obtain ⟨hc, he⟩ := crRead_cond_state next cap inner s [] d x s1 h hx
  exact crRead_terminal_state next cap' inner' s1 x hc he hi

/-- **punctuatedReader, whole segments**: from any reachable (`WF`) state whose
    logical remaining input is `(t, c)` — buffered bytes, then what the
    underlying reader still delivers, ending in condition `c` — reading with
    any schedule of positive buffer sizes until a condition is reported yields:
    the text before the first period and `ErrPunctuated`, leaving exactly the
    text behind the period; or, without a period, all of `t` and then `c`.
    Nothing here depends on how the underlying reader fragments its deliveries
    (`s.text` is all that matters) or on the caller's buffer sizes. -/
theorem C13_punct_segment (caps : List Nat) (hpos : ∀ c ∈ caps, 0 < c) (s : PState) (hwf : s.WF)
    (fuel : Nat) (hfuel : s.cost < fuel) (k : Nat) (t : Bytes) (c : RErr) (ht : s.text = (t, c)) :
    (∀ a rest, t = a ++ Armor.period :: rest → Armor.period ∉ a →
      ∃ s1, pReadSeg caps fuel k s [] = (a, some punctErr, s1) ∧ s1.WF ∧ s1.text = (rest, c) ∧ s1.cost < s.cost) ∧
    (Armor.period ∉ t → ∃ s1, pReadSeg caps fuel k s [] = (t, some c, s1) ∧ s1.WF ∧ s1.buf = []) :=
  pReadSeg_eq caps hpos s hwf fuel hfuel k t c ht

/-- every state reached from a fresh reader is `WF`, a fresh reader's logical
    input is the script's text, and the model's own fuel suffices -/
theorem C13_punct_reachable (src : Source) (cap : Nat) (hcap : 0 < cap) (s : PState) (hwf : s.WF) :
    ({ src := src } : PState).WF ∧ ({ src := src } : PState).text = srcText src ∧
    (pRead cap s).2.2.WF ∧ s.cost < fuelOf s :=
  ⟨pWF_init src, ptext_init src, pWF_pRead cap hcap s hwf, cost_lt_fuelOf s⟩

/-- **fragmentation independence of the punctuated reader**: two scripts that
    deliver the same text with the same final condition, read with two
    schedules of buffer sizes, give the same segment and the same condition (and,
    when the segment ended at a period, states with the same remaining text) -/
theorem C13_punct_independent (src src' : Source) (h : srcText src = srcText src')
    (caps caps' : List Nat) (hpos : ∀ c ∈ caps, 0 < c) (hpos' : ∀ c ∈ caps', 0 < c)
    (fuel fuel' : Nat) (hfuel : srcCost src < fuel) (hfuel' : srcCost src' < fuel') :
    (pReadSeg caps fuel 0 { src := src } []).1 = (pReadSeg caps' fuel' 0 { src := src' } []).1 ∧
    (pReadSeg caps fuel 0 { src := src } []).2.1 = (pReadSeg caps' fuel' 0 { src := src' } []).2.1 :=
  let r := pReadSeg_independent src src' h caps caps' hpos hpos' fuel fuel' hfuel hfuel'
  ⟨r.1, r.2.1⟩

/-- **The armor reader stack computes the whole-text function**, whatever the
    fragmentation of the input and the caller's buffer sizes: `armorOpenStream`
    (read the decoder stack to its end with buffer schedule `caps`, then
    `GetHeader`/`GetFooter`/`GetBrand`) returns `o` exactly when
    `Armor.openPure` returns `o` on the text the script delivers. -/
theorem C13_armor_stream_is_whole_text (par : Armor.Params) (hpar : par.enc.WF) (expect : Armor.Expect)
    (src : Source) (T : Bytes) (hok : SrcOK src) (hsrc : srcText src = (T, .eof))
    (caps : List Nat) (hcaps : ∀ c ∈ caps, 0 < c) (fuel : Nat) (hfuel : T.length + 1 ≤ fuel) (o : Armor.Opened) :
    armorOpenStream par expect caps fuel src = .ok o ↔ Armor.openPure par expect T = .ok o :=
  armorOpenStream_ok_iff par hpar expect src T hok hsrc caps hcaps fuel hfuel o

/-- …for the shipped base62 armor -/
theorem C13_armor62_stream_is_whole_text (expect : Armor.Expect) (src : Source) (T : Bytes) (hok : SrcOK src)
    (hsrc : srcText src = (T, .eof)) (caps : List Nat) (hcaps : ∀ c ∈ caps, 0 < c) (fuel : Nat)
    (hfuel : T.length + 1 ≤ fuel) (o : Armor.Opened) :
    armorOpenStream Armor.params62 expect caps fuel src = .ok o ↔ Armor.open62 expect T = .ok o :=
  readAll_eq_open62 expect src T hok hsrc caps hcaps fuel hfuel o

/-- the bytes released by the `Read` calls themselves: exactly the payload and a
    clean end when the text is well-formed; an error is reported when the entry
    point checks frames (`expect = some typ`) and the text is not -/
theorem C13_armor_reads (par : Armor.Params) (hpar : par.enc.WF) (expect : Armor.Expect)
    (src : Source) (T : Bytes) (hok : SrcOK src) (hsrc : srcText src = (T, .eof))
    (caps : List Nat) (hcaps : ∀ c ∈ caps, 0 < c) (fuel : Nat) (hfuel : T.length + 1 ≤ fuel) :
    (∀ o, Armor.openPure par expect T = .ok o →
      (readAll par expect caps fuel 0 (newDecoder src) []).1 = o.payload ∧
      (readAll par expect caps fuel 0 (newDecoder src) []).2.1 = none) ∧
    (∀ typ e, expect = some typ → Armor.openPure par expect T = .error e →
      ∃ released e' d, readAll par expect caps fuel 0 (newDecoder src) [] = (released, some e', d)) := by
  refine ⟨fun o ho => ?_, fun typ e ht he => ?_⟩
  · have := readAll_independent par hpar expect src src T hok hok hsrc hsrc caps caps hcaps hcaps fuel fuel hfuel hfuel o ho
    exact ⟨this.1, this.2.2.1⟩
  · subst ht
    exact readAll_error_checked par hpar typ src T hok hsrc caps hcaps fuel hfuel e he

/-- **Fragmentation independence of dearmoring**: two scripts of the same text
    and two buffer schedules give the same result (`.toOption`: the same opened
    message, or an error in both) -/
theorem C13_armor_stream_independent (par : Armor.Params) (hpar : par.enc.WF) (expect : Armor.Expect)
    (src src' : Source) (T : Bytes) (hok : SrcOK src) (hok' : SrcOK src')
    (hsrc : srcText src = (T, .eof)) (hsrc' : srcText src' = (T, .eof))
    (caps caps' : List Nat) (hcaps : ∀ c ∈ caps, 0 < c) (hcaps' : ∀ c ∈ caps', 0 < c)
    (fuel fuel' : Nat) (hfuel : T.length + 1 ≤ fuel) (hfuel' : T.length + 1 ≤ fuel') :
    (armorOpenStream par expect caps fuel src).toOption = (armorOpenStream par expect caps' fuel' src').toOption :=
  armorOpenStream_independent par hpar expect src src' T hok hok' hsrc hsrc' caps caps' hcaps hcaps' fuel fuel' hfuel hfuel'

/-- whatever the text (malformed or not), the bytes released are a prefix of
    `maxRelease T`, a function of the text alone, and equal to it when the run
    ends cleanly -/
theorem C13_armor_released_bounded (par : Armor.Params) (hpar : par.enc.WF) (expect : Armor.Expect)
    (src : Source) (T : Bytes) (hok : SrcOK src) (hsrc : srcText src = (T, .eof))
    (caps : List Nat) (hcaps : ∀ c ∈ caps, 0 < c) (fuel : Nat) (hfuel : T.length + 1 ≤ fuel) :
    (readAll par expect caps fuel 0 (newDecoder src) []).1 <+: maxRelease par expect T ∧
    ((readAll par expect caps fuel 0 (newDecoder src) []).2.1 = none →
      (readAll par expect caps fuel 0 (newDecoder src) []).1 = maxRelease par expect T) :=
  released_prefix_maxRelease par hpar expect src T hok hsrc caps hcaps fuel hfuel

/-- **On failure, released bytes are prefixes of one another**: the bytes
    released under two fragmentations and two buffer schedules are comparable
    (both are prefixes of `maxRelease T`) -/
theorem C13_armor_released_comparable (par : Armor.Params) (hpar : par.enc.WF) (expect : Armor.Expect)
    (src src' : Source) (T : Bytes) (hok : SrcOK src) (hok' : SrcOK src')
    (hsrc : srcText src = (T, .eof)) (hsrc' : srcText src' = (T, .eof))
    (caps caps' : List Nat) (hcaps : ∀ c ∈ caps, 0 < c) (hcaps' : ∀ c ∈ caps', 0 < c)
    (fuel fuel' : Nat) (hfuel : T.length + 1 ≤ fuel) (hfuel' : T.length + 1 ≤ fuel') :
    (readAll par expect caps fuel 0 (newDecoder src) []).1 <+: (readAll par expect caps' fuel' 0 (newDecoder src') []).1 ∨
    (readAll par expect caps' fuel' 0 (newDecoder src') []).1 <+: (readAll par expect caps fuel 0 (newDecoder src) []).1 :=
  released_prefix_comparable par hpar expect src src' T hok hok' hsrc hsrc' caps caps' hcaps hcaps' fuel fuel' hfuel hfuel'

/-- **Source model**: a `Read` takes a prefix of the data, at most the buffer
    size, and leaves the rest — fragmentations of the same bytes differ only in
    where the cuts fall -/
theorem C13_source_prefix (cap : Nat) (src : Source) :
    let r := srcRead cap src
    r.1.length ≤ cap ∧ srcData src = r.1 ++ (match r.2.1 with | some _ => [] | none => srcData r.2.2) := by
  intro r
  cases src with
  | nil => simp [r, srcRead, srcData]
  | cons hd rest =>
    obtain ⟨d, e⟩ := hd
    by_cases hc : d.length ≤ cap
    · have hr : r = (d, e, rest) := by simp [r, srcRead, hc]
      rw [hr]
      cases e with
      | none => simp [srcData, hc]
      | some x => simp [srcData, hc]
    · have hr : r = (d.take cap, none, (d.drop cap, e) :: rest) := by simp [r, srcRead, hc]
      rw [hr]
      refine ⟨by simp [List.length_take]; omega, ?_⟩
      cases e with
      | none => simp [srcData, ← List.append_assoc]
      | some x => simp [srcData]

/-! ## Bounded buffering (readers): invariants of the reader STATES, true of
    the initial state and preserved by every `Read` call, whatever the input -/

/-- **BaseX decoder stream** (and, inside `DBounded`, every layer below it):
    a fresh decoder satisfies, and every `Read(p)` of any size preserves:
    input buffer `buf` ≤ `dBufSize` = 8192 · `blockLen` characters; decoded
    leftover `out` ≤ the decoding of one such buffer; the framed decoder's
    header and footer < 8192 bytes; the punctuated reader's two stashed
    segments together ≤ max 4096 `dBufSize`.  And a `Read` never returns more
    than the caller's buffer. -/
theorem C13_decoder_state_bounded (par : Armor.Params) (he : par.enc.WF) (expect : Armor.Expect) :
    (∀ src, DBounded par (newDecoder src)) ∧
    (∀ (cap : Nat) (d : DState), DBounded par d →
      DBounded par (dRead par expect cap d).2.2 ∧ (dRead par expect cap d).1.length ≤ cap) :=
  ⟨dBounded_init par, fun cap d h => dRead_bounded par he expect cap d h⟩

/-- `DBounded` spelled out -/
theorem C13_decoder_bound_unfolds (par : Armor.Params) (d : DState) :
    DBounded par d ↔
      ((d.fil.f.p.nextSegment.length + d.fil.f.p.thisSegment.length ≤ max 4096 (dBufSize par.enc) ∧
        d.fil.f.hdr.length < Armor.frameLim ∧ d.fil.f.ftr.length < Armor.frameLim) ∧
       d.buf.length ≤ dBufSize par.enc ∧
       d.out.length ≤ par.enc.decLen (dBufSize par.enc)) :=
  Iff.rfl

/-- **punctuatedReader**: with `B` any bound ≥ the caller's buffer (`max 4096
    cap` for the reader's own 4096-byte reads and the caller's `cap`), one
    `Read(p)` keeps `nextSegment` and `thisSegment` together within `B` bytes
    and returns at most `cap` bytes; a fresh reader holds nothing.  (Data read
    with the caller's `cap` may be stashed, hence `B ≥ cap`, not 4096.) -/
theorem C13_punct_state_bounded (cap : Nat) (s : PState)
    (h : s.nextSegment.length + s.thisSegment.length ≤ max 4096 cap) :
    (pRead cap s).2.2.nextSegment.length + (pRead cap s).2.2.thisSegment.length ≤ max 4096 cap ∧
    (pRead cap s).1.length ≤ cap ∧
    (∀ src, ({ src := src } : PState).nextSegment.length + ({ src := src } : PState).thisSegment.length = 0) :=
  let r := pRead_bounded (max 4096 cap) cap s h (Nat.le_max_right _ _)
  ⟨r.1, r.2, fun _ => rfl⟩

/-- the same for any bound `B ≥ cap` — the form that composes over calls with
    different buffer sizes (all ≤ `B`) -/
theorem C13_punct_state_bounded_any (B cap : Nat) (hc : cap ≤ B) (s : PState)
    (h : s.nextSegment.length + s.thisSegment.length ≤ B) :
    (pRead cap s).2.2.nextSegment.length + (pRead cap s).2.2.thisSegment.length ≤ B ∧ (pRead cap s).1.length ≤ cap :=
  pRead_bounded B cap s h hc

/-- **framedDecoderStream**: header and footer are collected up to, not
    including, `frameLim` = 8192 bytes: a fresh stream satisfies, and every
    `Read(p)` preserves, `hdr.length < frameLim ∧ ftr.length < frameLim`
    (together with the bound of its punctuated reader, for any `B ≥ 4096, cap`) -/
theorem C13_framed_state_bounded (par : Armor.Params) (expect : Armor.Expect) (B cap : Nat)
    (h4 : 4096 ≤ B) (hc : cap ≤ B) (f : FState)
    (hp : f.p.nextSegment.length + f.p.thisSegment.length ≤ B)
    (hh : f.hdr.length < Armor.frameLim) (hf : f.ftr.length < Armor.frameLim) :
    let f' := (fRead par expect cap f).2.2
    (f'.p.nextSegment.length + f'.p.thisSegment.length ≤ B ∧
     f'.hdr.length < Armor.frameLim ∧ f'.ftr.length < Armor.frameLim) ∧
    (fRead par expect cap f).1.length ≤ cap ∧
    (∀ src, ({ p := { src := src } } : FState).hdr.length < Armor.frameLim ∧
            ({ p := { src := src } } : FState).ftr.length < Armor.frameLim) :=
  let r := fRead_bounded par expect B cap h4 hc f ⟨hp, hh, hf⟩
  ⟨r.1, r.2, fun src => (fBounded_init B src).2⟩

/-- **chunkReader holds at most one chunk**: its only buffer is `prevChunk`
    (empty in a fresh reader); after a `Read` — any chunker, any buffer size —
    what is left pending is a suffix of what was pending before or of ONE chunk
    that `getNextChunk` returned during the call; hence never longer than the
    longest chunk the chunker hands out. -/
theorem C13_chunk_reader_one_chunk {σ : Type} (next : σ → Bytes × Option RErr × σ) (cap fuel : Nat)
    (s : CRState σ) (acc : Bytes) :
    ((crRead next cap fuel s acc).2.2.prevChunk <:+ s.prevChunk ∨
      ∃ σ1, (crRead next cap fuel s acc).2.2.prevChunk <:+ (next σ1).1) ∧
    (∀ B, (∀ σ1, (next σ1).1.length ≤ B) → s.prevChunk.length ≤ B →
      (crRead next cap fuel s acc).2.2.prevChunk.length ≤ B) ∧
    (∀ σ0 : σ, ({ chunker := σ0 } : CRState σ).prevChunk = []) :=
  ⟨crRead_one_chunk next cap fuel s acc, fun B hB hs => crRead_pending_le next B hB cap fuel s acc hs, fun _ => rfl⟩

/-- the constants behind the bounds above, for the shipped base62 armor
    (generated constants; this is a fact about two numbers, not about any
    state — the state invariants are the four theorems above) -/
theorem C13_reader_constants : Armor.frameLim = 8192 ∧ dBufSize Gen.base62Std = 8192 * 32 := by decide

/-! ## non-vacuity -/
-- "h.00.f." delivered in two fragments, the second one together with EOF, read
-- with buffers of 3 and 1 bytes: the hypotheses are met and both sides are `ok`
example : armorOpenStream Armor.params62 none [3, 1] 8 [([104, 46, 48], none), ([48, 46, 102, 46], some .eof)]
    = .ok ⟨[0], [], [104], [102]⟩ :=
  (C13_armor62_stream_is_whole_text none _ Proofs.exTiny (by simp [SrcOK]) (by decide +kernel) [3, 1] (by decide) 8
    (by decide) _).mpr (by decide +kernel)
example :
    let r := crReadAll Proofs.scriptNext [2] 5 7 0 { chunker := [([1, 2, 3], none), ([4], none), ([5, 6], none)] } []
    (r.1, r.2.1) = ([1, 2, 3, 4, 5, 6], some .eof) := by decide +kernel
example : (([[1, 2, 3], [], [4]] : List Bytes).foldl Chunker.write ({ bs := 2 } : Chunker)).close v2 =
    [([1, 2], false), ([3, 4], true)] := by decide +kernel

-- the state invariant holds initially and after a step, on a concrete decoder
example : DBounded Armor.params62 (dRead Armor.params62 none 3 (newDecoder [([104, 46, 48], none)])).2.2 :=
  ((C13_decoder_state_bounded Armor.params62 Proofs.params62_wf none).2 3 _
    ((C13_decoder_state_bounded Armor.params62 Proofs.params62_wf none).1 _)).1
-- the armor writer: three writes (one empty) of a 3-byte payload give the one-shot text
example : (([[1], [], [2, 3]].foldl ArmState.write (ArmState.init Proofs.toyArm [72] [70])).close).out
    = Armor.sealText Proofs.toyArm [72] [70] [1, 2, 3] :=
  C13_armor_writer_independent Proofs.toyArm Proofs.params62_wf (by decide) _ _ _

end Saltpack.Props.C13
