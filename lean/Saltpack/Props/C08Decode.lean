/-
  Property C08, the ORACLE side — the strict reference decoder `SpecDecode`
  (run on every byte string the implementation emits, harness streams `wire.*`)
  is itself verified against the reference sender `Spec` both ways.
  Lemmas: Saltpack/Proofs/SpecDecode*.lean.

  Layers (Model/SpecDecode.lean):  bytes → strict MessagePack objects → typed
  wire fields `XMsg` (layer W, `parse`, inverse `render`) → cryptographic check
  (layer S, `check`).  For each mode:

    completeness   the oracle accepts every message the reference sender can
                   emit with `Opts = {}` on a plan obeying the chunk rules
                   `PlanOK` (specification + the receivers' empty-chunk
                   convention, see Model/SpecDecode.lean header; the Go sender's
                   plans obey them) and decodes exactly what went in;
    soundness      whatever the oracle accepts IS the reference encoding of the
                   decoded fields (no non-minimal MessagePack, no str-for-bin,
                   no nil-for-empty, no extra element, no trailing byte), every
                   recomputed nonce / key box / MAC / signature input is the
                   specified one — hence, for encryption (under `OpenCanonical`),
                   the accepted bytes are the reference sender's output for the
                   decoded inputs.  For signatures (and a named signcryption
                   sender) that last step needs `SigCanonical`, an IDEALISATION
                   that real Ed25519 does not satisfy for a key holder: with the
                   real primitives only the field-level conjuncts apply there.

  What the run-time check then establishes (`C08_oracle_sound`,
  `C08_oracle_sound_model`): the implementation's bytes, once accepted, are
  `Spec.encodePlan` of the decoded payload key / sender / recipients / chunks;
  the harness compares the decoded plaintext, sender and recipients with the
  inputs of `Seal`.
-/
import Saltpack.Proofs.SpecDecodeModel

namespace Saltpack.Props.C08
open Saltpack Saltpack.Spec Saltpack.SpecDecode Saltpack.Proofs Saltpack.Proofs.SDW

/-! ### MessagePack layer -/

/-- **soundness of the strict object reader**: an accepted byte string is the
    concatenation of the canonical (minimal) encodings of the objects returned —
    nothing else is ever accepted -/
theorem C08_strict_msgpack_sound (b : Bytes) (vs : List Msgpack.Val) (h : strictObjects b = .ok vs) :
    vs.flatMap Msgpack.encode = b :=
  strictObjects_sound h

/-- **completeness**: canonical encodings of well-formed objects are accepted -/
theorem C08_strict_msgpack_complete (vs : List Msgpack.Val) (hv : ∀ v ∈ vs, ValWF v) :
    strictObjects (vs.flatMap Msgpack.encode) = .ok vs :=
  strictObjects_complete vs hv

/-- canonicity: the strict reader is injective on what it accepts -/
theorem C08_strict_msgpack_injective (b b' : Bytes) (vs : List Msgpack.Val)
    (h : strictObjects b = .ok vs) (h' : strictObjects b' = .ok vs) : b = b' :=
  (strictObjects_sound h).symm.trans (strictObjects_sound h')

/-- the contrapositive: a byte string other than the canonical encoding of `vs`
    is never decoded to `vs` -/
theorem C08_strict_msgpack_rejects_noncanonical (b : Bytes) (vs : List Msgpack.Val)
    (hne : b ≠ vs.flatMap Msgpack.encode) : strictObjects b ≠ .ok vs :=
  fun h => hne (strictObjects_sound h).symm

/-- non-vacuity: bin16 / str8 / wide-integer / fixarray-as-array16 forms and a
    trailing byte are refused; the canonical forms are accepted -/
example :
    (strictObjects [0xc4, 0x01, 0x07]).toBool = true ∧
    (strictObjects [0xc5, 0x00, 0x01, 0x07]).toBool = false ∧
    (strictObjects [0xd9, 0x01, 0x61]).toBool = false ∧
    (strictObjects [0xcd, 0x00, 0x05]).toBool = false ∧
    (strictObjects [0xdc, 0x00, 0x01, 0xc0]).toBool = false ∧
    (strictObjects [0xc4, 0x01, 0x07, 0xc1]).toBool = false ∧
    (strictObjects [0xc4, 0x01]).toBool = false := by
  decide +kernel

/-! ### layer W: typed wire fields, every mode -/

/-- **soundness / canonicity, encryption V1/V2**: `decode b = ok m → b = encode m` -/
theorem C08_decode_sound_encryption (b : Bytes) (m : EncMsg) (h : EncMsg.parse b = .ok m) : m.render = b :=
  EncMsg.parse_sound h

theorem C08_decode_sound_attached (b : Bytes) (m : AttMsg) (h : AttMsg.parse b = .ok m) : m.render = b :=
  AttMsg.parse_sound h

theorem C08_decode_sound_detached (b : Bytes) (m : DetMsg) (h : DetMsg.parse b = .ok m) : m.render = b :=
  DetMsg.parse_sound h

theorem C08_decode_sound_signcryption (b : Bytes) (m : ScMsg) (h : ScMsg.parse b = .ok m) : m.render = b :=
  ScMsg.parse_sound h

/-- **completeness**: `decode (encode m) = ok m` for all wire fields with the
    lengths the specification fixes (32-byte keys, 48-byte boxes, 32-byte
    authenticators, 64-byte signatures) inside the MessagePack limits -/
theorem C08_decode_complete_encryption (m : EncMsg) (hm : EncMsgWF m) : EncMsg.parse m.render = .ok m :=
  EncMsg.parse_complete m hm

theorem C08_decode_complete_attached (m : AttMsg) (hm : AttMsgWF m) (hn : m.nonce.length < 2 ^ 31) :
    AttMsg.parse m.render = .ok m :=
  AttMsg.parse_complete m hm hn

theorem C08_decode_complete_detached (m : DetMsg) (hm : DetMsgWF m) (hn : m.nonce.length < 2 ^ 31) :
    DetMsg.parse m.render = .ok m :=
  DetMsg.parse_complete m hm hn

theorem C08_decode_complete_signcryption (m : ScMsg) (hm : ScMsgWF m) : ScMsg.parse m.render = .ok m :=
  ScMsg.parse_complete m hm

/-- the decoder is injective on what it accepts: two byte strings decoded to
    the same fields are the same byte string (all four modes) -/
theorem C08_decode_injective :
    (∀ b b' m, EncMsg.parse b = .ok m → EncMsg.parse b' = .ok m → b = b') ∧
    (∀ b b' m, AttMsg.parse b = .ok m → AttMsg.parse b' = .ok m → b = b') ∧
    (∀ b b' m, DetMsg.parse b = .ok m → DetMsg.parse b' = .ok m → b = b') ∧
    (∀ b b' m, ScMsg.parse b = .ok m → ScMsg.parse b' = .ok m → b = b') :=
  ⟨fun _ _ _ h h' => (EncMsg.parse_sound h).symm.trans (EncMsg.parse_sound h'),
   fun _ _ _ h h' => (AttMsg.parse_sound h).symm.trans (AttMsg.parse_sound h'),
   fun _ _ _ h h' => (DetMsg.parse_sound h).symm.trans (DetMsg.parse_sound h'),
   fun _ _ _ h h' => (ScMsg.parse_sound h).symm.trans (ScMsg.parse_sound h')⟩

/-- what acceptance by layer W alone already guarantees about the fields -/
theorem C08_decode_field_lengths (b : Bytes) (m : EncMsg) (h : EncMsg.parse b = .ok m) :
    (m.major = 1 ∨ m.major = 2) ∧ m.eph.length = 32 ∧ m.ssb.length = 48 ∧
      (∀ r ∈ m.recvs, EncRecvWF r) ∧
      (∀ p ∈ m.pkts, (m.major = 1 → p.final = false) ∧ ∀ x ∈ p.auths, x.length = 32) :=
  EncMsg.parse_fields h

/-! ### the reference sender factors through `render` -/

theorem C08_reference_sender_is_render_encryption (P : Prims) (layout : Nat) (hl : layout = 1 ∨ layout = 2)
    (sender : Option Bytes) (rs : List Encrypt.Recipient) (eph pk : Bytes) (pl : List (Bytes × Bool)) :
    Spec.encodePlan P layout {} sender rs eph pk pl = (specEncMsg P layout sender rs eph pk pl).render :=
  spec_encodePlan_render P layout hl sender rs eph pk pl

theorem C08_reference_sender_is_render_attached (P : Prims) (layout : Nat) (hl : layout = 1 ∨ layout = 2)
    (signer nonce : Bytes) (pl : List (Bytes × Bool)) :
    Spec.attachedPlan P layout {} signer nonce pl = (specAttMsg P layout signer nonce pl).render :=
  spec_attachedPlan_render P layout hl signer nonce pl

theorem C08_reference_sender_is_render_detached (P : Prims) (layout : Nat) (signer nonce msg : Bytes) :
    Spec.detached P layout {} signer nonce msg = (specDetMsg P layout signer nonce msg).render :=
  spec_detached_render P layout signer nonce msg

theorem C08_reference_sender_is_render_signcryption (P : Prims) (sender : Option Bytes)
    (rs : List Signcrypt.Recipient) (eph pk : Bytes) (pl : List (Bytes × Bool)) :
    Spec.signcryptPlan P {} sender rs eph pk pl = (specScMsg P sender rs eph pk pl).render :=
  spec_signcryptPlan_render P sender rs eph pk pl

/-! ### completeness of the whole oracle (syntax + cryptography) -/

/-- **Encryption V1/V2**: every message of the reference sender — named or
    anonymous sender, any non-empty recipient list given by secret keys and
    visibility, any 32-byte payload key, any chunk plan obeying the chunk rules —
    is accepted; the decoder opens EVERY key box, re-computes EVERY recipient's
    authenticator on EVERY packet, and returns exactly what went in. -/
theorem C08_oracle_complete_encryption (P : Prims) (hL : P.Lawful) (layout : Nat) (hl : layout = 1 ∨ layout = 2)
    (sender : Option Bytes) (recips : List (Bytes × Bool)) (hne : recips ≠ []) (eph pk : Bytes)
    (hpk : pk.length = 32) (pl : List (Bytes × Bool)) (hpl : PlanOK layout 0 pl) (hpl0 : pl ≠ [])
    (hn : recips.length < 2 ^ 32)
    (hh : (specEncHdr P layout sender (rsOf P recips) eph pk).headerBytes.length < 2 ^ 32) :
    ∃ m, EncMsg.parse (Spec.encodePlan P layout {} sender (rsOf P recips) eph pk pl) = .ok m ∧
      m.check P (recips.map (·.1)) = .ok ⟨pk, P.boxPub (sender.getD eph), pl.map (·.1)⟩ ∧
      m.recvs.map (·.kid) = recips.map (fun x => if x.2 then none else some (P.boxPub x.1)) ∧
      encryption P (Spec.encodePlan P layout {} sender (rsOf P recips) eph pk pl) (recips.map (·.1)) =
        .ok (encSummary m ⟨pk, P.boxPub (sender.getD eph), pl.map (·.1)⟩) := by
  have hwf := specEncMsg_wf P hL layout hl sender recips eph pk hpk pl hpl hn hh
  have hparse := EncMsg.parse_complete _ hwf
  have hcheck := enc_check_complete P hL layout hl sender recips hne eph pk hpk pl hpl hpl0
  rw [← spec_encodePlan_render P layout hl] at hparse
  refine ⟨_, hparse, hcheck, ?_, ?_⟩
  · show List.map _ (List.map _ ((rsOf P recips).zipIdx)) = _
    rw [List.map_map, map_zipIdx_eq_map _ (fun r : Encrypt.Recipient => if r.hidden then none else some r.pub)
      (fun _ _ => rfl), rsOf, List.map_map]
    rfl
  · rw [encryption_ok_iff]
    exact ⟨_, _, hparse, hcheck, rfl⟩

/-- the Go sender's own chunk plan obeys the chunk rules the oracle enforces
    (so the previous theorem applies to `Spec.encode`/`Encrypt.sealWith`) -/
theorem C08_go_plan_obeys_chunk_rules (v : Version) (hv : v = v1 ∨ v = v2) (pt : Bytes) :
    PlanOK (layoutOf v) 0 (Encrypt.chunkPlan v blockSize pt) ∧ Encrypt.chunkPlan v blockSize pt ≠ [] :=
  go_plan_ok v hv pt

theorem C08_oracle_complete_attached (P : Prims) (hL : P.Lawful) (layout : Nat) (hl : layout = 1 ∨ layout = 2)
    (signer nonce : Bytes) (pl : List (Bytes × Bool)) (hpl : PlanOK layout 0 pl) (hpl0 : pl ≠ [])
    (hn : nonce.length < 2 ^ 31) :
    SpecDecode.attached P nonce.length (Spec.attachedPlan P layout {} signer nonce pl) =
      .ok s!"plaintext={showB (pl.map (·.1)).flatten} signer={showB (P.sigPub signer)}" := by
  have hwf := specAttMsg_wf P hL layout hl signer nonce pl hpl hn
  have hparse := AttMsg.parse_complete _ hwf hn
  obtain ⟨hcheck, hpt⟩ := att_check_complete P hL layout hl signer nonce pl hpl hpl0
  rw [← spec_attachedPlan_render P layout hl] at hparse
  rw [attached_ok_iff]
  refine ⟨_, hparse, hcheck, ?_⟩
  rw [hpt]
  rfl

theorem C08_oracle_complete_detached (P : Prims) (hL : P.Lawful) (layout : Nat) (hl : layout = 1 ∨ layout = 2)
    (signer nonce msg : Bytes) (hn : nonce.length < 2 ^ 31) :
    SpecDecode.detached P nonce.length (Spec.detached P layout {} signer nonce msg) msg =
      .ok s!"signer={showB (P.sigPub signer)}" := by
  have hwf : DetMsgWF (specDetMsg P layout signer nonce msg) :=
    ⟨major_of_layout hl, hL.sigPub_len _, by show nonce.length < _; omega, hL.sig_len _ _⟩
  have hparse := DetMsg.parse_complete _ hwf hn
  rw [← spec_detached_render P layout] at hparse
  rw [detached_ok_iff]
  exact ⟨_, hparse, det_check_complete P hL layout signer nonce msg, rfl⟩

/-- **Signcryption**, opened by recipient `idx` with its key: the cryptographic
    layer `ScMsg.check` on the reference sender's wire fields (the bytes are
    `C08_reference_sender_is_render_signcryption` and
    `C08_decode_complete_signcryption`) -/
theorem C08_oracle_complete_signcryption (P : Prims) (hL : P.Lawful) (sender : Option Bytes)
    (hs : ∀ s, sender = some s → P.sigPub s ≠ zeros 32)
    (rs : List Signcrypt.Recipient) (eph pk : Bytes) (pl : List (Bytes × Bool))
    (hpl : PlanOK 2 0 pl) (hpl0 : pl ≠ []) (idx : Nat) (key : ScKey) (hkey : ScKeyFor P key (rs[idx]?)) :
    (specScMsg P sender rs eph pk pl).check P idx key =
      .ok ⟨pk, (match sender with | none => zeros 32 | some s => P.sigPub s), pl.map (·.1)⟩ := by
  cases hri : rs[idx]? with
  | none => rw [hri] at hkey; exact hkey.elim
  | some r =>
    rw [hri] at hkey
    have hidx : (specScMsg P sender rs eph pk pl).recvs[idx]? = some (specScRecv P eph pk idx r) := by
      show ((rs.zipIdx 0).map (fun (r, i) => specScRecv P eph pk i r))[idx]? = _
      rw [List.getElem?_map, List.getElem?_zipIdx, hri]
      simp
    have := (sc_check_ok_iff P).2 ⟨_, pk, hidx, scRecvKey_spec P hL eph pk idx r key hkey,
      specScMsg_checkBody P hL sender hs rs eph pk pl hpl hpl0⟩
    cases sender <;> exact this

/-! ### soundness of the whole oracle -/

/-- **`C08_oracle_sound`** (encryption).  Whenever the oracle accepts a byte
    string `b` — e.g. the bytes `Seal` emitted — with the recipients' secrets:
    `b` parses to wire fields `m` with `m.render = b`; the decoded chunk plan
    obeys the chunk rules; and `b` is EXACTLY the reference sender's output
    `Spec.encodePlan` for the decoded payload key, sender, recipients (hidden iff
    the key id is nil) and chunk plan.  `OpenCanonical`: `open` accepts only
    what `seal` produces (functional fact of NaCl secretbox; holds for
    `Toy.prims`, `C08_oracle_hypotheses_nonvacuous`).  `ephSec`/`senderSec` are
    the secrets behind the two public keys in the message, which the oracle
    never sees (anonymous sender: `senderSec = ephSec`). -/
theorem C08_oracle_sound (P : Prims) (hL : P.Lawful) (hC : OpenCanonical P) (b : Bytes) (secrets : List Bytes)
    (s : String) (h : encryption P b secrets = .ok s) :
    ∃ (m : EncMsg) (o : EncOpened) (layout : Nat), (layout = 1 ∨ layout = 2) ∧ m.major = layout ∧
      EncMsg.parse b = .ok m ∧ m.check P secrets = .ok o ∧ s = encSummary m o ∧ m.render = b ∧
      PlanOK layout 0 (planOf o.chunks m.pkts) ∧ (planOf o.chunks m.pkts).map (·.1) = o.chunks ∧
      (recipsOf secrets m.recvs).map (·.1) = secrets ∧
      ∀ ephSec senderSec, m.eph = P.boxPub ephSec → o.senderPub = P.boxPub senderSec →
        b = Spec.encodePlan P layout {} (some senderSec) (rsOf P (recipsOf secrets m.recvs)) ephSec
              o.payloadKey (planOf o.chunks m.pkts) :=
  oracle_sound_encryption P hL hC b secrets s h

/-- the run-time check against the code model (V1 AND V2, named or anonymous
    sender): if the oracle accepts bytes `b` and decodes the payload key, sender,
    recipients and CHUNKS that the sender model `Encrypt.sealWith` was run with,
    then `b` is byte for byte what the model emits (which the correspondence
    shows `Seal` emits).  Only the chunks are compared: a layout-1 packet has no
    final flag on the wire (`EncPkt.ofVal 1` decodes `final := false`, so a
    comparison of the flagged plans would be unsatisfiable for V1); under layout 2 the chunk rules the
    oracle enforced determine the flags (`planOK2_flags`).  Anonymous sender:
    `sender = none`, the decoded sender key is the ephemeral one. -/
theorem C08_oracle_sound_model (P : Prims) (hL : P.Lawful) (hC : OpenCanonical P) (b : Bytes) (secrets : List Bytes)
    (s : String) (h : encryption P b secrets = .ok s)
    (bs : Nat) (v : Version) (hv : v = v1 ∨ v = v2) (sender : Option Bytes) (ephSec pk pt out : Bytes)
    (rs : List Encrypt.Recipient)
    (hseal : Encrypt.sealWith P bs v sender rs ephSec pk pt = .ok out) :
    ∃ (m : EncMsg) (o : EncOpened), EncMsg.parse b = .ok m ∧ m.check P secrets = .ok o ∧
      (m.major = layoutOf v → m.eph = P.boxPub ephSec → o.senderPub = P.boxPub (sender.getD ephSec) →
        o.payloadKey = pk → rsOf P (recipsOf secrets m.recvs) = rs →
        o.chunks = (Encrypt.chunkPlan v bs pt).map (·.1) → b = out) :=
  oracle_sound_model P hL hC b secrets s h bs v hv sender ephSec pk pt out rs hseal

/-- what makes the comparison by chunks sufficient: the layout-1 reference
    encoding does not depend on the flags; under the V2 chunk rules the flags
    are determined by the chunks -/
theorem C08_plan_flags_determined :
    (∀ (P : Prims) (o : Spec.Opts) (sender : Option Bytes) (rs : List Encrypt.Recipient) (eph pk : Bytes)
        (pl pl' : List (Bytes × Bool)), pl.map (·.1) = pl'.map (·.1) →
        Spec.encodePlan P 1 o sender rs eph pk pl = Spec.encodePlan P 1 o sender rs eph pk pl') ∧
    (∀ (pl : List (Bytes × Bool)) (k : Nat), PlanOK 2 k pl → ∀ (pre : List Bytes) (c : Bytes),
        pl.map (·.1) = pre ++ [c] → pl = pre.map (·, false) ++ [(c, true)]) :=
  ⟨encodePlan_layout1_flags, planOK2_flags⟩

set_option maxRecDepth 100000 in
/-- non-vacuity of `C08_oracle_sound_model`, **V1** (kernel-evaluated, toy
    primitives): the model's own V1 output — named sender, one visible and one
    hidden recipient, block size 4, five plaintext bytes, i.e. packets
    `[1,2,3,4]`, `[5]`, `[]` — is accepted by the oracle and EVERY antecedent of
    the theorem holds of the decoded values -/
example : ∃ (out : Bytes) (s : String) (m : EncMsg) (o : EncOpened),
    Encrypt.sealWith Toy.prims 4 v1 (some [7]) (rsOf Toy.prims [([1], false), ([2], true)]) [5]
      (List.replicate 32 3) [1, 2, 3, 4, 5] = .ok out ∧
    encryption Toy.prims out [[1], [2]] = .ok s ∧ EncMsg.parse out = .ok m ∧ m.check Toy.prims [[1], [2]] = .ok o ∧
    m.major = layoutOf v1 ∧ m.eph = Toy.prims.boxPub [5] ∧ o.senderPub = Toy.prims.boxPub ((some [7] : Option Bytes).getD [5]) ∧
    o.payloadKey = List.replicate 32 3 ∧
    rsOf Toy.prims (recipsOf [[1], [2]] m.recvs) = rsOf Toy.prims [([1], false), ([2], true)] ∧
    o.chunks = (Encrypt.chunkPlan v1 4 [1, 2, 3, 4, 5]).map (·.1) :=
  modelHyps_spec Toy.prims 4 v1 (some [7]) _ [5] _ [1, 2, 3, 4, 5] [[1], [2]] (by decide +kernel)

set_option maxRecDepth 100000 in
/-- the same for **V2**, and for an ANONYMOUS V1 sender -/
example :
    modelHyps Toy.prims 4 v2 (some [7]) (rsOf Toy.prims [([1], false), ([2], true)]) [5]
      (List.replicate 32 3) [1, 2, 3, 4, 5] [[1], [2]] = true ∧
    modelHyps Toy.prims 4 v1 none (rsOf Toy.prims [([1], true)]) [5]
      (List.replicate 32 3) [1, 2, 3, 4, 5] [[1]] = true ∧
    modelHyps Toy.prims 4 v2 none (rsOf Toy.prims [([1], true)]) [5] (List.replicate 32 3) [] [[1]] = true := by
  decide +kernel

/-- `modelHyps … = true` IS the conjunction of the antecedents (so the examples
    above instantiate them all) -/
theorem C08_oracle_sound_model_hyps (P : Prims) (bs : Nat) (v : Version) (sender : Option Bytes)
    (rs : List Encrypt.Recipient) (ephSec pk pt : Bytes) (secrets : List Bytes)
    (h : modelHyps P bs v sender rs ephSec pk pt secrets = true) :
    ∃ (out : Bytes) (s : String) (m : EncMsg) (o : EncOpened),
      Encrypt.sealWith P bs v sender rs ephSec pk pt = .ok out ∧ encryption P out secrets = .ok s ∧
      EncMsg.parse out = .ok m ∧ m.check P secrets = .ok o ∧
      m.major = layoutOf v ∧ m.eph = P.boxPub ephSec ∧ o.senderPub = P.boxPub (sender.getD ephSec) ∧
      o.payloadKey = pk ∧ rsOf P (recipsOf secrets m.recvs) = rs ∧
      o.chunks = (Encrypt.chunkPlan v bs pt).map (·.1) :=
  modelHyps_spec P bs v sender rs ephSec pk pt secrets h

/-- **attached signatures**: an accepted byte string is the reference encoding
    of the decoded fields, the nonce has the length asked for, every packet's
    signature verifies under the header's key on exactly the specified input,
    the chunk rules hold (all unconditional); under the idealisation
    `SigCanonical` (unique signatures — NOT true of real Ed25519 for a key
    holder) it is the reference sender's output -/
theorem C08_oracle_sound_attached (P : Prims) (nl : Nat) (b : Bytes) (s : String)
    (h : SpecDecode.attached P nl b = .ok s) :
    ∃ (m : AttMsg) (layout : Nat), (layout = 1 ∨ layout = 2) ∧ m.major = layout ∧ AttMsg.parse b = .ok m ∧
      m.render = b ∧ m.nonce.length = nl ∧ m.signer.length = 32 ∧ m.pkts ≠ [] ∧
      AttSigsVerify P m.major m.signer (P.hash m.headerBytes) 0 m.pkts ∧
      PlanOK layout 0 (attPlanOf m.pkts) ∧
      (SigCanonical P → ∀ signer, m.signer = P.sigPub signer →
        b = Spec.attachedPlan P layout {} signer m.nonce (attPlanOf m.pkts)) := by
  obtain ⟨m, hp, hc, rfl⟩ := (attached_ok_iff P nl b s).1 h
  obtain ⟨hmaj, hsl, hpk⟩ := AttMsg.parse_fields hp
  have hr := AttMsg.parse_sound hp
  obtain ⟨layout, hl, hm⟩ := layout_of_major hmaj
  obtain ⟨a1, a2, a3, a4⟩ := att_check_sound P m nl layout hm hc
  refine ⟨m, layout, hl, hm, hp, hr, a1, hsl, a2, a3, a4, ?_⟩
  intro hS signer hs
  have := att_check_sound_spec P hS m nl layout hl hm (fun p hp' => (hpk p hp').1) hc signer hs
  rw [spec_attachedPlan_render P layout hl, ← this, hr]

theorem C08_oracle_sound_detached (P : Prims) (nl : Nat) (b msg : Bytes) (s : String)
    (h : SpecDecode.detached P nl b msg = .ok s) :
    ∃ (m : DetMsg) (layout : Nat), (layout = 1 ∨ layout = 2) ∧ m.major = layout ∧ DetMsg.parse b = .ok m ∧
      m.render = b ∧ m.nonce.length = nl ∧ m.signer.length = 32 ∧ m.sig.length = 64 ∧
      P.verify m.signer (sSigDetached ++ P.hash (P.hash m.headerBytes ++ msg)) m.sig = true ∧
      (SigCanonical P → ∀ signer, m.signer = P.sigPub signer →
        b = Spec.detached P layout {} signer m.nonce msg) := by
  obtain ⟨m, hp, hc, rfl⟩ := (detached_ok_iff P nl b msg s).1 h
  obtain ⟨hmaj, hsl, hsg⟩ := DetMsg.parse_fields hp
  have hr := DetMsg.parse_sound hp
  obtain ⟨layout, hl, hm⟩ := layout_of_major hmaj
  obtain ⟨a1, a2⟩ := det_check_sound P m nl msg hc
  refine ⟨m, layout, hl, hm, hp, hr, a1, hsl, hsg, a2, ?_⟩
  intro hS signer hs
  have := det_check_sound_spec P hS m nl msg layout hm hc signer hs
  rw [spec_detached_render P layout, ← this, hr]

/-- **signcryption**, the cryptographic layer `ScMsg.check` on decoded wire
    fields (the bytes: `C08_decode_sound_signcryption`) — partial: the oracle is handed ONE recipient's key, so
    only that recipient's entry is tied to the reference sender (the others are
    shape-checked by layer W); sender secretbox and every payload packet are
    the reference sender's for the decoded payload key, sender key and chunks -/
theorem C08_oracle_sound_signcryption_partial (P : Prims) (hC : OpenCanonical P) (m : ScMsg) (idx : Nat)
    (key : ScKey) (o : ScOpened) (h : m.check P idx key = .ok o) :
    m.ssb = P.sbSeal o.payloadKey sNonceSenderKey o.senderPub ∧ o.senderPub.length = 32 ∧
      (∃ r, m.recvs[idx]? = some r ∧ ScRecvFor P m.eph idx r key o.payloadKey) ∧
      ScPktsOK P o.payloadKey (P.hash m.headerBytes) o.senderPub 0 m.pkts o.chunks ∧
      PlanOK 2 0 (List.zipWith (fun c (p : ScPkt) => (c, p.final)) o.chunks m.pkts) := by
  obtain ⟨r, pk, hr, hpk, hb⟩ := (sc_check_ok_iff P).1 h
  obtain ⟨rfl, a1, a2, a3, a4, _⟩ := checkBody_sound P hC hb
  exact ⟨a1, a2, ⟨r, hr, scRecvKey_recvFor P hC hpk⟩, a3, a4⟩

/-! ### the hypotheses are satisfiable, the theorems not vacuous -/

theorem C08_oracle_hypotheses_nonvacuous :
    Toy.prims.Lawful ∧ OpenCanonical Toy.prims ∧ SigCanonical Toy.prims :=
  ⟨Toy.lawful, toy_openCanonical, toy_sigCanonical⟩

set_option maxRecDepth 100000 in
/-- non-vacuity, end to end (kernel-evaluated, toy primitives): a V2 message of
    the reference sender — anonymous sender, one visible and one hidden
    recipient, two chunks — is accepted by the whole oracle; the same bytes
    followed by one more MessagePack object (`c0`) are refused; so are the bytes
    of a V1 attached signature offered as an encryption message -/
example :
    (encryption Toy.prims
      (Spec.encodePlan Toy.prims 2 {} none (rsOf Toy.prims [([1], false), ([2], true)]) [5]
        (List.replicate 32 3) [([9, 8], false), ([7], true)]) [[1], [2]]).toBool = true ∧
    (encryption Toy.prims
      (Spec.encodePlan Toy.prims 2 {} none (rsOf Toy.prims [([1], false), ([2], true)]) [5]
        (List.replicate 32 3) [([9, 8], false), ([7], true)] ++ [0xc0]) [[1], [2]]).toBool = false ∧
    (SpecDecode.attached Toy.prims 32
      (Spec.attachedPlan Toy.prims 1 {} [4] (List.replicate 32 6) [([9, 8], false), ([], true)])).toBool = true ∧
    (encryption Toy.prims
      (Spec.attachedPlan Toy.prims 1 {} [4] (List.replicate 32 6) [([9, 8], false), ([], true)]) [[1]]).toBool = false := by
  decide +kernel

end Saltpack.Props.C08
