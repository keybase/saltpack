/-
  C09 (spec-valid messages are accepted) — through the model's OWN decoder
  (Model/Codec.lean = go-codec's typed decoding): what a spec-following sender
  encodes for a version pair, a signcryption packet and a V1 signature packet
  — WITH the extra trailing elements the specification reserves — is decoded
  to exactly the fields; for the two packets the typed views of Model/Packets.lean
  give the same fields (so the C09 `…_extras` theorems transfer to the byte-level decoder).

  The extras must be encodable and nest at most 99 deep: go-codec refuses deeper
  ones (`C15_codec_depth_limit`); the typed views of Model/Packets.lean have no such limit.

  The headers, the encryption packets and the V2 signature packet: Props/C09CodecMore.lean.
-/
import Saltpack.Proofs.CodecTypes
import Saltpack.Proofs.AnyChunking

namespace Saltpack.Props.C09
open Saltpack Saltpack.Msgpack Saltpack.Codec Saltpack.Proofs Saltpack.Proofs.CodecP

/-- the version pair with extras, in any `toarray` struct that contains it -/
theorem C09_codec_version (fuel rem : Nat) (ma mi : Int) (hma : -(2 ^ 63 : Int) ≤ ma ∧ ma < (2 ^ 63 : Int))
    (hmi : -(2 ^ 63 : Int) ≤ mi ∧ mi < (2 ^ 63 : Int)) (ex : List Val) (hex : ExtrasOK ex fuel rem)
    (hlen : ex.length + 2 < 2 ^ 32) (v0 : Version) (r : Bytes) :
    decVersion fuel rem v0 (encode (.arr ([.int ma, .int mi] ++ ex)) ++ r) = .ok (⟨ma, mi⟩, r) :=
  decVersion_encode fuel rem ma mi hma hmi ex hex hlen v0 r

/-- the signcryption packet with extras, as the receiver's `mps.Read` sees it;
    it is what the typed view says -/
theorem C09_codec_signcrypt_packet (ct : Bytes) (hct : ct.length < 2 ^ 32) (f : Bool) (ex : List Val)
    (hex : TopExtras ex) (hlen : ex.length + 2 < 2 ^ 32) (r : Bytes) :
    decSigncryptBlock (encode (.arr ([.bin ct, .bool f] ++ ex)) ++ r) = .ok (⟨ct, f⟩, r) ∧
    viewSigncryptBlock (.arr ([.bin ct, .bool f] ++ ex)) = some ⟨ct, f⟩ :=
  ⟨decSigncryptBlock_encode ct hct f ex hex hlen r, viewSigncryptBlock_extras ct f ex⟩

/-- the V1 attached-signature packet with extras -/
theorem C09_codec_sig_packet_v1 (sg ch : Bytes) (hsg : sg.length < 2 ^ 32) (hch : ch.length < 2 ^ 32) (ex : List Val)
    (hex : TopExtras ex) (hlen : ex.length + 2 < 2 ^ 32) (r : Bytes) :
    decSigBlockV1 (encode (.arr ([.bin sg, .bin ch] ++ ex)) ++ r) = .ok (⟨sg, ch, false⟩, r) ∧
    viewSigBlock 1 (.arr ([.bin sg, .bin ch] ++ ex)) = some ⟨sg, ch, false⟩ :=
  ⟨decSigBlockV1_encode sg ch hsg hch ex hex hlen r, viewSigBlock_v1_extras sg ch ex⟩

/-- non-vacuity: extras that meet the hypotheses (the reference sender's `extraVals 2`) -/
example : TopExtras [.int 7, .str [120]] := by
  refine ⟨?_, by decide⟩
  intro v hv
  simp only [List.mem_cons, List.mem_nil_iff, or_false] at hv
  rcases hv with rfl | rfl
  · exact ValWF.int _ (by decide) (by decide)
  · exact ValWF.str _ (by decide)

example : decSigncryptBlock (encode (.arr ([.bin [1, 2], .bool true] ++ [.int 7, .str [120]])) ++ [9]) = .ok (⟨[1, 2], true⟩, [9]) := by
  decide +kernel

end Saltpack.Props.C09
