/-
  Property C16 — the binary classifier reads its three header fields the way
  go-codec does (the generic MessagePack parser answers "not saltpack" on shapes
  that `IsSaltpackBinarySlice` classifies).  Statements and test vectors (the latter
  kernel-evaluated here); the lemmas are in Saltpack/Proofs/ClassifyCodec.lean.

  `decName` / `decVersionTop` / `decMode` = `decoder.Decode(&formatName)` /
  `Decode(&version)` / `Decode(&msgType)` through `Model/Codec.lean`; driven by the
  streams `classify.binary.shapes`, `classify.stream.shapes`,
  `classify.armored.shapes`, `dispatch.shapes` (every field in every shape
  go-codec accepts or refuses).
-/
import Saltpack.Proofs.ClassifyCodec
import Saltpack.Proofs.ClassifyLemmas

namespace Saltpack.Props.C16
open Saltpack Saltpack.Classify Saltpack.Codec Saltpack.Proofs Saltpack.Proofs.CodecMono

/-- **The classifier's three decoders are local**: what `Decode(&formatName)`,
    `Decode(&version)`, `Decode(&msgType)` read from the front of `b` they read,
    to the same value, from the front of every extension `b ++ e` (the fuel of
    `swallow` for surplus version elements grows with the input; more fuel never
    changes an answer).  All inputs. -/
theorem C16_field_decoders_local (b e r : Bytes) :
    (∀ x, decName b = .ok (x, r) → decName (b ++ e) = .ok (x, r ++ e)) ∧
    (∀ v, decVersionTop b = .ok (v, r) → decVersionTop (b ++ e) = .ok (v, r ++ e)) ∧
    (∀ t, decMode b = .ok (t, r) → decMode (b ++ e) = .ok (t, r ++ e)) :=
  ⟨fun x h => decName_ext b x r e h, fun v h => decVersionTop_ext b v r e h, fun t h => decMode_ext b t r e h⟩

/-- go-codec's `swallow` and generic decoding (`interface{}`), any depth budget:
    an object read with fuel `f` from the front of `b` is read with every fuel
    `f' ≥ f` from the front of every extension -/
theorem C16_swallow_local (f f' rem : Nat) (h : f ≤ f') (b r e : Bytes) (hs : swallow f rem b = .ok ((), r)) :
    swallow f' rem (b ++ e) = .ok ((), r ++ e) :=
  (allSim f f' h).swallow rem b () r e hs

/-- the body of the classifier decides by these three reads: an answer IS the
    three successful reads (format name equal to "saltpack", a mode among the four) -/
theorem C16_binary_body_iff (rest : Bytes) (t : Int) (v : Version) :
    binBody rest = .ok (t, v) ↔
      isMode t = true ∧ ∃ r1 r2 r3, decName rest = .ok (Gen.c_sp_FormatName, r1) ∧
        decVersionTop r1 = .ok (v, r2) ∧ decMode r2 = .ok (t, r3) :=
  ⟨binBody_sound rest t v, fun ⟨hm, r1, r2, r3, h1, h2, h3⟩ => binBody_of rest r1 r2 r3 t v hm h1 h2 h3⟩

/-- kernel-evaluated: the format name written as a
    MessagePack ARRAY of eight small ints is classified (encryption, 2.0), as
    `IsSaltpackBinarySlice` does (go-codec's `DecodeString` accepts arrays of uint8) -/
theorem C16_binary_name_as_ints :
    binarySlice ([0xc4, 0x40, 0x96, 0x98, 0x73, 0x61, 0x6c, 0x74, 0x70, 0x61, 0x63, 0x6b, 0x92, 0x02, 0x00, 0x00] ++
      List.replicate 50 0) = .ok (0, ⟨2, 0⟩) := by decide +kernel

/-- further go-codec shapes, kernel-evaluated: version in map form
    (`{"minor":0,"major":2}`), mode nil (= 0), version with a surplus element
    (swallowed), a `uint64` mode that wraps to −1 (refused) -/
theorem C16_binary_codec_shapes :
    binarySlice ([0xc4, 0x40, 0x96, 0xa8, 0x73, 0x61, 0x6c, 0x74, 0x70, 0x61, 0x63, 0x6b,
        0x82, 0xa5, 0x6d, 0x69, 0x6e, 0x6f, 0x72, 0x00, 0xa5, 0x6d, 0x61, 0x6a, 0x6f, 0x72, 0x02, 0x03] ++ List.replicate 40 0)
      = .ok (3, ⟨2, 0⟩) ∧
    binarySlice ([0xc4, 0x40, 0x96, 0xa8, 0x73, 0x61, 0x6c, 0x74, 0x70, 0x61, 0x63, 0x6b, 0x92, 0x01, 0x00, 0xc0] ++ List.replicate 40 0)
      = .ok (0, ⟨1, 0⟩) ∧
    binarySlice ([0xc4, 0x40, 0x96, 0xa8, 0x73, 0x61, 0x6c, 0x74, 0x70, 0x61, 0x63, 0x6b, 0x93, 0x02, 0x00, 0x91, 0x90, 0x01] ++ List.replicate 40 0)
      = .ok (1, ⟨2, 0⟩) ∧
    binarySlice ([0xc4, 0x40, 0x96, 0xa8, 0x73, 0x61, 0x6c, 0x74, 0x70, 0x61, 0x63, 0x6b, 0x92, 0x02, 0x00,
        0xcf, 0xff, 0xff, 0xff, 0xff, 0xff, 0xff, 0xff, 0xff] ++ List.replicate 40 0)
      = .notSaltpack := by decide +kernel

end Saltpack.Props.C16
