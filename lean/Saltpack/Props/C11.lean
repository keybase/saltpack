/-
  Property C11 — armor framing: well-formed output, tolerant re-flowed input,
  validated frames.  Lemmas shared with other modules are in
  Saltpack/Proofs/ArmorRT.lean, ArmorSound.lean, ArmorLemmas.lean, ArmorBytes.lean.

  `Armor.seal62` is what `Armor62Seal` / `NewArmor62EncoderStream` write;
  `Armor.open62` is the meaning of `Armor62Open(WithValidation)` /
  `NewArmor62DecoderStream` for a source that delivers the text and then a clean
  end — both compared with the implementation on ~20 000 cases per run
  (every payload length 0…N, every string over {'.',' ','0','z','!','>'} up to a
  bounded length, malformed frames, random re-flows).
  Interpretation (DESIGN §5): "identical header and footer" is read modulo
  the white-space normalisation the frame grammar itself applies — a re-flowed
  frame is returned as received (trimmed), and it normalises to the original.
-/
import Saltpack.Proofs.ArmorRT
import Saltpack.Proofs.ArmorSound

namespace Saltpack.Props.C11
open Saltpack Saltpack.Armor Saltpack.Proofs

/-- **Shape of the frames**: `BEGIN|END [brand] SALTPACK <type>` -/
theorem C11_frame_shape (typ : Int) (sffx : Bytes) (ht : typeString typ = some sffx) (brand : Bytes) :
    header typ brand =
      (if brand.isEmpty then Gen.c_sp_headerMarker ++ [space] ++ upper Gen.c_sp_FormatName ++ [space] ++ sffx
       else Gen.c_sp_headerMarker ++ [space] ++ brand ++ [space] ++ upper Gen.c_sp_FormatName ++ [space] ++ sffx) ∧
    footer typ brand =
      (if brand.isEmpty then Gen.c_sp_footerMarker ++ [space] ++ upper Gen.c_sp_FormatName ++ [space] ++ sffx
       else Gen.c_sp_footerMarker ++ [space] ++ brand ++ [space] ++ upper Gen.c_sp_FormatName ++ [space] ++ sffx) :=
  header_shape typ sffx ht brand

/-- **Shape of the body**: words of at most 15 base62 characters (never empty).
    The separator after the k-th word is a newline iff 200 divides k, a space
    otherwise (definition of `spaceWords`), so a line has at most 200 words. -/
theorem C11_words_shape (payload : Bytes) :
    ∀ w ∈ chunks params62.bytesPerWord (Basex.encode params62.enc payload),
      w.length ≤ 15 ∧ w ≠ [] ∧ ∀ c ∈ w, (params62.enc.digit? c).isSome := by
  intro w hw
  have h := chunks_mem_length params62.bytesPerWord (by decide) _ _ (Nat.le_refl _) w hw
  refine ⟨h.2, ?_, ?_⟩
  · intro he; rw [he] at h; simp at h
  · intro c hc
    rw [words_chars payload w hw c hc]

theorem C11_line_breaks (k : Nat) (w : Bytes) (ws : List Bytes) (hws : ws ≠ []) :
    spaceWords params62 k (w :: ws) =
      w ++ [if (k + 1) % 200 = 0 then newline else space] ++ spaceWords params62 (k + 1) ws := by
  cases ws with
  | nil => exact absurd rfl hws
  | cons x xs => rfl

/-- **Declarative layout of the sealed text** (not by unfolding the encoder): the
    base62 characters of the payload are cut into words of 15 (the last one
    1…15), the words into lines of 200 (the last one 1…200); inside a line the
    words are joined by single spaces (`intercalateSp`), the lines by single
    newlines (`joinLines`); before it `header. `, after it an optional single
    space/newline and `. footer.\n`. -/
theorem C11_seal_layout (typ : Int) (brand payload : Bytes) :
    ∃ (lines : List (List Bytes)) (pad : Bytes),
      seal62 typ brand payload =
        header typ brand ++ [period, space] ++ joinLines (lines.map intercalateSp) ++ pad ++
          [period, space] ++ footer typ brand ++ [period, newline] ∧
      lines = chunks 200 (chunks 15 (Basex.encode params62.enc payload)) ∧
      lines.flatten.flatten = Basex.encode params62.enc payload ∧
      (pad = [] ∨ pad = [space] ∨ pad = [newline]) ∧
      ∀ line ∈ lines, line ≠ [] ∧ line.length ≤ 200 ∧
        ∀ w ∈ line, w ≠ [] ∧ w.length ≤ 15 ∧ ∀ c ∈ w, (params62.enc.digit? c).isSome = true := by
  obtain ⟨pad, hpad, heq⟩ := sealText_shape params62 (header typ brand) (footer typ brand) payload
  refine ⟨chunks 200 (chunks 15 (Basex.encode params62.enc payload)), pad, ?_, rfl, ?_, hpad, ?_⟩
  · unfold seal62
    rw [heq, spaceWords_layout (chunks params62.bytesPerWord (Basex.encode params62.enc payload)) 0 rfl]
    rfl
  · rw [chunks_flatten, chunks_flatten]
  · intro line hl
    have h := chunks_mem_length 200 (by decide) _ _ (Nat.le_refl _) line hl
    refine ⟨by intro he; rw [he] at h; simp at h, h.2, ?_⟩
    intro w hw
    have hw' : w ∈ chunks params62.bytesPerWord (Basex.encode params62.enc payload) := by
      have : w ∈ (chunks 200 (chunks 15 (Basex.encode params62.enc payload))).flatten :=
        List.mem_flatten.mpr ⟨line, hl, hw⟩
      rw [chunks_flatten] at this
      exact this
    obtain ⟨h1, h2, h3⟩ := C11_words_shape payload w hw'
    exact ⟨h2, h1, fun c hc => h3 c hc⟩

/-- **The sealed text** is `header . body . ␠footer . \n` where the body's
    non-skip characters are exactly the base62 encoding of the payload. -/
theorem C11_seal_structure (typ : Int) (ht : Armorable typ) (brand : Bytes) (hb : BrandOK brand) (payload : Bytes) :
    ∃ body', seal62 typ brand payload =
        header typ brand ++ [period] ++ body' ++ [period] ++ ([space] ++ footer typ brand) ++ [period] ++ [newline] ∧
      FrameVariant (header typ brand) (header typ brand) ∧
      FrameVariant (footer typ brand) ([space] ++ footer typ brand) ∧
      (∀ c ∈ body', validByte params62 c = true) ∧
      Basex.filterSkip params62.enc body' = Basex.encode params62.enc payload :=
  seal_is_variant typ ht brand hb payload

/-- **Round trip** of the sealed text, for every payload, armorable type and
    alphanumeric brand of at most 128 characters. -/
theorem C11_roundtrip (typ : Int) (ht : Armorable typ) (brand : Bytes) (hb : BrandOK brand) (payload : Bytes) :
    open62 (some typ) (seal62 typ brand payload) =
      .ok ⟨payload, brand, header typ brand, footer typ brand⟩ :=
  open_seal typ ht brand hb payload

/-- **Tolerant, re-flowed input.** Every text `hdr' . body' . ftr' . trail` whose
    frames are *variants* of the genuine ones (separating spaces replaced by
    arbitrary non-empty runs of space / tab / CR / LF / '>', such runs added
    around; trimmed length ≤ 512), whose body contains the encoded characters
    with arbitrary runs of those characters anywhere between them, and whose
    trailer consists of valid bytes, dearmors to the identical payload and brand. -/
theorem C11_roundtrip_reflow (typ : Int) (ht : Armorable typ) (brand : Bytes) (hb : BrandOK brand)
    (payload hdr' body' ftr' trail : Bytes)
    (hh : FrameVariant (header typ brand) hdr') (hf : FrameVariant (footer typ brand) ftr')
    (hbody : ∀ c ∈ body', validByte params62 c = true)
    (hfil : Basex.filterSkip params62.enc body' = Basex.encode params62.enc payload)
    (htrail : ∀ c ∈ trail, validByte params62 c = true) :
    open62 (some typ) (hdr' ++ [period] ++ body' ++ [period] ++ ftr' ++ [period] ++ trail) =
      .ok ⟨payload, brand, trimSpace hdr', trimSpace ftr'⟩ :=
  open_variant typ ht brand hb payload hdr' body' ftr' trail hh hf hbody hfil htrail

/-- the re-flow operations generate variants: a run inserted anywhere in the body… -/
theorem C11_reflow_body (a b run : Bytes) (hr : ∀ c ∈ run, isFrameSpace c = true) :
    Basex.filterSkip params62.enc (a ++ run ++ b) = Basex.filterSkip params62.enc (a ++ b) ∧
    ((∀ c ∈ a ++ b, validByte params62 c = true) → ∀ c ∈ a ++ run ++ b, validByte params62 c = true) := by
  constructor
  · rw [filterSkip_append, filterSkip_append, filterSkip_append, filterSkip_run run hr]
    simp
  · intro h
    rw [List.forall_mem_append] at h
    exact List.forall_mem_append.mpr ⟨List.forall_mem_append.mpr
      ⟨h.1, fun c hc => frameSpace_valid c (hr c hc)⟩, h.2⟩

/-- …a separating space of a frame replaced by a non-empty run… -/
theorem C11_reflow_frame (f a b run : Bytes) (hv : FrameVariant f (a ++ [space] ++ b))
    (hr : ∀ c ∈ run, isFrameSpace c = true) (hne : run ≠ [])
    (hlen : (trimSpace (a ++ run ++ b)).length ≤ 512) (hlim : (a ++ run ++ b).length < 8192) :
    FrameVariant f (a ++ run ++ b) := by
  refine ⟨?_, ?_, hlen, hlim⟩
  · have h := hv.valid
    rw [List.forall_mem_append, List.forall_mem_append] at h
    exact List.forall_mem_append.mpr ⟨List.forall_mem_append.mpr
      ⟨h.1.1, fun c hc => frameSpace_valid c (hr c hc)⟩, h.2⟩
  · rw [← hv.norm]
    unfold collapse
    have hsp : ∀ c ∈ [space], isFrameSpace c = true := by simp; decide
    rw [List.append_assoc, List.append_assoc, collapseAux_append, collapseAux_append a,
      collapseAux_run run b hr hne, collapseAux_run [space] b hsp (by simp)]

/-- …runs before the header / after the footer -/
theorem C11_reflow_around (f f' pre post : Bytes) (hv : FrameVariant f f')
    (hpre : ∀ c ∈ pre, isTrimSpace c = true ∧ isFrameSpace c = true)
    (hpost : ∀ c ∈ post, isTrimSpace c = true ∧ isFrameSpace c = true)
    (hlim : (pre ++ f' ++ post).length < 8192) :
    FrameVariant f (pre ++ f' ++ post) := by
  refine ⟨?_, ?_, ?_, hlim⟩
  · exact List.forall_mem_append.mpr ⟨List.forall_mem_append.mpr
      ⟨fun c hc => frameSpace_valid c (hpre c hc).2, hv.valid⟩,
      fun c hc => frameSpace_valid c (hpost c hc).2⟩
  · rw [trim_collapse_surround pre f' post (fun c hc => (hpre c hc).2) (fun c hc => (hpost c hc).2)]
    exact hv.norm
  · rw [trimSpace_surround pre f' post (fun c hc => (hpre c hc).1) (fun c hc => (hpost c hc).1)]
    exact hv.len

/-- without validation (`Armor62Open`) -/
theorem C11_roundtrip_novalidation (payload hdr' body' ftr' trail : Bytes)
    (hh : (∀ c ∈ hdr', validByte params62 c = true) ∧ hdr'.length < 8192)
    (hf : (∀ c ∈ ftr', validByte params62 c = true) ∧ ftr'.length < 8192)
    (hbody : ∀ c ∈ body', validByte params62 c = true)
    (hfil : Basex.filterSkip params62.enc body' = Basex.encode params62.enc payload)
    (htrail : ∀ c ∈ trail, validByte params62 c = true) :
    open62 none (hdr' ++ [period] ++ body' ++ [period] ++ ftr' ++ [period] ++ trail) =
      .ok ⟨payload, [], trimSpace hdr', trimSpace ftr'⟩ :=
  open62_pieces none [] payload hdr' body' ftr' trail hh hf hbody hfil htrail rfl

/-! ## rejection -/

/-- **Soundness of every validating entry point** (`Armor62OpenWithValidation`,
    the `Dearmor62…` functions): a text is accepted only if it is
    `hdrRaw . body . ftrRaw . trail` with exactly three periods, all bytes valid
    armor bytes, both raw frames shorter than 8192; the returned header/footer are
    the raw frames with white space trimmed; they *parse* as `BEGIN`/`END` frames of
    the requested type carrying one and the same brand — the returned one; and the
    body's non-skip characters decode (strictly) to the returned payload.
    Contrapositive: anything else is rejected. -/
theorem C11_open_sound (typ : Int) (text : Bytes) (o : Opened) (h : open62 (some typ) text = .ok o) :
    ∃ hdrRaw body ftrRaw trail,
      text = hdrRaw ++ [period] ++ body ++ [period] ++ ftrRaw ++ [period] ++ trail ∧
      period ∉ hdrRaw ∧ period ∉ body ∧ period ∉ ftrRaw ∧ period ∉ trail ∧
      (∀ c ∈ hdrRaw, validByte params62 c = true) ∧ (∀ c ∈ body, validByte params62 c = true) ∧
      (∀ c ∈ ftrRaw, validByte params62 c = true) ∧ (∀ c ∈ trail, validByte params62 c = true) ∧
      hdrRaw.length < 8192 ∧ ftrRaw.length < 8192 ∧
      o.header = trimSpace hdrRaw ∧ o.footer = trimSpace ftrRaw ∧
      parseFrame o.header typ Gen.c_sp_headerMarker = .ok o.brand ∧
      parseFrame o.footer typ Gen.c_sp_footerMarker = .ok o.brand ∧
      Basex.decode params62.enc.strict (Basex.filterSkip params62.enc body) = .ok o.payload := by
  -- one `cases` per step of `openPure`; every failing branch contradicts the hypothesis
  unfold open62 openPure at h
  revert h
  cases hs1 : splitAt1 period text with
  | none => intro h; cases h
  | some s1 =>
  obtain ⟨hdrRaw, r1⟩ := s1
  dsimp only
  by_cases hl1 : hdrRaw.length ≥ frameLim
  · rw [if_pos hl1]; intro h; cases h
  rw [if_neg hl1]
  cases hta1 : toASCII params62 hdrRaw with
  | error e => intro h; cases h
  | ok hdr =>
  dsimp only
  cases hbr : parseFrame hdr typ Gen.c_sp_headerMarker with
  | error e => intro h; cases h
  | ok brand =>
  dsimp only
  cases hs2 : splitAt1 period r1 with
  | none => intro h; cases h
  | some s2 =>
  obtain ⟨body, r2⟩ := s2
  dsimp only
  by_cases hbv : (!body.all (validByte params62)) = true
  · rw [if_pos hbv]; intro h; cases h
  rw [if_neg hbv]
  cases hdec : Basex.decode params62.enc.strict (Basex.filterSkip params62.enc body) with
  | error e => intro h; cases h
  | ok payload =>
  dsimp only
  cases hs3 : splitAt1 period r2 with
  | none => intro h; cases h
  | some s3 =>
  obtain ⟨ftrRaw, r3⟩ := s3
  dsimp only
  by_cases hl2 : ftrRaw.length ≥ frameLim
  · rw [if_pos hl2]; intro h; cases h
  rw [if_neg hl2]
  cases hta2 : toASCII params62 ftrRaw with
  | error e => intro h; cases h
  | ok ftr =>
  dsimp only
  cases hchk : checkArmor62 hdr ftr typ with
  | error e => intro h; cases h
  | ok b' =>
  dsimp only
  by_cases hnp : (r3.any (· == period)) = true
  · rw [if_pos hnp]; intro h; cases h
  rw [if_neg hnp]
  by_cases htv : (!r3.all (validByte params62)) = true
  · rw [if_pos htv]; intro h; cases h
  rw [if_neg htv]
  intro h
  cases h
  obtain ⟨e1, n1⟩ := splitAt1_sound _ _ _ _ hs1
  obtain ⟨e2, n2⟩ := splitAt1_sound _ _ _ _ hs2
  obtain ⟨e3, n3⟩ := splitAt1_sound _ _ _ _ hs3
  obtain ⟨v1, t1⟩ := toASCII_sound _ _ _ hta1
  obtain ⟨v2, t2⟩ := toASCII_sound _ _ _ hta2
  obtain ⟨c1, c2⟩ := check_sound hdr ftr typ b' hchk
  have hbb : b' = brand := by
    rw [c1] at hbr
    injection hbr
  subst hbb
  refine ⟨hdrRaw, body, ftrRaw, r3, ?_, n1, n2, n3, ?_, v1, ?_, v2, ?_, ?_, ?_, t1, t2, c1, c2, hdec⟩
  · rw [e1, e2, e3]; simp
  · intro hm
    apply hnp
    simp only [List.any_eq_true, beq_iff_eq]
    exact ⟨period, hm, rfl⟩
  · have : body.all (validByte params62) = true := by simpa using hbv
    simpa [List.all_eq_true] using this
  · have : r3.all (validByte params62) = true := by simpa using htv
    simpa [List.all_eq_true] using this
  · unfold frameLim at hl1; omega
  · unfold frameLim at hl2; omega

/-- a frame of another armorable type is rejected by the entry point's check -/
theorem C11_rejects_wrong_type (typ typ' : Int) (ht : Armorable typ) (ht' : Armorable typ') (hne : typ ≠ typ')
    (brand f' : Bytes) (hb : BrandOK brand) (hv : FrameVariant (header typ brand) f') :
    ∃ e, parseFrame (trimSpace f') typ' Gen.c_sp_headerMarker = .error e :=
  parse_wrong_type typ typ' ht ht' hne brand f' hb hv

/-- the footer must parse for the same type and mirror the header's brand -/
theorem C11_footer_must_mirror (hdr ftr : Bytes) (typ : Int) (brand : Bytes) (h : checkArmor62 hdr ftr typ = .ok brand) :
    parseFrame hdr typ Gen.c_sp_headerMarker = .ok brand ∧ parseFrame ftr typ Gen.c_sp_footerMarker = .ok brand :=
  check_sound hdr ftr typ brand h

/-- over-long frames (more than 512 characters) and brands (more than 128) are rejected -/
theorem C11_rejects_long_frame (m : Bytes) (typ : Int) (marker : Bytes) (h : 512 < m.length) :
    parseFrame m typ marker = .error .badFrame := by
  unfold parseFrame
  rw [maxFrame_eq, if_pos (by omega)]

theorem C11_brand_bounded (m : Bytes) (typ : Int) (marker brand : Bytes) (h : parseFrame m typ marker = .ok brand) :
    brand.length ≤ 128 := by
  obtain ⟨_, _, _, _, ⟨_, rfl⟩ | ⟨_, hb⟩⟩ := (parseFrame_ok_iff m typ marker brand).mp h
  · exact Nat.zero_le _
  · exact hb

/-- `strings.TrimSpace` as modelled (Unicode white space, UTF-8 decoded from both
    ends) is plain ASCII trimming on everything the armor path hands it: `toASCII`
    lets valid armor bytes through only, and those are below 0x80 -/
theorem C11_trimSpace_ascii (b : Bytes) (hb : ∀ c ∈ b, validByte params62 c = true) :
    trimSpace b = trimSpaceAscii b :=
  trimSpace_eq_ascii b (fun c hc => valid_lt c (hb c hc))

/-! ## non-vacuity -/
example : joinLines [[65], [66, 67]] = [65, 10, 66, 67] := by decide
example : trimSpace [0xC2, 0x85, 0xE3, 0x80, 0x80, 66, 0xE2, 0x80, 0xA8, 32] = [66] := by decide
example : Armorable mtEncryption ∧ Armorable mtAttached ∧ Armorable mtDetached :=
  ⟨Or.inl rfl, Or.inr (Or.inl rfl), Or.inr (Or.inr rfl)⟩
example : BrandOK [75, 69, 89] := ⟨by decide, by decide⟩

end Saltpack.Props.C11
