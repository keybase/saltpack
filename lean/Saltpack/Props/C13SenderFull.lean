/-
  Property C13 — write-split independence of the WHOLE sender streams at byte
  level, UNCONDITIONALLY (the `_partial` statements of Props/C13Sender.lean
  speak only about runs whose calls report success).

  Over a never-failing writer (`GoodWriter wr good`; for the scripted writer `Wr`
  the exhausted fault script, `({} : Wr)`) the constructor always succeeds, and for
  EVERY plaintext and EVERY split into `Write`s the writer ends up holding the
  header packet followed by the packets of the all-at-once chunk plan of the
  concatenation up to the first packet number the packet function refuses
  (`planOkBytes`; `ErrPacketOverflow` at 2^64−1 packets is the only refusal of the
  three instances).  So two splits of the same plaintext leave the SAME bytes,
  with no hypothesis on what the calls returned; and when the all-at-once form
  `M` exists every `Write` returns `(len p, nil)`, `Close` returns nil and exactly
  `M` is at the writer.

  Shared lemmas: Proofs/SenderStreamTotal.lean.  Checked against the real
  constructors by the correspondence streams `sender.split.*`.
-/
import Saltpack.Proofs.SenderStreamTotal

namespace Saltpack.Props.C13
open Saltpack Saltpack.Sender Saltpack.Proofs.SenderP

/-- the scripted writer with an exhausted fault script is a never-failing writer -/
theorem C13_scripted_writer_never_fails : GoodWriter Wr.write (fun w => w.sink = []) := wr_good

/-- **Totality and the bytes of every run over a never-failing writer**, any
    configuration meeting the side conditions the three instances meet
    (`C14_codec_pieces_segment`, `C14_packet_functions_refuse_by_number`):
    the constructor succeeds; the bytes at the writer after `Close` are the
    header packet and `planOkBytes` of the plan of the concatenated plaintext; if
    the all-at-once plan has bytes `B`, every call reports success. -/
theorem C13_sender_stream_total {ω : Type} (wr : ω → Bytes → Bool × ω) (obs : ω → Bytes) (good : ω → Prop)
    (hw : ObsWriter wr obs) (hg : GoodWriter wr good) (cfg : Cfg) (hp : ∀ b, (cfg.pieces b).flatten = b)
    (hb : 0 < cfg.bs) (hif : IndexFail cfg.pkt) (v : Version) (hv : cfg.v1shape = (v == v1))
    (w0 : ω) (hw0 : good w0) (headerBytes : Bytes) (ws : List Bytes) :
    (PSt.init wr cfg.pieces w0 headerBytes).1 = true ∧
    obs ((PSt.writes wr cfg (PSt.init wr cfg.pieces w0 headerBytes).2 ws).2.close wr cfg).2.codec.w =
      obs w0 ++ headerPacket headerBytes ++ planOkBytes cfg.pkt (Encrypt.chunkPlan v cfg.bs ws.flatten) 0 ∧
    (∀ B, planBytes cfg.pkt (Encrypt.chunkPlan v cfg.bs ws.flatten) 0 = .ok B →
      (PSt.writes wr cfg (PSt.init wr cfg.pieces w0 headerBytes).2 ws).1 = ws.map (fun p => (p.length, none)) ∧
      ((PSt.writes wr cfg (PSt.init wr cfg.pieces w0 headerBytes).2 ws).2.close wr cfg).1 = none) :=
  let ⟨h1, h2, h3, _⟩ := run_good_full wr obs good hw hg cfg hp hb hif v hv w0 hw0 headerBytes ws
  ⟨h1, h2, h3⟩

/-- `planOkBytes` is the all-at-once body when that exists -/
theorem C13_okBytes_is_plan (pkt : Nat → Bytes → Bool → Except Err Bytes) (pl : List (Bytes × Bool)) (B : Bytes)
    (h : planBytes pkt pl 0 = .ok B) : planOkBytes pkt pl 0 = B := planOkBytes_of_ok pkt pl 0 B h

/-- **Two splits of the same plaintext, same bytes — unconditionally**: no
    hypothesis on what the calls returned, and also when a packet number is
    refused on the way. -/
theorem C13_sender_stream_independent {ω : Type} (wr : ω → Bytes → Bool × ω) (obs : ω → Bytes) (good : ω → Prop)
    (hw : ObsWriter wr obs) (hg : GoodWriter wr good) (cfg : Cfg) (hp : ∀ b, (cfg.pieces b).flatten = b)
    (hb : 0 < cfg.bs) (hif : IndexFail cfg.pkt) (v : Version) (hv : cfg.v1shape = (v == v1))
    (w0 : ω) (hw0 : good w0) (headerBytes : Bytes) (ws ws' : List Bytes) (hsame : ws.flatten = ws'.flatten) :
    obs ((PSt.writes wr cfg (PSt.init wr cfg.pieces w0 headerBytes).2 ws).2.close wr cfg).2.codec.w =
      obs ((PSt.writes wr cfg (PSt.init wr cfg.pieces w0 headerBytes).2 ws').2.close wr cfg).2.codec.w := by
  rw [(run_good_full wr obs good hw hg cfg hp hb hif v hv w0 hw0 headerBytes ws).2.1,
    (run_good_full wr obs good hw hg cfg hp hb hif v hv w0 hw0 headerBytes ws').2.1, hsame]

/-- when the all-at-once form `M` exists: every call of every split reports
    success and the writer holds exactly `M` (after what it held before) -/
theorem C13_sender_stream_is_oneShot {ω : Type} (wr : ω → Bytes → Bool × ω) (obs : ω → Bytes) (good : ω → Prop)
    (hw : ObsWriter wr obs) (hg : GoodWriter wr good) (cfg : Cfg) (hp : ∀ b, (cfg.pieces b).flatten = b)
    (hb : 0 < cfg.bs) (hif : IndexFail cfg.pkt) (v : Version) (hv : cfg.v1shape = (v == v1))
    (w0 : ω) (hw0 : good w0) (headerBytes : Bytes) (ws : List Bytes) (M : Bytes)
    (hM : oneShot cfg v headerBytes ws.flatten = .ok M) :
    (PSt.init wr cfg.pieces w0 headerBytes).1 = true ∧
    (PSt.writes wr cfg (PSt.init wr cfg.pieces w0 headerBytes).2 ws).1 = ws.map (fun p => (p.length, none)) ∧
    ((PSt.writes wr cfg (PSt.init wr cfg.pieces w0 headerBytes).2 ws).2.close wr cfg).1 = none ∧
    obs ((PSt.writes wr cfg (PSt.init wr cfg.pieces w0 headerBytes).2 ws).2.close wr cfg).2.codec.w = obs w0 ++ M := by
  obtain ⟨B, hB, rfl⟩ := oneShot_ok cfg v headerBytes _ M hM
  obtain ⟨hi, ho, hall, _⟩ := run_good_full wr obs good hw hg cfg hp hb hif v hv w0 hw0 headerBytes ws
  obtain ⟨h1, h2⟩ := hall B hB
  refine ⟨hi, h1, h2, ?_⟩
  rw [ho, planOkBytes_of_ok cfg.pkt _ 0 B hB, List.append_assoc]

/-! ## the three instances over the scripted writer that never fails, `({} : Wr)`

  Stated once for any `Mode` (Proofs/SenderStreamInst.lean). -/

theorem mode_stream_is_whole {cfg : Cfg} {v : Version} {hbytes : Bytes} {whole : Bytes → Except Err Bytes}
    (hm : Mode cfg v hbytes whole) (ws : List Bytes) (M : Bytes) (hM : whole ws.flatten = .ok M) :
    (PSt.init Wr.write cfg.pieces ({} : Wr) hbytes).1 = true ∧
    (PSt.writes Wr.write cfg (PSt.init Wr.write cfg.pieces ({} : Wr) hbytes).2 ws).1 =
      ws.map (fun p => (p.length, none)) ∧
    ((PSt.writes Wr.write cfg (PSt.init Wr.write cfg.pieces ({} : Wr) hbytes).2 ws).2.close Wr.write cfg).1 = none ∧
    ((PSt.writes Wr.write cfg (PSt.init Wr.write cfg.pieces ({} : Wr) hbytes).2 ws).2.close Wr.write cfg).2.codec.w.bytes
      = M :=
  C13_sender_stream_is_oneShot Wr.write Wr.bytes _ wr_obs wr_good cfg hm.pieces hm.bs_pos hm.refuse v hm.shape
    ({} : Wr) rfl hbytes ws M ((hm.whole_iff _ _).1 hM)

theorem mode_stream_independent {cfg : Cfg} {v : Version} {hbytes : Bytes} {whole : Bytes → Except Err Bytes}
    (hm : Mode cfg v hbytes whole) (ws ws' : List Bytes) (hsame : ws.flatten = ws'.flatten) :
    ((PSt.writes Wr.write cfg (PSt.init Wr.write cfg.pieces ({} : Wr) hbytes).2 ws).2.close Wr.write cfg).2.codec.w.bytes =
    ((PSt.writes Wr.write cfg (PSt.init Wr.write cfg.pieces ({} : Wr) hbytes).2 ws').2.close Wr.write cfg).2.codec.w.bytes :=
  C13_sender_stream_independent Wr.write Wr.bytes _ wr_obs wr_good cfg hm.pieces hm.bs_pos hm.refuse v hm.shape
    ({} : Wr) rfl hbytes ws ws' hsame

/-- **encryptStream = Seal, for every split**: if `Encrypt.sealWith` of the
    concatenated plaintext is `M`, the stream constructed over a never-failing
    writer succeeds in the constructor, in every `Write` (returning the length
    of its argument) and in `Close`, and the writer holds exactly `M`. -/
theorem C13_encrypt_stream_is_seal (P : Prims) (bs : Nat) (hb : 0 < bs) (pieces : Bytes → List Bytes)
    (hp : ∀ b, (pieces b).flatten = b) (v : Version) (sender : Option Bytes) (rs : List Encrypt.Recipient)
    (eph pk : Bytes) (hbytes : Bytes) (cfg : Cfg) (hs : encryptSetup P bs pieces v sender rs eph pk = .ok (hbytes, cfg))
    (ws : List Bytes) (M : Bytes) (hM : Encrypt.sealWith P bs v sender rs eph pk ws.flatten = .ok M) :
    (PSt.init Wr.write cfg.pieces ({} : Wr) hbytes).1 = true ∧
    (PSt.writes Wr.write cfg (PSt.init Wr.write cfg.pieces ({} : Wr) hbytes).2 ws).1 =
      ws.map (fun p => (p.length, none)) ∧
    ((PSt.writes Wr.write cfg (PSt.init Wr.write cfg.pieces ({} : Wr) hbytes).2 ws).2.close Wr.write cfg).1 = none ∧
    ((PSt.writes Wr.write cfg (PSt.init Wr.write cfg.pieces ({} : Wr) hbytes).2 ws).2.close Wr.write cfg).2.codec.w.bytes
      = M :=
  mode_stream_is_whole (encrypt_mode P bs hb pieces hp v sender rs eph pk hbytes cfg hs) ws M hM

/-- **encryptStream, two splits, same bytes — unconditionally** -/
theorem C13_encrypt_stream_independent (P : Prims) (bs : Nat) (hb : 0 < bs) (pieces : Bytes → List Bytes)
    (hp : ∀ b, (pieces b).flatten = b) (v : Version) (sender : Option Bytes) (rs : List Encrypt.Recipient)
    (eph pk : Bytes) (hbytes : Bytes) (cfg : Cfg) (hs : encryptSetup P bs pieces v sender rs eph pk = .ok (hbytes, cfg))
    (ws ws' : List Bytes) (hsame : ws.flatten = ws'.flatten) :
    ((PSt.writes Wr.write cfg (PSt.init Wr.write cfg.pieces ({} : Wr) hbytes).2 ws).2.close Wr.write cfg).2.codec.w.bytes =
    ((PSt.writes Wr.write cfg (PSt.init Wr.write cfg.pieces ({} : Wr) hbytes).2 ws').2.close Wr.write cfg).2.codec.w.bytes :=
  mode_stream_independent (encrypt_mode P bs hb pieces hp v sender rs eph pk hbytes cfg hs) ws ws' hsame

/-- **signAttachedStream = Sign (attached), for every split** -/
theorem C13_sign_stream_is_attached (P : Prims) (bs : Nat) (hb : 0 < bs) (pieces : Bytes → List Bytes)
    (hp : ∀ b, (pieces b).flatten = b) (v : Version) (signer nonce : Bytes) (hbytes : Bytes) (cfg : Cfg)
    (hs : signSetup P bs pieces v signer nonce = .ok (hbytes, cfg))
    (ws : List Bytes) (M : Bytes) (hM : Sign.attachedWith P bs v signer nonce ws.flatten = .ok M) :
    (PSt.init Wr.write cfg.pieces ({} : Wr) hbytes).1 = true ∧
    (PSt.writes Wr.write cfg (PSt.init Wr.write cfg.pieces ({} : Wr) hbytes).2 ws).1 =
      ws.map (fun p => (p.length, none)) ∧
    ((PSt.writes Wr.write cfg (PSt.init Wr.write cfg.pieces ({} : Wr) hbytes).2 ws).2.close Wr.write cfg).1 = none ∧
    ((PSt.writes Wr.write cfg (PSt.init Wr.write cfg.pieces ({} : Wr) hbytes).2 ws).2.close Wr.write cfg).2.codec.w.bytes
      = M :=
  mode_stream_is_whole (sign_mode P bs hb pieces hp v signer nonce hbytes cfg hs) ws M hM

/-- signAttachedStream, two splits, same bytes — unconditionally -/
theorem C13_sign_stream_independent (P : Prims) (bs : Nat) (hb : 0 < bs) (pieces : Bytes → List Bytes)
    (hp : ∀ b, (pieces b).flatten = b) (v : Version) (signer nonce : Bytes) (hbytes : Bytes) (cfg : Cfg)
    (hs : signSetup P bs pieces v signer nonce = .ok (hbytes, cfg))
    (ws ws' : List Bytes) (hsame : ws.flatten = ws'.flatten) :
    ((PSt.writes Wr.write cfg (PSt.init Wr.write cfg.pieces ({} : Wr) hbytes).2 ws).2.close Wr.write cfg).2.codec.w.bytes =
    ((PSt.writes Wr.write cfg (PSt.init Wr.write cfg.pieces ({} : Wr) hbytes).2 ws').2.close Wr.write cfg).2.codec.w.bytes :=
  mode_stream_independent (sign_mode P bs hb pieces hp v signer nonce hbytes cfg hs) ws ws' hsame

/-- **signcryptSealStream = SigncryptSeal, for every split** -/
theorem C13_signcrypt_stream_is_seal (P : Prims) (bs : Nat) (hb : 0 < bs) (pieces : Bytes → List Bytes)
    (hp : ∀ b, (pieces b).flatten = b) (sender : Option Bytes) (rs : List Signcrypt.Recipient)
    (eph pk : Bytes) (hbytes : Bytes) (cfg : Cfg) (hs : signcryptSetup P bs pieces sender rs eph pk = .ok (hbytes, cfg))
    (ws : List Bytes) (M : Bytes) (hM : Signcrypt.sealWith P bs sender rs eph pk ws.flatten = .ok M) :
    (PSt.init Wr.write cfg.pieces ({} : Wr) hbytes).1 = true ∧
    (PSt.writes Wr.write cfg (PSt.init Wr.write cfg.pieces ({} : Wr) hbytes).2 ws).1 =
      ws.map (fun p => (p.length, none)) ∧
    ((PSt.writes Wr.write cfg (PSt.init Wr.write cfg.pieces ({} : Wr) hbytes).2 ws).2.close Wr.write cfg).1 = none ∧
    ((PSt.writes Wr.write cfg (PSt.init Wr.write cfg.pieces ({} : Wr) hbytes).2 ws).2.close Wr.write cfg).2.codec.w.bytes
      = M :=
  mode_stream_is_whole (signcrypt_mode P bs hb pieces hp sender rs eph pk hbytes cfg hs) ws M hM

/-- signcryptSealStream, two splits, same bytes — unconditionally -/
theorem C13_signcrypt_stream_independent (P : Prims) (bs : Nat) (hb : 0 < bs) (pieces : Bytes → List Bytes)
    (hp : ∀ b, (pieces b).flatten = b) (sender : Option Bytes) (rs : List Signcrypt.Recipient)
    (eph pk : Bytes) (hbytes : Bytes) (cfg : Cfg) (hs : signcryptSetup P bs pieces sender rs eph pk = .ok (hbytes, cfg))
    (ws ws' : List Bytes) (hsame : ws.flatten = ws'.flatten) :
    ((PSt.writes Wr.write cfg (PSt.init Wr.write cfg.pieces ({} : Wr) hbytes).2 ws).2.close Wr.write cfg).2.codec.w.bytes =
    ((PSt.writes Wr.write cfg (PSt.init Wr.write cfg.pieces ({} : Wr) hbytes).2 ws').2.close Wr.write cfg).2.codec.w.bytes :=
  mode_stream_independent (signcrypt_mode P bs hb pieces hp sender rs eph pk hbytes cfg hs) ws ws' hsame

/-- **signDetachedStream = SignDetached, for every split**: over a never-failing
    writer everything reports success and the writer holds `Sign.detachedWith`
    of the concatenation -/
theorem C13_detached_stream_is_detached (P : Prims) (pieces : Bytes → List Bytes) (hp : ∀ b, (pieces b).flatten = b)
    (v : Version) (signer nonce : Bytes) (hbytes : Bytes) (sp : Bytes → Bytes)
    (hs : detachedSetup P v signer nonce = .ok (hbytes, sp)) (ws : List Bytes) :
    (DSt.init Wr.write pieces ({} : Wr) hbytes).1 = true ∧
    (DSt.writes (DSt.init Wr.write pieces ({} : Wr) hbytes).2 ws).1 = ws.map (fun p => (p.length, none)) ∧
    ((DSt.writes (DSt.init Wr.write pieces ({} : Wr) hbytes).2 ws).2.close Wr.write pieces sp).1 = none ∧
    Sign.detachedWith P v signer nonce ws.flatten =
      .ok ((DSt.writes (DSt.init Wr.write pieces ({} : Wr) hbytes).2 ws).2.close Wr.write pieces sp).2.codec.w.bytes := by
  obtain ⟨h1, h2, h3, h4⟩ := det_good Wr.write Wr.bytes _ wr_obs wr_good pieces hp sp ({} : Wr) rfl hbytes ws
  refine ⟨h1, h2, h3, ?_⟩
  rw [h4]
  exact (detachedWith_iff P v signer nonce ws.flatten _).2 ⟨hbytes, sp, hs, by simp [Wr.bytes]⟩

/-! ## non-vacuity -/

private def toy : Cfg :=
  { bs := 2, v1shape := false, hasErr := true,
    pkt := fun i c f => .ok ([UInt8.ofNat i, if f then 1 else 0] ++ c), pieces := fun b => b.map ([·]) }

/-- a packet function that refuses packet numbers ≥ 2 (stands for `ErrPacketOverflow`) -/
private def toyOverflow : Cfg :=
  { toy with pkt := fun i c f => if i < 2 then .ok ([UInt8.ofNat i, if f then 1 else 0] ++ c) else .error .packetOverflow }

private def run (cfg : Cfg) (ws : List Bytes) : Bool × List (Nat × Option Err) × Option Err × Bytes :=
  let i := PSt.init Wr.write cfg.pieces ({} : Wr) [7]
  let r := PSt.writes Wr.write cfg i.2 ws
  let c := r.2.close Wr.write cfg
  (i.1, r.1, c.1, c.2.codec.w.bytes)

example : run toy [[1], [], [2, 3], [4], [], [5], []] =
    (true, [(1, none), (0, none), (2, none), (1, none), (0, none), (1, none), (0, none)], none,
      [0xc4, 1, 7, 0, 0, 1, 2, 1, 0, 3, 4, 2, 1, 5]) := by decide +kernel
example : oneShot toy v2 [7] [1, 2, 3, 4, 5] = .ok [0xc4, 1, 7, 0, 0, 1, 2, 1, 0, 3, 4, 2, 1, 5] := by decide +kernel
/-- with refusals: the calls fail (differently per split), the BYTES agree and are `planOkBytes` -/
example : (run toyOverflow [[1, 2, 3, 4, 5, 6, 7]]).2.2.2 = [0xc4, 1, 7, 0, 0, 1, 2, 1, 0, 3, 4] := by decide +kernel
example : (run toyOverflow [[1, 2, 3], [4, 5], [6], [7]]).2.2.2 = [0xc4, 1, 7, 0, 0, 1, 2, 1, 0, 3, 4] := by decide +kernel
example : planOkBytes toyOverflow.pkt (Encrypt.chunkPlan v2 2 [1, 2, 3, 4, 5, 6, 7]) 0 = [0, 0, 1, 2, 1, 0, 3, 4] := by decide +kernel
example : IndexFail toyOverflow.pkt := by
  intro i c f e h c' f'
  by_cases hi : i < 2
  · simp [toyOverflow, hi] at h
  · exact ⟨.packetOverflow, by simp [toyOverflow, hi]⟩

end Saltpack.Props.C13
