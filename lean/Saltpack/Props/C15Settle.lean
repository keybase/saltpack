/-
  C15 (byte-level front end) — `Front.settle` against the REFERENCE composition: on the settled stream a receiver
  answers what it answers when every read finds its own condition.

  `Codec.blocks` stops at the first position where a TYPED packet read fails and reports that
  read's condition as the tail.  A receiver consults that position in one of two ways: it still
  expects a packet (typed read: `Codec`'s tail), or it has accepted a final packet and
  `assertEndOfStream` makes a GENERIC read there.  `Front.settle` picks the tail by looking at
  the last decoded packet only.  The REFERENCE composition (`Settle.refOpenEnc`, `refOpenSc`,
  `refVerify`, built on `Settle.runEnc2 / runSc2 / runSig2`: the receivers' own `run` with TWO
  tails, the typed one in the `[]` case and the generic one — `Settle.genericTailOf`, the same walk
  as `Codec.blocks`, asking `Codec.generic` at the stop — inside `endOfStream` after a final packet)
  makes no such choice: each read finds its own condition.

  Theorems (for EVERY byte string `Codec` answers on, every primitive record, keyring, validator,
  resolver): the receiver's whole result on the settled stream (released bytes, error, key calls,
  sender / signer / key info) IS the result of the reference composition:

    `C15_settle_transparent_decrypt`, `C15_settle_transparent_signcrypt`, `C15_settle_transparent_verify`

  They hold whatever was decoded — the last decoded item a final packet the receiver gets to, not a final packet,
  or a final packet further left followed by more items (it answers trailing garbage, whatever the tail);
  the case lemmas behind them are restated as `C15_settle_case*`, the two tails as `C15_settle_tails_at_stop`,
  `C15_settle_generic_tail`.

  When `Codec` answers `unmodelled`, `settle` passes the error through (`Front.settle … (.error w) = .error w`,
  by definition) and `Wire` is consulted: `Wire`'s answers are not settled and are outside these statements.
-/
import Saltpack.Proofs.FrontSettle
import Saltpack.Proofs.CodecBytesAuth
import Saltpack.Toy

namespace Saltpack.Props.C15
open Saltpack Saltpack.Proofs Saltpack.Proofs.Settle

/-- the packet decoders `Codec.splitEnc` / `Codec.splitSig` choose from the header -/
abbrev encDecB : EncHeader → Option (Codec.Dec EncBlock) :=
  fun h => if Codec.majorOK h.version.major then some (Codec.decEncBlock h.version.major) else none
abbrev sigDecB : SigHeader → Option (Codec.Dec SigBlock) :=
  fun h => if Codec.majorOK h.version.major then some (Codec.decSigBlock h.version.major) else none

/-- **Decryption: the result on the settled stream is the reference composition's.** -/
theorem C15_settle_transparent_decrypt (P : Prims) (valid : Validator) (kr : Keyring) (msg : Bytes)
    (hr : HeaderRead EncHeader) (ps : PStream EncBlock) (h : Codec.splitEnc msg = .ok (hr, ps)) :
    Decrypt.openBytes P valid kr msg =
      .ok (refOpenEnc P valid kr hr ps.items ps.tail (genericTailOf Codec.decEncHeader encDecB msg)) := by
  unfold Decrypt.openBytes Front.readEnc
  rw [h]
  cases hr with
  | unreadable => rfl
  | undecodable x => rfl
  | ok hb hd =>
    rw [settle_spec _ _ _ msg hb hd ps h]
    simp only [Front.orWire, Decrypt.openStream, refOpenEnc, runEnc2_settled]
    -- the state a header check returns carries the header's version, the one `settle` looked at
    rcases hph : Decrypt.processHeader P valid kr (P.hash hb) hd with ⟨log, e | st⟩
    · rfl
    · simp only [dec_processHeader_version P valid kr _ hd log st hph]

/-- **Signcryption: the result on the settled stream is the reference composition's.** -/
theorem C15_settle_transparent_signcrypt (P : Prims) (kr : Keyring) (res : Signcrypt.Resolver) (msg : Bytes)
    (hr : HeaderRead EncHeader) (ps : PStream SigncryptBlock) (h : Codec.splitSigncrypt msg = .ok (hr, ps)) :
    Signcrypt.openBytes P kr res msg =
      .ok (refOpenSc P kr res hr ps.items ps.tail
            (genericTailOf Codec.decEncHeader (fun _ => some Codec.decSigncryptBlock) msg)) := by
  unfold Signcrypt.openBytes Front.readSigncrypt
  rw [h]
  cases hr with
  | unreadable => rfl
  | undecodable x => rfl
  | ok hb hd =>
    rw [settle_spec _ _ _ msg hb hd ps h]
    simp only [Front.orWire, Signcrypt.openStream, refOpenSc, runSc2_settled]
    rfl

/-- **Attached signatures: the result on the settled stream is the reference composition's.** -/
theorem C15_settle_transparent_verify (P : Prims) (valid : Validator) (kr : Keyring) (msg : Bytes)
    (hr : HeaderRead SigHeader) (ps : PStream SigBlock) (h : Codec.splitSig msg = .ok (hr, ps)) :
    Sign.verifyBytes P valid kr msg =
      .ok (refVerify P valid kr hr ps.items ps.tail (genericTailOf Codec.decSigHeader sigDecB msg)) := by
  unfold Sign.verifyBytes Front.readSig
  rw [h]
  cases hr with
  | unreadable => rfl
  | undecodable x => rfl
  | ok hb hd =>
    rw [settle_spec _ _ _ msg hb hd ps h]
    simp only [Front.orWire, Sign.verifyStream, refVerify, runSig2_settled]
    rfl

/-- case 1 — the last decoded item is not a final packet (in particular: no final packet among
    the decoded ones, or no packet at all): `settle` hands `Codec`'s answer over unchanged -/
theorem C15_settle_case1_identity {η β : Type} (decH : Codec.Dec η) (decB : η → Option (Codec.Dec β)) (fin : η → β → Bool)
    (msg hb : Bytes) (h : η) (ps : PStream β) (hl : Front.lastFinal (fin h) ps.items = false) :
    Front.settle decH decB fin msg (.ok (.ok hb h, ps)) = .ok (.ok hb h, ps) :=
  settle_of_not_lastFinal decH decB fin msg hb h ps hl

/-- case 2 — the last decoded packet is final: the reference run never consults the typed tail;
    it is the receiver's run with the generic tail in its place (three receivers) -/
theorem C15_settle_case2_last_final (P : Prims) (typed generic : Tail) (n : Nat) :
    (∀ (s : Decrypt.State) items, Front.lastFinal (Decrypt.blockFinal s.version) items = true →
      runEnc2 P s items typed generic n = Decrypt.run P s items generic n) ∧
    (∀ (s : Signcrypt.State) items, Front.lastFinal (fun b : SigncryptBlock => b.final) items = true →
      runSc2 P s items typed generic n = Signcrypt.run P s items generic n) ∧
    (∀ (s : Sign.State) items, Front.lastFinal (Sign.blockFinal s.version) items = true →
      runSig2 P s items typed generic n = Sign.run P s items generic n) :=
  ⟨fun s items hl => by rw [runEnc2_settled, hl, if_pos rfl],
   fun s items hl => by rw [runSc2_settled, hl, if_pos rfl],
   fun s items hl => by rw [runSig2_settled, hl, if_pos rfl]⟩

/-- cases 1 and 3 — the last decoded item is not a final packet: the reference run never consults
    the generic tail (a final packet followed by further items answers trailing garbage from the
    items; otherwise the run ends at a typed read) -/
theorem C15_settle_case13_tail_independent (P : Prims) (typed generic : Tail) (n : Nat) :
    (∀ (s : Decrypt.State) items, Front.lastFinal (Decrypt.blockFinal s.version) items = false →
      runEnc2 P s items typed generic n = Decrypt.run P s items typed n) ∧
    (∀ (s : Signcrypt.State) items, Front.lastFinal (fun b : SigncryptBlock => b.final) items = false →
      runSc2 P s items typed generic n = Signcrypt.run P s items typed n) ∧
    (∀ (s : Sign.State) items, Front.lastFinal (Sign.blockFinal s.version) items = false →
      runSig2 P s items typed generic n = Sign.run P s items typed n) :=
  ⟨fun s items hl => by rw [runEnc2_settled, hl, if_neg Bool.false_ne_true],
   fun s items hl => by rw [runSc2_settled, hl, if_neg Bool.false_ne_true],
   fun s items hl => by rw [runSig2_settled, hl, if_neg Bool.false_ne_true]⟩

/-- the reference run with ONE tail in both places is the receiver's own run -/
theorem C15_settle_reference_same (P : Prims) (t : Tail) (n : Nat) :
    (∀ (s : Decrypt.State) items, runEnc2 P s items t t n = Decrypt.run P s items t n) ∧
    (∀ (s : Signcrypt.State) items, runSc2 P s items t t n = Signcrypt.run P s items t n) ∧
    (∀ (s : Sign.State) items, runSig2 P s items t t n = Sign.run P s items t n) :=
  ⟨fun s items => by rw [runEnc2_settled, ite_self], fun s items => by rw [runSc2_settled, ite_self],
   fun s items => by rw [runSig2_settled, ite_self]⟩

/-- bridge between `settle`'s test and the generic tail, along `Codec.blocks`' own walk: where
    `truncatedStop` holds the typed tail is a decode error and the generic one a clean end;
    everywhere else the two tails are the same -/
theorem C15_settle_generic_tail {β : Type} (d : Codec.Dec β) (fuel : Nat) (b : Bytes) (ps : PStream β)
    (h : Codec.blocks d fuel b = .ok ps) :
    (Front.truncatedStop d fuel b = true → ps.tail = .err .decodeError ∧ genericTail d fuel b = .eof) ∧
    (Front.truncatedStop d fuel b = false → genericTail d fuel b = ps.tail) :=
  genericTail_blocks d fuel b ps h

/-- both tails described AT the stop position `s = stopAt d fuel b` (the input left when the typed
    read fails for the first time), without the walk: typed read `eof` — both tails `eof`; otherwise
    `Codec.generic s` decides — an object: it is the last item (`none`: trailing garbage for whoever
    gets there; never a final packet) and nothing is read behind it; end of input: typed tail decode
    error, generic tail clean end (THE case where the two differ); failure: both a decode error -/
theorem C15_settle_tails_at_stop {β : Type} (d : Codec.Dec β) (fuel : Nat) (b : Bytes) (ps : PStream β)
    (h : Codec.blocks d fuel b = .ok ps) :
    (d (stopAt d fuel b) = .error .eof ∧ ps.tail = .eof ∧ genericTail d fuel b = .eof) ∨
    (∃ w, d (stopAt d fuel b) = .error (.err w) ∧
      ((∃ y pre, Codec.generic (stopAt d fuel b) = .ok y ∧ ps.items = pre ++ [none] ∧ ps.tail = .eof) ∨
       (Codec.generic (stopAt d fuel b) = .error .eof ∧ ps.tail = .err .decodeError ∧ genericTail d fuel b = .eof) ∨
       (∃ w', Codec.generic (stopAt d fuel b) = .error (.err w') ∧ ps.tail = .err .decodeError ∧
          genericTail d fuel b = .err .decodeError))) := by
  revert fuel b ps
  refine blocks_ok_induction d ?_ ?_ ?_ ?_ ?_
  · intro fuel b x rest ps hd _ ih
    rw [stopAt_ok hd]
    simp only [genericTail, hd]
    rcases ih with h1 | ⟨w, hw, ⟨y, pre, hy, hi, ht⟩ | h2⟩
    · exact .inl h1
    · exact .inr ⟨w, hw, .inl ⟨y, some x :: pre, hy, by rw [hi]; rfl, ht⟩⟩
    · exact .inr ⟨w, hw, .inr h2⟩
  · intro fuel b hd
    rw [stopAt_error hd]
    exact .inl ⟨hd, rfl, by simp only [genericTail, hd]⟩
  · intro fuel b w y hd hg
    rw [stopAt_error hd]
    exact .inr ⟨w, hd, .inl ⟨y, [], hg, rfl, rfl⟩⟩
  · intro fuel b w hd hg
    rw [stopAt_error hd]
    exact .inr ⟨w, hd, .inr (.inl ⟨hg, rfl, by simp only [genericTail, hd, hg]⟩)⟩
  · intro fuel b w w' hd hg
    rw [stopAt_error hd]
    exact .inr ⟨w, hd, .inr (.inr ⟨w', hg, rfl, by simp only [genericTail, hd, hg]⟩)⟩

/-! ## kernel-evaluated instances (toy primitives)

  Every input is evaluated by the kernel through the model (`Decrypt.openBytes` …) and through `Codec.split*`;
  for the encryption and signcryption inputs of case 2 the reference composition's answer is then the
  instance of the transparency theorem, for the signature inputs it is evaluated as well. -/

def anyRingS : Keyring := ⟨fun _ => (-1, none), fun _ => none, [], fun _ => none, fun k => some k⟩

def sigHeader : Bytes := Msgpack.encode (Sign.header v2 (Toy.prims.sigPub [1]) mtAttached [2]).toVal

/-- the one (final) packet of a genuine toy-signed V2 message with payload "A" -/
def sigPacket : Bytes :=
  [0x93, 0xc3] ++
    Msgpack.encBin (Toy.prims.sign [1]
      ((attachedSignatureInput Toy.prims v2 (Toy.prims.hash sigHeader) [0x41] 0 true).toOption.getD [])) ++
    [0xc4, 0x01, 0x41]

def sigMsg : Bytes := headerPacket sigHeader ++ sigPacket

/-- case 2, the case `settle` exists for: a genuine message followed by `c4 05 01` (a truncated
    byte string the typed block decoder refuses): typed tail = decode error, generic tail = clean
    end; the reference composition and the model on the settled stream both accept -/
example : (Codec.splitSig (sigMsg ++ [0xc4, 0x05, 0x01])).toOption.map (fun x => (x.2.items.length, x.2.tail)) =
    some (1, .err .decodeError) := by decide +kernel
example : genericTailOf Codec.decSigHeader sigDecB (sigMsg ++ [0xc4, 0x05, 0x01]) = .eof := by decide +kernel
example : (Sign.verifyBytes Toy.prims knownMajor anyRingS (sigMsg ++ [0xc4, 0x05, 0x01])).toOption.map
    (fun r => (r.released, r.err)) = some ([0x41], none) := by decide +kernel
example : (Codec.splitSig (sigMsg ++ [0xc4, 0x05, 0x01])).toOption.map
    (fun x => let r := refVerify Toy.prims knownMajor anyRingS x.1 x.2.items x.2.tail
                (genericTailOf Codec.decSigHeader sigDecB (sigMsg ++ [0xc4, 0x05, 0x01])); (r.released, r.err)) =
    some ([0x41], none) := by decide +kernel

/-- the stop position of that input is the appended object -/
example : stopAt (Codec.decSigBlock 2) 100 (sigPacket ++ [0xc4, 0x05, 0x01]) = [0xc4, 0x05, 0x01] := by decide +kernel

/-- a final packet followed by a further item — here a whole second final packet, so the LAST decoded
    packet is final (`lastFinal` holds), yet the receiver never gets there: trailing garbage after the
    first final packet -/
example : (Codec.splitSig (sigMsg ++ sigPacket)).toOption.map (fun x => (x.2.items.length, x.2.tail)) =
    some (2, .eof) := by decide +kernel
example : (Sign.verifyBytes Toy.prims knownMajor anyRingS (sigMsg ++ sigPacket)).toOption.map
    (fun r => (r.released, r.err)) = some ([0x41], some .trailingGarbage) := by decide +kernel

/-- the same with the truncated object at the very end: second packet AND `c4 05 01`: `settle` does
    turn the tail into a clean end (last decoded packet final), nobody reads it -/
example : (Sign.verifyBytes Toy.prims knownMajor anyRingS (sigMsg ++ sigPacket ++ [0xc4, 0x05, 0x01])).toOption.map
    (fun r => (r.released, r.err)) = some ([0x41], some .trailingGarbage) := by decide +kernel
example : (Codec.splitSig (sigMsg ++ sigPacket ++ [0xc4, 0x05, 0x01])).toOption.map
    (fun x => let r := refVerify Toy.prims knownMajor anyRingS x.1 x.2.items x.2.tail
                (genericTailOf Codec.decSigHeader sigDecB (sigMsg ++ sigPacket ++ [0xc4, 0x05, 0x01])); (r.released, r.err)) =
    some ([0x41], some .trailingGarbage) := by decide +kernel

/-- case 1: only the header and `c4 05 01`: the receiver's typed read fails — decode error, both ways -/
example : (Sign.verifyBytes Toy.prims knownMajor anyRingS (headerPacket sigHeader ++ [0xc4, 0x05, 0x01])).toOption.map
    (fun r => (r.released, r.err)) = some ([], some .decodeError) := by decide +kernel

/-- the hypothesis of the three theorems is met by these inputs (`Codec` answers) -/
example : (Codec.splitSig (sigMsg ++ [0xc4, 0x05, 0x01])).toOption.isSome = true := by decide +kernel

/-! ### encryption: a genuine toy V2 message (named sender `[1]`, recipient `[3]`, payload `01 02 03`) -/

def encRs : List Encrypt.Recipient := [⟨Toy.prims.boxPub [3], false⟩]

/-- header packet and body (the payload packets) of the sealed message -/
def encParts : Bytes × Bytes :=
  match Encrypt.sealPackets Toy.prims 4 v2 (some [1]) encRs [2] (Toy.pad 32 [9]) [1, 2, 3] with
  | .ok (_, hb, blks) => (headerPacket hb, (Encrypt.encodeBlocks v2 blks).toOption.getD [])
  | .error _ => ([], [])

def encMsg : Bytes := encParts.1 ++ encParts.2

def encRing : Keyring := faithfulKeyring Toy.prims [[3]]

example : (Decrypt.openBytes Toy.prims knownMajor encRing encMsg).toOption.map (fun r => (r.released, r.err)) =
    some ([1, 2, 3], none) := by decide +kernel

/-- case 2: followed by `c4 05 01`: typed tail decode error, generic tail clean end, accepted -/
theorem encMsg_c4_split : (Codec.splitEnc (encMsg ++ [0xc4, 0x05, 0x01])).toOption.map (fun x => (x.2.items.length, x.2.tail)) =
    some (1, .err .decodeError) := by decide +kernel
example : (Codec.splitEnc (encMsg ++ [0xc4, 0x05, 0x01])).toOption.map (fun x => (x.2.items.length, x.2.tail)) =
    some (1, .err .decodeError) := encMsg_c4_split
example : genericTailOf Codec.decEncHeader encDecB (encMsg ++ [0xc4, 0x05, 0x01]) = .eof := by decide +kernel
theorem encMsg_c4_opens : (Decrypt.openBytes Toy.prims knownMajor encRing (encMsg ++ [0xc4, 0x05, 0x01])).toOption.map
    (fun r => (r.released, r.err)) = some ([1, 2, 3], none) := by decide +kernel
example : (Decrypt.openBytes Toy.prims knownMajor encRing (encMsg ++ [0xc4, 0x05, 0x01])).toOption.map
    (fun r => (r.released, r.err)) = some ([1, 2, 3], none) := encMsg_c4_opens
/-- the reference composition's answer, by `C15_settle_transparent_decrypt` from the two evaluations above -/
example : (Codec.splitEnc (encMsg ++ [0xc4, 0x05, 0x01])).toOption.map
    (fun x => let r := refOpenEnc Toy.prims knownMajor encRing x.1 x.2.items x.2.tail
                (genericTailOf Codec.decEncHeader encDecB (encMsg ++ [0xc4, 0x05, 0x01])); (r.released, r.err)) =
    some ([1, 2, 3], none) := by
  have ho := encMsg_c4_opens
  cases hs : Codec.splitEnc (encMsg ++ [0xc4, 0x05, 0x01]) with
  | error w => have := encMsg_c4_split; rw [hs] at this; cases this
  | ok x => rw [C15_settle_transparent_decrypt _ _ _ _ x.1 x.2 hs] at ho; exact ho

/-- a final packet followed by further items (a whole second copy of the payload packets): trailing garbage -/
example : (Decrypt.openBytes Toy.prims knownMajor encRing (encMsg ++ encParts.2)).toOption.map
    (fun r => (r.released, r.err)) = some ([1, 2, 3], some .trailingGarbage) := by decide +kernel
example : (Decrypt.openBytes Toy.prims knownMajor encRing (encMsg ++ encParts.2 ++ [0xc4, 0x05, 0x01])).toOption.map
    (fun r => (r.released, r.err)) = some ([1, 2, 3], some .trailingGarbage) := by decide +kernel

/-- case 1: header, then `c4 05 01`: the typed read's decode error -/
example : (Decrypt.openBytes Toy.prims knownMajor encRing (encParts.1 ++ [0xc4, 0x05, 0x01])).toOption.map
    (fun r => (r.released, r.err)) = some ([], some .decodeError) := by decide +kernel

/-! ### signcryption: a genuine toy message (sender `[1]`, box recipient `[4]`, payload `01 02 03`) -/

def scRs : List Signcrypt.Recipient := [.box (Toy.prims.boxPub [4])]

def scParts : Bytes × Bytes :=
  match Signcrypt.sealPackets Toy.prims 4 (some [1]) scRs [2] (Toy.pad 32 [9]) [1, 2, 3] with
  | .ok (_, hb, blks) => (headerPacket hb, Signcrypt.encodeBlocks blks)
  | .error _ => ([], [])

def scMsg : Bytes := scParts.1 ++ scParts.2

def scRing : Keyring := faithfulKeyring Toy.prims [[4]]

example : (Signcrypt.openBytes Toy.prims scRing none scMsg).toOption.map (fun r => (r.released, r.err)) =
    some ([1, 2, 3], none) := by decide +kernel

/-- case 2 -/
theorem scMsg_c4_split : (Codec.splitSigncrypt (scMsg ++ [0xc4, 0x05, 0x01])).toOption.map (fun x => (x.2.items.length, x.2.tail)) =
    some (1, .err .decodeError) := by decide +kernel
example : (Codec.splitSigncrypt (scMsg ++ [0xc4, 0x05, 0x01])).toOption.map (fun x => (x.2.items.length, x.2.tail)) =
    some (1, .err .decodeError) := scMsg_c4_split
example : genericTailOf Codec.decEncHeader (fun _ => some Codec.decSigncryptBlock) (scMsg ++ [0xc4, 0x05, 0x01]) = .eof := by
  decide +kernel
theorem scMsg_c4_opens : (Signcrypt.openBytes Toy.prims scRing none (scMsg ++ [0xc4, 0x05, 0x01])).toOption.map
    (fun r => (r.released, r.err)) = some ([1, 2, 3], none) := by decide +kernel
example : (Signcrypt.openBytes Toy.prims scRing none (scMsg ++ [0xc4, 0x05, 0x01])).toOption.map
    (fun r => (r.released, r.err)) = some ([1, 2, 3], none) := scMsg_c4_opens
/-- the reference composition's answer, by `C15_settle_transparent_signcrypt` from the two evaluations above -/
example : (Codec.splitSigncrypt (scMsg ++ [0xc4, 0x05, 0x01])).toOption.map
    (fun x => let r := refOpenSc Toy.prims scRing none x.1 x.2.items x.2.tail
                (genericTailOf Codec.decEncHeader (fun _ => some Codec.decSigncryptBlock) (scMsg ++ [0xc4, 0x05, 0x01]));
              (r.released, r.err)) =
    some ([1, 2, 3], none) := by
  have ho := scMsg_c4_opens
  cases hs : Codec.splitSigncrypt (scMsg ++ [0xc4, 0x05, 0x01]) with
  | error w => have := scMsg_c4_split; rw [hs] at this; cases this
  | ok x => rw [C15_settle_transparent_signcrypt _ _ _ _ x.1 x.2 hs] at ho; exact ho

/-- a final packet followed by further items -/
example : (Signcrypt.openBytes Toy.prims scRing none (scMsg ++ scParts.2)).toOption.map
    (fun r => (r.released, r.err)) = some ([1, 2, 3], some .trailingGarbage) := by decide +kernel
example : (Signcrypt.openBytes Toy.prims scRing none (scMsg ++ scParts.2 ++ [0xc4, 0x05, 0x01])).toOption.map
    (fun r => (r.released, r.err)) = some ([1, 2, 3], some .trailingGarbage) := by decide +kernel

/-- case 1 -/
example : (Signcrypt.openBytes Toy.prims scRing none (scParts.1 ++ [0xc4, 0x05, 0x01])).toOption.map
    (fun r => (r.released, r.err)) = some ([], some .decodeError) := by decide +kernel

end Saltpack.Props.C15
