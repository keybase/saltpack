/-
  Property C14 — I/O faults are reported, never swallowed.  The statements;
  the lemmas are in Saltpack/Proofs (StreamLemmas, ChunkReaderAll, PunctAll,
  ArmorStackFaults); the one-step facts are proved here by unfolding the stream
  machines of Model/Stream.lean.

  Write side: the BaseX encoder stream (the layer every armored encoder writes
  through) is proved sticky and reporting, for an ARBITRARY underlying writer
  (`Sink`: which of its writes fail): `Close` returns success only if exactly
  the encoding of everything written reached the writer, and every failing
  underlying write is reported by the call it happens in and by `Close`.  The
  sender streams and the armor writer (Model/SenderStream.lean,
  Model/ArmorWriter.lean) have their own statements in Props/C14Sender.lean and
  Props/C14Armor.lean.  All write paths (also go-codec's
  `Encode` and `bytes.Buffer`, which have no model) and the whole read stack
  are covered by fault injection at EVERY k-th underlying call of EVERY stream
  kind on every run, per call against the model where a model exists and by the
  property's predicate on the implementation.
-/
import Saltpack.Proofs.StreamLemmas
import Saltpack.Proofs.ChunkReaderAll
import Saltpack.Proofs.PunctAll
import Saltpack.Proofs.ArmorStackFaults

namespace Saltpack.Props.C14
open Saltpack Saltpack.Stream Saltpack.Proofs

/-- once an underlying write failed, every later `Write` and `Close` report it -/
theorem C14_basex_encoder_sticky (s : EncState) (hf : s.failed = true) (p : Bytes) :
    (s.write p).2.1 = false ∧ (s.write p).2.2.failed = true ∧ s.close.1 = false :=
  encStream_sticky s hf p

/-- a `Write` that reports success has seen no failing underlying write -/
theorem C14_basex_write_reports (s : EncState) (p : Bytes) :
    (s.write p).2.2.failed = true → (s.write p).2.1 = false ∨ s.failed = true :=
  encStream_write_reports s p

/-- `Close` never reports success after a failed underlying write -/
theorem C14_basex_close_reports (s : EncState) : s.close.2.failed = true → s.close.1 = false :=
  encStream_close_reports s

/-- hence: if `Close` reports success after a sequence of `Write`s that all
    reported success, no underlying write failed -/
theorem C14_basex_success_means_written (ws : List Bytes) (s0 : EncState) (h0 : s0.failed = false) :
    let s1 := ws.foldl (fun (s : EncState) w => (s.write w).2.2) s0
    s1.close.1 = true → s1.close.2.failed = false := by
  intro s1 hc
  cases h : s1.close.2.failed with
  | false => rfl
  | true =>
    have := encStream_close_reports s1 h
    rw [hc] at this
    exact absurd this (by decide)

/-- **`Close` never reports success for a message that was not completely
    written** — stated on what reached the underlying writer, not on the model's
    sticky flag: for a well-formed encoding, ANY underlying writer (`sink`: the
    list of which of its writes fail) and ANY sequence of `Write`s (whatever
    they returned), if `Close` returns no error then the concatenation of the
    successful underlying writes is exactly the one-shot encoding of
    everything that was written. -/
theorem C14_basex_close_ok_means_all_written (enc : Basex.Enc) (he : enc.WF) (sink : Sink) (ws : List Bytes) :
    let s1 := ws.foldl (fun (s : EncState) w => (s.write w).2.2) ({ enc := enc, sink := sink } : EncState)
    s1.close.1 = true → s1.close.2.written.flatten = Basex.encode enc ws.flatten :=
  encStream_close_ok_all_written enc he sink ws

/-- **Every failing underlying write is reported** (the dual): `consumed` is the
    part of the sink used up between two points — one entry per underlying
    write, `true` = that write failed.  (1) A `Write` during which a failing
    entry was consumed returns an error.  (2) If a failing entry was consumed
    anywhere between the creation of the encoder and the end of `Close` — in
    any `Write` or in `Close` itself — then `Close` returns an error.  Hence
    "some `Write` returned an error or `Close` did", and always `Close`. -/
theorem C14_basex_fault_reported (enc : Basex.Enc) (sink : Sink) (ws : List Bytes) :
    (∀ (s : EncState) (p : Bytes) (consumed : List Bool),
      s.sink = consumed ++ (s.write p).2.2.sink → true ∈ consumed → (s.write p).2.1 = false) ∧
    (let s1 := ws.foldl (fun (s : EncState) w => (s.write w).2.2) ({ enc := enc, sink := sink } : EncState)
     ∀ consumed : List Bool, sink = consumed ++ s1.close.2.sink → true ∈ consumed → s1.close.1 = false) := by
  -- either way: the flag is set exactly when a consumed entry failed (`Consumes.flag`), and a set flag is reported
  refine ⟨fun s p consumed hc ht => ?_, fun consumed hc ht => ?_⟩
  · have hfailed : (s.write p).2.2.failed = true := by
      rw [(consumes_write s p).flag consumed hc]; simp [ht]
    rcases encStream_write_reports s p hfailed with h | h
    · exact h
    · rw [write_failed s p h]
  · apply encStream_close_reports
    rw [((consumes_fold ws _).trans (consumes_close _)).flag consumed hc]; simp [ht]

/-- the sink is only ever consumed from the front, one entry per underlying
    write (so `consumed` above always exists and is unique) -/
theorem C14_basex_sink_consumed (enc : Basex.Enc) (sink : Sink) (ws : List Bytes) :
    let s1 := ws.foldl (fun (s : EncState) w => (s.write w).2.2) ({ enc := enc, sink := sink } : EncState)
    ∃ consumed : List Bool, sink = consumed ++ s1.close.2.sink ∧ s1.close.2.failed = consumed.contains true := by
  intro s1
  obtain ⟨c, h1, h2⟩ := (consumes_fold ws ({ enc := enc, sink := sink } : EncState)).trans (consumes_close _)
  exact ⟨c, h1, by simpa using h2⟩

/-- read side, BaseX decoder: an error is sticky — once reported, every later
    `Read` reports it again and releases nothing.  (A ONE-STEP fact about a
    single call; the whole-stream statement — a reader fault is never turned
    into a clean end, after any fragments and for any buffer sizes — is
    `C14_armor_fault_never_clean`.) -/
theorem C14_decoder_sticky (par : Armor.Params) (ex : Armor.Expect) (cap : Nat) (d : DState) (e : RErr)
    (h : d.err = some e) : dRead par ex cap d = ([], some e, d) := by
  unfold dRead
  simp [h]

/-- read side, chunk reader: the terminal condition is sticky -/
theorem C14_chunk_reader_sticky (cap : Nat) (s : CRState Source)
    (hwf : ∀ p ∈ s.chunker, p.1 = [] → p.2 ≠ none) (d : Bytes) (x : RErr) (s' : CRState Source)
    (h : crRead Proofs.scriptNext cap (s.chunker.length + 3) s [] = (d, some x, s')) :
    crRead Proofs.scriptNext cap (s'.chunker.length + 3) s' [] = ([], some x, s') :=
  (crRead_terminal cap s hwf d x s' h).2

/-- read side, punctuated reader (DESIGN §6, D6): an error of the underlying
    reader that arrives without data is handed on as it is.  (A ONE-STEP fact
    about a single `Read` in an idle state; the whole-stream statement is
    `C14_punct_reports`, and through the chunk reader and the armor stack
    `C14_chunk_reader_reports`, `C14_armor_fault_never_clean`.) -/
theorem C14_punct_propagates (cap : Nat) (s : PState) (e : RErr) (rest : Source)
    (h1 : s.thisSegment = []) (h2 : s.nextSegment = []) (h3 : s.errNextRead = none)
    (hsrc : s.src = ([], some e) :: rest) :
    (pRead cap s).1 = [] ∧ (pRead cap s).2.1 = some e := by
  unfold pRead
  simp [h1, h2, h3, hsrc, srcRead]

/-- …and one that arrives together with data is remembered and reported on the
    next call that has nothing else to deliver (sticky from then on).  (Again a
    ONE-STEP fact: that the remembered error is in fact reported after all
    remaining data, for every schedule of buffer sizes, is the whole-stream
    theorem `C14_punct_reports`.) -/
theorem C14_punct_remembers (cap : Nat) (s : PState) (e : RErr)
    (h1 : s.thisSegment = []) (h2 : s.nextSegment = []) (h3 : s.errNextRead = some e) :
    pRead cap s = ([], some e, s) := by
  unfold pRead
  simp [h1, h2, h3]

/-- **A reader fault reaches the caller of the chunk reader unchanged**: whatever
    condition the chunker ends with — in particular a non-EOF error of the
    underlying reader handed up by `getNextChunk` — is the condition the last
    `Read` reports, for every schedule of buffer sizes, after exactly the chunks
    that preceded it (never a clean end-of-message instead). -/
theorem C14_chunk_reader_reports {σ : Type} (next : σ → Bytes × Option RErr × σ)
    (σ0 : σ) (n : Nat) (cs : List Bytes) (z : Err)
    (htr : chunkTrace next n σ0 = (cs, some (.err z))) (hne : ∀ c ∈ cs.dropLast, c ≠ [])
    (caps : List Nat) (hcaps : ∀ c ∈ caps, 0 < c)
    (inner : Nat) (hi : n + 1 ≤ inner) (fuel : Nat) (hf : cs.flatten.length + 1 ≤ fuel) :
    (crReadAll next caps inner fuel 0 { chunker := σ0 } []).2.1 = some (.err z) ∧
    (crReadAll next caps inner fuel 0 { chunker := σ0 } []).1 = cs.flatten :=
  let r := crReadAll_eq next σ0 n cs (.err z) htr hne caps hcaps inner hi fuel hf
  ⟨r.2.1, r.1⟩

/-- **…and the punctuated reader never turns a fault into an end of input**: if
    the underlying reader's deliveries end in a non-EOF error `z` (alone or
    together with data, after any fragments) and no period is left, reading on
    with any buffer sizes hands out all remaining data and then reports exactly
    `z`. -/
theorem C14_punct_reports (caps : List Nat) (hpos : ∀ c ∈ caps, 0 < c) (s : PState) (hwf : s.WF)
    (fuel : Nat) (hfuel : s.cost < fuel) (k : Nat) (t : Bytes) (z : Err)
    (ht : s.text = (t, .err z)) (hnp : Armor.period ∉ t) :
    ∃ s1, pReadSeg caps fuel k s [] = (t, some (.err z), s1) :=
  let ⟨s1, h, _, _⟩ := (pReadSeg_eq caps hpos s hwf fuel hfuel k t (.err z) ht).2 hnp
  ⟨s1, h⟩

/-- **The armor reader stack never turns a reader fault into a clean end**:
    the underlying reader delivers data (non-empty reads) and then a non-EOF
    error `z` — alone or together with data `dd` — and ANYTHING afterwards
    (`post` arbitrary: the error persisting, the reader recovering, …); for every
    schedule of positive buffer sizes the stack ends with an error, and what it
    released before is a prefix of what the text delivered so far allows.
    (`z ≠ ErrPunctuated`: a reader that itself returns saltpack's internal
    sentinel is taken for a period — counterexample in the proof file.) -/
theorem C14_armor_fault_never_clean (par : Armor.Params) (hpar : par.enc.WF) (expect : Armor.Expect)
    (pre post : Source) (dd : Bytes) (z : Err) (hpre : DataOnly pre) (hz : z ≠ .punctuated)
    (caps : List Nat) (hcaps : ∀ c ∈ caps, 0 < c) (fuel : Nat) (hfuel : (dataOf pre ++ dd).length + 1 ≤ fuel) :
    ∃ released e d,
      readAll par expect caps fuel 0 (newDecoder (pre ++ (dd, some (.err z)) :: post)) [] = (released, some e, d) ∧
      released <+: faultRelease par expect (dataOf pre ++ dd) :=
  fault_never_clean_shape par hpar expect pre post dd z hpre hz caps hcaps fuel hfuel

/-- …and those released bytes are comparable with what a fault-free read of any
    continuation of the text releases (nothing but a prefix of the payload) -/
theorem C14_armor_fault_release_comparable (par : Armor.Params) (hpar : par.enc.WF) (expect : Armor.Expect)
    (src src' : Source) (T X : Bytes) (z : Err) (hpre : SrcPre src) (hsrc : srcText src = (T, .err z))
    (hz : z ≠ .punctuated) (hok' : SrcOK src') (hsrc' : srcText src' = (T ++ X, .eof))
    (caps caps' : List Nat) (hcaps : ∀ c ∈ caps, 0 < c) (hcaps' : ∀ c ∈ caps', 0 < c)
    (fuel fuel' : Nat) (hfuel : T.length + 1 ≤ fuel) (hfuel' : (T ++ X).length + 1 ≤ fuel') :
    (readAll par expect caps fuel 0 (newDecoder src) []).1 <+: (readAll par expect caps' fuel' 0 (newDecoder src') []).1 ∨
    (readAll par expect caps' fuel' 0 (newDecoder src') []).1 <+: (readAll par expect caps fuel 0 (newDecoder src) []).1 :=
  released_prefix_comparable_fault par hpar expect src src' T X z hpre hsrc hz hok' hsrc' caps caps' hcaps hcaps' fuel fuel' hfuel hfuel'

/-! ## non-vacuity -/
example : (({ enc := Gen.base62Std, sink := [true] } : EncState).write (List.replicate 32 7)).2.1 = false := by decide
-- a writer whose second write fails: the first block got through, `Close` reports the failure
example :
    let s1 := [List.replicate 32 7, List.replicate 33 9].foldl (fun (s : EncState) w => (s.write w).2.2)
      ({ enc := Gen.base62Std, sink := [false, true] } : EncState)
    s1.close.1 = false ∧ s1.close.2.written.length = 1 := by decide
-- a writer that never fails within the run: `Close` succeeds (the hypothesis of
-- `C14_basex_close_ok_means_all_written` is satisfiable with a non-trivial sink)
example :
    let s1 := [List.replicate 32 7, [1]].foldl (fun (s : EncState) w => (s.write w).2.2)
      ({ enc := Gen.base62Std, sink := [false, false, true] } : EncState)
    s1.close.1 = true := by decide

end Saltpack.Props.C14
