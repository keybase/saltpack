/-
  Property C14 — I/O faults are reported, never swallowed: the SENDER streams
  (`encryptStream`, `signcryptSealStream`, `signAttachedStream`,
  `signDetachedStream`) as per-call state machines over a faulting underlying
  writer (Model/SenderStream.lean; checked call by call against
  `NewEncryptStream` / `NewSignStream` / `NewSigncryptSealStream` /
  `NewSignDetachedStream` by the correspondence streams `sender.fault.*`).
  Shared lemmas: Proofs/SenderStream*.lean (`Mode`: the three modes at once).

  Every theorem holds for EVERY plaintext, every split into `Write`s, every
  segmentation of an `Encode` into underlying writes (`pieces`, any function with
  `(pieces b).flatten = b`; the real one is `codecPieces`) and every fault script.
  The generic theorems hold for every underlying writer `wr` observed through
  the bytes it accepted (`obs`, `ObsWriter`) and the number of its failed writes
  (`flt`, `FltWriter`); `Wr` (a script of write outcomes) is one such writer.

  What the code does NOT do (mirrored by the model, see the examples at the end):
  `signAttachedStream` has no sticky error of its own — after a fault a small
  `Write` that emits no block still returns `(n, nil)` (every block and `Close`
  fail, because go-codec's `Encoder` keeps its first error).

  "Returns an error" vs "panics": the model marks the places
  where the real code panics by `some (.panic _)`; `≠ none` therefore reads
  "returns an error OR PANICS".  The run-level theorems say which: the call
  during which an underlying write fails RETURNS the writer's error
  (`.ioError`: `C14_sender_run_fault_returns_io_error`); a `Write` never panics
  (`C14_sender_write_error_kinds`); `Close` can panic only after an earlier call
  has already returned an error (`C14_sender_close_panics_only_after_error`) —
  the real code does so in exactly two situations: (1) `Close` of the Version-2
  shapes (V2 `encryptStream`, V2 `signAttachedStream`, `signcryptSealStream`)
  after a failed `Write` that left MORE than one block in the buffer
  (`checkEncryptBlockRead` / `checkSignBlockRead`: `isFinal && bufLen != 0`,
  reached before the dead encoder could return its error — notes/ext-b.md,
  observation 1); (2) a SECOND `Close` of V2 encryption / V2 signing
  (`assertEncodedChunkState`).  Version 1 returns the error in both.

  The writer: the scripted `Wr` obeys io.Writer's contract — a `Write` that
  takes fewer than `len(p)` bytes returns a non-nil error (a failing write may
  take any part of the slice, Model/SenderStream.lean); a short write WITHOUT
  error is excluded (go-codec and armor.go discard `n`: with such a writer
  "Close nil ⇒ completely written" is false for the real code).

  The GENERIC forms over `FltWriter wr flt` get their meaning from the
  instance: `FltWriter.fail` only says `flt` does not go down (a writer that
  remembers its error refuses later calls without any write below), so
  "`flt` unchanged" means "saw no failing write" only for instances whose `flt`
  counts the failed underlying writes — `Wr.faults` (`wr_write_faults`: +1 per
  failing write) and `FArm` over `Wr` (`C14_armor_writer_reports`).
-/
import Saltpack.Proofs.SenderStreamInst
import Saltpack.Proofs.SenderStreamArmor
import Saltpack.Proofs.SenderStreamWhole

namespace Saltpack.Props.C14
open Saltpack Saltpack.Sender Saltpack.Proofs.SenderP

/-! ## reported: the call in which an underlying write fails returns an error -/

/-- a `Write` that returns no error has seen no failing underlying write -/
theorem C14_sender_write_reports {ω : Type} (wr : ω → Bytes → Bool × ω) (flt : ω → Nat) (hw : FltWriter wr flt)
    (cfg : Cfg) (st : PSt ω) (p : Bytes) :
    (st.write wr cfg p).2.1 = none → flt (st.write wr cfg p).2.2.codec.w = flt st.codec.w :=
  (write_flt wr flt hw cfg st p).1

/-- a `Close` that returns no error has seen no failing underlying write -/
theorem C14_sender_close_reports {ω : Type} (wr : ω → Bytes → Bool × ω) (flt : ω → Nat) (hw : FltWriter wr flt)
    (cfg : Cfg) (st : PSt ω) :
    (st.close wr cfg).1 = none → flt (st.close wr cfg).2.codec.w = flt st.codec.w :=
  (close_flt wr flt hw cfg st).1

/-- a constructor that returns a stream has seen no failing underlying write -/
theorem C14_sender_ctor_reports {ω : Type} (wr : ω → Bytes → Bool × ω) (flt : ω → Nat) (hw : FltWriter wr flt)
    (pieces : Bytes → List Bytes) (w0 : ω) (headerBytes : Bytes) :
    (PSt.init wr pieces w0 headerBytes).1 = true → flt (PSt.init wr pieces w0 headerBytes).2.codec.w = flt w0 :=
  (faultSeen_init wr flt hw pieces w0 headerBytes).2

/-- …for the scripted writer: `faults` counts the failed underlying writes -/
theorem C14_sender_write_reports_scripted (cfg : Cfg) (st : PSt Wr) (p : Bytes) :
    (st.write Wr.write cfg p).2.2.codec.w.faults ≠ st.codec.w.faults → (st.write Wr.write cfg p).2.1 ≠ none :=
  fun h hn => h ((write_flt Wr.write Wr.faults wr_flt cfg st p).1 hn)

theorem C14_sender_close_reports_scripted (cfg : Cfg) (st : PSt Wr) :
    (st.close Wr.write cfg).2.codec.w.faults ≠ st.codec.w.faults → (st.close Wr.write cfg).1 ≠ none :=
  fun h hn => h ((close_flt Wr.write Wr.faults wr_flt cfg st).1 hn)

/-! ## sticky -/

/-- a failing underlying write leaves go-codec's encoder failed, and no `Write`
    or `Close` ever clears that -/
theorem C14_sender_fault_is_kept {ω : Type} (wr : ω → Bytes → Bool × ω) (flt : ω → Nat) (hw : FltWriter wr flt)
    (cfg : Cfg) (st : PSt ω) (p : Bytes) :
    (flt (st.write wr cfg p).2.2.codec.w ≠ flt st.codec.w → (st.write wr cfg p).2.2.codec.failed = true) ∧
    (flt (st.close wr cfg).2.codec.w ≠ flt st.codec.w → (st.close wr cfg).2.codec.failed = true) ∧
    (st.codec.failed = true → (st.write wr cfg p).2.2.codec.failed = true ∧ (st.close wr cfg).2.codec.failed = true) :=
  ⟨(write_flt wr flt hw cfg st p).2.1, (close_flt wr flt hw cfg st).2.1,
   fun h => ⟨(write_flt wr flt hw cfg st p).2.2.1 h, (close_flt wr flt hw cfg st).2.2.1 h⟩⟩

/-- **after a failed underlying write `Close` always reports an error** (or
    panics — never `nil`), and nothing more reaches the writer: the encoder is
    not touched (`dead_close_codec`, for any writer; `hw` and `hp` play no part) -/
theorem C14_sender_close_after_fault {ω : Type} (wr : ω → Bytes → Bool × ω) (obs : ω → Bytes) (hw : ObsWriter wr obs)
    (cfg : Cfg) (hp : ∀ b, (cfg.pieces b).flatten = b) (st : PSt ω) (hf : st.codec.failed = true) :
    (st.close wr cfg).1 ≠ none ∧ obs (st.close wr cfg).2.codec.w = obs st.codec.w :=
  let r := dead_close_codec wr cfg st (Or.inl hf)
  ⟨r.1, congrArg (fun c : Codec ω => obs c.w) r.2.1⟩

/-- after a failed underlying write no `Write` lets anything more reach the writer
    (`dead_write_codec`; `hw` and `hp` play no part) -/
theorem C14_sender_write_after_fault {ω : Type} (wr : ω → Bytes → Bool × ω) (obs : ω → Bytes) (hw : ObsWriter wr obs)
    (cfg : Cfg) (hp : ∀ b, (cfg.pieces b).flatten = b) (st : PSt ω) (p : Bytes) (hf : st.codec.failed = true) :
    obs (st.write wr cfg p).2.2.codec.w = obs st.codec.w :=
  congrArg (fun c : Codec ω => obs c.w) (dead_write_codec wr cfg st p (Or.inl hf)).1

/-- `encryptStream` / `signcryptSealStream` (`hasErr`): a `Write` on a stream
    whose `err` is set returns it and does nothing else.  (`_def`: this is the
    first line of `Write` — `if es.err != nil { return 0, es.err }` — unfolded;
    the substantive statements are the next two.) -/
theorem C14_sender_write_sticky_def {ω : Type} (wr : ω → Bytes → Bool × ω) (cfg : Cfg) (st : PSt ω) (p : Bytes) (e : Err)
    (hh : cfg.hasErr = true) (he : st.err = some e) : st.write wr cfg p = (0, some e, st) := by
  unfold PSt.write
  simp [hh, he]

/-- **a failed `Write` of such a stream returns `n = 0` and records its error —
    in EVERY state `st`**, reachable or not (no ghost invariant: `Write` stores
    whatever `encryptBlock` returned; a refused `Write` returns the stored error) -/
theorem C14_sender_write_error_recorded {ω : Type} (wr : ω → Bytes → Bool × ω) (cfg : Cfg) (hh : cfg.hasErr = true)
    (st : PSt ω) (p : Bytes) (e : Err) (he : (st.write wr cfg p).2.1 = some e) :
    (st.write wr cfg p).1 = 0 ∧ (st.write wr cfg p).2.2.err = some e := by
  unfold PSt.write at he ⊢
  simp only [hh, if_true] at he ⊢
  cases hs : st.err with
  | some e' =>
    rw [hs] at he
    cases he
    exact ⟨rfl, hs⟩
  | none =>
    rw [hs] at he
    exact Saltpack.Proofs.SenderP.writeLoop_err_recorded wr cfg hh p.length _ _ e he

/-- **sticky, run level, every state**: once a `Write` of such a stream has
    returned an error `e`, every later `Write` — any number of them, any
    arguments — returns `(0, e)` and changes nothing (not the buffer, not the
    encoder, not the writer) -/
theorem C14_sender_write_error_sticky_run {ω : Type} (wr : ω → Bytes → Bool × ω) (cfg : Cfg) (hh : cfg.hasErr = true)
    (st : PSt ω) (p : Bytes) (e : Err) (he : (st.write wr cfg p).2.1 = some e) (ps : List Bytes) :
    PSt.writes wr cfg (st.write wr cfg p).2.2 ps = (ps.map (fun _ => (0, some e)), (st.write wr cfg p).2.2) :=
  Saltpack.Proofs.SenderP.writes_sticky wr cfg hh e ps _ (C14_sender_write_error_recorded wr cfg hh st p e he).2

/-- **a `Write` never fails with one of the stream's own panics**: in every
    state whose stored error is nil, an error returned by `Write` is the
    writer's or one the packet function returned (`ErrPacketOverflow`) -/
theorem C14_sender_write_error_kinds {ω : Type} (wr : ω → Bytes → Bool × ω) (cfg : Cfg) (hb : 0 < cfg.bs)
    (st : PSt ω) (p : Bytes) (e : Err) (hs : cfg.hasErr = true → st.err = none)
    (he : (st.write wr cfg p).2.1 = some e) : e = .ioError ∨ ∃ i c f, cfg.pkt i c f = .error e := by
  unfold PSt.write at he
  have h0 : (if cfg.hasErr then st.err else none) = none := by
    cases hh : cfg.hasErr
    · rfl
    · exact hs hh
  rw [h0] at he
  exact Saltpack.Proofs.SenderP.writeLoop_error_kinds wr cfg hb p.length _ _ e he

/-- **whole run, scripted writer: `Close` never reports success for a message
    that was not completely written** — if ANY underlying write failed, in the
    constructor, in any `Write` (whatever it returned, whether or not the caller
    looked) or in `Close`, then the constructor failed or `Close` does not
    return nil: it returns an error OR PANICS (`c.1 ≠ none` includes the model's
    `.panic` marker; see the file header for when the real `Close` panics, and
    the next theorem for the call that RETURNS the error) -/
theorem C14_sender_run_fault_reported (cfg : Cfg) (hp : ∀ b, (cfg.pieces b).flatten = b) (sink : Stream.Sink) (part : List Nat)
    (headerBytes : Bytes) (ws : List Bytes) :
    let i := PSt.init Wr.write cfg.pieces ({ sink := sink, part := part } : Wr) headerBytes
    let c := (PSt.writes Wr.write cfg i.2 ws).2.close Wr.write cfg
    c.2.codec.w.faults ≠ 0 → i.1 = false ∨ c.1 ≠ none := by
  intro i c hne
  by_cases hc : c.1 = none
  · left
    have hi := faultSeen_init Wr.write Wr.faults wr_flt cfg.pieces ({ sink := sink, part := part } : Wr) headerBytes
    have hw := faultSeen_writes Wr.write Wr.faults wr_flt cfg 0 ws _ hi.1
    have hcl := close_flt Wr.write Wr.faults wr_flt cfg (PSt.writes Wr.write cfg i.2 ws).2
    have hsame := hcl.1 hc
    have hfailed : (PSt.writes Wr.write cfg i.2 ws).2.codec.failed = true := hw (by rw [← hsame]; exact hne)
    have := (dead_close_codec Wr.write cfg _ (Or.inl hfailed)).1
    exact absurd hc this
  · exact Or.inr hc

/-- **the fault is RETURNED as an error by the call in which it happens** (no
    panic marker involved): if any underlying write failed during the run, the
    constructor failed, or some `Write` returned the writer's error, or `Close`
    returned the writer's error -/
theorem C14_sender_run_fault_returns_io_error (cfg : Cfg) (sink : Stream.Sink) (part : List Nat) (headerBytes : Bytes) (ws : List Bytes) :
    let i := PSt.init Wr.write cfg.pieces ({ sink := sink, part := part } : Wr) headerBytes
    let r := PSt.writes Wr.write cfg i.2 ws
    let c := r.2.close Wr.write cfg
    c.2.codec.w.faults ≠ 0 → i.1 = false ∨ (∃ x ∈ r.1, x.2 = some .ioError) ∨ c.1 = some .ioError := by
  intro i r c hne
  exact run_fault_io Wr.write Wr.faults wr_flt cfg ({ sink := sink, part := part } : Wr) headerBytes ws hne

/-- …generic form (any fault-counting writer, see the header on `FltWriter`) -/
theorem C14_sender_run_fault_returns_io_error_gen {ω : Type} (wr : ω → Bytes → Bool × ω) (flt : ω → Nat)
    (hw : FltWriter wr flt) (cfg : Cfg) (w0 : ω) (headerBytes : Bytes) (ws : List Bytes) :
    let i := PSt.init wr cfg.pieces w0 headerBytes
    let r := PSt.writes wr cfg i.2 ws
    let c := r.2.close wr cfg
    flt c.2.codec.w ≠ flt w0 → i.1 = false ∨ (∃ x ∈ r.1, x.2 = some .ioError) ∨ c.1 = some .ioError := by
  intro i r c hne
  exact run_fault_io wr flt hw cfg w0 headerBytes ws hne

/-- **`Close` returns nil ⇒ the constructor succeeded and EVERY earlier `Write`
    returned nil** — whatever the caller did with the results -/
theorem C14_sender_close_ok_all_writes_ok {ω : Type} (wr : ω → Bytes → Bool × ω) (obs : ω → Bytes) (hw : ObsWriter wr obs)
    (cfg : Cfg) (hp : ∀ b, (cfg.pieces b).flatten = b) (hb : 0 < cfg.bs) (hif : IndexFail cfg.pkt)
    (w0 : ω) (headerBytes : Bytes) (ws : List Bytes) :
    let i := PSt.init wr cfg.pieces w0 headerBytes
    let r := PSt.writes wr cfg i.2 ws
    (r.2.close wr cfg).1 = none → i.1 = true ∧ ∀ x ∈ r.1, x.2 = none := by
  intro i r hc
  exact close_ok_all_ok wr obs hw cfg hp hb hif w0 headerBytes ws hc

/-! ## success means written; on failure a prefix -/

/-- **Success means written** (any writer): if the constructor, every `Write`
    and `Close` reported success, the writer has accepted exactly the
    all-at-once output for the concatenated plaintext — and every `Write`
    returned the length of its argument -/
theorem C14_sender_success_means_written {ω : Type} (wr : ω → Bytes → Bool × ω) (obs : ω → Bytes) (hw : ObsWriter wr obs)
    (cfg : Cfg) (hp : ∀ b, (cfg.pieces b).flatten = b) (hb : 0 < cfg.bs) (hif : IndexFail cfg.pkt)
    (v : Version) (hv : cfg.v1shape = (v == v1)) (w0 : ω) (headerBytes : Bytes) (ws : List Bytes)
    (hi : (PSt.init wr cfg.pieces w0 headerBytes).1 = true)
    (hws : ∀ x ∈ (PSt.writes wr cfg (PSt.init wr cfg.pieces w0 headerBytes).2 ws).1, x.2 = none)
    (hc : ((PSt.writes wr cfg (PSt.init wr cfg.pieces w0 headerBytes).2 ws).2.close wr cfg).1 = none) :
    ∃ M, oneShot cfg v headerBytes ws.flatten = .ok M ∧
      obs ((PSt.writes wr cfg (PSt.init wr cfg.pieces w0 headerBytes).2 ws).2.close wr cfg).2.codec.w = obs w0 ++ M ∧
      (PSt.writes wr cfg (PSt.init wr cfg.pieces w0 headerBytes).2 ws).1 = ws.map (fun p => (p.length, none)) := by
  obtain ⟨B, hB, ho, hr⟩ := run_success wr obs hw cfg hp hb hif v hv w0 headerBytes ws hi hws hc
  exact ⟨headerPacket headerBytes ++ B, by simp [oneShot, hB], by rw [ho, List.append_assoc], hr⟩

/-- **`Close` returns nil ⇒ completely written** (the property's second clause,
    with NO hypothesis on what the constructor and the `Write`s returned): the
    constructor succeeded, every `Write` returned `(len p, nil)` and the writer
    has accepted exactly the all-at-once output for the concatenated plaintext -/
theorem C14_sender_close_ok_means_written {ω : Type} (wr : ω → Bytes → Bool × ω) (obs : ω → Bytes) (hw : ObsWriter wr obs)
    (cfg : Cfg) (hp : ∀ b, (cfg.pieces b).flatten = b) (hb : 0 < cfg.bs) (hif : IndexFail cfg.pkt)
    (v : Version) (hv : cfg.v1shape = (v == v1)) (w0 : ω) (headerBytes : Bytes) (ws : List Bytes)
    (hc : ((PSt.writes wr cfg (PSt.init wr cfg.pieces w0 headerBytes).2 ws).2.close wr cfg).1 = none) :
    (PSt.init wr cfg.pieces w0 headerBytes).1 = true ∧
    ∃ M, oneShot cfg v headerBytes ws.flatten = .ok M ∧
      obs ((PSt.writes wr cfg (PSt.init wr cfg.pieces w0 headerBytes).2 ws).2.close wr cfg).2.codec.w = obs w0 ++ M ∧
      (PSt.writes wr cfg (PSt.init wr cfg.pieces w0 headerBytes).2 ws).1 = ws.map (fun p => (p.length, none)) := by
  obtain ⟨hi, B, hB, ho, hr⟩ := run_close_ok wr obs hw cfg hp hb hif v hv w0 headerBytes ws hc
  exact ⟨hi, headerPacket headerBytes ++ B, by simp [oneShot, hB], by rw [ho, List.append_assoc], hr⟩

/-- **On failure: a prefix, never a corrupted packet order** (any writer):
    after the constructor, any `Write`s and `Close` — whatever failed, whatever
    the calls returned — the writer has accepted a prefix of the all-at-once
    output for everything passed to `Write` -/
theorem C14_sender_failure_prefix {ω : Type} (wr : ω → Bytes → Bool × ω) (obs : ω → Bytes) (hw : ObsWriter wr obs)
    (cfg : Cfg) (hp : ∀ b, (cfg.pieces b).flatten = b) (hb : 0 < cfg.bs) (hif : IndexFail cfg.pkt)
    (v : Version) (hv : cfg.v1shape = (v == v1)) (w0 : ω) (headerBytes : Bytes) (ws : List Bytes) (M : Bytes)
    (hM : oneShot cfg v headerBytes ws.flatten = .ok M) :
    obs ((PSt.writes wr cfg (PSt.init wr cfg.pieces w0 headerBytes).2 ws).2.close wr cfg).2.codec.w <+: obs w0 ++ M := by
  unfold oneShot at hM
  cases hB : planBytes cfg.pkt (Encrypt.chunkPlan v cfg.bs ws.flatten) 0 with
  | error e => simp [hB] at hM
  | ok B =>
    simp only [hB] at hM
    injection hM with hM
    have := run_prefix wr obs hw cfg hp hb hif v hv w0 headerBytes ws B hB
    rw [← hM, ← List.append_assoc]
    exact this

/-- …and a `Close` of a run whose calls all succeeded so far fails only with
    the writer's error or the packet function's refusal (`ErrPacketOverflow`),
    never with one of the stream's own panics -/
theorem C14_sender_close_error_kinds {ω : Type} (wr : ω → Bytes → Bool × ω) (obs : ω → Bytes) (hw : ObsWriter wr obs)
    (cfg : Cfg) (hp : ∀ b, (cfg.pieces b).flatten = b) (hb : 0 < cfg.bs) (hif : IndexFail cfg.pkt)
    (v : Version) (hv : cfg.v1shape = (v == v1)) (w0 : ω) (headerBytes : Bytes) (ws : List Bytes)
    (hi : (PSt.init wr cfg.pieces w0 headerBytes).1 = true)
    (hws : ∀ x ∈ (PSt.writes wr cfg (PSt.init wr cfg.pieces w0 headerBytes).2 ws).1, x.2 = none) (e : Err)
    (hc : ((PSt.writes wr cfg (PSt.init wr cfg.pieces w0 headerBytes).2 ws).2.close wr cfg).1 = some e) :
    e = .ioError ∨ ∃ i c f, cfg.pkt i c f = .error e := by
  rcases init_inv wr obs hw cfg hp v w0 headerBytes with ⟨_, ha, hb0⟩ | ⟨hf, _, _⟩
  · rcases alive_writes wr obs hw cfg hp hb hif v _ ws [] [] _ ha ⟨by rw [hb0]; exact Nat.zero_le _, fun _ => rfl⟩ with
      ⟨_, E', ha', hst'⟩ | ⟨⟨x, hx, hxn⟩, _⟩
    · rw [List.nil_append] at ha'
      rcases alive_close wr obs hw cfg hp hb hif v hv _ _ E' _ ha' hst' with ⟨h, _⟩ | ⟨e', he, hk, _⟩
      · rw [hc] at h; cases h
      · rw [hc] at he; cases he; exact hk
    · exact absurd (hws x hx) hxn
  · rw [hi] at hf; cases hf

/-- **`Close` panics only after an earlier call has returned an error**: if
    the packet function itself never answers with a panic marker (true of the
    three instances for a known version), a `Close` that panics was preceded by
    a failed constructor or a `Write` that returned an error -/
theorem C14_sender_close_panics_only_after_error {ω : Type} (wr : ω → Bytes → Bool × ω) (obs : ω → Bytes)
    (hw : ObsWriter wr obs) (cfg : Cfg) (hp : ∀ b, (cfg.pieces b).flatten = b) (hb : 0 < cfg.bs)
    (hif : IndexFail cfg.pkt) (v : Version) (hv : cfg.v1shape = (v == v1))
    (hnp : ∀ i c f s, cfg.pkt i c f ≠ .error (.panic s)) (w0 : ω) (headerBytes : Bytes) (ws : List Bytes) (s : String) :
    let i := PSt.init wr cfg.pieces w0 headerBytes
    let r := PSt.writes wr cfg i.2 ws
    (r.2.close wr cfg).1 = some (.panic s) → i.1 = false ∨ ∃ x ∈ r.1, x.2 ≠ none := by
  intro i r hc
  cases hi : i.1 with
  | false => exact Or.inl rfl
  | true =>
    refine .inr (Classical.byContradiction fun hno => ?_)
    have hws : ∀ x ∈ r.1, x.2 = none := fun x hx =>
      Classical.byContradiction fun hx2 => hno ⟨x, hx, hx2⟩
    rcases C14_sender_close_error_kinds wr obs hw cfg hp hb hif v hv w0 headerBytes ws hi hws _ hc with hk | ⟨i', c', f', hk⟩
    · cases hk
    · exact hnp i' c' f' s hk

/-! ### the three modes over the scripted writer, linked to the all-at-once senders

  Stated once for any `Mode` (Proofs/SenderStreamInst.lean); `encrypt_mode`,
  `sign_mode`, `signcrypt_mode` instantiate. -/

theorem mode_success_means_written {cfg : Cfg} {v : Version} {hbytes : Bytes} {whole : Bytes → Except Err Bytes}
    (hm : Mode cfg v hbytes whole) (sink : Stream.Sink) (part : List Nat) (ws : List Bytes)
    (hi : (PSt.init Wr.write cfg.pieces ({ sink := sink, part := part } : Wr) hbytes).1 = true)
    (hws : ∀ x ∈ (PSt.writes Wr.write cfg (PSt.init Wr.write cfg.pieces ({ sink := sink, part := part } : Wr) hbytes).2 ws).1, x.2 = none)
    (hc : ((PSt.writes Wr.write cfg (PSt.init Wr.write cfg.pieces ({ sink := sink, part := part } : Wr) hbytes).2 ws).2.close Wr.write cfg).1 = none) :
    whole ws.flatten =
      .ok ((PSt.writes Wr.write cfg (PSt.init Wr.write cfg.pieces ({ sink := sink, part := part } : Wr) hbytes).2 ws).2.close Wr.write cfg).2.codec.w.bytes := by
  obtain ⟨M, hM, ho, _⟩ := C14_sender_success_means_written Wr.write Wr.bytes wr_obs cfg hm.pieces hm.bs_pos
    hm.refuse v hm.shape _ hbytes ws hi hws hc
  rw [hm.whole_iff, ho]
  exact hM

theorem mode_failure_prefix {cfg : Cfg} {v : Version} {hbytes : Bytes} {whole : Bytes → Except Err Bytes}
    (hm : Mode cfg v hbytes whole) (sink : Stream.Sink) (part : List Nat) (ws : List Bytes) (M : Bytes)
    (hM : whole ws.flatten = .ok M) :
    ((PSt.writes Wr.write cfg (PSt.init Wr.write cfg.pieces ({ sink := sink, part := part } : Wr) hbytes).2 ws).2.close Wr.write cfg).2.codec.w.bytes <+: M :=
  C14_sender_failure_prefix Wr.write Wr.bytes wr_obs cfg hm.pieces hm.bs_pos hm.refuse v hm.shape
    ({ sink := sink, part := part } : Wr) hbytes ws M ((hm.whole_iff _ _).1 hM)

theorem mode_close_ok_means_written {cfg : Cfg} {v : Version} {hbytes : Bytes} {whole : Bytes → Except Err Bytes}
    (hm : Mode cfg v hbytes whole) (sink : Stream.Sink) (part : List Nat) (ws : List Bytes)
    (hc : ((PSt.writes Wr.write cfg (PSt.init Wr.write cfg.pieces ({ sink := sink, part := part } : Wr) hbytes).2 ws).2.close Wr.write cfg).1 = none) :
    (PSt.init Wr.write cfg.pieces ({ sink := sink, part := part } : Wr) hbytes).1 = true ∧
    (PSt.writes Wr.write cfg (PSt.init Wr.write cfg.pieces ({ sink := sink, part := part } : Wr) hbytes).2 ws).1 =
      ws.map (fun p => (p.length, none)) ∧
    whole ws.flatten =
      .ok ((PSt.writes Wr.write cfg (PSt.init Wr.write cfg.pieces ({ sink := sink, part := part } : Wr) hbytes).2 ws).2.close Wr.write cfg).2.codec.w.bytes := by
  obtain ⟨hi, M, hM, ho, hr⟩ := C14_sender_close_ok_means_written Wr.write Wr.bytes wr_obs cfg hm.pieces hm.bs_pos
    hm.refuse v hm.shape _ hbytes ws hc
  refine ⟨hi, hr, ?_⟩
  rw [hm.whole_iff, ho]
  exact hM

/-- `NewEncryptStream` + `Write`* + `Close` over a writer that fails as `sink`
    says: every call reported success ⇒ the writer holds exactly
    `Encrypt.sealWith` of the concatenated plaintext (whose chunk plan is the
    one `C13_write_independent` is about) -/
theorem C14_encrypt_success_means_written (P : Prims) (bs : Nat) (hb : 0 < bs) (pieces : Bytes → List Bytes)
    (hp : ∀ b, (pieces b).flatten = b) (v : Version) (sender : Option Bytes) (rs : List Encrypt.Recipient)
    (eph pk : Bytes) (hbytes : Bytes) (cfg : Cfg) (hs : encryptSetup P bs pieces v sender rs eph pk = .ok (hbytes, cfg))
    (sink : Stream.Sink) (part : List Nat) (ws : List Bytes)
    (hi : (PSt.init Wr.write cfg.pieces ({ sink := sink, part := part } : Wr) hbytes).1 = true)
    (hws : ∀ x ∈ (PSt.writes Wr.write cfg (PSt.init Wr.write cfg.pieces ({ sink := sink, part := part } : Wr) hbytes).2 ws).1, x.2 = none)
    (hc : ((PSt.writes Wr.write cfg (PSt.init Wr.write cfg.pieces ({ sink := sink, part := part } : Wr) hbytes).2 ws).2.close Wr.write cfg).1 = none) :
    Encrypt.sealWith P bs v sender rs eph pk ws.flatten =
      .ok ((PSt.writes Wr.write cfg (PSt.init Wr.write cfg.pieces ({ sink := sink, part := part } : Wr) hbytes).2 ws).2.close Wr.write cfg).2.codec.w.bytes :=
  mode_success_means_written (encrypt_mode P bs hb pieces hp v sender rs eph pk hbytes cfg hs) sink part ws hi hws hc

/-- …and on failure the writer holds a prefix of `Encrypt.sealWith` -/
theorem C14_encrypt_failure_prefix (P : Prims) (bs : Nat) (hb : 0 < bs) (pieces : Bytes → List Bytes)
    (hp : ∀ b, (pieces b).flatten = b) (v : Version) (sender : Option Bytes) (rs : List Encrypt.Recipient)
    (eph pk : Bytes) (hbytes : Bytes) (cfg : Cfg) (hs : encryptSetup P bs pieces v sender rs eph pk = .ok (hbytes, cfg))
    (sink : Stream.Sink) (part : List Nat) (ws : List Bytes) (M : Bytes) (hM : Encrypt.sealWith P bs v sender rs eph pk ws.flatten = .ok M) :
    ((PSt.writes Wr.write cfg (PSt.init Wr.write cfg.pieces ({ sink := sink, part := part } : Wr) hbytes).2 ws).2.close Wr.write cfg).2.codec.w.bytes <+: M :=
  mode_failure_prefix (encrypt_mode P bs hb pieces hp v sender rs eph pk hbytes cfg hs) sink part ws M hM

/-- `NewSignStream` likewise: success ⇒ exactly `Sign.attachedWith`; always a prefix of it -/
theorem C14_sign_written_or_prefix (P : Prims) (bs : Nat) (hb : 0 < bs) (pieces : Bytes → List Bytes)
    (hp : ∀ b, (pieces b).flatten = b) (v : Version) (signer nonce : Bytes) (hbytes : Bytes) (cfg : Cfg)
    (hs : signSetup P bs pieces v signer nonce = .ok (hbytes, cfg)) (sink : Stream.Sink) (part : List Nat) (ws : List Bytes) :
    let i := PSt.init Wr.write cfg.pieces ({ sink := sink, part := part } : Wr) hbytes
    let r := PSt.writes Wr.write cfg i.2 ws
    let c := r.2.close Wr.write cfg
    (i.1 = true → (∀ x ∈ r.1, x.2 = none) → c.1 = none →
      Sign.attachedWith P bs v signer nonce ws.flatten = .ok c.2.codec.w.bytes) ∧
    (∀ M, Sign.attachedWith P bs v signer nonce ws.flatten = .ok M → c.2.codec.w.bytes <+: M) :=
  have hm := sign_mode P bs hb pieces hp v signer nonce hbytes cfg hs
  ⟨mode_success_means_written hm sink part ws, mode_failure_prefix hm sink part ws⟩

/-- `NewSigncryptSealStream` likewise -/
theorem C14_signcrypt_written_or_prefix (P : Prims) (bs : Nat) (hb : 0 < bs) (pieces : Bytes → List Bytes)
    (hp : ∀ b, (pieces b).flatten = b) (sender : Option Bytes) (rs : List Signcrypt.Recipient) (eph pk : Bytes)
    (hbytes : Bytes) (cfg : Cfg) (hs : signcryptSetup P bs pieces sender rs eph pk = .ok (hbytes, cfg))
    (sink : Stream.Sink) (part : List Nat) (ws : List Bytes) :
    let i := PSt.init Wr.write cfg.pieces ({ sink := sink, part := part } : Wr) hbytes
    let r := PSt.writes Wr.write cfg i.2 ws
    let c := r.2.close Wr.write cfg
    (i.1 = true → (∀ x ∈ r.1, x.2 = none) → c.1 = none →
      Signcrypt.sealWith P bs sender rs eph pk ws.flatten = .ok c.2.codec.w.bytes) ∧
    (∀ M, Signcrypt.sealWith P bs sender rs eph pk ws.flatten = .ok M → c.2.codec.w.bytes <+: M) :=
  have hm := signcrypt_mode P bs hb pieces hp sender rs eph pk hbytes cfg hs
  ⟨mode_success_means_written hm sink part ws, mode_failure_prefix hm sink part ws⟩

/-- `NewSignDetachedStream`: `Write` only hashes; what reaches the writer is a
    prefix of `Sign.detachedWith` of everything written, all of it iff the
    constructor and `Close` report success; `Close` reports every failing
    underlying write and always fails after one -/
theorem C14_detached_written_or_prefix (P : Prims) (pieces : Bytes → List Bytes) (hp : ∀ b, (pieces b).flatten = b)
    (v : Version) (signer nonce : Bytes) (hbytes : Bytes) (sp : Bytes → Bytes)
    (hs : detachedSetup P v signer nonce = .ok (hbytes, sp)) (sink : Stream.Sink) (part : List Nat) (ws : List Bytes) :
    let i := DSt.init Wr.write pieces ({ sink := sink, part := part } : Wr) hbytes
    let r := DSt.writes i.2 ws
    let c := r.2.close Wr.write pieces sp
    r.1 = ws.map (fun p => (p.length, none)) ∧
    (∃ M, Sign.detachedWith P v signer nonce ws.flatten = .ok M ∧ c.2.codec.w.bytes <+: M ∧
      (i.1 = true → c.1 = none → c.2.codec.w.bytes = M)) ∧
    (c.1 = none → c.2.codec.w.faults = r.2.codec.w.faults) ∧
    (r.2.codec.failed = true → c.1 = some .ioError) := by
  intro i r c
  obtain ⟨h1, h2⟩ := det_run Wr.write Wr.bytes wr_obs pieces hp sp ({ sink := sink, part := part } : Wr) hbytes ws
  have hfl := det_close_flt Wr.write Wr.faults wr_flt pieces sp r.2
  refine ⟨(det_writes ws _).2, ⟨headerPacket hbytes ++ sp ws.flatten, ?_, ?_, ?_⟩, hfl.1, fun h => (hfl.2.1 h).1⟩
  · exact (detachedWith_iff P v signer nonce ws.flatten _).2 ⟨hbytes, sp, hs, rfl⟩
  · simpa [Wr.bytes, List.append_assoc] using h1
  · intro hi hc
    simpa [Wr.bytes, List.append_assoc] using h2 hi hc

/-- **the three packet streams: `Close` returned nil ⇒ the writer holds exactly
    the all-at-once message** (`Encrypt.sealWith` / `Sign.attachedWith` /
    `Signcrypt.sealWith` of the concatenated plaintext) — `Close` alone, no
    hypothesis on the other calls, any fault script -/
theorem C14_encrypt_close_ok_means_written (P : Prims) (bs : Nat) (hb : 0 < bs) (pieces : Bytes → List Bytes)
    (hp : ∀ b, (pieces b).flatten = b) (v : Version) (sender : Option Bytes) (rs : List Encrypt.Recipient)
    (eph pk : Bytes) (hbytes : Bytes) (cfg : Cfg) (hs : encryptSetup P bs pieces v sender rs eph pk = .ok (hbytes, cfg))
    (sink : Stream.Sink) (part : List Nat) (ws : List Bytes) :
    let i := PSt.init Wr.write cfg.pieces ({ sink := sink, part := part } : Wr) hbytes
    let r := PSt.writes Wr.write cfg i.2 ws
    let c := r.2.close Wr.write cfg
    c.1 = none → i.1 = true ∧ r.1 = ws.map (fun p => (p.length, none)) ∧
      Encrypt.sealWith P bs v sender rs eph pk ws.flatten = .ok c.2.codec.w.bytes :=
  mode_close_ok_means_written (encrypt_mode P bs hb pieces hp v sender rs eph pk hbytes cfg hs) sink part ws

theorem C14_sign_close_ok_means_written (P : Prims) (bs : Nat) (hb : 0 < bs) (pieces : Bytes → List Bytes)
    (hp : ∀ b, (pieces b).flatten = b) (v : Version) (signer nonce : Bytes) (hbytes : Bytes) (cfg : Cfg)
    (hs : signSetup P bs pieces v signer nonce = .ok (hbytes, cfg)) (sink : Stream.Sink) (part : List Nat) (ws : List Bytes) :
    let i := PSt.init Wr.write cfg.pieces ({ sink := sink, part := part } : Wr) hbytes
    let r := PSt.writes Wr.write cfg i.2 ws
    let c := r.2.close Wr.write cfg
    c.1 = none → i.1 = true ∧ r.1 = ws.map (fun p => (p.length, none)) ∧
      Sign.attachedWith P bs v signer nonce ws.flatten = .ok c.2.codec.w.bytes :=
  mode_close_ok_means_written (sign_mode P bs hb pieces hp v signer nonce hbytes cfg hs) sink part ws

theorem C14_signcrypt_close_ok_means_written (P : Prims) (bs : Nat) (hb : 0 < bs) (pieces : Bytes → List Bytes)
    (hp : ∀ b, (pieces b).flatten = b) (sender : Option Bytes) (rs : List Signcrypt.Recipient) (eph pk : Bytes)
    (hbytes : Bytes) (cfg : Cfg) (hs : signcryptSetup P bs pieces sender rs eph pk = .ok (hbytes, cfg))
    (sink : Stream.Sink) (part : List Nat) (ws : List Bytes) :
    let i := PSt.init Wr.write cfg.pieces ({ sink := sink, part := part } : Wr) hbytes
    let r := PSt.writes Wr.write cfg i.2 ws
    let c := r.2.close Wr.write cfg
    c.1 = none → i.1 = true ∧ r.1 = ws.map (fun p => (p.length, none)) ∧
      Signcrypt.sealWith P bs sender rs eph pk ws.flatten = .ok c.2.codec.w.bytes :=
  mode_close_ok_means_written (signcrypt_mode P bs hb pieces hp sender rs eph pk hbytes cfg hs) sink part ws

/-- the constructor of the detached-signature stream that returns a stream has
    seen no failing underlying write (the `DSt.init` analogue of
    `C14_sender_ctor_reports`); one that fails leaves the encoder failed -/
theorem C14_detached_ctor_reports {ω : Type} (wr : ω → Bytes → Bool × ω) (flt : ω → Nat) (hw : FltWriter wr flt)
    (pieces : Bytes → List Bytes) (w0 : ω) (headerBytes : Bytes) :
    ((DSt.init wr pieces w0 headerBytes).1 = true → flt (DSt.init wr pieces w0 headerBytes).2.codec.w = flt w0) ∧
    ((DSt.init wr pieces w0 headerBytes).1 = false → (DSt.init wr pieces w0 headerBytes).2.codec.failed = true) :=
  det_init_flt wr flt hw pieces w0 headerBytes

/-- **whole run of the binary DETACHED stream** (`NewSignDetachedStream`,
    scripted writer): if ANY underlying write failed — in the constructor or in
    `Close`; `Write` only feeds the hash — then the constructor failed or `Close`
    RETURNED the writer's error (this stream has no panic); and `Close` = nil ⇒
    the constructor succeeded, no write failed, the writer holds exactly
    `Sign.detachedWith` of everything written -/
theorem C14_detached_run_fault_reported (P : Prims) (pieces : Bytes → List Bytes) (hp : ∀ b, (pieces b).flatten = b)
    (v : Version) (signer nonce : Bytes) (hbytes : Bytes) (sp : Bytes → Bytes)
    (hs : detachedSetup P v signer nonce = .ok (hbytes, sp)) (sink : Stream.Sink) (part : List Nat) (ws : List Bytes) :
    let i := DSt.init Wr.write pieces ({ sink := sink, part := part } : Wr) hbytes
    let c := (DSt.writes i.2 ws).2.close Wr.write pieces sp
    (c.2.codec.w.faults ≠ 0 → i.1 = false ∨ c.1 = some .ioError) ∧
    (c.1 = none → i.1 = true ∧ c.2.codec.w.faults = 0 ∧
      Sign.detachedWith P v signer nonce ws.flatten = .ok c.2.codec.w.bytes) := by
  intro i c
  obtain ⟨h1, h2⟩ := det_run_fault Wr.write Wr.faults wr_flt pieces sp ({ sink := sink, part := part } : Wr) hbytes ws
  refine ⟨h1, fun hc => ?_⟩
  have hi := h2 hc
  refine ⟨hi, ?_, ?_⟩
  · apply Classical.byContradiction
    intro hne
    rcases h1 hne with h | h
    · rw [hi] at h; cases h
    · rw [hc] at h; cases h
  · have := (det_run Wr.write Wr.bytes wr_obs pieces hp sp ({ sink := sink, part := part } : Wr) hbytes ws).2 hi hc
    show _ = Except.ok (Wr.bytes _)
    rw [this]
    exact (detachedWith_iff P v signer nonce ws.flatten _).2 ⟨hbytes, sp, hs, by simp [Wr.bytes]⟩

/-! ## the armored compositions (armor62_encrypt.go `closeForwarder`, armor62_sign.go,
     armor62_signcrypt.go; armor.go `armorEncoderStream.Write` / `spaceAndOutputBuffer` / `Close`):
     packet stream → go-codec → `FArm` (the armor encoder stream over the scripted writer).
     Checked call by call against `NewEncryptArmor62Stream`, `NewSignArmor62Stream`,
     `NewSignDetachedArmor62Stream`, `NewSigncryptArmor62SealStream` (streams `sender.fault.*.a`). -/

/-- the armor encoder stream is itself a reporting writer: its `Write` (and its
    `Close`) returns an error iff an underlying write failed during the call —
    exactly one, the first; no error of `spaceAndOutputBuffer` is dropped — or
    the call was refused because an EARLIER call failed (`a.failed`, `s.err` of
    fix 5ad1caa: then no underlying write happens at all).  `a.EncOk`: the BaseX
    encoder inside is healthy and writes into a buffer that never fails — true of
    `FArm.init` and kept by every call (second theorem), so this covers every
    state a program can reach. -/
theorem C14_armor_writer_reports (a : FArm) (b : Bytes) (he : a.EncOk) :
    (a.write b).2.w.faults = a.w.faults + (if (a.write b).1 || a.failed then 0 else 1) ∧
    a.close.2.w.faults = a.w.faults + (if a.close.1 || a.failed then 0 else 1) := by
  have h1 := farm_write_faults a b
  have h2 := farm_close_faults a
  rw [(farm_encOk_write a b he).1] at h1
  rw [(farm_encOk_close a he).1] at h2
  simpa using And.intro h1 h2

theorem C14_armor_writer_encoder_intact (par : Armor.Params) (hdr ftr : Bytes) (w : Wr) (a : FArm) (b : Bytes) :
    (FArm.init par hdr ftr w).2.EncOk ∧ (a.EncOk → (a.write b).2.EncOk ∧ a.close.2.EncOk) :=
  ⟨farm_encOk_init par hdr ftr w, fun h => ⟨(farm_encOk_write a b h).2, (farm_encOk_close a h).2⟩⟩

/-- in ANY state of the armor stream (no assumption on its encoder): a call that
    reports success has seen no failing underlying write, and the count of
    failed underlying writes never goes down -/
theorem C14_armor_writer_ok_means_no_fault (a : FArm) (b : Bytes) :
    ((a.write b).1 = true → (a.write b).2.w.faults = a.w.faults) ∧
    (a.close.1 = true → a.close.2.w.faults = a.w.faults) ∧
    a.w.faults ≤ (a.write b).2.w.faults ∧ a.w.faults ≤ a.close.2.w.faults := by
  have h1 := farm_write_faults a b
  have h2 := farm_close_faults a
  refine ⟨fun h => by rw [h1, h]; simp, fun h => by rw [h2, h]; simp, by omega, by omega⟩

/-- hence every armored packet stream reports: a `Write` (a `Close` through
    `closeForwarder`) that returns no error has seen no failing underlying write -/
theorem C14_armored_calls_report (cfg : Cfg) (st : PSt FArm) (p : Bytes) :
    ((st.write FArm.write cfg p).2.1 = none → (st.write FArm.write cfg p).2.2.codec.w.w.faults = st.codec.w.w.faults) ∧
    ((armoredClose cfg st).1 = none → (armoredClose cfg st).2.codec.w.w.faults = st.codec.w.w.faults) :=
  ⟨(write_flt FArm.write (fun a => a.w.faults) farm_flt cfg st p).1, (armoredClose_spec cfg st).1⟩

/-- **sticky through the armor**: a failing underlying write leaves go-codec's
    encoder failed; from then on no `Write` and no `Close` touches the armor
    stream or the writer below it, and `Close` reports an error (or panics) -/
theorem C14_armored_after_fault (cfg : Cfg) (st : PSt FArm) (p : Bytes) :
    ((st.write FArm.write cfg p).2.2.codec.w.w.faults ≠ st.codec.w.w.faults →
      (st.write FArm.write cfg p).2.2.codec.failed = true) ∧
    (st.codec.failed = true →
      (st.write FArm.write cfg p).2.2.codec = st.codec ∧
      (armoredClose cfg st).1 ≠ none ∧ (armoredClose cfg st).2.codec = st.codec) :=
  ⟨(write_flt FArm.write (fun a => a.w.faults) farm_flt cfg st p).2.1,
   fun hf => ⟨(dead_write_codec FArm.write cfg st p (Or.inl hf)).1, (armoredClose_spec cfg st).2 hf⟩⟩

theorem armor_ctor_faults (typ : Int) (brand : Bytes) (w : Wr) :
    (FArm.init62 typ brand w).2.w.faults = w.faults + if (FArm.init62 typ brand w).1 then 0 else 1 :=
  wr_write_faults w (Armor.header typ brand ++ [Armor.period, Armor.space])

/-- **whole armored run: `Close` never reports success for a message that was
    not completely written** — if ANY underlying write failed (armor header,
    packet-stream constructor, any `Write`, `Close` of either layer), then a
    constructor failed or `Close` does not return nil (returns an error or
    PANICS, as for the binary streams; the next theorem names the call that
    RETURNS the error) -/
theorem C14_armored_run_fault_reported (cfg : Cfg) (typ : Int) (brand : Bytes) (sink : Stream.Sink) (part : List Nat)
    (headerBytes : Bytes) (ws : List Bytes) :
    let a := FArm.init62 typ brand ({ sink := sink, part := part } : Wr)
    let i := PSt.init FArm.write cfg.pieces a.2 headerBytes
    let c := armoredClose cfg (PSt.writes FArm.write cfg i.2 ws).2
    c.2.codec.w.w.faults ≠ 0 → a.1 = false ∨ c.1 ≠ none := by
  intro a i c hne
  by_cases hc : c.1 = none
  · left
    have hsame := (armoredClose_spec cfg (PSt.writes FArm.write cfg i.2 ws).2).1 hc
    have hi := faultSeen_init FArm.write (fun a => a.w.faults) farm_flt cfg.pieces a.2 headerBytes
    have hw := faultSeen_writes FArm.write (fun a => a.w.faults) farm_flt cfg (a.2.w.faults) ws _ hi.1
    have ha0 : a.2.w.faults = 0 + (if a.1 then 0 else 1) := armor_ctor_faults typ brand _
    cases hA : a.1 with
    | false => rfl
    | true =>
      rw [hA] at ha0
      simp only [if_true] at ha0
      have hfailed := hw (by
        show (PSt.writes FArm.write cfg i.2 ws).2.codec.w.w.faults ≠ a.2.w.faults
        rw [ha0, ← hsame]; exact hne)
      exact absurd hc ((armoredClose_spec cfg _).2 hfailed).1
  · exact Or.inr hc

/-- **…and the fault is RETURNED by the call in which it happens**: the armor
    constructor failed, or the packet stream's constructor failed, or a `Write`
    returned the writer's error, or `closeForwarder.Close` returned it -/
theorem C14_armored_run_fault_returns_io_error (cfg : Cfg) (typ : Int) (brand : Bytes) (sink : Stream.Sink) (part : List Nat)
    (headerBytes : Bytes) (ws : List Bytes) :
    let a := FArm.init62 typ brand ({ sink := sink, part := part } : Wr)
    let i := PSt.init FArm.write cfg.pieces a.2 headerBytes
    let r := PSt.writes FArm.write cfg i.2 ws
    let c := armoredClose cfg r.2
    c.2.codec.w.w.faults ≠ 0 →
      a.1 = false ∨ i.1 = false ∨ (∃ x ∈ r.1, x.2 = some .ioError) ∨ c.1 = some .ioError := by
  intro a i r c hne
  have ha0 : a.2.w.faults = 0 + (if a.1 then 0 else 1) := armor_ctor_faults typ brand _
  cases hA : a.1 with
  | false => exact Or.inl rfl
  | true =>
    right
    rw [hA] at ha0
    simp only [if_true] at ha0
    exact armored_run_fault_io cfg a.2 headerBytes ws (by rw [ha0]; exact hne)

/-! ## bounded buffering -/

/-- in EVERY state (also after faults): a `Write` adds at most its argument to
    the buffer, and one that reports success leaves at most one block buffered -/
theorem C14_sender_buffer_bounded {ω : Type} (wr : ω → Bytes → Bool × ω) (cfg : Cfg) (hb : 0 < cfg.bs)
    (st : PSt ω) (p : Bytes) :
    (st.write wr cfg p).2.2.buf.length ≤ st.buf.length + p.length ∧
    ((st.write wr cfg p).2.1 = none → (st.write wr cfg p).2.2.buf.length ≤ cfg.bs) := by
  unfold PSt.write
  split
  · exact ⟨Nat.le_add_right _ _, nofun⟩
  · obtain ⟨h1, h2⟩ := writeLoop_buf wr cfg hb p.length ((st.buf ++ p).length + 1) { st with buf := st.buf ++ p }
    exact ⟨List.length_append ▸ h1, fun h => h2 (Nat.lt_succ_self _) h⟩

/-! ## the real segmentation and packet functions meet the hypotheses -/

theorem C14_codec_pieces_segment (b : Bytes) : (codecPieces b).flatten = b ∧ ∀ p ∈ codecPieces b, p ≠ [] :=
  ⟨cutBy_flatten _ b, cutBy_nonempty _ b⟩

theorem C14_packet_functions_refuse_by_number (P : Prims) (v : Version) (sender : Option Bytes)
    (key hh : Bytes) (mks : List Bytes) :
    IndexFail (encPkt P v key hh mks) ∧ IndexFail (sigPkt P v key hh) ∧ IndexFail (scPkt P sender key hh) :=
  ⟨encPkt_indexFail P v key hh mks, sigPkt_indexFail P v key hh, scPkt_indexFail P sender key hh⟩

/-! ## non-vacuity and the behaviours that are NOT sticky (toy configuration: blocks of
     2 bytes, packet = number ‖ final flag ‖ chunk, one underlying write per byte) -/

def toyCfg (v1shape hasErr : Bool) : Cfg :=
  { bs := 2, v1shape := v1shape, hasErr := hasErr,
    pkt := fun i c f => .ok ([UInt8.ofNat i, if f then 1 else 0] ++ c), pieces := fun b => b.map ([·]) }

def toyRun (cfg : Cfg) (sink : Stream.Sink) (ws : List Bytes) : Bool × List (Nat × Option Err) × Option Err × Bytes :=
  let i := PSt.init Wr.write cfg.pieces ({ sink := sink } : Wr) [7]
  let r := PSt.writes Wr.write cfg i.2 ws
  let c := r.2.close Wr.write cfg
  (i.1, r.1, c.1, c.2.codec.w.bytes)

-- no fault: header packet (c4 01 07), two non-final packets, the final one
example : toyRun (toyCfg false true) [] [[1, 2, 3], [4, 5]] =
    (true, [(3, none), (2, none)], none, [0xc4, 1, 7, 0, 0, 1, 2, 1, 0, 3, 4, 2, 1, 5]) := by decide +kernel
-- the 6th underlying write fails (inside packet 0): the Write reports it, the next Write returns
-- the same error, Close too; a prefix has reached the writer
example : toyRun (toyCfg false true) [false, false, false, false, false, true] [[1, 2, 3], [4, 5]] =
    (true, [(0, some .ioError), (0, some .ioError)], some .ioError, [0xc4, 1, 7, 0, 0]) := by decide +kernel
-- NOT sticky (the model mirrors signAttachedStream, which has no `err` field): after the
-- fault a small Write that emits no block returns (n, nil); Close still fails
example : toyRun (toyCfg false false) [false, false, false, false, false, true] [[1, 2, 3], [4]] =
    (true, [(0, some .ioError), (1, none)], some .ioError, [0xc4, 1, 7, 0, 0]) := by decide +kernel
-- Close of a Version-2 shape PANICS after a failed Write that left more than one block buffered
example : (toyRun (toyCfg false true) [false, false, false, true] [[1, 2, 3, 4, 5, 6, 7]]).2.2.1 =
    some (.panic "blockRead") := by decide +kernel
-- …the Version-1 shape returns the error instead
example : (toyRun (toyCfg true true) [false, false, false, true] [[1, 2, 3, 4, 5, 6, 7]]).2.2.1 = some .ioError := by
  decide +kernel
-- a second Close after a successful one: Version-2 shapes panic (`assertEncodedChunkState`)
example :
    let i := PSt.init Wr.write (toyCfg false true).pieces ({} : Wr) [7]
    let c1 := i.2.close Wr.write (toyCfg false true)
    (c1.1, (c1.2.close Wr.write (toyCfg false true)).1) = (none, some (.panic "assertEncodedChunkState")) := by decide +kernel
-- what is NOT sticky (the code has it so; mirrored): `Close` neither looks at nor sets `err` — after a
-- FAILED `Close` (dead encoder, `err = nil`; here the 4th underlying write, in `Close`, fails) a small
-- `Write` that emits no block returns (n, nil); one that emits a block fails and records
example :
    let i := PSt.init Wr.write (toyCfg false true).pieces ({ sink := [false, false, false, true] } : Wr) [7]
    let c := i.2.close Wr.write (toyCfg false true)
    (c.1, (c.2.write Wr.write (toyCfg false true) [1]).2.1, (c.2.write Wr.write (toyCfg false true) [1, 2, 3]).2.1) =
      (some .ioError, none, some .ioError) := by decide +kernel
-- the hypotheses of `C14_sender_run_fault_returns_io_error` / `_close_panics_only_after_error` are met by
-- the panic run above: the Write returned the io error, then Close panicked
example : (toyRun (toyCfg false true) [false, false, false, true] [[1, 2, 3, 4, 5, 6, 7]]).2.1 = [(0, some .ioError)] := by
  decide +kernel
/-- one underlying write per PACKET (so that a failing write can take a part of it) -/
def toyCfgW (v1shape hasErr : Bool) : Cfg := { toyCfg v1shape hasErr with pieces := fun b => [b] }

def toyRunP (cfg : Cfg) (sink : Stream.Sink) (part : List Nat) (ws : List Bytes) :
    Bool × List (Nat × Option Err) × Option Err × Bytes :=
  let i := PSt.init Wr.write cfg.pieces ({ sink := sink, part := part } : Wr) [7]
  let r := PSt.writes Wr.write cfg i.2 ws
  let c := r.2.close Wr.write cfg
  (i.1, r.1, c.1, c.2.codec.w.bytes)

-- a FAILING write that ACCEPTED A PART of its slice (io.Writer: (n, err), 0 < n < len): the 2nd
-- underlying write (packet 0 = 00 00 01 02) takes 3 bytes and fails: the Write reports it, the
-- stream is dead, the writer holds header ‖ those 3 bytes — still a prefix of the fault-free output
example : toyRunP (toyCfgW false true) [false, true] [3] [[1, 2, 3], [4, 5]] =
    (true, [(0, some .ioError), (0, some .ioError)], some .ioError, [0xc4, 1, 7, 0, 0, 1]) := by decide +kernel
example : toyRunP (toyCfgW false true) [] [] [[1, 2, 3], [4, 5]] =
    (true, [(3, none), (2, none)], none, [0xc4, 1, 7, 0, 0, 1, 2, 1, 0, 3, 4, 2, 1, 5]) := by decide +kernel
-- it took the WHOLE slice and failed all the same (n = len, err): reported, dead, prefix
example : toyRunP (toyCfgW false true) [false, true] [1000] [[1, 2, 3], [4, 5]] =
    (true, [(0, some .ioError), (0, some .ioError)], some .ioError, [0xc4, 1, 7, 0, 0, 1, 2]) := by decide +kernel
-- go-codec's write pattern on a header-like value: bin8 = two 1-byte writes and the content
example : codecPieces [0xc4, 3, 9, 9, 9, 0x93, 0xc3, 0xc4, 0] = [[0xc4], [3], [9, 9, 9], [0x93], [0xc3], [0xc4], [0]] := by
  decide +kernel

end Saltpack.Props.C14
