/-
  C05 (attached-signature round trip) on the emitted BYTES through the byte-level
  verifier `Sign.verifyBytes` (Model/Front.lean) — the transfer of
  `C05_roundtrip_bytes` (stated for the spec-shaped split `Wire.splitSig`) to the
  Codec-first front end: on what `Sign.attachedWith` emits go-codec's
  typed reader gives the same header read and packets as the spec-shaped one
  (`C09_bridge_seal_sig`).
-/
import Saltpack.Props.C05
import Saltpack.Proofs.CodecBytesFront

namespace Saltpack.Props.C05
open Saltpack Saltpack.Encrypt Saltpack.Proofs

/-- **The transfer**: a `Wire`-split all-at-once verification of a signed message
    is the byte-level verifier's result on these bytes -/
theorem C05_bytes_front_of_wire (P : Prims) (hP : P.Lawful) (bs : Nat) (hbs : 0 < bs) (hbs32 : bs < 2 ^ 32)
    (v : Version) (signer nonce msg : Bytes) (hn : nonce.length + 92 < 2 ^ 32)
    (out : Bytes) (hout : Sign.attachedWith P bs v signer nonce msg = .ok out)
    (valid : Validator) (kr : Keyring) (k m : Bytes)
    (hw : ∃ hr ps, Wire.splitSig out = .ok (hr, ps) ∧ Sign.verifyAll P valid kr hr ps = .ok (k, m)) :
    ∃ r, Sign.verifyBytes P valid kr out = .ok r ∧ r.err = none ∧ r.released = m ∧ r.signer = some k := by
  obtain ⟨hr, ps, hsplit, hopen⟩ := hw
  have hrd := (front_of_wire_sealed_sig P hP bs hbs hbs32 v signer nonce msg hn out hout _ hsplit).2
  exact ⟨_, sig_verifyBytes_of_read hrd, sig_verifyAll_ok hopen⟩

/-- on a signed message the front end reads exactly what the spec-shaped reader reads -/
theorem C05_front_is_wire_on_signed (P : Prims) (hP : P.Lawful) (bs : Nat) (hbs : 0 < bs) (hbs32 : bs < 2 ^ 32)
    (v : Version) (signer nonce msg : Bytes) (hn : nonce.length + 92 < 2 ^ 32)
    (out : Bytes) (hout : Sign.attachedWith P bs v signer nonce msg = .ok out)
    (x : HeaderRead SigHeader × PStream SigBlock) (hw : Wire.splitSig out = .ok x) :
    Codec.splitSig out = .ok x ∧ Front.readSig out = .ok x :=
  front_of_wire_sealed_sig P hP bs hbs hbs32 v signer nonce msg hn out hout x hw

/-- **Round trip on the emitted bytes through the front end**: what `Sign` emits
    verifies through `Sign.verifyBytes` — clean end, exactly the message, the signer's key -/
theorem C05_roundtrip_bytes_front (P : Prims) (hP : P.Lawful) (bs : Nat) (hbs : 0 < bs) (hbs32 : bs < 2 ^ 32)
    (v : Version) (hv : v = v1 ∨ v = v2) (signer nonce msg : Bytes) (hn : nonce.length + 92 < 2 ^ 32)
    (kr : Keyring) (hk : kr.lookupSigningPublicKey (P.sigPub signer) = some (P.sigPub signer))
    (out : Bytes) (hout : Sign.attachedWith P bs v signer nonce msg = .ok out) :
    ∃ r, Sign.verifyBytes P knownMajor kr out = .ok r ∧ r.err = none ∧ r.released = msg ∧
      r.signer = some (P.sigPub signer) :=
  C05_bytes_front_of_wire P hP bs hbs hbs32 v signer nonce msg hn out hout knownMajor kr _ _
    (C05_roundtrip_bytes P hP bs hbs hbs32 v hv signer nonce msg hn kr hk out hout)

/-! ## non-vacuity (kernel-evaluated): a toy-signed two-chunk message through the byte-level verifier -/

example : (match Sign.attachedWith Toy.prims 2 v2 [1] [2] [0x41, 0x42, 0x43] with
    | .ok out => (Sign.verifyBytes Toy.prims knownMajor ⟨fun _ => (-1, none), fun _ => none, [], fun _ => none, fun k => some k⟩
        out).toOption.map (fun r => (r.released, r.err, r.signer))
    | .error _ => none) = some ([0x41, 0x42, 0x43], none, some (Toy.prims.sigPub [1])) := by decide +kernel

end Saltpack.Props.C05
