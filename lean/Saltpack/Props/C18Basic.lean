/-
  Property C18 for the library's OWN key generation (package `basic`, model
  Saltpack/Model/Basic.lean): `basic.EphemeralKeyCreator.CreateEphemeralKey`
  (= `generateBoxKey`, used by `Keyring.GenerateBoxKey` too) consumes exactly 32
  bytes of the randomness source — they ARE the secret key — and fails closed.

  The theorems suffixed `_def` restate the definition
  (`createEphemeralKey := match Rand.readFull 32 … with …`) in iff form: they are
  the readable specification, not counted as results.

  Model boundary of `Rand.readFull` (Model/Rand.lean), declared here because the
  harness never scripts it: a `(0, nil)` read is modelled as a FAILURE whereas
  `io.ReadFull` simply reads again, and a read that offers more than asked is
  truncated with the surplus dropped; "consecutive calls draw disjoint
  consecutive segments" is a statement about sources that do neither.
-/
import Saltpack.Proofs.BasicRT
import Saltpack.Toy

namespace Saltpack.Props.C18
open Saltpack Saltpack.Basic Saltpack.Proofs Saltpack.Proofs.BasicRing

/-- **Exactly 32 bytes, and the key is those bytes.**  The call succeeds iff the
    32-byte full read (`io.ReadFull` inside `box.GenerateKey`) succeeds; the
    secret is what the source delivered, the public key is computed from it,
    and what is left of the source is what that read left. -/
theorem C18_basic_creator_draws_def (P : Prims) (src : Rand.Source) (sk : SecretKey) (rest : Rand.Source) :
    createEphemeralKey P src = .ok (sk, rest) ↔
      ∃ s, Rand.readFull 32 src = some (s, rest) ∧ sk = ⟨P.boxPub s, s⟩ :=
  createEphemeralKey_ok_iff P src sk rest

/-- the 32 bytes are a prefix of the concatenated deliveries; the rest of the
    source is a suffix (consecutive calls draw disjoint consecutive segments) -/
theorem C18_basic_creator_is_source (P : Prims) (src : Rand.Source) (sk : SecretKey) (rest : Rand.Source)
    (h : createEphemeralKey P src = .ok (sk, rest)) :
    sk.sec.length = 32 ∧ sk.pub = P.boxPub sk.sec ∧
    ∃ n, n ≤ src.length ∧ rest = src.drop n ∧ sk.sec = (((src.take n).map (·.data)).flatten).take 32 :=
  createEphemeralKey_spec P src sk rest h

/-- **Fail closed**: the only error is the source's, it arises exactly when the
    32-byte read fails, and then there is no key (the result is `.error`) -/
theorem C18_basic_creator_fail_closed_def (P : Prims) (src : Rand.Source) :
    (Rand.readFull 32 src = none ↔ createEphemeralKey P src = .error .ioError) ∧
    (∀ e, createEphemeralKey P src = .error e → e = .ioError ∧ Rand.readFull 32 src = none) :=
  ⟨createEphemeralKey_fail_iff P src, createEphemeralKey_error_is_io P src⟩

/-- an error of the source before 32 bytes are in — alone or with a short slice —
    and a source that ends early: error, no key -/
theorem C18_basic_creator_fault (P : Prims) (src : Rand.Source) :
    (∀ n (hn : n < src.length), (src[n]'hn).err = true →
        ((src.take (n + 1)).map (·.data.length)).sum < 32 → createEphemeralKey P src = .error .ioError) ∧
    ((src.map (·.data.length)).sum < 32 → createEphemeralKey P src = .error .ioError) :=
  ⟨fun n hn herr hshort => (createEphemeralKey_fail_iff P src).1 (readFull_fail_closed 32 src n hn herr hshort),
    fun hshort => (createEphemeralKey_fail_iff P src).1 (readFull_short 32 src hshort)⟩

/-- `Keyring.GenerateBoxKey` = the creator + the map assignment: the new key is
    in the keyring, and well-formedness / honesty are preserved -/
theorem C18_basic_generateBoxKey (P : Prims) (k : Basic.Keyring) (src : Rand.Source) (sk : SecretKey)
    (k' : Basic.Keyring) (rest : Rand.Source) (h : k.generateBoxKey P src = .ok (sk, k', rest)) :
    createEphemeralKey P src = .ok (sk, rest) ∧ mapGet k'.encKeys sk.pub = some sk ∧
    (WF k → WF k') ∧ (Honest P k → Honest P k') := by
  unfold Basic.Keyring.generateBoxKey at h
  unfold createEphemeralKey
  cases hg : Basic.generateBoxKey P src with
  | error e => rw [hg] at h; cases h
  | ok p =>
    obtain ⟨sk0, rest0⟩ := p
    rw [hg] at h
    simp only [Except.ok.injEq, Prod.mk.injEq] at h
    obtain ⟨rfl, rfl, rfl⟩ := h
    refine ⟨rfl, mapGet_insert_same _ _, fun hw => mapInsert_wf _ hw, ?_⟩
    intro hh e he
    rcases mapInsert_mem he with rfl | he
    · have := (createEphemeralKey_spec P src e rest0 (by unfold createEphemeralKey; exact hg)).2.1
      exact this
    · exact hh e he

/-- `Keyring.GenerateSigningKey`: 32 bytes of seed, fail closed, and the keyring
    is returned unchanged (the key is not stored) -/
theorem C18_basic_generateSigningKey_def (P : Prims) (k : Basic.Keyring) (src : Rand.Source) :
    (Rand.readFull 32 src = none → k.generateSigningKey P src = .error .ioError) ∧
    (∀ seed rest, Rand.readFull 32 src = some (seed, rest) →
      k.generateSigningKey P src = .ok (⟨P.sigPub seed, seed ++ P.sigPub seed⟩, k, rest)) := by
  unfold Basic.Keyring.generateSigningKey
  constructor
  · intro h; rw [h]
  · intro seed rest h; rw [h]; rfl

/-- the ephemeral-key step of `Seal` / `SigncryptSeal` in the sender models
    (`EphSource.fromRand`, the case the theorems of Props/C18.lean cover) IS the basic
    creator: so `C18_seal_draws`, `C18_seal_fail_closed`, … are statements about
    sealing with `basic.EphemeralKeyCreator` -/
theorem C18_basic_creator_is_fromRand_def (P : Prims) (src : Rand.Source) :
    (match Rand.readFull 32 src with
      | none => (Except.error Err.ioError : Except Err (Bytes × Rand.Source))
      | some (s, src2) => .ok (s, src2)) =
    (match createEphemeralKey P src with
      | .error e => .error e
      | .ok (sk, src2) => .ok (sk.sec, src2)) := by
  unfold createEphemeralKey generateBoxKey
  cases Rand.readFull 32 src with
  | none => rfl
  | some p => rfl

/-- **`Seal` with `basic.EphemeralKeyCreator`**: after the version / receiver
    checks and the shuffle draws (which leave the source `src1`), the ephemeral
    key of `Seal` is what the basic creator makes of `src1` — the NEXT 32 source
    bytes —; if the creator fails (a failing or short read there) `Seal` fails
    with the source's error and emits nothing; otherwise `Seal` continues with
    that secret and the payload key drawn from what the creator left. -/
theorem C18_basic_seal_with_creator (P : Prims) (bs : Nat) (v : Version) (hv : knownVersion v = true)
    (sender : Option Bytes) (rs : List Encrypt.Recipient) (hrs : Encrypt.checkReceivers rs = .ok ())
    (src : Rand.Source) (pt : Bytes) (js : List Nat) (src1 : Rand.Source)
    (hsh : Encrypt.shuffleDraws (rs.length - 1) src (src.length + 1) = .ok (js, src1)) :
    (∀ e, createEphemeralKey P src1 = .error e →
      Encrypt.sealRand P bs v sender rs .fromRand src pt = .error .ioError) ∧
    (∀ sk src2, createEphemeralKey P src1 = .ok (sk, src2) →
      (∃ n, n ≤ src1.length ∧ src2 = src1.drop n ∧ sk.sec = (((src1.take n).map (·.data)).flatten).take 32) ∧
      Encrypt.sealRand P bs v sender rs .fromRand src pt =
        (match Rand.readFull 32 src2 with
          | none => .error .ioError
          | some (pk, src3) =>
            match Encrypt.sealWith P bs v sender (Rand.shuffle js rs) sk.sec pk pt with
            | .error e => .error e
            | .ok m => .ok (m, src3))) := by
  constructor
  · intro e he
    have hn := (createEphemeralKey_error_is_io P src1 e he).2
    unfold Encrypt.sealRand
    simp only [hv, Bool.not_true, Bool.false_eq_true, if_false, hrs, hsh, hn]
  · intro sk src2 hok
    refine ⟨(createEphemeralKey_spec P src1 sk src2 hok).2.2, ?_⟩
    obtain ⟨s0, hr, rfl⟩ := (createEphemeralKey_ok_iff P src1 sk src2).1 hok
    unfold Encrypt.sealRand
    simp only [hv, Bool.not_true, Bool.false_eq_true, if_false, hrs, hsh, hr]
    cases Rand.readFull 32 src2 with
    | none => rfl
    | some p => rfl

/-! ## non-vacuity (kernel evaluation) -/

/-- 4 + 28 bytes in two reads, more data behind: the key is the first 32 bytes,
    one read is left -/
example : createEphemeralKey Toy.prims [⟨[1, 2, 3, 4], false⟩, ⟨List.replicate 28 7, false⟩, ⟨[9], false⟩] =
    .ok (⟨Toy.prims.boxPub ([1, 2, 3, 4] ++ List.replicate 28 7), [1, 2, 3, 4] ++ List.replicate 28 7⟩, [⟨[9], false⟩]) := by
  decide +kernel

/-- the read that completes the 32 bytes carries an error: `io.ReadFull` drops it -/
example : (createEphemeralKey Toy.prims [⟨List.replicate 32 7, true⟩]).toOption.map (·.1.sec) =
    some (List.replicate 32 7) := by decide +kernel

/-- error after 31 bytes; transient error first; source ends: all fail closed -/
example : createEphemeralKey Toy.prims [⟨List.replicate 31 7, true⟩, ⟨[1], false⟩] = .error .ioError := by decide
example : createEphemeralKey Toy.prims [⟨[], true⟩, ⟨List.replicate 32 7, false⟩] = .error .ioError := by decide
example : createEphemeralKey Toy.prims [⟨List.replicate 31 7, false⟩] = .error .ioError := by decide
example : createEphemeralKey Toy.prims [] = .error .ioError := by decide

end Saltpack.Props.C18
