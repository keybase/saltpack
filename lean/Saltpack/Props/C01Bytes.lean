/-
  C01 (encryption round trip) on the emitted BYTES through the byte-level
  receiver `Decrypt.openBytes` (Model/Front.lean) — the transfer of
  `C01_roundtrip_bytes*` (stated for the spec-shaped split `Wire.splitEnc`) to
  the Codec-first front end.

  `Front.readEnc` asks go-codec's typed reader `Codec.splitEnc` first.  On what
  `Encrypt.sealWith` emits both readers give the same header read and packets
  (`C09_bridge_seal_enc`), so the byte-level receiver — the model of
  `NewDecryptStream` on these bytes — ends cleanly with exactly the plaintext
  and the key information of `C01_roundtrip_bytes*`.
-/
import Saltpack.Props.C01
import Saltpack.Proofs.CodecBytesFront

namespace Saltpack.Props.C01
open Saltpack Saltpack.Encrypt Saltpack.Proofs

/-- **The transfer.**  Any statement "`Wire.splitEnc msg = ok (hr, ps)` and the
    all-at-once receiver on `(hr, ps)` returns `(m, pt')`" about a sealed message
    `msg` is a statement about the byte-level receiver on `msg`: it answers (the
    front end does not say unmodelled), ends cleanly, releases `pt'`, reports `m`. -/
theorem C01_bytes_front_of_wire (P : Prims) (hP : P.Lawful) (bs : Nat) (hbs : 0 < bs) (hbs32 : bs + 16 < 2 ^ 32)
    (v : Version) (hv : v = v1 ∨ v = v2) (sender : Option Bytes) (rs : List Encrypt.Recipient)
    (eph payloadKey pt : Bytes) (hpk : payloadKey.length = 32)
    (L : Nat) (hL : ∀ r ∈ rs, r.pub.length ≤ L) (hsmall : 145 + rs.length * (L + 63) < 2 ^ 32)
    (msg : Bytes) (hmsg : Encrypt.sealWith P bs v sender rs eph payloadKey pt = .ok msg)
    (valid : Validator) (kr : Keyring) (m : MKI) (pt' : Bytes)
    (hw : ∃ hr ps, Wire.splitEnc msg = .ok (hr, ps) ∧ Decrypt.openAll P valid kr hr ps = .ok (m, pt')) :
    ∃ r, Decrypt.openBytes P valid kr msg = .ok r ∧ r.err = none ∧ r.released = pt' ∧ r.mki = some m := by
  obtain ⟨hr, ps, hsplit, hopen⟩ := hw
  have hrd := (front_of_wire_sealed_enc P hP bs hbs hbs32 v hv sender rs eph payloadKey pt hpk L hL hsmall msg hmsg
    _ hsplit).2
  exact ⟨_, dec_openBytes_of_read hrd, dec_openAll_ok hopen⟩

/-- on a sealed message the front end reads exactly what the spec-shaped reader reads -/
theorem C01_front_is_wire_on_sealed (P : Prims) (hP : P.Lawful) (bs : Nat) (hbs : 0 < bs) (hbs32 : bs + 16 < 2 ^ 32)
    (v : Version) (hv : v = v1 ∨ v = v2) (sender : Option Bytes) (rs : List Encrypt.Recipient)
    (eph payloadKey pt : Bytes) (hpk : payloadKey.length = 32)
    (L : Nat) (hL : ∀ r ∈ rs, r.pub.length ≤ L) (hsmall : 145 + rs.length * (L + 63) < 2 ^ 32)
    (msg : Bytes) (hmsg : Encrypt.sealWith P bs v sender rs eph payloadKey pt = .ok msg)
    (x : HeaderRead EncHeader × PStream EncBlock) (hw : Wire.splitEnc msg = .ok x) :
    Codec.splitEnc msg = .ok x ∧ Front.readEnc msg = .ok x :=
  front_of_wire_sealed_enc P hP bs hbs hbs32 v hv sender rs eph payloadKey pt hpk L hL hsmall msg hmsg x hw

/-- **Round trip on the emitted bytes through the front end, any keyring holding
    a recipient's key** (`C01_roundtrip_bytes_ring` transferred). -/
theorem C01_roundtrip_bytes_ring_front (P : Prims) (hP : P.Lawful) (bs : Nat) (hbs : 0 < bs) (hbs32 : bs + 16 < 2 ^ 32)
    (v : Version) (hv : v = v1 ∨ v = v2)
    (sender : Option Bytes) (rs : List Encrypt.Recipient) (eph payloadKey pt : Bytes)
    (hpk : payloadKey.length = 32)
    (hnamed : ∀ s, sender = some s → P.boxPub s ≠ P.boxPub eph)
    (hpub : ∀ r ∈ rs, r.hidden = false → r.pub ≠ [])
    (sks : List Bytes) (i : Nat) (hi : i < rs.length) (sk : Bytes) (hmem : sk ∈ sks)
    (hsk : (rs.getD i default).pub = P.boxPub sk)
    (hns : RingNoSpuriousOpen P v eph payloadKey rs sks)
    (L : Nat) (hL : ∀ r ∈ rs, r.pub.length ≤ L) (hsmall : 145 + rs.length * (L + 63) < 2 ^ 32)
    (msg : Bytes) (hmsg : Encrypt.sealWith P bs v sender rs eph payloadKey pt = .ok msg) :
    ∃ i' sk', i' < rs.length ∧ sk' ∈ sks ∧ (rs.getD i' default).pub = P.boxPub sk' ∧
      ∃ r, Decrypt.openBytes P knownMajor (faithfulKeyring P sks) msg = .ok r ∧ r.err = none ∧ r.released = pt ∧
        r.mki = some { senderKey := P.boxPub (sender.getD eph), senderIsAnon := sender.isNone,
                       receiverKey := sk', receiverIsAnon := (rs.getD i' default).hidden,
                       namedReceivers := (rs.filter (fun r => !r.hidden)).map (·.pub),
                       numAnonReceivers := if (rs.getD i' default).hidden then (rs.filter (·.hidden)).length else 0 } := by
  obtain ⟨hr, ps, hsplit, i', sk', h1, h2, h3, hopen⟩ := C01_roundtrip_bytes_ring P hP bs hbs hbs32 v hv sender rs eph
    payloadKey pt hpk hnamed hpub sks i hi sk hmem hsk hns L hL hsmall msg hmsg
  exact ⟨i', sk', h1, h2, h3, C01_bytes_front_of_wire P hP bs hbs hbs32 v hv sender rs eph payloadKey pt hpk L hL hsmall
    msg hmsg _ _ _ _ ⟨hr, ps, hsplit, hopen⟩⟩

/-- … with the exact key information when the ring holds one recipient's key only -/
theorem C01_roundtrip_bytes_ring_unique_front (P : Prims) (hP : P.Lawful) (bs : Nat) (hbs : 0 < bs)
    (hbs32 : bs + 16 < 2 ^ 32) (v : Version) (hv : v = v1 ∨ v = v2)
    (sender : Option Bytes) (rs : List Encrypt.Recipient) (eph payloadKey pt : Bytes)
    (hpk : payloadKey.length = 32)
    (hnamed : ∀ s, sender = some s → P.boxPub s ≠ P.boxPub eph)
    (hpub : ∀ r ∈ rs, r.hidden = false → r.pub ≠ [])
    (sks : List Bytes) (i : Nat) (hi : i < rs.length) (sk : Bytes) (hmem : sk ∈ sks)
    (hsk : (rs.getD i default).pub = P.boxPub sk)
    (honly : ∀ s ∈ sks, ∀ j, j < rs.length → (rs.getD j default).pub = P.boxPub s → j = i ∧ s = sk)
    (hns : RingNoSpuriousOpen P v eph payloadKey rs sks)
    (L : Nat) (hL : ∀ r ∈ rs, r.pub.length ≤ L) (hsmall : 145 + rs.length * (L + 63) < 2 ^ 32)
    (msg : Bytes) (hmsg : Encrypt.sealWith P bs v sender rs eph payloadKey pt = .ok msg) :
    ∃ r, Decrypt.openBytes P knownMajor (faithfulKeyring P sks) msg = .ok r ∧ r.err = none ∧ r.released = pt ∧
      r.mki = some { senderKey := P.boxPub (sender.getD eph), senderIsAnon := sender.isNone,
                     receiverKey := sk, receiverIsAnon := (rs.getD i default).hidden,
                     namedReceivers := (rs.filter (fun r => !r.hidden)).map (·.pub),
                     numAnonReceivers := if (rs.getD i default).hidden then (rs.filter (·.hidden)).length else 0 } :=
  C01_bytes_front_of_wire P hP bs hbs hbs32 v hv sender rs eph payloadKey pt hpk L hL hsmall msg hmsg _ _ _ _
    (C01_roundtrip_bytes_ring_unique P hP bs hbs hbs32 v hv sender rs eph payloadKey pt hpk hnamed hpub sks i hi sk hmem
      hsk honly hns L hL hsmall msg hmsg)

/-- **Round trip on the emitted bytes through the front end, keyring = exactly the
    recipient's key** (`C01_roundtrip_bytes` transferred): what `Seal` emits opens
    through `Decrypt.openBytes` — clean end, the plaintext, the key information. -/
theorem C01_roundtrip_bytes_front (P : Prims) (hP : P.Lawful) (bs : Nat) (hbs : 0 < bs) (hbs32 : bs + 16 < 2 ^ 32)
    (v : Version) (hv : v = v1 ∨ v = v2)
    (sender : Option Bytes) (rs : List Encrypt.Recipient) (eph payloadKey pt : Bytes)
    (hpk : payloadKey.length = 32)
    (hnamed : ∀ s, sender = some s → P.boxPub s ≠ P.boxPub eph)
    (hpub : ∀ r ∈ rs, r.hidden = false → r.pub ≠ [])
    (hblocks : (Encrypt.chunkPlan v bs pt).length < 2 ^ 64 - 1)
    (i : Nat) (hi : i < rs.length) (sk : Bytes) (hsk : (rs.getD i default).pub = P.boxPub sk)
    (hns : NoSpuriousOpen P v eph payloadKey rs i sk)
    (L : Nat) (hL : ∀ r ∈ rs, r.pub.length ≤ L) (hsmall : 145 + rs.length * (L + 63) < 2 ^ 32)
    (msg : Bytes) (hmsg : Encrypt.sealWith P bs v sender rs eph payloadKey pt = .ok msg) :
    ∃ r, Decrypt.openBytes P knownMajor (faithfulKeyring P [sk]) msg = .ok r ∧ r.err = none ∧ r.released = pt ∧
      r.mki = some { senderKey := P.boxPub (sender.getD eph), senderIsAnon := sender.isNone,
                     receiverKey := sk, receiverIsAnon := (rs.getD i default).hidden,
                     namedReceivers := (rs.filter (fun r => !r.hidden)).map (·.pub),
                     numAnonReceivers := if (rs.getD i default).hidden then (rs.filter (·.hidden)).length else 0 } :=
  C01_bytes_front_of_wire P hP bs hbs hbs32 v hv sender rs eph payloadKey pt hpk L hL hsmall msg hmsg _ _ _ _
    (C01_roundtrip_bytes P hP bs hbs hbs32 v hv sender rs eph payloadKey pt hpk hnamed hpub hblocks i hi sk hsk hns
      L hL hsmall msg hmsg)

end Saltpack.Props.C01
