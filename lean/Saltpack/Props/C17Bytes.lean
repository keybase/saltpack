/-
  C17 (gating, no cross-mode confusion) at the BYTE level: for every byte string the front end reads.

  `Props/C17.lean` states the gates for a decoded header `.ok hb h` and the
  transplant theorems under `Wire.decodeHeader … = .ok …`, i.e. for
  ARRAY-shaped headers read by the spec-shaped reader.  Here both are stated
  for what the byte-level front end (`Model/Front.lean`) makes of every byte
  string it reads — go-codec's typed decode (`Model/Codec.lean`, the primary
  reader): a header given as a MAP keyed by codec names, as nil, with fields in
  lenient encodings (byte strings as arrays of integers, wide integers, …)
  included; `Wire`'s typed view only where `Codec` says unmodelled.

  * gates: whatever the bytes, a receiver releases something or accepts only if
    the header it decoded names the saltpack format, an admitted version and its
    own mode; conversely a decoded header with another format name / a refused
    version / another mode is refused with the documented error class, nothing
    released, no key object touched; no decodable header — the same.
  * transplants: header bytes `hb` written canonically by a sender of ANY mode
    (`CanonHeaderBytes hb m ver`, true of all four model senders:
    `C17_honest_header_canonical`) decode to mode `m`, version `ver` under BOTH
    readers and into BOTH header structs (`C17_front_header_tag`); hence
    (a) a receiver of another mode / not admitting `ver` that released or accepted
    anything on any byte string read DIFFERENT header bytes
    (`C17_*_no_transplant_bytes`; with `ne_hash_or_collision`: a different header
    hash, or the two header byte strings are an explicit collision of the hash), and
    (b) behind these header bytes such a receiver accepts NOTHING, whatever packets
    follow — packets that were accepted under their own header included: exact
    refusal class, nothing released, no key object touched
    (`C17_*_foreign_header_refused_bytes`).
-/
import Saltpack.Proofs.CodecBytesGate
import Saltpack.Toy

namespace Saltpack.Props.C17
open Saltpack Saltpack.Proofs

/-! ## gates, every byte string -/

theorem C17_decrypt_gate_bytes (P : Prims) (valid : Validator) (kr : Keyring) (msg : Bytes) (r : Decrypt.Result)
    (hopen : Decrypt.openBytes P valid kr msg = .ok r) (hacc : r.released ≠ [] ∨ r.err = none) :
    ∃ hb h ps, Front.readEnc msg = .ok (.ok hb h, ps) ∧ FrontEncHeader hb h ∧
      h.formatName = Gen.c_sp_FormatName ∧ valid h.version = true ∧ h.typ = mtEncryption := by
  obtain ⟨hr, ps, hrd, rfl⟩ := dec_openBytes_ok hopen
  cases hr with
  | ok hb h => exact ⟨hb, h, ps, hrd, front_header hrd, enc_gate_released P valid kr hb h ps hacc⟩
  | unreadable => simp [Decrypt.openStream] at hacc
  | undecodable _ => simp [Decrypt.openStream] at hacc

theorem C17_signcrypt_gate_bytes (P : Prims) (kr : Keyring) (res : Signcrypt.Resolver) (msg : Bytes)
    (r : Signcrypt.Result) (hopen : Signcrypt.openBytes P kr res msg = .ok r)
    (hacc : r.released ≠ [] ∨ r.err = none) :
    ∃ hb h ps, Front.readSigncrypt msg = .ok (.ok hb h, ps) ∧ FrontEncHeader hb h ∧
      h.formatName = Gen.c_sp_FormatName ∧ h.version.major = 2 ∧ h.typ = mtSigncryption := by
  obtain ⟨hr, ps, hrd, rfl⟩ := sc_openBytes_ok hopen
  cases hr with
  | ok hb h => exact ⟨hb, h, ps, hrd, front_header hrd, sc_gate_released P kr res hb h ps hacc⟩
  | unreadable => simp [Signcrypt.openStream] at hacc
  | undecodable _ => simp [Signcrypt.openStream] at hacc

theorem C17_verify_gate_bytes (P : Prims) (valid : Validator) (kr : Keyring) (msg : Bytes) (r : Sign.Result)
    (hopen : Sign.verifyBytes P valid kr msg = .ok r) (hacc : r.released ≠ [] ∨ r.err = none) :
    ∃ hb h ps, Front.readSig msg = .ok (.ok hb h, ps) ∧ FrontSigHeader hb h ∧
      h.formatName = Gen.c_sp_FormatName ∧ valid h.version = true ∧ h.typ = mtAttached := by
  obtain ⟨hr, ps, hrd, rfl⟩ := sig_verifyBytes_ok hopen
  cases hr with
  | ok hb h => exact ⟨hb, h, ps, hrd, front_header hrd, ver_gate_any P valid kr hb h ps hacc⟩
  | unreadable => simp [Sign.verifyStream] at hacc
  | undecodable _ => simp [Sign.verifyStream] at hacc

theorem C17_detached_gate_bytes (P : Prims) (valid : Validator) (kr : Keyring) (sigMsg msg k : Bytes)
    (hopen : Sign.verifyDetachedBytes P valid kr sigMsg msg = .ok (.ok k)) :
    ∃ hb h sr, Front.readDetached sigMsg = .ok (.ok hb h, sr) ∧ FrontSigHeader hb h ∧
      h.formatName = Gen.c_sp_FormatName ∧ valid h.version = true ∧ h.typ = mtDetached := by
  obtain ⟨hr, sr, hrd, he⟩ := sig_verifyDetachedBytes_ok hopen
  obtain ⟨hb, h, sg, h1, _, h2, h3, h4, _⟩ := detached_sound P valid kr hr sr msg k he.symm
  subst h1
  exact ⟨hb, h, sr, hrd, readDetached_header sigMsg hb h sr hrd, h2, h3, h4⟩

/-- `FrontEncHeader` / `FrontSigHeader`, spelled out: go-codec's typed decode of
    the header bytes, or (the fallback) the typed view of the generic parse -/
theorem C17_front_header_def (hb : Bytes) :
    (∀ h : EncHeader, FrontEncHeader hb h ↔
      ((∃ r, Codec.decEncHeader hb = .ok (h, r)) ∨ Wire.decodeHeader viewEncHeader hb = .ok (.ok hb h))) ∧
    (∀ h : SigHeader, FrontSigHeader hb h ↔
      ((∃ r, Codec.decSigHeader hb = .ok (h, r)) ∨ Wire.decodeHeader viewSigHeader hb = .ok (.ok hb h))) :=
  ⟨fun _ => Iff.rfl, fun _ => Iff.rfl⟩

/-! ## refusals: exact error class, nothing released, no key object touched -/

/-- **Decryption.** The front end read `msg` and decoded the header `h` (any
    shape): another format name ⇒ `ErrNotASaltpackMessage`; else another mode ⇒
    `ErrWrongMessageType`; else a version the validator refuses ⇒
    `ErrBadVersion` — each with nothing released and an empty call log. -/
theorem C17_decrypt_refuses_bytes (P : Prims) (valid : Validator) (kr : Keyring) (msg hb : Bytes) (h : EncHeader)
    (ps : PStream EncBlock) (hread : Front.readEnc msg = .ok (.ok hb h, ps)) :
    (h.formatName ≠ Gen.c_sp_FormatName →
      Decrypt.openBytes P valid kr msg = .ok ⟨none, [], some .notASaltpackMessage, []⟩) ∧
    (h.formatName = Gen.c_sp_FormatName → h.typ ≠ mtEncryption →
      Decrypt.openBytes P valid kr msg = .ok ⟨none, [], some .wrongMessageType, []⟩) ∧
    (h.formatName = Gen.c_sp_FormatName → h.typ = mtEncryption → valid h.version = false →
      Decrypt.openBytes P valid kr msg = .ok ⟨none, [], some .badVersion, []⟩) := by
  obtain ⟨a, b, c⟩ := dec_validate_error valid h
  rw [dec_openBytes_of_read hread]
  exact ⟨fun h1 => by rw [dec_openStream_refused P valid kr hb h ps _ (a h1)],
         fun h1 h2 => by rw [dec_openStream_refused P valid kr hb h ps _ (b h1 h2)],
         fun h1 h2 h3 => by rw [dec_openStream_refused P valid kr hb h ps _ (c h1 h2 h3)]⟩

theorem C17_signcrypt_refuses_bytes (P : Prims) (kr : Keyring) (res : Signcrypt.Resolver) (msg hb : Bytes)
    (h : EncHeader) (ps : PStream SigncryptBlock) (hread : Front.readSigncrypt msg = .ok (.ok hb h, ps)) :
    (h.formatName ≠ Gen.c_sp_FormatName →
      Signcrypt.openBytes P kr res msg = .ok ⟨none, [], some .notASaltpackMessage, []⟩) ∧
    (h.formatName = Gen.c_sp_FormatName → h.typ ≠ mtSigncryption →
      Signcrypt.openBytes P kr res msg = .ok ⟨none, [], some .wrongMessageType, []⟩) ∧
    (h.formatName = Gen.c_sp_FormatName → h.typ = mtSigncryption → h.version.major ≠ 2 →
      Signcrypt.openBytes P kr res msg = .ok ⟨none, [], some .badVersion, []⟩) := by
  obtain ⟨a, b, c⟩ := sc_validate_error h
  rw [sc_openBytes_of_read hread]
  exact ⟨fun h1 => by rw [sc_openStream_refused P kr res hb h ps _ (a h1)],
         fun h1 h2 => by rw [sc_openStream_refused P kr res hb h ps _ (b h1 h2)],
         fun h1 h2 h3 => by rw [sc_openStream_refused P kr res hb h ps _ (c h1 h2 h3)]⟩

theorem C17_verify_refuses_bytes (P : Prims) (valid : Validator) (kr : Keyring) (msg hb : Bytes) (h : SigHeader)
    (ps : PStream SigBlock) (hread : Front.readSig msg = .ok (.ok hb h, ps)) :
    (h.formatName ≠ Gen.c_sp_FormatName →
      Sign.verifyBytes P valid kr msg = .ok ⟨none, [], some .notASaltpackMessage⟩) ∧
    (h.formatName = Gen.c_sp_FormatName → valid h.version = false →
      Sign.verifyBytes P valid kr msg = .ok ⟨none, [], some .badVersion⟩) ∧
    (h.formatName = Gen.c_sp_FormatName → valid h.version = true → h.typ ≠ mtAttached →
      Sign.verifyBytes P valid kr msg = .ok ⟨none, [], some .wrongMessageType⟩) := by
  obtain ⟨a, b, c⟩ := sig_validate_error valid h mtAttached
  rw [sig_verifyBytes_of_read hread]
  exact ⟨fun h1 => by rw [ver_verifyStream_refused P valid kr hb h ps _ (a h1)],
         fun h1 h2 => by rw [ver_verifyStream_refused P valid kr hb h ps _ (b h1 h2)],
         fun h1 h2 h3 => by rw [ver_verifyStream_refused P valid kr hb h ps _ (c h1 h2 h3)]⟩

theorem C17_detached_refuses_bytes (P : Prims) (valid : Validator) (kr : Keyring) (sigMsg msg hb : Bytes)
    (h : SigHeader) (sr : Sign.SigRead) (hread : Front.readDetached sigMsg = .ok (.ok hb h, sr)) :
    (h.formatName ≠ Gen.c_sp_FormatName →
      Sign.verifyDetachedBytes P valid kr sigMsg msg = .ok (.error .notASaltpackMessage)) ∧
    (h.formatName = Gen.c_sp_FormatName → valid h.version = false →
      Sign.verifyDetachedBytes P valid kr sigMsg msg = .ok (.error .badVersion)) ∧
    (h.formatName = Gen.c_sp_FormatName → valid h.version = true → h.typ ≠ mtDetached →
      Sign.verifyDetachedBytes P valid kr sigMsg msg = .ok (.error .wrongMessageType)) := by
  obtain ⟨a, b, c⟩ := sig_validate_error valid h mtDetached
  rw [sig_verifyDetachedBytes_of_read hread]
  exact ⟨fun h1 => by rw [det_verifyDetached_refused P valid kr hb h sr msg _ (a h1)],
         fun h1 h2 => by rw [det_verifyDetached_refused P valid kr hb h sr msg _ (b h1 h2)],
         fun h1 h2 h3 => by rw [det_verifyDetached_refused P valid kr hb h sr msg _ (c h1 h2 h3)]⟩

/-- no decodable header (first object not a byte string, input ends, inner bytes
    do not decode): refused, nothing released, no key object touched -/
theorem C17_no_header_refused_bytes (P : Prims) (valid : Validator) (kr : Keyring) (res : Signcrypt.Resolver) (msg : Bytes) :
    (∀ hr ps, Front.readEnc msg = .ok (hr, ps) → (∀ hb h, hr ≠ .ok hb h) →
      ∃ r, Decrypt.openBytes P valid kr msg = .ok r ∧ r.released = [] ∧ r.err ≠ none ∧ r.calls = []) ∧
    (∀ hr ps, Front.readSigncrypt msg = .ok (hr, ps) → (∀ hb h, hr ≠ .ok hb h) →
      ∃ r, Signcrypt.openBytes P kr res msg = .ok r ∧ r.released = [] ∧ r.err ≠ none ∧ r.calls = []) ∧
    (∀ hr ps, Front.readSig msg = .ok (hr, ps) → (∀ hb h, hr ≠ .ok hb h) →
      ∃ r, Sign.verifyBytes P valid kr msg = .ok r ∧ r.released = [] ∧ r.err ≠ none) ∧
    (∀ hr sr m, Front.readDetached msg = .ok (hr, sr) → (∀ hb h, hr ≠ .ok hb h) →
      ∃ e, Sign.verifyDetachedBytes P valid kr msg m = .ok (.error e)) := by
  refine ⟨fun hr ps hrd hno => ?_, fun hr ps hrd hno => ?_, fun hr ps hrd hno => ?_, fun hr sr m hrd hno => ?_⟩
  · exact ⟨_, dec_openBytes_of_read hrd, dec_openStream_no_header P valid kr hr ps hno⟩
  · exact ⟨_, sc_openBytes_of_read hrd, sc_openStream_no_header P kr res hr ps hno⟩
  · exact ⟨_, sig_verifyBytes_of_read hrd, ver_verifyStream_no_header P valid kr hr ps hno⟩
  · obtain ⟨e, he⟩ := det_verifyDetached_no_header P valid kr hr sr m hno
    exact ⟨e, by rw [sig_verifyDetachedBytes_of_read hrd, he]⟩

/-! ## transplants, every byte string, both readers, both header structs -/

/-- `CanonHeaderBytes hb m ver`, spelled out: `hb` is the canonical encoding of
    an array `[format name (str), [major, minor], mode, …]` — what follows is
    arbitrary (any family's fields, any extras) -/
theorem C17_canon_header_def (hb : Bytes) (m : Int) (ver : Version) :
    CanonHeaderBytes hb m ver ↔
      ∃ (fmt : Bytes) (rest : List Msgpack.Val),
        hb = Msgpack.encode (.arr (.str fmt :: ver.toVal :: .int m :: rest)) ∧
        ValWF (.arr (.str fmt :: ver.toVal :: .int m :: rest)) ∧
        (-(2 ^ 63 : Int) ≤ m ∧ m < 2 ^ 63) ∧ (-(2 ^ 63 : Int) ≤ ver.major ∧ ver.major < 2 ^ 63) ∧
        (-(2 ^ 63 : Int) ≤ ver.minor ∧ ver.minor < 2 ^ 63) :=
  Iff.rfl

/-- the header bytes of every model sender are canonical and announce its own
    mode and the requested version -/
theorem C17_honest_header_canonical (P : Prims) :
    (∀ bs v sender rs eph pk pt (h : EncHeader) hb blks,
      Encrypt.sealPackets P bs v sender rs eph pk pt = .ok (h, hb, blks) → ValWF h.toVal →
      CanonHeaderBytes hb mtEncryption v) ∧
    (∀ bs sender rs eph pk pt (h : EncHeader) hb blks,
      Signcrypt.sealPackets P bs sender rs eph pk pt = .ok (h, hb, blks) → ValWF h.toVal →
      CanonHeaderBytes hb mtSigncryption v2) ∧
    (∀ bs v signer nonce msg (h : SigHeader) hb blks,
      Sign.attachedPackets P bs v signer nonce msg = .ok (h, hb, blks) → ValWF h.toVal →
      CanonHeaderBytes hb mtAttached v) ∧
    (∀ v signer nonce msg out, Sign.detachedWith P v signer nonce msg = .ok out →
      (P.sigPub signer).length < 2 ^ 32 → nonce.length < 2 ^ 32 →
      ∃ hb rest, out = headerPacket hb ++ rest ∧ CanonHeaderBytes hb mtDetached v) := by
  refine ⟨?_, ?_, ?_, ?_⟩
  · intro bs v sender rs eph pk pt h hb blks hs hwf
    obtain ⟨_, hv, hk, ht⟩ := seal_labels P bs v sender rs eph pk pt h hb blks hs
    exact canon_of_encLabels hwf hv hk ht int64_modes.1 (WireRT.sealPackets_hb P bs v sender rs eph pk pt h hb blks hs)
  · intro bs sender rs eph pk pt h hb blks hs hwf
    obtain ⟨_, hv, ht, hhb⟩ := signcrypt_labels P bs sender rs eph pk pt h hb blks hs
    exact canon_of_encLabels hwf hv (Or.inr rfl) ht int64_modes.2.2.2 hhb
  · intro bs v signer nonce msg h hb blks hs hwf
    obtain ⟨_, hv, hk, ht⟩ := sign_labels P bs v signer nonce msg h hb blks hs
    exact canon_of_sigLabels hwf hv hk ht int64_modes.2.1 (RTSig.attachedPackets_inv P bs v signer nonce msg h hb blks hs).2.1
  · intro v signer nonce msg out hs hpk hn
    obtain ⟨h, hh, hout, _, hv, hk, ht⟩ := detached_labels P v signer nonce msg out hs
    refine ⟨Msgpack.encode h.toVal, _, hout, canon_of_sigLabels ?_ hv hk ht int64_modes.2.2.1 rfl⟩
    subst hh
    apply sigHeader_wf
    · simp only [Sign.header]; decide
    · exact hpk
    · exact hn
    · rcases hk with rfl | rfl <;> (simp only [Sign.header]; decide)
    · rcases hk with rfl | rfl <;> (simp only [Sign.header]; decide)
    · simp only [Sign.header]; decide

/-- **One tag per canonical header, whoever reads it.**  Canonical header bytes
    announcing `(m, ver)` decode to that mode and version under the spec-shaped
    reader AND under go-codec's typed decode, into the encryption-family struct
    AND into the signature-family struct (an honest signature header read by a
    decryptor: `sender_public`, `nonce` land in `ephemeral`, `sendersecretbox`,
    `rcvrs` stays empty — mode and version are still those of the sender). -/
theorem C17_front_header_tag (hb : Bytes) (m : Int) (ver : Version) (hc : CanonHeaderBytes hb m ver) :
    headerTag hb = some (m, ver) ∧
    (∀ h : EncHeader, FrontEncHeader hb h → (h.typ, h.version) = (m, ver)) ∧
    (∀ h : SigHeader, FrontSigHeader hb h → (h.typ, h.version) = (m, ver)) :=
  ⟨canonHeaderBytes_tag hc, fun h hf => frontEncHeader_tag hb m ver hc h hf,
   fun h hf => frontSigHeader_tag hb m ver hc h hf⟩

/-- **No transplant into a decryptor.**  `hb` = canonical header bytes announcing
    mode `m`, version `ver` with `m` not encryption or `ver` refused.  A decryptor
    that released anything or ended cleanly on ANY byte string `msg'` read header
    bytes `hb'` that are not `hb`.  ("Different hash or a collision" then follows as for any
    two different byte strings, `ne_hash_or_collision`.) -/
theorem C17_decrypt_no_transplant_bytes (P : Prims) (valid : Validator) (kr : Keyring)
    (hb : Bytes) (m : Int) (ver : Version) (hhon : CanonHeaderBytes hb m ver)
    (msg' hb' : Bytes) (h' : EncHeader) (ps : PStream EncBlock)
    (hread : Front.readEnc msg' = .ok (.ok hb' h', ps)) (r : Decrypt.Result)
    (hopen : Decrypt.openBytes P valid kr msg' = .ok r) (hacc : r.released ≠ [] ∨ r.err = none)
    (hother : m ≠ mtEncryption ∨ valid ver = false) :
    hb' ≠ hb := by
  rw [dec_openBytes_of_read hread] at hopen
  cases hopen
  obtain ⟨_, hv, ht⟩ := enc_gate_released P valid kr hb' h' ps hacc
  intro e
  subst e
  have htag := frontEncHeader_tag hb' m ver hhon h' (front_header hread)
  injection htag with e1 e2
  rcases hother with ho | ho
  · exact ho (e1.symm.trans ht)
  · rw [← e2, hv] at ho; cases ho

theorem C17_signcrypt_no_transplant_bytes (P : Prims) (kr : Keyring) (res : Signcrypt.Resolver)
    (hb : Bytes) (m : Int) (ver : Version) (hhon : CanonHeaderBytes hb m ver)
    (msg' hb' : Bytes) (h' : EncHeader) (ps : PStream SigncryptBlock)
    (hread : Front.readSigncrypt msg' = .ok (.ok hb' h', ps)) (r : Signcrypt.Result)
    (hopen : Signcrypt.openBytes P kr res msg' = .ok r) (hacc : r.released ≠ [] ∨ r.err = none)
    (hother : m ≠ mtSigncryption ∨ ver.major ≠ 2) :
    hb' ≠ hb := by
  rw [sc_openBytes_of_read hread] at hopen
  cases hopen
  obtain ⟨_, hv, ht⟩ := sc_gate_released P kr res hb' h' ps hacc
  intro e
  subst e
  have htag := frontEncHeader_tag hb' m ver hhon h' (front_header hread)
  injection htag with e1 e2
  rcases hother with ho | ho
  · exact ho (e1.symm.trans ht)
  · rw [← e2] at ho; exact ho hv

theorem C17_verify_no_transplant_bytes (P : Prims) (valid : Validator) (kr : Keyring)
    (hb : Bytes) (m : Int) (ver : Version) (hhon : CanonHeaderBytes hb m ver)
    (msg' hb' : Bytes) (h' : SigHeader) (ps : PStream SigBlock)
    (hread : Front.readSig msg' = .ok (.ok hb' h', ps)) (r : Sign.Result)
    (hopen : Sign.verifyBytes P valid kr msg' = .ok r) (hacc : r.released ≠ [] ∨ r.err = none)
    (hother : m ≠ mtAttached ∨ valid ver = false) :
    hb' ≠ hb := by
  rw [sig_verifyBytes_of_read hread] at hopen
  cases hopen
  obtain ⟨_, hv, ht⟩ := ver_gate_any P valid kr hb' h' ps hacc
  intro e
  subst e
  have htag := frontSigHeader_tag hb' m ver hhon h' (front_header hread)
  injection htag with e1 e2
  rcases hother with ho | ho
  · exact ho (e1.symm.trans ht)
  · rw [← e2, hv] at ho; cases ho

theorem C17_detached_no_transplant_bytes (P : Prims) (valid : Validator) (kr : Keyring)
    (hb : Bytes) (m : Int) (ver : Version) (hhon : CanonHeaderBytes hb m ver)
    (sigMsg' hb' : Bytes) (h' : SigHeader) (sr : Sign.SigRead)
    (hread : Front.readDetached sigMsg' = .ok (.ok hb' h', sr)) (msg k : Bytes)
    (hopen : Sign.verifyDetachedBytes P valid kr sigMsg' msg = .ok (.ok k))
    (hother : m ≠ mtDetached ∨ valid ver = false) :
    hb' ≠ hb := by
  rw [sig_verifyDetachedBytes_of_read hread] at hopen
  have hacc : Sign.verifyDetached P valid kr (.ok hb' h') sr msg = .ok k := by
    injection hopen
  obtain ⟨hb2, h2, sg, hhr, _, _, hv, ht, _⟩ := detached_sound P valid kr _ sr msg k hacc
  injection hhr with e1 e2
  subst e1 e2
  intro e
  subst e
  have htag := frontSigHeader_tag hb' m ver hhon h' (readDetached_header sigMsg' hb' h' sr hread)
  injection htag with e1 e2
  rcases hother with ho | ho
  · exact ho (e1.symm.trans ht)
  · rw [← e2, hv] at ho; cases ho

/-! ### … and behind a foreign header nothing is accepted

  The converse direction, with the exact outcome: the front end read `msg'` and its
  header bytes ARE canonical header bytes of another mode / of a version this
  receiver refuses.  Then — whatever packets follow in `msg'`, in particular packets
  that a receiver of the right mode accepted behind this very header — the run is
  refused with `ErrNotASaltpackMessage`, `ErrWrongMessageType` or `ErrBadVersion`,
  releases nothing and touches no key object (`calls = []`). -/

theorem C17_decrypt_foreign_header_refused_bytes (P : Prims) (valid : Validator) (kr : Keyring)
    (hb : Bytes) (m : Int) (ver : Version) (hhon : CanonHeaderBytes hb m ver)
    (msg' : Bytes) (h' : EncHeader) (ps : PStream EncBlock)
    (hread : Front.readEnc msg' = .ok (.ok hb h', ps)) (hother : m ≠ mtEncryption ∨ valid ver = false) :
    ∃ e, Decrypt.openBytes P valid kr msg' = .ok ⟨none, [], some e, []⟩ ∧
      (e = .notASaltpackMessage ∨ e = .wrongMessageType ∨ e = .badVersion) := by
  have htag := frontEncHeader_tag hb m ver hhon h' (front_header hread)
  injection htag with e1 e2
  obtain ⟨a, b, c⟩ := dec_validate_error valid h'
  rw [dec_openBytes_of_read hread]
  by_cases hf : h'.formatName = Gen.c_sp_FormatName
  · by_cases ht : h'.typ = mtEncryption
    · rcases hother with ho | ho
      · exact (ho (e1.symm.trans ht)).elim
      · exact ⟨_, by rw [dec_openStream_refused P valid kr hb h' ps _ (c hf ht (e2 ▸ ho))], Or.inr (Or.inr rfl)⟩
    · exact ⟨_, by rw [dec_openStream_refused P valid kr hb h' ps _ (b hf ht)], Or.inr (Or.inl rfl)⟩
  · exact ⟨_, by rw [dec_openStream_refused P valid kr hb h' ps _ (a hf)], Or.inl rfl⟩

theorem C17_signcrypt_foreign_header_refused_bytes (P : Prims) (kr : Keyring) (res : Signcrypt.Resolver)
    (hb : Bytes) (m : Int) (ver : Version) (hhon : CanonHeaderBytes hb m ver)
    (msg' : Bytes) (h' : EncHeader) (ps : PStream SigncryptBlock)
    (hread : Front.readSigncrypt msg' = .ok (.ok hb h', ps)) (hother : m ≠ mtSigncryption ∨ ver.major ≠ 2) :
    ∃ e, Signcrypt.openBytes P kr res msg' = .ok ⟨none, [], some e, []⟩ ∧
      (e = .notASaltpackMessage ∨ e = .wrongMessageType ∨ e = .badVersion) := by
  have htag := frontEncHeader_tag hb m ver hhon h' (front_header hread)
  injection htag with e1 e2
  obtain ⟨a, b, c⟩ := sc_validate_error h'
  rw [sc_openBytes_of_read hread]
  by_cases hf : h'.formatName = Gen.c_sp_FormatName
  · by_cases ht : h'.typ = mtSigncryption
    · rcases hother with ho | ho
      · exact (ho (e1.symm.trans ht)).elim
      · exact ⟨_, by rw [sc_openStream_refused P kr res hb h' ps _ (c hf ht (e2 ▸ ho))], Or.inr (Or.inr rfl)⟩
    · exact ⟨_, by rw [sc_openStream_refused P kr res hb h' ps _ (b hf ht)], Or.inr (Or.inl rfl)⟩
  · exact ⟨_, by rw [sc_openStream_refused P kr res hb h' ps _ (a hf)], Or.inl rfl⟩

theorem C17_verify_foreign_header_refused_bytes (P : Prims) (valid : Validator) (kr : Keyring)
    (hb : Bytes) (m : Int) (ver : Version) (hhon : CanonHeaderBytes hb m ver)
    (msg' : Bytes) (h' : SigHeader) (ps : PStream SigBlock)
    (hread : Front.readSig msg' = .ok (.ok hb h', ps)) (hother : m ≠ mtAttached ∨ valid ver = false) :
    ∃ e, Sign.verifyBytes P valid kr msg' = .ok ⟨none, [], some e⟩ ∧
      (e = .notASaltpackMessage ∨ e = .wrongMessageType ∨ e = .badVersion) := by
  have htag := frontSigHeader_tag hb m ver hhon h' (front_header hread)
  injection htag with e1 e2
  obtain ⟨a, b, c⟩ := sig_validate_error valid h' mtAttached
  rw [sig_verifyBytes_of_read hread]
  by_cases hf : h'.formatName = Gen.c_sp_FormatName
  · cases hv : valid h'.version with
    | false => exact ⟨_, by rw [ver_verifyStream_refused P valid kr hb h' ps _ (b hf hv)], Or.inr (Or.inr rfl)⟩
    | true =>
      by_cases ht : h'.typ = mtAttached
      · rcases hother with ho | ho
        · exact (ho (e1.symm.trans ht)).elim
        · rw [← e2, hv] at ho; cases ho
      · exact ⟨_, by rw [ver_verifyStream_refused P valid kr hb h' ps _ (c hf hv ht)], Or.inr (Or.inl rfl)⟩
  · exact ⟨_, by rw [ver_verifyStream_refused P valid kr hb h' ps _ (a hf)], Or.inl rfl⟩

theorem C17_detached_foreign_header_refused_bytes (P : Prims) (valid : Validator) (kr : Keyring)
    (hb : Bytes) (m : Int) (ver : Version) (hhon : CanonHeaderBytes hb m ver)
    (sigMsg' : Bytes) (h' : SigHeader) (sr : Sign.SigRead)
    (hread : Front.readDetached sigMsg' = .ok (.ok hb h', sr)) (msg : Bytes)
    (hother : m ≠ mtDetached ∨ valid ver = false) :
    ∃ e, Sign.verifyDetachedBytes P valid kr sigMsg' msg = .ok (.error e) ∧
      (e = .notASaltpackMessage ∨ e = .wrongMessageType ∨ e = .badVersion) := by
  have htag := frontSigHeader_tag hb m ver hhon h' (readDetached_header sigMsg' hb h' sr hread)
  injection htag with e1 e2
  obtain ⟨a, b, c⟩ := sig_validate_error valid h' mtDetached
  rw [sig_verifyDetachedBytes_of_read hread]
  by_cases hf : h'.formatName = Gen.c_sp_FormatName
  · cases hv : valid h'.version with
    | false => exact ⟨_, by rw [det_verifyDetached_refused P valid kr hb h' sr msg _ (b hf hv)], Or.inr (Or.inr rfl)⟩
    | true =>
      by_cases ht : h'.typ = mtDetached
      · rcases hother with ho | ho
        · exact (ho (e1.symm.trans ht)).elim
        · rw [← e2, hv] at ho; cases ho
      · exact ⟨_, by rw [det_verifyDetached_refused P valid kr hb h' sr msg _ (c hf hv ht)], Or.inr (Or.inl rfl)⟩
  · exact ⟨_, by rw [det_verifyDetached_refused P valid kr hb h' sr msg _ (a hf)], Or.inl rfl⟩

/-- non-vacuity: a genuine attached-signature message of the toy sender, handed to
    the DECRYPTOR: the front end reads it (header bytes = the signer's canonical
    header), and the run is refused as a message of the wrong type, no key touched -/
example : (Decrypt.openBytes Toy.prims knownMajor ⟨fun _ => (-1, none), fun _ => none, [], fun _ => none, fun _ => none⟩
      (headerPacket (Msgpack.encode (Sign.header v2 [1] mtAttached [2]).toVal) ++
        [0x93, 0xc3, 0xc4, 0x01, 0x09, 0xc4, 0x01, 0x41])).toOption.map
    (fun r => (r.released, r.err, r.calls)) = some ([], some .wrongMessageType, []) := by decide +kernel

/-! ## concrete hostile byte strings (kernel-evaluated)

  A header given as a MAP keyed by go-codec's field names:
  `{"type": 1, "format_name": "saltpack", "vers": [2, 0]}` — an attached-signature
  label inside a map, handed to the decryptor.  The spec-shaped reader calls it
  unmodelled, go-codec decodes it by names; the gate refuses it. -/

def mapHeader : Bytes :=
  [0x83, 0xa4, 0x74, 0x79, 0x70, 0x65, 0x01,
   0xab, 0x66, 0x6f, 0x72, 0x6d, 0x61, 0x74, 0x5f, 0x6e, 0x61, 0x6d, 0x65,
     0xa8, 0x73, 0x61, 0x6c, 0x74, 0x70, 0x61, 0x63, 0x6b,
   0xa4, 0x76, 0x65, 0x72, 0x73, 0x92, 0x02, 0x00]

def mapHeaderMsg : Bytes := headerPacket mapHeader

example : (match Wire.splitEnc mapHeaderMsg with | .unmodelled _ => true | .ok _ => false) = true := by decide +kernel

/-- the front end decodes the map-shaped header: saltpack, 2.0, mode 1 -/
example : (Front.readEnc mapHeaderMsg).toOption.map (fun x => match x.1 with
      | .ok hb h => some (hb == mapHeader, h.formatName == Gen.c_sp_FormatName, h.version, h.typ)
      | _ => none) = some (some (true, true, v2, mtAttached)) := by decide +kernel

/-- a keyring that holds nothing -/
def emptyRing : Keyring := ⟨fun _ => (-1, none), fun _ => none, [], fun _ => none, fun _ => none⟩

/-- … and the decryptor refuses it as a message of the wrong type -/
example : (Decrypt.openBytes Toy.prims knownMajor emptyRing mapHeaderMsg).toOption.map
    (fun r => (r.released, r.err, r.calls)) = some ([], some .wrongMessageType, []) := by decide +kernel

/-- the same header with major version 3, to the verifier: refused as a bad version -/
example : (Sign.verifyBytes Toy.prims knownMajor emptyRing
      (headerPacket (mapHeader.dropLast.dropLast ++ [0x03, 0x00]))).toOption.map
    (fun r => (r.released, r.err)) = some ([], some .badVersion) := by decide +kernel

/-- canonical header bytes of a concrete attached-signature header, and what
    go-codec's typed decode INTO THE ENCRYPTION HEADER makes of them: mode 1, version 2.0 -/
example : CanonHeaderBytes (Msgpack.encode (Sign.header v2 [1] mtAttached [2]).toVal) mtAttached v2 :=
  canon_of_sigHeader _ (sigHeader_wf _ (by decide) (by decide) (by decide) (by decide) (by decide) (by decide))
    (by unfold InInt64; decide) (by unfold InInt64; decide) (by unfold InInt64; decide)

example : (Codec.decEncHeader (Msgpack.encode (Sign.header v2 [1] mtAttached [2]).toVal)).toOption.map
    (fun x => (x.1.typ, x.1.version, x.1.ephemeral, x.1.senderSecretbox, x.1.receivers)) =
    some (mtAttached, v2, [1], [2], []) := by decide +kernel

end Saltpack.Props.C17
