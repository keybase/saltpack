/-
  Property C07 with the library's OWN keyring (package `basic`): `VerifyDetached`
  with ANY `basic.Keyring` accepts the detached signature of the message and
  returns the signer's key.  (As for C05, no hypothesis on the
  keyring: `LookupSigningPublicKey` returns the 32-byte copy of any kid.)
-/
import Saltpack.Proofs.BasicRT
import Saltpack.Props.C07
import Saltpack.Toy

namespace Saltpack.Props.C07
open Saltpack Saltpack.Basic Saltpack.Proofs.BasicRing

/-- **Round trip with any basic keyring** -/
theorem C07_roundtrip_basic (P : Prims) (hP : P.Lawful)
    (v : Version) (hv : v = v1 ∨ v = v2) (signer nonce msg : Bytes)
    (k : Basic.Keyring) (order : List SecretKey) :
    let h := Sign.header v (P.sigPub signer) mtDetached nonce
    let hb := Msgpack.encode h.toVal
    Sign.verifyDetached P knownMajor (k.toRing order) (.ok hb h)
        (.sig (P.sign signer (detachedSignatureInput P (P.hash hb) msg))) msg = .ok (P.sigPub signer) :=
  C07_roundtrip P hP v hv signer nonce msg (k.toRing order) (basic_knows_signer P hP k order signer)

/-- …on the emitted BYTES -/
theorem C07_roundtrip_bytes_basic (P : Prims) (hP : P.Lawful)
    (v : Version) (signer nonce msg : Bytes) (hn : nonce.length + 92 < 2 ^ 32)
    (k : Basic.Keyring) (order : List SecretKey)
    (out : Bytes) (hout : Sign.detachedWith P v signer nonce msg = .ok out) :
    ∃ hr sr, Wire.splitDetached out = .ok (hr, sr) ∧
      Sign.verifyDetached P knownMajor (k.toRing order) hr sr msg = .ok (P.sigPub signer) :=
  C07_roundtrip_bytes P hP v signer nonce msg hn (k.toRing order) (basic_knows_signer P hP k order signer) out hout

/-- soundness (`C07_sound`) specialised: what a successful `VerifyDetached` with a
    basic keyring returns is the 32-byte copy of the header's signer field, and
    the signature verified under exactly that key -/
theorem C07_basic_returns_header_signer (P : Prims) (valid : Validator) (k : Basic.Keyring) (order : List SecretKey)
    (hb : Bytes) (h : SigHeader) (sg msg key : Bytes)
    (hok : Sign.verifyDetached P valid (k.toRing order) (.ok hb h) (.sig sg) msg = .ok key) :
    key = kidToPublicKey h.senderPublic ∧
    P.verify key (detachedSignatureInput P (P.hash hb) msg) sg = true := by
  simp only [Sign.verifyDetached, Basic.Keyring.toRing, Basic.Keyring.lookupSigningPublicKey] at hok
  split at hok
  · cases hok
  · split at hok
    · rename_i hv
      simp only [Except.ok.injEq] at hok
      subst hok
      exact ⟨rfl, hv⟩
    · cases hok

example : Toy.prims.Lawful := Toy.lawful

/-- concretely: a detached signature by `[5]` under an empty basic keyring -/
example :
    let h := Sign.header v2 (Toy.prims.sigPub [5]) mtDetached [0, 1]
    let hb := Msgpack.encode h.toVal
    Sign.verifyDetached Toy.prims knownMajor Basic.Keyring.empty.ring (.ok hb h)
        (.sig (Toy.prims.sign [5] (detachedSignatureInput Toy.prims (Toy.prims.hash hb) [1, 2, 3]))) [1, 2, 3] =
      .ok (Toy.prims.sigPub [5]) :=
  C07_roundtrip_basic Toy.prims Toy.lawful v2 (Or.inr rfl) [5] [0, 1] [1, 2, 3] _ _

end Saltpack.Props.C07
