/-
  Property C16 — the stream layer: `bufio.Reader.Peek` does not
  consume, `ClassifyStream` on the bufio machine is the pure classifier of the
  bytes to come, a reader error in the peeked range is reported, and
  classification followed by reading the stream to its end yields exactly the
  bytes and final condition of the source.

  `Bufio` (Model/Bufio.lean) is a state machine for what the code uses of
  `bufio.Reader` (`NewReaderSize`, `Size`, `fill`, `readErr`, `Peek`, `Read`) over
  a scripted source — a list of deliveries `(bytes, condition?)`, i.e. every
  fragmentation, data-with-EOF and data-with-error readers.  `view s` is what the
  reader will still deliver (all bytes up to the source's first condition, and
  that condition); `Inv` is the machine invariant (no `(0, nil)` reads in the
  script — `Progress` —, buffer within its size).  The machine is compared with
  the real `bufio.Reader` call by call (stream `bufio.calls`, including scripts
  WITH empty reads and `io.ErrNoProgress`), and `ClassifyStream` + drain with the
  real code on scripted readers (`bufio.classify`).

  Partial: the equality "machine = pure `classifyStream`" and "classify then drain
  = source" are proved when the source holds at least one full buffer
  (`size ≤ length`, no condition is met while peeking) and, for shorter streams,
  when the stream ends with an ERROR (`C16_stream_error_reported`).  A stream
  shorter than the buffer that ends with EOF — where `Peek` reports and forgets
  the EOF and the second `Peek` reads the source again — is in Props/C16More.lean
  (EOF-sticky scripts) and in the correspondence (`bufio.classify`, modes
  one/bytes/rand/eofdata/empty).
-/
import Saltpack.Proofs.Bufio

namespace Saltpack.Props.C16
open Saltpack Saltpack.Classify Saltpack.Stream Saltpack.Bufio Saltpack.Proofs.BufioP

/-- **`Peek` does not consume.**  For every state of the machine and every `n`:
    without an error the `n` returned bytes are the first `n` bytes to come and
    the view is unchanged; `ErrBufferFull` only when `n` exceeds the buffer
    (view unchanged, the returned bytes are the front of the view); any other
    condition is reported exactly when the WHOLE remaining stream is shorter than
    `n`: the returned bytes and the condition ARE the view, and the reader keeps
    the bytes but forgets the condition -/
theorem C16_peek_does_not_consume (n : Nat) (s : BState) (hi : Inv s)
    (out : Bytes) (e : Option BErr) (s' : BState) (h : peek n s = (out, e, s')) :
    Inv s' ∧ s'.size = s.size ∧
    (e = none → out = (view s).1.take n ∧ out.length = n ∧ view s' = view s ∧ n ≤ s.size) ∧
    (e = some .bufferFull → n > s.size ∧ view s' = view s ∧ ∃ r, (view s).1 = out ++ r) ∧
    (∀ x, e = some x → x ≠ .bufferFull →
      view s = (out, x) ∧ s'.err = none ∧ s'.buf = out ∧ out.length < n ∧ n ≤ s.size) := by
  by_cases hn : n ≤ s.size
  · obtain ⟨ho, hi', hs, hfull, hshort⟩ := peek_le n s hi hn out e s' h
    by_cases hl : n ≤ (view s).1.length
    · obtain ⟨rfl, hv⟩ := hfull hl
      exact ⟨hi', hs, fun _ => ⟨ho, by rw [ho, List.length_take]; exact Nat.min_eq_left hl, hv, hn⟩, nofun, nofun⟩
    · have hl' : (view s).1.length < n := Nat.lt_of_not_le hl
      obtain ⟨rfl, herr, hbuf⟩ := hshort hl'
      have hout : out = (view s).1 := ho.trans (List.take_of_length_le (Nat.le_of_lt hl'))
      refine ⟨hi', hs, nofun, fun hx => ?_, fun x hx _ => ?_⟩
      · exact absurd (Option.some.inj hx) (view_cond_ne_bufferFull s hi)
      · cases hx
        exact ⟨by rw [hout], herr, hbuf, hout ▸ hl', hn⟩
  · have hn' : s.size < n := Nat.lt_of_not_le hn
    obtain ⟨rfl, hi', hs, hv, hr⟩ := peek_gt n s hi hn' out e s' h
    exact ⟨hi', hs, nofun, fun _ => ⟨hn', hv, hr⟩, fun x hx hne => absurd (Option.some.inj hx).symm hne⟩

/-- **`Read` removes exactly what it returns** -/
theorem C16_read_exact (cap : Nat) (hcap : 0 < cap) (s : BState) (hi : Inv s)
    (d : Bytes) (e : Option BErr) (s' : BState) (h : Bufio.read cap s = (d, e, s')) :
    (e = none → Inv s' ∧ s'.size = s.size ∧ (view s).1 = d ++ (view s').1 ∧ (view s).2 = (view s').2 ∧ d ≠ []) ∧
    (∀ x, e = some x → view s = (d, x)) :=
  read_view cap hcap s hi d e s' h

/-- **reading to the end yields the view**: every byte once, in order, then the
    final condition — for every read size -/
theorem C16_drain_exact (cap : Nat) (hcap : 0 < cap) (fuel : Nat) (s : BState) (acc : Bytes) (hi : Inv s)
    (hf : (view s).1.length + 1 ≤ fuel) :
    (drain cap fuel s acc).1 = acc ++ (view s).1 ∧ (drain cap fuel s acc).2.1 = some (view s).2 :=
  drain_view cap hcap fuel s acc hi hf

/-- **`ClassifyStream` on the machine is the pure classifier and consumes
    nothing** (reader able to deliver a full buffer): the answer is
    `classifyStream size` of the bytes to come (`C16_stream_*`, `C16_peeks_only`
    speak about that function), and the view is unchanged -/
theorem C16_stream_machine_pure (s : BState) (hi : Inv s) (hsz : 0 < s.size) (hfull : s.size ≤ (view s).1.length) :
    Inv (classifyStreamM s).2 ∧ view (classifyStreamM s).2 = view s ∧
    (classifyStreamM s).1 = .v (classifyStream s.size (view s).1) :=
  have h := classify_view s hi hsz (Or.inl hfull)
  ⟨h.1, h.2.1, h.2.2.1⟩

/-- **a source error within the peeked range is reported by `ClassifyStream`,
    never swallowed into a verdict** (the property behind fix 565786f / D12) -/
theorem C16_stream_error_reported (s : BState) (hi : Inv s) (all : Bytes) (x : Err)
    (hv : view s = (all, .src (.err x))) (hshort : all.length < s.size) :
    (classifyStreamM s).1 = .fail (.src (.err x)) := by
  have := classify_reports_cond s hi (by rw [hv]; exact hshort) (by rw [hv]; nofun)
  rwa [hv] at this

/-- **classification, then reading the stream to its end, yields EXACTLY the
    bytes and the final condition of the underlying source** — for every
    fragmentation of the source (`src` is an arbitrary script without `(0, nil)`
    reads), every buffer size, every read size; the verdict is the pure function
    of those bytes -/
theorem C16_classify_then_drain (src : Source) (size cap fuel : Nat) (hp : Progress src) (hcap : 0 < cap)
    (hfull : max size minReadBufferSize ≤ (total src).1.length) (hfuel : (total src).1.length + 1 ≤ fuel) :
    let r := classifyStreamM (newReaderSize src size)
    r.1 = .v (classifyStream (max size minReadBufferSize) (total src).1) ∧
    (drain cap fuel r.2 []).1 = (total src).1 ∧
    (drain cap fuel r.2 []).2.1 = some (.src (total src).2) :=
  classify_then_drain_of src size cap fuel hp hcap (Or.inl hfull) hfuel

/-- the armored classifier never answers `io.EOF` -/
theorem C16_armored_never_eof (pref : Bytes) : armoredPrefix pref ≠ .eof :=
  armoredPrefix_ne_eof pref

/-! ## non-vacuity -/

/-- a 20-byte source in three deliveries (the last with EOF) behind a 16-byte
    reader: invariant, full buffer, and what the theorems then say, evaluated -/
def demoSrc : Source := [([1, 2, 3, 4, 5, 6, 7], none), ([8, 9, 10, 11, 12, 13, 14, 15, 16, 17], none), ([18, 19, 20], some .eof)]

example : Progress demoSrc ∧ (total demoSrc).1.length = 20 ∧ (total demoSrc).2 = .eof := by
  decide

example : (peek 16 (newReaderSize demoSrc 16)).1 = (total demoSrc).1.take 16 ∧
    (peek 16 (newReaderSize demoSrc 16)).2.1 = none := by decide

example : (drain 3 30 (classifyStreamM (newReaderSize demoSrc 16)).2 []).1 = (total demoSrc).1 := by decide +kernel

/-- a transient error after 5 bytes: reported -/
example : (classifyStreamM (newReaderSize [([66, 69, 71, 73, 78], some (.err .ioError)), ([32, 83], none)] 4096)).1 =
    .fail (.src (.err .ioError)) := by decide +kernel

end Saltpack.Props.C16
