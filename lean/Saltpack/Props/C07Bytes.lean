/-
  C07 (detached signatures) at the BYTE level: for every signature byte string
  handed to `VerifyDetached` / `VerifyDetachedReader` that the front end reads (`… = .ok r`).

  `Props/C07.lean` states soundness for a decoded header read and signature read.
  Here both are what the front end (`Front.readDetached`: go-codec's typed
  decoding `Codec` — map-shaped headers, a signature given as an array of
  integers, … included; the spec-shaped reader `Wire` only where `Codec` says
  unmodelled) makes of the bytes.
-/
import Saltpack.Props.C07
import Saltpack.Proofs.CodecBytes
import Saltpack.Proofs.CodecBytesFront

namespace Saltpack.Props.C07
open Saltpack Saltpack.Proofs

/-- **Soundness, every byte string.**  Verification of `(msg, sigMsg)` succeeds
    only if the front end decoded from `sigMsg` a header `h` (bytes `hb`) naming
    saltpack, an admitted version and the detached mode, and a signature object
    `sg` that verifies, under the key the keyring returned for `h.senderPublic`, on
    exactly `"saltpack detached signature\0" ‖ hash(hash(hb) ‖ msg)`. -/
theorem C07_sound_bytes (P : Prims) (valid : Validator) (kr : Keyring) (sigMsg msg k : Bytes)
    (hok : Sign.verifyDetachedBytes P valid kr sigMsg msg = .ok (.ok k)) :
    ∃ hb h sg, Front.readDetached sigMsg = .ok (.ok hb h, .sig sg) ∧
      h.formatName = Gen.c_sp_FormatName ∧ valid h.version = true ∧ h.typ = mtDetached ∧
      kr.lookupSigningPublicKey h.senderPublic = some k ∧
      P.verify k (Gen.c_sp_signatureDetachedString ++ P.hash (P.hash hb ++ msg)) sg = true := by
  obtain ⟨hr, sr, hrd, he⟩ := sig_verifyDetachedBytes_ok hok
  obtain ⟨hb, h, sg, rfl, rfl, rest⟩ := detached_sound P valid kr hr sr msg k he.symm
  exact ⟨hb, h, sg, hrd, rest⟩

/-- **Soundness as a reduction, every byte string**: the accepted pair is one the
    owner of the key signed (same header hash, same message), or the anchored
    break of `C07_sound_or_break` holds for the header bytes and signature decoded
    from `sigMsg`. -/
theorem C07_sound_or_break_bytes (P : Prims) (hP : P.Lawful) (valid : Validator) (kr : Keyring)
    (sigMsg msg k : Bytes) (H : List DetachedEvent) (hlen : ∀ e ∈ H, e.headerHash.length = 64)
    (hok : Sign.verifyDetachedBytes P valid kr sigMsg msg = .ok (.ok k)) :
    ∃ hb h sg, Front.readDetached sigMsg = .ok (.ok hb h, .sig sg) ∧
      kr.lookupSigningPublicKey h.senderPublic = some k ∧
      ((∃ e ∈ H, e.headerHash = P.hash hb ∧ e.msg = msg) ∨ DetachedBreakIn P k H hb msg sg) := by
  obtain ⟨hr, sr, hrd, he⟩ := sig_verifyDetachedBytes_ok hok
  obtain ⟨hb, h, sg, rfl, rfl, hk, hb2⟩ := C07_sound_or_break P hP valid kr hr sr msg k H hlen he.symm
  exact ⟨hb, h, sg, hrd, hk, hb2⟩

/-- failure is an error value: whatever the bytes, the verifier answers `ok k`
    or one of the model's error classes, and a missing / undecodable signature
    object is "the input ended" or a decode error.  (`Err.unexpectedEOF` is the
    model's one class for an ended input: `VerifyDetachedReader` returns the
    decoder's RAW `io.EOF` for a missing signature object — it does not convert it
    to `io.ErrUnexpectedEOF` as `getNextChunk` does; the two Go values are one
    class in the model and are not told apart by the correspondence's comparison,
    see `Front.detSig`.) -/
theorem C07_sigread_plain_bytes (sigMsg : Bytes) (hr : HeaderRead SigHeader) (sr : Sign.SigRead)
    (h : Front.readDetached sigMsg = .ok (hr, sr)) : ∀ e, sr = .none e → e = .unexpectedEOF ∨ e = .decodeError :=
  readDetached_plain sigMsg hr sr h

/-- **Round trip on the emitted bytes through the front end**: what `SignDetached`
    emits is read by the byte-level verifier and verifies against the message -/
theorem C07_roundtrip_bytes_front (P : Prims) (hP : P.Lawful)
    (v : Version) (signer nonce msg : Bytes) (hn : nonce.length + 92 < 2 ^ 32)
    (kr : Keyring) (hk : kr.lookupSigningPublicKey (P.sigPub signer) = some (P.sigPub signer))
    (out : Bytes) (hout : Sign.detachedWith P v signer nonce msg = .ok out) :
    Sign.verifyDetachedBytes P knownMajor kr out msg = .ok (.ok (P.sigPub signer)) := by
  obtain ⟨hr, sr, hs, hv⟩ := C07_roundtrip_bytes P hP v signer nonce msg hn kr hk out hout
  -- on what `SignDetached` emits the front end reads what the spec-shaped reader reads (the bridge)
  rw [sig_verifyDetachedBytes_of_read (front_of_wire_sealed_detached P hP v signer nonce msg out hn hout _ hs), hv]

/-! ## a concrete hostile byte string (kernel-evaluated)

  A detached signature whose signature object is an ARRAY OF INTEGERS
  (`93 01 02 03`) instead of a bin: the spec-shaped reader calls it unmodelled,
  go-codec's `DecodeBytes` reads the bytes `[1, 2, 3]`; they do not verify. -/

def hostileDetached : Bytes :=
  headerPacket (Msgpack.encode (Sign.header v2 [1] mtDetached [2]).toVal) ++ [0x93, 0x01, 0x02, 0x03]

def anyRing : Keyring := ⟨fun _ => (-1, none), fun _ => none, [], fun _ => none, fun k => some k⟩

example : (match Wire.splitDetached hostileDetached with | .unmodelled _ => true | .ok _ => false) = true := by decide +kernel

example : (Front.readDetached hostileDetached).toOption.map (fun x => match x.2 with | .sig s => some s | _ => none) =
    some (some [1, 2, 3]) := by decide +kernel

example : Sign.verifyDetachedBytes Toy.prims knownMajor anyRing hostileDetached [0x41] = .ok (.error .badSignature) := by
  decide +kernel

def goodHeader : Bytes := Msgpack.encode (Sign.header v2 (Toy.prims.sigPub [1]) mtDetached [2]).toVal

/-- the same signature object carrying the genuine (toy) signature, still as an
    array of integers, verifies: leniently decoded input is covered by `C07_sound_bytes` -/
def goodArrayDetached : Bytes :=
  headerPacket goodHeader ++ [0xdc, 0x00, 0x40] ++
    ((Toy.prims.sign [1] (detachedSignatureInput Toy.prims (Toy.prims.hash goodHeader) [0x41])).map
      (fun x => if x < 128 then [x] else [0xcc, x])).flatten

example : Sign.verifyDetachedBytes Toy.prims knownMajor anyRing goodArrayDetached [0x41] =
    .ok (.ok (Toy.prims.sigPub [1])) := by decide +kernel

end Saltpack.Props.C07
