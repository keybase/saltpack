/-
  C12 (long-term keys only touch saltpack-specific inputs) at the BYTE level:
  for every byte string handed to the receivers that the front end reads (`… = .ok r`).

  `Props/C12.lean` fixes the form of every call on a long-term key object for a
  decoded header `.ok hb h`.  Here: whatever bytes arrive, every call that
  `Decrypt.openBytes` / `Signcrypt.openBytes` (Model/Front.lean: front end +
  receiver) makes has that form with respect to the header the front end decoded
  from THESE bytes — `Wire`'s view or go-codec's typed decode (map-shaped headers,
  recipient lists given as maps, boxes given as arrays of integers, … included) —
  and without a decodable header no key object is touched at all.
  (Verification uses no long-term SECRET key; `Sign.verifyBytes` has no call log.)
-/
import Saltpack.Proofs.Calls
import Saltpack.Proofs.CallsExact
import Saltpack.Proofs.CodecBytes
import Saltpack.Toy

namespace Saltpack.Props.C12
open Saltpack Saltpack.Proofs

/-- **Decryption, every byte string.**  Every call on a long-term key object is
    made for a header `h` (bytes `hb`) that the front end decoded from `msg`, and is

    * `Unbox` / shared `Unbox` with the nonce `Nonce.payloadKeyBox h.version j` of a
      recipient INDEX `j` below the header's recipient count, on the box of the
      header's `j`-th entry, against the header's ephemeral key as imported;
    * `Box` of 32 zero bytes under a MAC-key nonce of the header hash `P.hash hb`;
    * `Precompute` of a keyring secret key with the imported ephemeral key;

    never a shared `Box`, never a `Sign`. -/
theorem C12_decrypt_calls_bytes (P : Prims) (valid : Validator) (kr : Keyring) (msg : Bytes) (r : Decrypt.Result)
    (hopen : Decrypt.openBytes P valid kr msg = .ok r) :
    ∀ c ∈ r.calls, ∃ hb h ps, Front.readEnc msg = .ok (.ok hb h, ps) ∧
      match c with
      | .unbox _ pk n ct =>
        kr.importBoxEphemeralKey h.ephemeral = some pk ∧
        ∃ j, j < h.receivers.length ∧ Nonce.payloadKeyBox h.version j = .ok n ∧
          ct = (h.receivers.getD j default).box
      | .sharedUnbox sk pk n ct =>
        sk ∈ kr.getAllBoxSecretKeys ∧ kr.importBoxEphemeralKey h.ephemeral = some pk ∧
        ∃ j, j < h.receivers.length ∧ Nonce.payloadKeyBox h.version j = .ok n ∧
          ct = (h.receivers.getD j default).box
      | .box _ _ n m =>
        m = zeros 32 ∧ ∃ j, j < h.receivers.length ∧
          ((h.version.major = 1 ∧ n = Nonce.macKeyBoxV1 (P.hash hb)) ∨
           (h.version.major = 2 ∧ ∃ e : Bool, n = Nonce.macKeyBoxV2 (P.hash hb) e j))
      | .precompute sk pk =>
        sk ∈ kr.getAllBoxSecretKeys ∧ kr.importBoxEphemeralKey h.ephemeral = some pk
      | .sharedBox _ _ _ _ => False
      | .sign _ _ => False := by
  intro c hc
  obtain ⟨hr, ps, hrd, rfl⟩ := dec_openBytes_ok hopen
  cases hr with
  | ok hb h =>
    refine ⟨hb, h, ps, hrd, ?_⟩
    have := dec_calls_exact P valid kr hb h ps c hc
    cases c <;> exact this
  | unreadable => rw [dec_calls_no_header P valid kr _ ps (by intro _ _ h; cases h)] at hc; cases hc
  | undecodable _ => rw [dec_calls_no_header P valid kr _ ps (by intro _ _ h; cases h)] at hc; cases hc

/-- a byte string without a decodable header touches no key object -/
theorem C12_decrypt_no_header_no_calls_bytes (P : Prims) (valid : Validator) (kr : Keyring) (msg : Bytes)
    (r : Decrypt.Result) (hopen : Decrypt.openBytes P valid kr msg = .ok r)
    (hno : ∀ hb h ps, Front.readEnc msg ≠ .ok (.ok hb h, ps)) : r.calls = [] := by
  obtain ⟨hr, ps, hrd, rfl⟩ := dec_openBytes_ok hopen
  exact dec_calls_no_header P valid kr hr ps (fun hb h e => hno hb h ps (e ▸ hrd))

/-- **Signcryption, every byte string.**  The box secret keys only ever box 32
    zero bytes under the fixed `saltpack_derived_sboxkey` nonce. -/
theorem C12_signcrypt_open_calls_bytes (P : Prims) (kr : Keyring) (res : Signcrypt.Resolver) (msg : Bytes)
    (r : Signcrypt.Result) (hopen : Signcrypt.openBytes P kr res msg = .ok r) :
    ∀ c ∈ r.calls, ∃ sk pk, c = .box sk pk Nonce.derivedSharedKey (zeros 32) := by
  obtain ⟨hr, ps, _, rfl⟩ := sc_openBytes_ok hopen
  exact sc_calls_ok P kr res hr ps

/-- exact form: no call at all, or — for a header `h` the front end decoded from
    `msg` — exactly one such `Box` per box secret key of the keyring, in keyring
    order, against `h`'s ephemeral key as imported -/
theorem C12_signcrypt_open_calls_exact_bytes (P : Prims) (kr : Keyring) (res : Signcrypt.Resolver) (msg : Bytes)
    (r : Signcrypt.Result) (hopen : Signcrypt.openBytes P kr res msg = .ok r) :
    r.calls = [] ∨
    ∃ hb h ps eph, Front.readSigncrypt msg = .ok (.ok hb h, ps) ∧ kr.importBoxEphemeralKey h.ephemeral = some eph ∧
      r.calls = kr.getAllBoxSecretKeys.map (fun sk => KeyCall.box sk eph Nonce.derivedSharedKey (zeros 32)) := by
  obtain ⟨hr, ps, hrd, rfl⟩ := sc_openBytes_ok hopen
  cases hr with
  | ok hb h =>
    rcases sc_calls_exact P kr res hb h ps with h0 | ⟨eph, h1, h2⟩
    · exact Or.inl h0
    · exact Or.inr ⟨hb, h, ps, eph, hrd, h1, h2⟩
  | unreadable => exact Or.inl rfl
  | undecodable _ => exact Or.inl rfl

/-! ## a concrete hostile byte string (kernel-evaluated)

  An encryption header (array form, V2) whose recipient LIST is a fixmap of one
  pair — read by go-codec as two flat elements — the first entry hidden (`kid`
  nil) with its payload-key box given as an ARRAY OF INTEGERS `[1, 2, 3]`, the
  second named.  The spec-shaped reader calls it unmodelled.  The keyring has one
  secret key and no named key: the log is `Precompute`, then one shared `Unbox`
  with the fixed V2 nonce of index 0 on exactly the box of entry 0 — nothing
  else of the attacker's bytes reaches the key. -/

def hostileHeader : Bytes :=
  [0x96] ++ Msgpack.encStr Gen.c_sp_FormatName ++ [0x92, 0x02, 0x00, 0x00] ++
  Msgpack.encBin (List.replicate 32 5) ++ Msgpack.encBin [9] ++
  [0x81, 0x92, 0xc0, 0x93, 0x01, 0x02, 0x03, 0x92, 0xc4, 0x01, 0x07, 0xc4, 0x01, 0x08]

def hostileMsg : Bytes := headerPacket hostileHeader

def oneKeyRing : Keyring := ⟨fun _ => (-1, none), fun _ => none, [[42]], fun k => some k, fun _ => none⟩

example : (match Wire.splitEnc hostileMsg with | .unmodelled _ => true | .ok _ => false) = true := by decide +kernel

example : (Front.readEnc hostileMsg).toOption.map (fun x => match x.1 with
      | .ok _ h => some h.receivers
      | _ => none) = some (some [⟨none, [1, 2, 3]⟩, ⟨some [7], [8]⟩]) := by decide +kernel

example : (Decrypt.openBytes Toy.prims knownMajor oneKeyRing hostileMsg).toOption.map (fun r => (r.err, r.calls)) =
    some (some .noDecryptionKey,
      [.precompute [42] (List.replicate 32 5),
       .sharedUnbox [42] (List.replicate 32 5) (Nonce.payloadKeyBoxV2 0) [1, 2, 3]]) := by decide +kernel

end Saltpack.Props.C12
