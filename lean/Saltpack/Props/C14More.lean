/-
  Property C14 — the detached-signature armored stream, and what an armored
  sender leaves at the writer WHILE writing.

  1. `C14_detached_armored_success_means_written`: the detached-signature
     ARMORED stream (`NewSignDetachedArmor62Stream` = `signDetachedStream` over
     `armorEncoderStream`, closed through `closeForwarder`): constructor of the
     armor stream ok, constructor of the signature stream ok, `Close` returned
     nil (the `Write`s only hash and cannot fail) ⇒ no underlying write failed
     and the writer holds exactly `Armor.seal62 typ brand` of
     `Sign.detachedWith` of everything written.

  2. "armored failure ⇒ what reached the writer is a prefix of the armored
     one-shot text".  `Armor.sealText` is not monotone in its payload
     (the last partial BaseX block and the footer differ), so the prefix theorem
     of the bare armor stream ("a prefix of the armor of what the armor stream
     was fed") does not compose.  The RIGHT statement is about the `Write`
     phase: before any `Close` only complete words of complete BaseX blocks have
     left the armor stream, and those are the same in the armor of EVERY longer
     payload — `C14_armor_writes_prefix_of_every_extension` (bare stream, all
     inputs, every fault script).  Composed with the packet streams
     (`C14_armored_writes_prefix_partial`): after the constructor and any
     `Write`s, whatever failed, the writer holds a prefix of the armored text of
     every extension of what was PASSED to the armor stream, and what the armor
     stream ACCEPTED is a prefix of the all-at-once binary message.  PARTIAL in
     one respect, recorded precisely: that the one armor `Write` that failed
     (go-codec stops at it) carried the NEXT bytes of the binary message — so
     that "passed" (= accepted ++ that piece) is itself a prefix of the binary
     message — is not proved (the generic theory observes a writer through the
     bytes it ACCEPTED, `ObsWriter`; a second observation "bytes attempted"
     would have to be threaded through `writePieces`/`encode`/`emitBlock`/the run
     invariant).  When no armor write failed (`failed = false`) passed =
     accepted and the statement is complete.  After a successful packet-stream
     `Close` the armor stream's own `Close` is covered by
     `C14_armor62_failure_prefix` (it was fed the complete message).
     Correspondence: `sender.fault.*.a` (prefix predicate).
-/
import Saltpack.Proofs.ArmoredSenderMore
import Saltpack.Proofs.SenderStreamWhole

namespace Saltpack.Props.C14
open Saltpack Saltpack.Sender Saltpack.Stream Saltpack.Proofs.SenderP

/-- **the detached-signature armored stream, generic armor parameters**:
    success means written -/
theorem C14_detached_armored_success_means_written_gen (pieces : Bytes → List Bytes) (hp : ∀ b, (pieces b).flatten = b)
    (sp : Bytes → Bytes) (par : Armor.Params) (he : par.enc.WF) (hw : 0 < par.bytesPerWord)
    (hdr ftr : Bytes) (sink : Stream.Sink) (part : List Nat) (headerBytes : Bytes) (ws : List Bytes) :
    let a := FArm.init par hdr ftr ({ sink := sink, part := part } : Wr)
    let i := DSt.init FArm.write pieces a.2 headerBytes
    let r := DSt.writes i.2 ws
    let c := armoredCloseD pieces sp r.2
    a.1 = true → i.1 = true → c.1 = none →
      c.2.codec.w.w.bytes = Armor.sealText par hdr ftr (headerPacket headerBytes ++ sp ws.flatten) ∧
      c.2.codec.w.w.faults = 0 ∧ r.1 = ws.map (fun p => (p.length, none)) := by
  intro a i r c
  dsimp only [a, i, r, c]
  intro ha hi hc
  suffices h : _ ∧ _ from ⟨h.1, h.2, (det_writes ws _).2⟩
  generalize ha0 : (FArm.init par hdr ftr ({ sink := sink, part := part } : Wr)).2 = a0 at hi hc ⊢
  obtain ⟨ei, -, ec, ecw⟩ := hist_run_det pieces sp a0 headerBytes ws
  rw [ei] at hi
  rw [ec] at hc
  rw [ecw]
  cases hcl : (histCloseD pieces sp a0 headerBytes ws).1 with
  | some e => rw [hcl] at hc; cases hc
  | none =>
    rw [hcl] at hc
    have ho := (det_run (histWrite a0) (okBytes a0)
      (hist_obs a0) pieces hp sp [] headerBytes ws).2 hi hcl
    have hcl1 : (farmRun a0 (histCloseD pieces sp a0 headerBytes ws).2.codec.w).close.1 = true := by
      simpa using hc
    subst ha0
    obtain ⟨hf0, hbytes⟩ := farm_hist_close par he hw hdr ftr sink part _ ha hcl1
    refine ⟨?_, hf0⟩
    rw [hbytes, ho]
    rfl

/-- **`NewSignDetachedArmor62Stream` + `Write`* + `Close`**: the constructors
    and `Close` reported success ⇒ no underlying write failed and the writer
    holds `Armor.seal62 typ brand` of `Sign.detachedWith` of the concatenation
    of everything written (every `Write` returns `(len p, nil)`: it only feeds
    the hash) -/
theorem C14_detached_armored_success_means_written (P : Prims) (pieces : Bytes → List Bytes)
    (hp : ∀ b, (pieces b).flatten = b) (v : Version) (signer nonce : Bytes) (hbytes : Bytes) (sp : Bytes → Bytes)
    (hs : detachedSetup P v signer nonce = .ok (hbytes, sp))
    (typ : Int) (brand : Bytes) (sink : Stream.Sink) (part : List Nat) (ws : List Bytes) :
    let a := FArm.init62 typ brand ({ sink := sink, part := part } : Wr)
    let i := DSt.init FArm.write pieces a.2 hbytes
    let r := DSt.writes i.2 ws
    let c := armoredCloseD pieces sp r.2
    a.1 = true → i.1 = true → c.1 = none →
      ∃ M, Sign.detachedWith P v signer nonce ws.flatten = .ok M ∧
        c.2.codec.w.w.bytes = Armor.seal62 typ brand M ∧ c.2.codec.w.w.faults = 0 ∧
        r.1 = ws.map (fun p => (p.length, none)) := by
  intro a i r c ha hi hc
  exact ⟨headerPacket hbytes ++ sp ws.flatten,
    (detachedWith_iff P v signer nonce ws.flatten _).2 ⟨hbytes, sp, hs, rfl⟩,
    C14_detached_armored_success_means_written_gen pieces hp sp Armor.params62 Proofs.params62_wf (by decide)
      (Armor.header typ brand) (Armor.footer typ brand) sink part hbytes ws ha hi hc⟩

/-- …with `Close` = nil ALONE (the signature stream's constructor need not be
    assumed to have succeeded: if it failed, go-codec's encoder is dead and
    `Close` returns the error) -/
theorem C14_detached_armored_close_ok_means_written (P : Prims) (pieces : Bytes → List Bytes)
    (hp : ∀ b, (pieces b).flatten = b) (v : Version) (signer nonce : Bytes) (hbytes : Bytes) (sp : Bytes → Bytes)
    (hs : detachedSetup P v signer nonce = .ok (hbytes, sp))
    (typ : Int) (brand : Bytes) (sink : Stream.Sink) (part : List Nat) (ws : List Bytes) :
    let a := FArm.init62 typ brand ({ sink := sink, part := part } : Wr)
    let i := DSt.init FArm.write pieces a.2 hbytes
    let r := DSt.writes i.2 ws
    let c := armoredCloseD pieces sp r.2
    a.1 = true → c.1 = none →
      i.1 = true ∧ ∃ M, Sign.detachedWith P v signer nonce ws.flatten = .ok M ∧
        c.2.codec.w.w.bytes = Armor.seal62 typ brand M ∧ c.2.codec.w.w.faults = 0 := by
  intro a i r c ha hc
  have hi := armored_det_close_ok pieces sp a.2 hbytes ws hc
  obtain ⟨M, h1, h2, h3, _⟩ := C14_detached_armored_success_means_written P pieces hp v signer nonce hbytes sp hs
    typ brand sink part ws ha hi hc
  exact ⟨hi, M, h1, h2, h3⟩

/-- **the `Write` phase of the armor stream against every extension of the
    payload** (bare `armorEncoderStream`, every payload, every split, every fault
    script, whatever the calls returned): what the `Write`s have put at the
    writer is a prefix of the armored text of `ws.flatten ++ Y` for EVERY `Y` -/
theorem C14_armor_writes_prefix_of_every_extension (par : Armor.Params) (he : par.enc.WF) (hw : 0 < par.bytesPerWord)
    (hdr ftr : Bytes) (sink : Stream.Sink) (part : List Nat) (ws : List Bytes) (Y : Bytes)
    (hi : (FArm.init par hdr ftr ({ sink := sink, part := part } : Wr)).1 = true) :
    (farmRun (FArm.init par hdr ftr ({ sink := sink, part := part } : Wr)).2 ws).w.bytes <+:
      Armor.sealText par hdr ftr (ws.flatten ++ Y) :=
  farm_writes_prefix_ext par he hw hdr ftr sink part ws Y hi

/-- `Armor.sealText` itself is NOT monotone in the payload (toy parameters:
    the armor of `[1]` is not a prefix of the armor of `[1, 2, 3]`) — why the
    statement above is about the `Write` phase -/
theorem C14_sealText_not_monotone :
    ¬ (Armor.sealText Saltpack.Proofs.toyArm [72] [70] [1] <+: Armor.sealText Saltpack.Proofs.toyArm [72] [70] [1, 2, 3]) := by decide +kernel

/-- **armored packet streams while writing** (any of the three packet-per-block
    senders over the armor stream), history form; see the header for what is
    partial -/
theorem C14_armored_writes_prefix_partial (cfg : Cfg) (hp : ∀ b, (cfg.pieces b).flatten = b) (hb : 0 < cfg.bs)
    (hif : IndexFail cfg.pkt) (v : Version) (typ : Int) (brand : Bytes) (sink : Stream.Sink) (part : List Nat) (headerBytes : Bytes)
    (ws : List Bytes) (ha : (FArm.init62 typ brand ({ sink := sink, part := part } : Wr)).1 = true) :
    ∃ H : List Bytes,
      (PSt.writes FArm.write cfg
        (PSt.init FArm.write cfg.pieces (FArm.init62 typ brand ({ sink := sink, part := part } : Wr)).2 headerBytes).2 ws).2.codec.w =
        farmRun (FArm.init62 typ brand ({ sink := sink, part := part } : Wr)).2 H ∧
      (∀ X B, planBytes cfg.pkt (Encrypt.chunkPlan v cfg.bs (ws.flatten ++ X)) 0 = .ok B →
        okBytes (FArm.init62 typ brand ({ sink := sink, part := part } : Wr)).2 H <+: headerPacket headerBytes ++ B) ∧
      (∀ Y, (PSt.writes FArm.write cfg
        (PSt.init FArm.write cfg.pieces (FArm.init62 typ brand ({ sink := sink, part := part } : Wr)).2 headerBytes).2 ws).2.codec.w.w.bytes <+:
          Armor.seal62 typ brand (H.flatten ++ Y)) ∧
      ((farmRun (FArm.init62 typ brand ({ sink := sink, part := part } : Wr)).2 H).failed = false →
        okBytes (FArm.init62 typ brand ({ sink := sink, part := part } : Wr)).2 H = H.flatten) :=
  armored_writes_prefix cfg hp hb hif v Armor.params62 Proofs.params62_wf (by decide)
    (Armor.header typ brand) (Armor.footer typ brand) sink part headerBytes ws ha

/-! ## non-vacuity (kernel-evaluated) -/

/-- a toy detached stream over the real Armor62 parameters: header bytes `[7]`,
    "signature packet" = the message reversed -/
def detArmoredRun (sink : Stream.Sink) (ws : List Bytes) : Bool × Bool × Option Err × Bytes × Nat :=
  let a := FArm.init62 2 [] ({ sink := sink } : Wr)
  let i := DSt.init FArm.write (fun b => b.map ([·])) a.2 [7]
  let r := DSt.writes i.2 ws
  let c := armoredCloseD (fun b => b.map ([·])) (fun m => m.reverse) r.2
  (a.1, i.1, c.1, c.2.codec.w.w.bytes, c.2.codec.w.w.faults)

-- no fault: the hypotheses are met; the writer holds the Armor62 text of header packet ‖ signature packet
example : detArmoredRun [] [[1, 2], [], [3]] = (true, true, none, Armor.seal62 2 [] [0xc4, 1, 7, 3, 2, 1], 0) := by decide +kernel
-- the write of the only word (by the armor stream's Close) fails once: Close reports it
example : (detArmoredRun [false, true] [[1, 2], [], [3]]).2.2.1 = some .ioError := by decide +kernel

end Saltpack.Props.C14
