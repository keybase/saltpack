/-
  Property C07 — ARMORED detached-signature round trip (model level):
  `SignDetachedArmor62` ∘ `Dearmor62VerifyDetached`.

  armor62_sign.go / armor62_verify.go: the sender armors the binary detached
  signature with the frame type `MessageTypeDetachedSignature`; the receiver
  dearmors with frame validation for that type (`Armor.open62 (some mtDetached)`)
  and runs `VerifyDetached` on the payload and the message.  Composition of
  `open_seal` (= `C11_roundtrip`) with `C07_roundtrip_bytes`.
-/
import Saltpack.Props.C07
import Saltpack.Proofs.ArmoredRT
import Saltpack.Model.Armored

namespace Saltpack.Props.C07
open Saltpack Saltpack.Armor

/-- **Armored round trip**: the armored detached signature dearmors — with
    validated `BEGIN/END [brand] SALTPACK DETACHED SIGNATURE` frames — to exactly
    the binary signature and the brand, and that payload, split into header and
    signature object, verifies against the message to the signer's key. -/
theorem C07_roundtrip_armored (P : Prims) (hP : P.Lawful)
    (v : Version) (signer nonce msg : Bytes) (hn : nonce.length + 92 < 2 ^ 32)
    (kr : Keyring) (hk : kr.lookupSigningPublicKey (P.sigPub signer) = some (P.sigPub signer))
    (brand : Bytes) (hbr : Proofs.BrandOK brand)
    (out : Bytes) (hout : Sign.detachedWith P v signer nonce msg = .ok out) :
    ∃ r hr sr, open62 (some mtDetached) (seal62 mtDetached brand out) = .ok r ∧
      r.payload = out ∧ r.brand = brand ∧
      Wire.splitDetached r.payload = .ok (hr, sr) ∧
      Sign.verifyDetached P knownMajor kr hr sr msg = .ok (P.sigPub signer) := by
  obtain ⟨hr, sr, hsplit, hver⟩ := C07_roundtrip_bytes P hP v signer nonce msg hn kr hk out hout
  exact ⟨_, hr, sr, Proofs.open_seal mtDetached (Or.inr (Or.inr rfl)) brand hbr out, rfl, rfl, hsplit, hver⟩

/-- …and with the message given as a reader (`Dearmor62VerifyDetachedReader`):
    the message delivered in any fragments, EOF alone or together with a last
    fragment (`C07_reader_any_fragmentation` after the dearmoring). -/
theorem C07_roundtrip_armored_reader (P : Prims) (hP : P.Lawful)
    (v : Version) (signer nonce msg : Bytes) (hn : nonce.length + 92 < 2 ^ 32)
    (kr : Keyring) (hk : kr.lookupSigningPublicKey (P.sigPub signer) = some (P.sigPub signer))
    (brand : Bytes) (hbr : Proofs.BrandOK brand)
    (out : Bytes) (hout : Sign.detachedWith P v signer nonce msg = .ok out)
    (frags : List Bytes) (last : Option Bytes) (hfr : frags.flatten ++ last.getD [] = msg) :
    ∃ r hr sr, open62 (some mtDetached) (seal62 mtDetached brand out) = .ok r ∧
      Wire.splitDetached r.payload = .ok (hr, sr) ∧
      Sign.verifyDetachedReader P knownMajor kr hr sr (Proofs.fragSource frags last) = .ok (P.sigPub signer) := by
  obtain ⟨r, hr, sr, ho, _, _, hs, hv⟩ := C07_roundtrip_armored P hP v signer nonce msg hn kr hk brand hbr out hout
  exact ⟨r, hr, sr, ho, hs, by rw [C07_reader_any_fragmentation, hfr]; exact hv⟩

/-! ## the model's armored entry points (Model/Armored.lean: the frame type
     `Sign.detachedArmorType` is part of the model) -/

/-- **`SignDetachedArmor62` ∘ `Dearmor62VerifyDetached`** on the model's entry
    points: the signer's key and the brand come back -/
theorem C07_detached_armored_entry_roundtrip (P : Prims) (hP : P.Lawful)
    (v : Version) (signer nonce msg : Bytes) (hn : nonce.length + 92 < 2 ^ 32)
    (kr : Keyring) (hk : kr.lookupSigningPublicKey (P.sigPub signer) = some (P.sigPub signer))
    (brand : Bytes) (hbr : Proofs.BrandOK brand)
    (text : Bytes) (htext : Sign.detachedArmor62 P v signer nonce msg brand = .ok text) :
    Sign.dearmor62VerifyDetached P knownMajor kr text msg = .ok (.ok (P.sigPub signer, brand)) := by
  unfold Sign.detachedArmor62 armorResult at htext
  cases hm : Sign.detachedWith P v signer nonce msg with
  | error e => rw [hm] at htext; cases htext
  | ok out =>
    rw [hm] at htext
    injection htext with htext
    subst htext
    obtain ⟨r, hr, sr, ho, hp, hb, hs, hv⟩ := C07_roundtrip_armored P hP v signer nonce msg hn kr hk brand hbr out hm
    unfold Sign.dearmor62VerifyDetached
    rw [show Sign.detachedArmorType = mtDetached from rfl, ho]
    simp only [hs, hv, hb]

/-- **wrong frame type refused**: a text with the frames of an ENCRYPTED or
    SIGNED message is refused by `Dearmor62VerifyDetached` at the frame check,
    whatever the keyring and the message -/
theorem C07_detached_armored_wrong_frame_refused (P : Prims) (valid : Validator) (kr : Keyring)
    (typ : Int) (ht : Proofs.Armorable typ) (hne : typ ≠ mtDetached) (brand : Bytes) (hbr : Proofs.BrandOK brand)
    (payload msg : Bytes) :
    ∃ e, Sign.dearmor62VerifyDetached P valid kr (seal62 typ brand payload) msg = .ok (.error e) := by
  obtain ⟨e, he⟩ := Proofs.open_seal_wrong_type typ mtDetached ht (Or.inr (Or.inr rfl)) hne brand hbr payload
  refine ⟨e, ?_⟩
  unfold Sign.dearmor62VerifyDetached
  rw [show Sign.detachedArmorType = mtDetached from rfl, he]

/-! ## non-vacuity -/

private def isOk {α : Type} : Except Err α → Bool
  | .ok _ => true
  | .error _ => false

example : isOk (Sign.detachedWith Toy.prims v2 [1] [7, 7] [1, 2, 3]) = true := by decide

end Saltpack.Props.C07
