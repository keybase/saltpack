/-
  Property C15 — hostile input never crashes or hangs a receiver.

  * Totality: every model receiver/classifier is a total Lean function — the
    termination checker accepted each definition (structural recursion on the
    packet list / input list / explicit fuel ≤ input length); there is no
    `partial` definition in Saltpack/Model.  So the model cannot loop.
  * No panic: every explicit `panic(` of the Go code and every index / nil
    dereference on attacker-controlled data is a model branch returning
    `Err.panic site`; the theorems say no run ends in one — for ALL decoded
    headers and packets (whatever go-codec made of the bytes), ALL keyring and
    resolver functions (including lookups/imports that return nothing or an
    out-of-range index), under the documented contract that the version
    validator admits only majors 1 and 2.

  TWO INTERFACE BEHAVIOURS THE MODEL CANNOT EXPRESS (outside every theorem
  below; both concern what the APPLICATION's key objects return, not the
  attacker's bytes):
  * a nil element in `Keyring.GetAllBoxSecretKeys()`.  The model's
    `Keyring.getAllBoxSecretKeys : List Bytes` has no nil entries.  In Go,
    `decryptStream.tryHiddenReceivers` calls `secretKey.Precompute(...)` and
    `signcryptOpenStream.tryBoxSecretKeys` calls
    `derivedEphemeralKeyFromBoxKeys(ephemeralPub, receiverBoxSecretKey)` →
    `private.Box(...)` on every element without a nil check: a nil interface
    value there is a nil dereference (run-time panic).  (nil RESULTS of
    `LookupBoxSecretKey`, `LookupBoxPublicKey`, `ImportBoxEphemeralKey`,
    `LookupSigningPublicKey` ARE modelled — `Option` — and covered.)
  * key objects returning short boxes.  `Prims.box` is a function to `Bytes` of
    unconstrained length only in the abstract; the model's `macKeySingle` /
    `derivedKeyFromBoxKeys` take the Go slices `macKeyBox[16:48]` and
    `sharedSecretBox[len-32:]` as total `List` operations, whereas Go panics
    (slice bounds out of range) if a `BoxSecretKey.Box` implementation returns
    fewer than 48 resp. 32 bytes for a 32-byte plaintext.  The shipped `basic`
    keys (NaCl box: plaintext + 16) never do; a custom key object that does is
    outside what these theorems cover.
-/
import Saltpack.Proofs.NoPanic
import Saltpack.Proofs.ClassifyTotal
import Saltpack.Gen.Inventory
import Saltpack.Model.Armor
import Saltpack.Toy

namespace Saltpack.Props.C15
open Saltpack Saltpack.Proofs

/-- **Panic-site inventory** (regenerated from /repo's source on every run): the
    non-test functions containing an explicit `panic(`.  Receiving side, modelled
    as `Err.panic` branches: `nonceForPayloadKeyBox`, `computePayloadHash`,
    `computeMACKeyReceiver`, `attachedSignatureInput`, `checkChunkState`,
    `readEncryptionBlock`/`readSignatureBlock` (major ∉ {1,2}: excluded by the
    validator contract), `chunkReader.Read` (empty chunk without error: the three
    `getNextChunk` never return it — C02/C04/C06 stream logic),
    `IsSaltpackArmoredPrefix` (more than five words: excluded by its own regular
    expression — Classify model), `trySharedSymmetricKeys` /
    `derivedEphemeralKeyFromBoxKeys` / `makeReceiverKeys` (wrong slice length:
    statically impossible, the slices are cut to 32 bytes), `copyEqualSize(Str)`
    (constant lengths).  Sending side only: the rest.  A new site changes this
    list and breaks this obligation before any input is needed. -/
theorem C15_panic_inventory : Gen.panicFunctions = ["basic.Keyring.GenerateSigningKey", "sp.IsSaltpackArmoredPrefix", "sp.ReceiverSymmetricKey.makeReceiverKeys", "sp.assertEncodedChunkState", "sp.attachedSignatureInput", "sp.checkChunkState", "sp.checkEncryptBlockRead", "sp.checkSignBlockRead", "sp.checkSigncryptReceiverCount", "sp.chunkReader.Read", "sp.computeMACKeyReceiver", "sp.computeMACKeySender", "sp.computePayloadHash", "sp.copyEqualSize", "sp.copyEqualSizeStr", "sp.csprngShuffle", "sp.derivedEphemeralKeyFromBoxKeys", "sp.encryptStream.Close", "sp.makeEncryptionBlock", "sp.makeSignatureBlock", "sp.nonceForPayloadKeyBox", "sp.readEncryptionBlock", "sp.readSignatureBlock", "sp.signAttachedStream.Close", "sp.signcryptOpenStream.trySharedSymmetricKeys", "sp.signcryptSealStream.Close", "sp.signcryptSealStream.init", "sp.signcryptSealStream.signcryptBlock"] := rfl

/-- **The classifier's `panic("logic error …")` site is unreachable.**
    `IsSaltpackArmoredPrefix` (classify_and_decrypt.go) panics if, after its
    five-words regular expression accepted the prefix, `strings.Split` yields
    more than five strings; the model returns
    `.unmodelled "logic error in ClassifyStream"` there.  No input reaches it:
    not `armoredPrefix`, not `binarySlice` (which has no such branch), not
    `classifyStream`.  The proof needs `strings.TrimSpace`: the regular
    expression tolerates ONE trailing empty word (`"a b c d e "` is accepted
    and splits into six strings), which the preceding trim removes — the only
    fact about `trimSpace` used is `Proofs.trimSpace_no_trailing_space`
    (the result does not end in byte 32).  The remaining `unmodelled` answers
    are not panics but shapes for which the model does not claim to know
    go-codec's answer; they are the three listed. -/
theorem C15_classifier_total (pref b all : Bytes) (size : Nat) :
    Classify.armoredPrefix pref ≠ .unmodelled "logic error in ClassifyStream" ∧
    Classify.binarySlice b ≠ .unmodelled "logic error in ClassifyStream" ∧
    Classify.classifyStream size all ≠ .unmodelled "logic error in ClassifyStream" ∧
    (∀ w, Classify.armoredPrefix pref = .unmodelled w ∨ Classify.binarySlice b = .unmodelled w ∨
          Classify.classifyStream size all = .unmodelled w →
      w = "message type shape" ∨ w = "version shape" ∨ w = "format name shape") :=
  ⟨armoredPrefix_no_logic_error pref, binarySlice_no_logic_error b, classifyStream_no_logic_error size all,
   fun w h => h.elim (armoredPrefix_unmodelled pref w)
     (fun h => h.elim (binarySlice_unmodelled b w) (classifyStream_unmodelled size all w))⟩

/-- the trim is needed: without it the five-words recogniser accepts a string
    that splits into six -/
example : Classify.fewWords [97, 32, 98, 32, 99, 32, 100, 32, 101, 32] = true ∧
    (Armor.splitSp [97, 32, 98, 32, 99, 32, 100, 32, 101, 32]).length = 6 := by decide

/-- the shipped validator satisfies the contract -/
theorem C15_shipped_validator_ok : ValidatorOK knownMajor := knownMajor_ok

/-- `SingleVersionValidator` of a known version satisfies it too -/
theorem C15_single_validator_ok (w : Version) (hw : w.major = 1 ∨ w.major = 2) :
    ValidatorOK (fun v => v == w) := by
  intro v hv
  have : v = w := by simpa using hv
  subst this
  exact hw

theorem C15_decrypt_no_panic (P : Prims) (hP : P.Lawful) (valid : Validator) (hvalid : ValidatorOK valid)
    (kr : Keyring) (hr : HeaderRead EncHeader) (ps : PStream EncBlock)
    (htail : ∀ e, ps.tail = .err e → Err.isPanic e = false) (e : Err)
    (h : (Decrypt.openStream P valid kr hr ps).err = some e) : Err.isPanic e = false :=
  dec_no_panic P hP valid hvalid kr hr ps htail e h

theorem C15_signcrypt_open_no_panic (P : Prims) (kr : Keyring) (res : Signcrypt.Resolver)
    (hr : HeaderRead EncHeader) (ps : PStream SigncryptBlock)
    (htail : ∀ e, ps.tail = .err e → Err.isPanic e = false) (e : Err)
    (h : (Signcrypt.openStream P kr res hr ps).err = some e) : Err.isPanic e = false :=
  sc_no_panic P kr res hr ps htail e h

theorem C15_verify_no_panic (P : Prims) (valid : Validator) (hvalid : ValidatorOK valid)
    (kr : Keyring) (hr : HeaderRead SigHeader) (ps : PStream SigBlock)
    (htail : ∀ e, ps.tail = .err e → Err.isPanic e = false) (e : Err)
    (h : (Sign.verifyStream P valid kr hr ps).err = some e) : Err.isPanic e = false :=
  ver_no_panic P valid hvalid kr hr ps htail e h

theorem C15_verify_detached_no_panic (P : Prims) (valid : Validator) (kr : Keyring)
    (hr : HeaderRead SigHeader) (sr : Sign.SigRead) (msg : Bytes)
    (hsr : ∀ e, sr = .none e → Err.isPanic e = false) (e : Err)
    (h : Sign.verifyDetached P valid kr hr sr msg = .error e) : Err.isPanic e = false :=
  det_no_panic P valid kr hr sr msg hsr e h

/-- the validator contract is necessary: with a validator that admits major 3
    the documented panic is reached (so the theorems above are not vacuous and
    the guard is the right one) -/
theorem C15_contract_is_necessary (P : Prims) :
    ∃ (kr : Keyring) (h : EncHeader) (hb : Bytes),
      Err.isPanic (match (Decrypt.openStream P (fun _ => true) kr (.ok hb h) ⟨[], .eof⟩).err with
        | some e => e | none => .badVersion) = true := by
  refine ⟨⟨fun _ => (0, some []), fun _ => none, [], fun k => some k, fun _ => none⟩,
    ⟨Gen.c_sp_FormatName, ⟨3, 0⟩, mtEncryption, [], [], [⟨some [1], []⟩]⟩, [], ?_⟩
  simp [Decrypt.openStream, Decrypt.processHeader, Decrypt.validate, Decrypt.tryVisible,
    Decrypt.visibleIndices, Nonce.payloadKeyBox, Err.isPanic, List.zipIdx]

/-- bounded frames: header and footer collection gives up at 8192 bytes — a
    text whose first sentence is that long is refused whatever follows -/
theorem C15_frame_bounded (expect : Armor.Expect) (hdr rest : Bytes) (h : 8192 ≤ hdr.length)
    (hp : ∀ x ∈ hdr, x ≠ Armor.period) :
    ∃ e, Armor.open62 expect (hdr ++ Armor.period :: rest) = .error e := by
  have hs : ∀ (a b : Bytes), (∀ x ∈ a, x ≠ Armor.period) →
      Armor.splitAt1 Armor.period (a ++ Armor.period :: b) = some (a, b) := by
    intro a b ha
    induction a with
    | nil => simp [Armor.splitAt1]
    | cons x xs ih =>
      have hx : (x == Armor.period) = false := by
        have := ha x (by simp)
        simpa using this
      simp [Armor.splitAt1, hx, ih (fun y hy => ha y (by simp [hy]))]
  unfold Armor.open62 Armor.openPure
  rw [hs hdr rest hp]
  have : (hdr.length ≥ Armor.frameLim) := h
  simp [this]

/-- binary classification inspects at most the 23 bytes it is given -/
example : Gen.c_sp_minLengthToIdentifyBinarySaltpack = 23 := by decide

example : Toy.prims.Lawful := Toy.lawful

end Saltpack.Props.C15
