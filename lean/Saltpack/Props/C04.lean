/-
  Property C04 — signcryption: released plaintext was signed by the named
  sender, in order.
-/
import Saltpack.Proofs.Receiver
import Saltpack.Proofs.Authentic
import Saltpack.Proofs.Attribution
import Saltpack.Toy

namespace Saltpack.Props.C04
open Saltpack Saltpack.Proofs

theorem C04_released_is_accepted_prefix (P : Prims) (s : Signcrypt.State)
    (items : List (Option SigncryptBlock)) (tail : Tail) (n : Nat) :
    ∃ bs : List SigncryptBlock, (bs.map some) <+: items ∧
      Chain (Sc.accept P s) (·.final) n bs (Signcrypt.run P s items tail n).bytes :=
  Sc.run_prefix P s items tail n

theorem C04_clean_end_iff_complete (P : Prims) (s : Signcrypt.State)
    (items : List (Option SigncryptBlock)) (tail : Tail) (n : Nat) :
    (Signcrypt.run P s items tail n).err = none ↔
      ∃ bs : List SigncryptBlock, items = bs.map some ∧ tail = .eof ∧
        Complete (Sc.accept P s) (·.final) n bs (Signcrypt.run P s items tail n).bytes :=
  Sc.run_ok_iff P s items tail n

theorem C04_all_at_once_only_if_clean (P : Prims) (kr : Keyring) (res : Signcrypt.Resolver)
    (hr : HeaderRead EncHeader) (ps : PStream SigncryptBlock) (snd : Option Bytes) (pt : Bytes)
    (h : Signcrypt.openAll P kr res hr ps = .ok (snd, pt)) :
    (Signcrypt.openStream P kr res hr ps).err = none ∧ (Signcrypt.openStream P kr res hr ps).released = pt := by
  unfold Signcrypt.openAll at h
  generalize Signcrypt.openStream P kr res hr ps = r at h
  obtain ⟨sg, rel, err, calls⟩ := r
  cases err <;> simp_all

/-- an accepted packet of a named sender opens, under the nonce made of header
    hash, final flag and packet number, to signature ‖ chunk, and the signature
    verifies under the sender's key on
    domain ‖ header hash ‖ nonce ‖ final byte ‖ SHA-512(chunk) -/
theorem C04_accept_binds (P : Prims) (s : Signcrypt.State) (spk : Bytes) (hs : s.sender = some spk)
    (b : SigncryptBlock) (seqno : Nat) (c : Bytes) (h : Sc.accept P s b seqno = some c) :
    ∃ sig, sig.length = 64 ∧
      P.sbOpen s.payloadKey (Nonce.chunkSigncryption s.headerHash b.final (seqno - 1)) b.ct = some (sig ++ c) ∧
      P.verify spk (signcryptionSignatureInput P s.headerHash
          (Nonce.chunkSigncryption s.headerHash b.final (seqno - 1)) b.final c) sig = true ∧
      blockNumberOK (seqno - 1) = true :=
  Sc.accept_binds P s spk hs b seqno c h

/-- the nonce carries the final bit and the chunk number -/
theorem C04_nonce_binds (hh : Bytes) (hl : hh.length = 64) (f f' : Bool) (i j : Nat)
    (hi : i < 2 ^ 64) (hj : j < 2 ^ 64)
    (h : Nonce.chunkSigncryption hh f i = Nonce.chunkSigncryption hh f' j) : f = f' ∧ i = j :=
  chunkSigncryption_inj hh f f' i j hi hj h

/-- empty chunks are accepted only as the sole, final chunk -/
theorem C04_empty_only_sole_final (P : Prims) (s : Signcrypt.State) (b : SigncryptBlock) (seqno : Nat)
    (h : Sc.accept P s b seqno = some []) : seqno - 1 = 0 ∧ b.final = true :=
  Sc.accept_empty P s b seqno h

/-- **What `AuthSc.BreakIn P s spk H items` is** (definitional unfolding).  It
    is ANCHORED to the receiver state `s` and the packets `items` of the run
    (`Reaches`: see `C02_reaches_def` — every earlier item was a packet accepted
    at its position and not final):

    * *signature forgery in this run*: the sender is named (`s.sender = some spk`),
      the run reaches its `i`-th packet `b` and accepts it as packet number
      `i + 1`, releasing `c`; `b.ct` opens, under the receiver's payload key and
      the nonce of (header hash, `b.final`, `i`), to `sig ‖ c` with a 64-byte
      `sig` that verifies under `spk` on
      domain ‖ header hash ‖ nonce ‖ final byte ‖ hash(`c`) — an input the owner
      of `spk` never signed (no chunk of a message in `H`); or
    * *hash collision in this run*: the chunk `c` released for such a packet and
      the chunk `c'` the honest sender signed at that very position `i`, with
      that very final flag, in the message of `H` with this header hash, are
      DIFFERENT chunks with the SAME hash. -/
theorem C04_break_def (P : Prims) (s : Signcrypt.State) (spk : Bytes) (H : List AuthSc.Event)
    (items : List (Option SigncryptBlock)) :
    AuthSc.BreakIn P s spk H items ↔
      (∃ (i : Nat) (b : SigncryptBlock) (c sig : Bytes),
        s.sender = some spk ∧
        Reaches (Sc.accept P s) (·.final) items i b ∧
        Sc.accept P s b (i + 1) = some c ∧
        sig.length = 64 ∧
        P.sbOpen s.payloadKey (Nonce.chunkSigncryption s.headerHash b.final i) b.ct = some (sig ++ c) ∧
        P.verify spk (signcryptionSignatureInput P s.headerHash
          (Nonce.chunkSigncryption s.headerHash b.final i) b.final c) sig = true ∧
        ¬ ∃ e ∈ H, ∃ k c' f', e.plan[k]? = some (c', f') ∧
            signcryptionSignatureInput P s.headerHash
                (Nonce.chunkSigncryption s.headerHash b.final i) b.final c =
              signcryptionSignatureInput P e.headerHash (Nonce.chunkSigncryption e.headerHash f' k) f' c') ∨
      (∃ (i : Nat) (b : SigncryptBlock) (c : Bytes),
        Reaches (Sc.accept P s) (·.final) items i b ∧
        Sc.accept P s b (i + 1) = some c ∧
        ∃ e ∈ H, e.headerHash = s.headerHash ∧ ∃ c', e.plan[i]? = some (c', b.final) ∧
          c ≠ c' ∧ P.hash c = P.hash c') :=
  Iff.rfl

/-- **The reduction, named sender** — against an adversary who knows the payload
    key (nothing is assumed about it): released bytes are the first `m` chunks of
    ONE message the sender signcrypted under this very header hash (which covers
    the recipient list), all of it iff the run ends cleanly; or nothing is
    released and the run fails; or `AuthSc.BreakIn P s spk H items` (see
    `C04_break_def`): a signature forgery or a hash collision exhibited by a
    packet THIS run reached and accepted.  (For an anonymous sender no signature
    is checked: integrity then rests on the secretbox alone, i.e. only against
    parties lacking the payload key, as the property says.)

    `BreakIn` is not always true: `C04_break_not_trivial`, `C04_tampered_runs_fail`.

    `H`: all messages the owner of `spk` ever signcrypted.  `hlen`: their header
    hashes are 64 bytes.  `hplan` is asked ONLY of the messages with this header
    hash.  ASSUMPTION `hone` (explicit hypothesis): at most one of them has this
    header hash — freshness of the sender's ephemeral key and payload key, which
    the header covers, plus collision resistance of the header hash. -/
theorem C04_authentic_or_break (P : Prims) (hP : P.Lawful) (s : Signcrypt.State) (spk : Bytes)
    (hs : s.sender = some spk) (hhl : s.headerHash.length = 64)
    (H : List AuthSc.Event)
    (hlen : ∀ e ∈ H, e.headerHash.length = 64)
    (hplan : ∀ e ∈ H, e.headerHash = s.headerHash → PlanOK e.plan ∧ e.plan.length < 2 ^ 64)
    (hone : ∀ e ∈ H, ∀ e' ∈ H, e.headerHash = s.headerHash → e'.headerHash = s.headerHash → e = e')
    (items : List (Option SigncryptBlock)) (tail : Tail) :
    let r := Signcrypt.run P s items tail 1
    r.bytes = [] ∧ r.err ≠ none ∨
    (∃ e ∈ H, e.headerHash = s.headerHash ∧ ∃ m, m ≤ e.plan.length ∧ r.bytes = planPrefix e.plan m ∧
        (r.err = none → m = e.plan.length)) ∨
    AuthSc.BreakIn P s spk H items :=
  AuthSc.authentic_or_break P hP s spk hs hhl H hlen hplan hone items tail

/-- a packet that figures in a break is a packet OF THIS RUN, at its index -/
theorem C04_break_in_items (P : Prims) (s : Signcrypt.State) (spk : Bytes) (H : List AuthSc.Event)
    (items : List (Option SigncryptBlock)) (h : AuthSc.BreakIn P s spk H items) :
    ∃ i b c, items[i]? = some (some b) ∧ some b ∈ items ∧ i < items.length ∧
      Sc.accept P s b (i + 1) = some c := by
  rcases h with ⟨i, b, c, _, _, hr, ha, _⟩ | ⟨i, b, c, hr, ha, _⟩ <;>
    exact ⟨i, b, c, hr.1, hr.mem, hr.lt, ha⟩

/-- **Attribution.** Whenever a signcryption header is accepted: the payload key
    came out of one of the header's recipient entries, opened under a key derived
    from one of the receiver's own box secret keys (with matching identifier) or
    a symmetric key its resolver supplied for that entry; the sender the receiver
    reports (`st.sender`, under which every packet's signature must verify —
    `C04_accept_binds`) is the keyring's answer for the content of the sender
    secretbox under that payload key, and "anonymous" is reported exactly when
    that content is all zero. -/
theorem C04_attribution (P : Prims) (kr : Keyring) (res : Signcrypt.Resolver) (hh : Bytes)
    (h : EncHeader) (log : List KeyCall) (st : Signcrypt.State)
    (hok : Signcrypt.processHeader P kr res hh h = (log, .ok st)) :
    Signcrypt.validate h = .ok () ∧ st.headerHash = hh ∧ st.payloadKey.length = 32 ∧
    (∃ senderKey, P.sbOpen st.payloadKey Nonce.senderKeySecretBox h.senderSecretbox = some senderKey ∧
      (st.sender = none ↔ senderKey.all (· == 0) = true) ∧
      (∀ spk, st.sender = some spk → kr.lookupSigningPublicKey senderKey = some spk)) ∧
    ∃ eph, kr.importBoxEphemeralKey h.ephemeral = some eph ∧
      ∃ r i dk, h.receivers[i]? = some r ∧
        P.sbOpen dk (Nonce.payloadKeyBoxV2 i) r.box = some st.payloadKey ∧
        ((∃ sk, sk ∈ kr.getAllBoxSecretKeys ∧ dk = Signcrypt.derivedKeyFromBoxKeys P eph sk ∧
            Signcrypt.keyIdentifier P dk i = Decrypt.kidOf r) ∨
         (∃ f keys k, res = some f ∧ f (h.receivers.map Decrypt.kidOf) = .ok keys ∧
            keys[i]? = some (some k) ∧ dk = Signcrypt.symDerivedKey P eph k)) :=
  signcrypt_attribution P kr res hh h log st hok

/-! ## non-vacuity, and non-triviality of the reduction's third disjunct -/
example : Toy.prims.Lawful := Toy.lawful
example : Demo.prims.Lawful := Demo.lawful

/-- the honest two-packet run (chunks "A", "B", named sender) of the
    demonstration primitives ends cleanly and releases the plaintext … -/
theorem C04_honest_run :
    Signcrypt.run Demo.prims Demo.Sc.s [some Demo.Sc.b0, some Demo.Sc.b1] .eof 1 = ⟨[65, 66], none⟩ :=
  Demo.Sc.honest_run

/-- … and for it the anchored break is FALSE: the third disjunct of
    `C04_authentic_or_break` is not always true. -/
theorem C04_break_not_trivial :
    ¬ AuthSc.BreakIn Demo.prims Demo.Sc.s Demo.Sc.spk [Demo.Sc.e0] [some Demo.Sc.b0, some Demo.Sc.b1] :=
  Demo.Sc.honest_not_break

/-- tampered runs — packets swapped; a byte of the signed chunk inside the
    ciphertext changed — land in the FIRST disjunct -/
theorem C04_tampered_runs_fail :
    (let r := Signcrypt.run Demo.prims Demo.Sc.s [some Demo.Sc.b1, some Demo.Sc.b0] .eof 1
     r.bytes = [] ∧ r.err ≠ none) ∧
    (let r := Signcrypt.run Demo.prims Demo.Sc.s
        [some { Demo.Sc.b0 with ct := Demo.Sc.b0.ct.set 80 67 }, some Demo.Sc.b1] .eof 1
     r.bytes = [] ∧ r.err ≠ none) := by
  refine ⟨Demo.Sc.swapped_run, ?_⟩
  show (Signcrypt.run Demo.prims Demo.Sc.s _ .eof 1).bytes = [] ∧ _
  rw [Demo.Sc.altered_run]; exact ⟨rfl, by simp⟩

/-- a truncated run lands in the SECOND disjunct with `m = 1 < 2` and an error -/
theorem C04_truncated_run :
    Signcrypt.run Demo.prims Demo.Sc.s [some Demo.Sc.b0] .eof 1 = ⟨[65], some .unexpectedEOF⟩ :=
  Demo.Sc.truncated_run

end Saltpack.Props.C04
