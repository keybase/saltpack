/-
  C15 (byte-level front end) — WHEN does the typed-decoding model `Model/Codec.lean`
  give up?  `Codec.split*` (and with it `Front.read*`, the driver's `unmodelled`
  answer) returns `.error w` in documented cases only; this file bounds that set
  at the level of the REASON `w`, for every byte string:

  * `C15_front_fuel_sufficient` — fuel is never the reason: neither the packet loop's
    fuel `rest.length + 1` nor the inner fuel `fuelFor b = 2·|b| + 256` of the generic
    reader / `swallow` is ever exhausted (no `Codec.split*`, no `Front.read*`, no packet
    or header decoder ever answers `"fuel"`).  Behind it: every decoder of the model
    returns a rest no longer than its input, every packet decoder a strictly shorter one
    (`C15_front_packet_decode_progress` — the hypothesis `hprog` of
    `C15_blocks_unmodelled_partial`, discharged in `C15_front_blocks_unmodelled`).
  * `C15_front_unmodelled_documented` — error provenance: `w` is one of the three
    documented reasons (`Documented w`): a container-typed struct field given twice in
    map form; a generic map with a repeated key whose first value is not a scalar; a
    generic map with two timestamp keys.  Each reason is the guard of exactly one
    branch of the model (`structMap`, `genMap`), and each is inhabited (examples).

  NOT proved: a characterisation by the SHAPE of the input ("every map has pairwise
  distinct keys ⇒ never unmodelled"); the reasons are tied to the shapes only through
  the guards of the three branches that emit them (one in `structMap`, two in `genMap`).

  The invariant `Sp` behind all of it, its instance for every decoder and the stream-level lemmas
  (`blocks_doc`, `split*_doc`, `read*_doc`) are in Saltpack/Proofs/CodecTotal*.lean.
-/
import Saltpack.Proofs.CodecTotalSplit
import Saltpack.Proofs.FrontSettle

namespace Saltpack.Props.C15
open Saltpack Saltpack.Proofs Saltpack.Proofs.CodecP

/-- the documented reasons for `unmodelled` (header of Model/Codec.lean); `"fuel"` is not one -/
abbrev Documented : String → Prop := CodecP.Doc

/-- **Every packet / header decode consumes at least one byte** (and the generic read of
    `assertEndOfStream` too): the progress hypothesis of `C15_blocks_unmodelled_partial`. -/
theorem C15_front_packet_decode_progress (b r : Bytes) :
    (∀ m x, Codec.decEncBlock m b = .ok (x, r) → r.length < b.length) ∧
    (∀ x, Codec.decSigncryptBlock b = .ok (x, r) → r.length < b.length) ∧
    (∀ m x, Codec.decSigBlock m b = .ok (x, r) → r.length < b.length) ∧
    (∀ x, Codec.decEncHeader b = .ok (x, r) → r.length < b.length) ∧
    (∀ x, Codec.decSigHeader b = .ok (x, r) → r.length < b.length) ∧
    (∀ x, Codec.decBytesTop b = .ok (x, r) → r.length < b.length) ∧
    (∀ x, Codec.generic b = .ok (x, r) → r.length < b.length) :=
  ⟨fun m x => Sp.progress (decEncBlock_sp m) b x r, fun x => Sp.progress decSigncryptBlock_sp b x r,
   fun m x => Sp.progress (decSigBlock_sp m) b x r, fun x => Sp.progress decEncHeader_sp b x r,
   fun x => Sp.progress decSigHeader_sp b x r, fun x => Sp.progress decBytesTop_sp b x r,
   fun x => Sp.progress generic_sp b x r⟩

/-- **Fuel is sufficient, for every byte string**: no decoder the stream level starts
    (with `fuelFor` of its own input) answers the fuel-exhaustion marker, the packet loop
    started with `rest.length + 1` does not, and so neither `Codec.split*` nor
    `Front.read*` ever answers `"fuel"`. -/
theorem C15_front_fuel_sufficient (msg : Bytes) :
    (∀ m, Codec.decEncBlock m msg ≠ .error (.unmodelled "fuel")) ∧
    Codec.decSigncryptBlock msg ≠ .error (.unmodelled "fuel") ∧
    (∀ m, Codec.decSigBlock m msg ≠ .error (.unmodelled "fuel")) ∧
    Codec.decEncHeader msg ≠ .error (.unmodelled "fuel") ∧
    Codec.decSigHeader msg ≠ .error (.unmodelled "fuel") ∧
    Codec.generic msg ≠ .error (.unmodelled "fuel") ∧
    (∀ m, Codec.blocks (Codec.decEncBlock m) (msg.length + 1) msg ≠ .error "fuel") ∧
    Codec.blocks Codec.decSigncryptBlock (msg.length + 1) msg ≠ .error "fuel" ∧
    (∀ m, Codec.blocks (Codec.decSigBlock m) (msg.length + 1) msg ≠ .error "fuel") ∧
    Codec.splitEnc msg ≠ .error "fuel" ∧ Codec.splitSigncrypt msg ≠ .error "fuel" ∧
    Codec.splitSig msg ≠ .error "fuel" ∧ Codec.splitDetached msg ≠ .error "fuel" ∧
    Front.readEnc msg ≠ .error "fuel" ∧ Front.readSigncrypt msg ≠ .error "fuel" ∧
    Front.readSig msg ≠ .error "fuel" ∧ Front.readDetached msg ≠ .error "fuel" :=
  ⟨fun m h => (Sp.doc (decEncBlock_sp m) _ _ h).ne_fuel rfl,
   fun h => (Sp.doc decSigncryptBlock_sp _ _ h).ne_fuel rfl,
   fun m h => (Sp.doc (decSigBlock_sp m) _ _ h).ne_fuel rfl,
   fun h => (Sp.doc decEncHeader_sp _ _ h).ne_fuel rfl,
   fun h => (Sp.doc decSigHeader_sp _ _ h).ne_fuel rfl,
   fun h => (Sp.doc generic_sp _ _ h).ne_fuel rfl,
   fun m => blocks_fuel_sufficient _ (decEncBlock_sp m) msg,
   blocks_fuel_sufficient _ decSigncryptBlock_sp msg,
   fun m => blocks_fuel_sufficient _ (decSigBlock_sp m) msg,
   fun h => (splitEnc_doc _ _ h).ne_fuel rfl, fun h => (splitSigncrypt_doc _ _ h).ne_fuel rfl,
   fun h => (splitSig_doc _ _ h).ne_fuel rfl, fun h => (splitDetached_doc _ _ h).ne_fuel rfl,
   fun h => (readEnc_doc _ _ h).ne_fuel rfl, fun h => (readSigncrypt_doc _ _ h).ne_fuel rfl,
   fun h => (readSig_doc _ _ h).ne_fuel rfl, fun h => (readDetached_doc _ _ h).ne_fuel rfl⟩

/-- **Error provenance, for every byte string and all four front ends**: when the typed
    reader (hence the front end) answers `unmodelled w`, `w` is a documented reason. -/
theorem C15_front_unmodelled_documented (msg : Bytes) (w : String) :
    (Codec.splitEnc msg = .error w → Documented w) ∧ (Codec.splitSigncrypt msg = .error w → Documented w) ∧
    (Codec.splitSig msg = .error w → Documented w) ∧ (Codec.splitDetached msg = .error w → Documented w) ∧
    (Front.readEnc msg = .error w → Documented w) ∧ (Front.readSigncrypt msg = .error w → Documented w) ∧
    (Front.readSig msg = .error w → Documented w) ∧ (Front.readDetached msg = .error w → Documented w) :=
  ⟨splitEnc_doc msg w, splitSigncrypt_doc msg w, splitSig_doc msg w, splitDetached_doc msg w,
   readEnc_doc msg w, readSigncrypt_doc msg w, readSig_doc msg w, readDetached_doc msg w⟩

/-- `Documented` is exactly the three reasons (so the statement above is not vacuous in `w`) -/
theorem C15_front_documented_iff (w : String) :
    Documented w ↔ w = "container field repeated in map form" ∨
      w = "generic map: a repeated key whose first value is not a scalar" ∨ w = "generic map with two timestamp keys" := by
  constructor
  · intro h; cases h <;> simp
  · rintro (rfl | rfl | rfl) <;> constructor

/-- `C15_blocks_unmodelled_partial` without its hypothesis, for the model's packet decoders:
    the packet loop answers `unmodelled w` only because one packet decode (typed, or generic
    after a typed decode error) did, with a documented reason. -/
theorem C15_front_blocks_unmodelled (rest : Bytes) (w : String) :
    (∀ m, Codec.blocks (Codec.decEncBlock m) (rest.length + 1) rest = .error w → Documented w) ∧
    (Codec.blocks Codec.decSigncryptBlock (rest.length + 1) rest = .error w → Documented w) ∧
    (∀ m, Codec.blocks (Codec.decSigBlock m) (rest.length + 1) rest = .error w → Documented w) :=
  ⟨fun m => blocks_doc _ (decEncBlock_sp m) _ rest w (Nat.lt_succ_self _),
   blocks_doc _ decSigncryptBlock_sp _ rest w (Nat.lt_succ_self _),
   fun m => blocks_doc _ (decSigBlock_sp m) _ rest w (Nat.lt_succ_self _)⟩

/-! ### each documented shape does produce `unmodelled` (kernel-evaluated) -/

/-- header packet = a map giving the container-typed field `vers` twice -/
def versTwice : Bytes :=
  [0xc4, 17, 0x82, 0xa4, 0x76, 0x65, 0x72, 0x73, 0x92, 0x01, 0x00, 0xa4, 0x76, 0x65, 0x72, 0x73, 0x92, 0x01, 0x00]

example : (match Codec.splitEnc versTwice with
    | .error w => w == "container field repeated in map form" | .ok _ => false) = true := by decide +kernel

/-- header `c0` (zero header), then a packet the typed decoder refuses (third key an int) whose
    generic read meets the key `"a"` twice, first value an array -/
def repeatedKey : Bytes := [0xc4, 1, 0xc0, 0x83, 0xa1, 0x61, 0x90, 0xa1, 0x61, 0x01, 0x01, 0x01]

example : (match Codec.splitSigncrypt repeatedKey with
    | .error w => w == "generic map: a repeated key whose first value is not a scalar" | .ok _ => false) = true := by
  decide +kernel

/-- … whose generic read meets two timestamp keys -/
def twoTimes : Bytes :=
  [0xc4, 1, 0xc0, 0x82, 0xd6, 0xff, 0, 0, 0, 0, 0x01, 0xd6, 0xff, 0, 0, 0, 0, 0x01]

example : (match Codec.splitSigncrypt twoTimes with
    | .error w => w == "generic map with two timestamp keys" | .ok _ => false) = true := by decide +kernel

end Saltpack.Props.C15
