/-
  Property C01 with the library's OWN keyring: package `basic` (/repo/basic/key.go,
  model Saltpack/Model/Basic.lean) satisfies what the ring round-trip theorems
  of Props/C01.lean need — so `Open` with a `basic.Keyring` returns exactly the
  plaintext and the sender.  First what the keyring IS (32-byte copy of a kid, a Go
  map, the lookup), then the bridge `C01_basic_is_faithful_ring`, then the property.

  Hypotheses the proofs forced, each with the excluded point evaluated in the
  model (`example`s at the end; the real code is run at the same points by the
  correspondence streams `basic.lookup`, `basic.enc.open.kidlen`):
    `Honest` — `ImportBoxKey(pub, sec)` stores `pub` unchecked;
    `hlen`  — visible key ids of 32 bytes.
-/
import Saltpack.Proofs.BasicRT
import Saltpack.Props.C01
import Saltpack.Toy

namespace Saltpack.Props.C01
open Saltpack Saltpack.Basic Saltpack.Encrypt Saltpack.Proofs Saltpack.Proofs.BasicRing

/-! ## the keyring as a value -/

/-- `kidToPublicKey`: always 32 bytes; the kid itself if it has 32 bytes -/
theorem C01_basic_kid_len32 (kid : Bytes) :
    (kidToPublicKey kid).length = 32 ∧ (kid.length = 32 → kidToPublicKey kid = kid) :=
  ⟨kid_length kid, kid_of_len32⟩

/-- wrong lengths: a short kid is zero padded, a long one truncated — so a key
    is also found under its first 32 bytes followed by anything -/
theorem C01_basic_kid_wrong_length (kid key extra : Bytes) :
    (kid.length ≤ 32 → kidToPublicKey kid = kid ++ zeros (32 - kid.length)) ∧
    (32 ≤ kid.length → kidToPublicKey kid = kid.take 32) ∧
    (key.length = 32 → kidToPublicKey (key ++ extra) = key) :=
  ⟨kid_short, kid_long, fun h => kid_append_of_len32 h extra⟩

/-- the association list is a map: read-after-write, other keys untouched, keys
    stay pairwise distinct -/
theorem C01_basic_map_laws (m : List SecretKey) (nk : SecretKey) (p : Bytes) :
    mapGet (mapInsert m nk) nk.pub = some nk ∧
    (p ≠ nk.pub → mapGet (mapInsert m nk) p = mapGet m p) ∧
    (MapWF m → MapWF (mapInsert m nk)) :=
  ⟨mapGet_insert_same m nk, mapGet_insert_other m nk, mapInsert_wf nk⟩

/-- invariants of EVERY import history: distinct public keys; honest imports
    give an honest keyring -/
theorem C01_basic_invariants (P : Prims) (es : List SecretKey) :
    WF (Basic.Keyring.empty.importAll es) ∧
    ((∀ e ∈ es, e.pub = P.boxPub e.sec) → Honest P (Basic.Keyring.empty.importAll es)) :=
  ⟨importAll_empty_wf es, importAll_honest (empty_honest P) es⟩

/-- **last import wins**: the entry under a public key is the one imported LAST
    with it -/
theorem C01_basic_last_import_wins (k : Basic.Keyring) (es : List SecretKey) (p : Bytes) :
    mapGet (k.importAll es).encKeys p =
      match es.reverse.find? (fun e => e.pub == p) with
      | some e => some e
      | none => mapGet k.encKeys p :=
  mapGet_importAll k es p

/-- an imported key stays in the keyring unless its public key is imported again -/
theorem C01_basic_import_stays (k : Basic.Keyring) (pre post : List SecretKey) (e : SecretKey)
    (hpost : ∀ e' ∈ post, e'.pub ≠ e.pub) : e ∈ (k.importAll (pre ++ e :: post)).encKeys := by
  refine (mapGet_mem (p := e.pub) ?_).1
  rw [mapGet_importAll, List.reverse_append, List.reverse_cons, List.append_assoc, List.find?_append,
    List.find?_eq_none.2 (fun e' he' => by simpa using hpost e' (List.mem_reverse.1 he')),
    Option.none_or, List.cons_append, List.find?_cons, bytes_beq_rfl]

/-- **`LookupBoxSecretKey`**: the index of the FIRST kid (in the order given,
    duplicates included) whose 32-byte copy is a key of the map, with that entry;
    `(-1, nil)` if there is none -/
theorem C01_basic_lookup (k : Basic.Keyring) (kids : List Bytes) :
    (∃ (idx : Nat) (sk : SecretKey), ∃ (h : idx < kids.length),
        mapGet k.encKeys (kidToPublicKey kids[idx]) = some sk ∧
        (∀ j (hj : j < idx), mapGet k.encKeys (kidToPublicKey (kids[j]'(by omega))) = none) ∧
        k.lookupBoxSecretKey kids = ((idx : Int), some sk)) ∨
    ((∀ kid ∈ kids, mapGet k.encKeys (kidToPublicKey kid) = none) ∧ k.lookupBoxSecretKey kids = (-1, none)) :=
  lookupFrom_spec k kids 0

/-- `LookupBoxPublicKey`, `ImportBoxEphemeralKey`, `LookupSigningPublicKey` never
    return nil (so `ErrBadEphemeralKey` / `ErrNoSenderKey` cannot come from a basic keyring) -/
theorem C01_basic_never_nil (k : Basic.Keyring) (order : List SecretKey) (kid : Bytes) :
    (k.toRing order).lookupBoxPublicKey kid ≠ none ∧ (k.toRing order).importBoxEphemeralKey kid ≠ none ∧
    (k.toRing order).lookupSigningPublicKey kid ≠ none :=
  toRing_never_nil k order kid

/-! ## the bridge to the abstract keyrings of the theorems -/

/-- on 32-byte kids the basic keyring's `LookupBoxSecretKey` is the faithful
    keyring's, for every iteration order of the map -/
theorem C01_basic_lookup_is_faithful (P : Prims) (k : Basic.Keyring) (hwf : WF k) (hh : Honest P k)
    (order : List SecretKey) (hperm : order.Perm k.encKeys) (kids : List Bytes) (hk : ∀ kid ∈ kids, kid.length = 32) :
    (k.toRing order).lookupBoxSecretKey kids = (faithfulKeyring P (order.map (·.sec))).lookupBoxSecretKey kids :=
  toRing_lookup_eq P hwf hh hperm kids hk

/-- **A well-formed honest basic keyring IS a faithful keyring** as far as
    `NewDecryptStream` can tell: same released bytes, same error, same key
    info, same calls on key objects — for every header with a 32-byte ephemeral
    key and 32-byte visible key ids (else arbitrary), every packet stream and
    every order in which `GetAllBoxSecretKeys` iterates the map. -/
theorem C01_basic_is_faithful_ring (P : Prims) (k : Basic.Keyring) (hwf : WF k) (hh : Honest P k)
    (order : List SecretKey) (hperm : order.Perm k.encKeys) (valid : Validator)
    (hr : HeaderRead EncHeader) (ps : PStream EncBlock) (h32 : ∀ hb h, hr = .ok hb h → Hdr32 h) :
    Decrypt.openStream P valid (k.toRing order) hr ps =
      Decrypt.openStream P valid (faithfulKeyring P (order.map (·.sec))) hr ps := by
  cases hr with
  | unreadable => rfl
  | undecodable b => rfl
  | ok hb h => exact dec_openStream_ok_eq P hwf hh hperm valid hb h ps (h32 hb h rfl)

theorem C01_basic_hdr32_def (h : EncHeader) :
    Hdr32 h ↔ (h.ephemeral.length = 32 ∧
      ∀ kid ∈ (Decrypt.visibleIndices h.receivers).map (fun i => Decrypt.kidOf (h.receivers.getD i default)),
        kid.length = 32) := Iff.rfl

/-- `decryptStream.processHeader` consults a keyring at four places only -/
theorem C01_basic_keyring_use (P : Prims) (valid : Validator) (kr1 kr2 : Saltpack.Keyring) (hh : Bytes) (h : EncHeader)
    (hi : kr1.importBoxEphemeralKey h.ephemeral = kr2.importBoxEphemeralKey h.ephemeral)
    (hl : kr1.lookupBoxSecretKey ((Decrypt.visibleIndices h.receivers).map (fun i => Decrypt.kidOf (h.receivers.getD i default))) =
          kr2.lookupBoxSecretKey ((Decrypt.visibleIndices h.receivers).map (fun i => Decrypt.kidOf (h.receivers.getD i default))))
    (ha : kr1.getAllBoxSecretKeys = kr2.getAllBoxSecretKeys)
    (hp : ∀ k, k.length = 32 → kr1.lookupBoxPublicKey k = kr2.lookupBoxPublicKey k) :
    Decrypt.processHeader P valid kr1 hh h = Decrypt.processHeader P valid kr2 hh h :=
  processHeader_congr P valid kr1 kr2 hh h hi hl ha hp

/-! ## the property -/

/-- **Round trip, stated on the import history** (`C01_roundtrip_ring` for the
    library's own keyring).  For every plaintext, both versions, named or
    anonymous sender, every recipient list/visibility pattern and chunk size:
    import ANY honest key pairs into an empty `basic.Keyring`, in ANY order and
    number (re-imports included), among them one with the public key of
    recipient `i`; let Go iterate the map in ANY order.  `Open` returns exactly
    the plaintext, the true sender key (or the ephemeral key and the anonymous
    flag) and the named recipients, as SOME recipient `i'` whose secret `sk'` was
    imported (`C01_roundtrip_basic_ring_unique`: `i' = i` when the keyring holds
    one recipient's key only).
    Hypotheses beyond those of `C01_roundtrip_ring`: the imports are honest
    (`hes`) and visible key ids have 32 bytes (`hlen`). -/
theorem C01_roundtrip_basic (P : Prims) (hP : P.Lawful) (bs : Nat) (hbs : 0 < bs)
    (v : Version) (hv : v = v1 ∨ v = v2)
    (sender : Option Bytes) (rs : List Recipient) (eph payloadKey pt : Bytes)
    (hpk : payloadKey.length = 32)
    (hnamed : ∀ s, sender = some s → P.boxPub s ≠ P.boxPub eph)
    (hpub : ∀ r ∈ rs, r.hidden = false → r.pub ≠ [])
    (hlen : ∀ r ∈ rs, r.hidden = false → r.pub.length = 32)
    (es : List SecretKey) (hes : ∀ e ∈ es, e.pub = P.boxPub e.sec)
    (i : Nat) (hi : i < rs.length) (himp : ∃ e ∈ es, e.pub = (rs.getD i default).pub)
    (order : List SecretKey) (hperm : order.Perm (Basic.Keyring.empty.importAll es).encKeys)
    (hns : RingNoSpuriousOpen P v eph payloadKey rs (es.map (·.sec)))
    (h : EncHeader) (hb : Bytes) (blks : List EncBlock)
    (hseal : sealPackets P bs v sender rs eph payloadKey pt = .ok (h, hb, blks)) :
    ∃ i' sk', i' < rs.length ∧ sk' ∈ es.map (·.sec) ∧ (rs.getD i' default).pub = P.boxPub sk' ∧
      Decrypt.openAll P knownMajor ((Basic.Keyring.empty.importAll es).toRing order) (.ok hb h) ⟨blks.map some, .eof⟩ =
        .ok ({ senderKey := P.boxPub (sender.getD eph), senderIsAnon := sender.isNone,
               receiverKey := sk', receiverIsAnon := (rs.getD i' default).hidden,
               namedReceivers := (rs.filter (fun r => !r.hidden)).map (·.pub),
               numAnonReceivers := if (rs.getD i' default).hidden then (rs.filter (·.hidden)).length else 0 }, pt) := by
  obtain ⟨i', sk', hi', hsk', hpe, hopen⟩ := enc_roundtrip_basic_imports P hP bs hbs v hv sender rs eph payloadKey pt hpk
    hnamed hpub hlen es hes i hi himp order hperm
    (fun s hs =>
      let ⟨x, hx, hxs⟩ := List.mem_map.1 hs
      hns s (List.mem_map.2 ⟨x, importAll_empty_subset es hx, hxs⟩))
    h hb blks hseal
  exact ⟨i', sk', hi', List.mem_map.2 ⟨_, importAll_empty_subset es hsk', rfl⟩, hpe, hopen⟩

/-- **Round trip, any well-formed honest basic keyring that holds a recipient's
    key** (however it was built: imports, `GenerateBoxKey`) -/
theorem C01_roundtrip_basic_ring (P : Prims) (hP : P.Lawful) (bs : Nat) (hbs : 0 < bs)
    (v : Version) (hv : v = v1 ∨ v = v2)
    (sender : Option Bytes) (rs : List Recipient) (eph payloadKey pt : Bytes)
    (hpk : payloadKey.length = 32)
    (hnamed : ∀ s, sender = some s → P.boxPub s ≠ P.boxPub eph)
    (hpub : ∀ r ∈ rs, r.hidden = false → r.pub ≠ [])
    (hlen : ∀ r ∈ rs, r.hidden = false → r.pub.length = 32)
    (k : Basic.Keyring) (hwf : WF k) (hh : Honest P k) (order : List SecretKey) (hperm : order.Perm k.encKeys)
    (i : Nat) (hi : i < rs.length) (sk : Bytes) (hmem : (⟨P.boxPub sk, sk⟩ : SecretKey) ∈ k.encKeys)
    (hsk : (rs.getD i default).pub = P.boxPub sk)
    (hns : RingNoSpuriousOpen P v eph payloadKey rs (k.encKeys.map (·.sec)))
    (h : EncHeader) (hb : Bytes) (blks : List EncBlock)
    (hseal : sealPackets P bs v sender rs eph payloadKey pt = .ok (h, hb, blks)) :
    ∃ i' sk', i' < rs.length ∧ (⟨P.boxPub sk', sk'⟩ : SecretKey) ∈ k.encKeys ∧
      (rs.getD i' default).pub = P.boxPub sk' ∧
      Decrypt.openAll P knownMajor (k.toRing order) (.ok hb h) ⟨blks.map some, .eof⟩ =
        .ok ({ senderKey := P.boxPub (sender.getD eph), senderIsAnon := sender.isNone,
               receiverKey := sk', receiverIsAnon := (rs.getD i' default).hidden,
               namedReceivers := (rs.filter (fun r => !r.hidden)).map (·.pub),
               numAnonReceivers := if (rs.getD i' default).hidden then (rs.filter (·.hidden)).length else 0 }, pt) :=
  enc_roundtrip_basic_ring P hP bs hbs v hv sender rs eph payloadKey pt hpk hnamed hpub hlen k hwf hh order hperm i hi
    sk hmem hsk hns h hb blks hseal

/-- …with the exact key information when only one recipient's key is in the
    keyring (other entries foreign, in any number, imported before or after) -/
theorem C01_roundtrip_basic_ring_unique (P : Prims) (hP : P.Lawful) (bs : Nat) (hbs : 0 < bs)
    (v : Version) (hv : v = v1 ∨ v = v2)
    (sender : Option Bytes) (rs : List Recipient) (eph payloadKey pt : Bytes)
    (hpk : payloadKey.length = 32)
    (hnamed : ∀ s, sender = some s → P.boxPub s ≠ P.boxPub eph)
    (hpub : ∀ r ∈ rs, r.hidden = false → r.pub ≠ [])
    (hlen : ∀ r ∈ rs, r.hidden = false → r.pub.length = 32)
    (k : Basic.Keyring) (hwf : WF k) (hh : Honest P k) (order : List SecretKey) (hperm : order.Perm k.encKeys)
    (i : Nat) (hi : i < rs.length) (sk : Bytes) (hmem : (⟨P.boxPub sk, sk⟩ : SecretKey) ∈ k.encKeys)
    (hsk : (rs.getD i default).pub = P.boxPub sk)
    (honly : ∀ e ∈ k.encKeys, ∀ j, j < rs.length → (rs.getD j default).pub = e.pub → j = i ∧ e.sec = sk)
    (hns : RingNoSpuriousOpen P v eph payloadKey rs (k.encKeys.map (·.sec)))
    (h : EncHeader) (hb : Bytes) (blks : List EncBlock)
    (hseal : sealPackets P bs v sender rs eph payloadKey pt = .ok (h, hb, blks)) :
    Decrypt.openAll P knownMajor (k.toRing order) (.ok hb h) ⟨blks.map some, .eof⟩ =
      .ok ({ senderKey := P.boxPub (sender.getD eph), senderIsAnon := sender.isNone,
             receiverKey := sk, receiverIsAnon := (rs.getD i default).hidden,
             namedReceivers := (rs.filter (fun r => !r.hidden)).map (·.pub),
             numAnonReceivers := if (rs.getD i default).hidden then (rs.filter (·.hidden)).length else 0 }, pt) := by
  obtain ⟨i', sk', hi', hsk', hpe, hopen⟩ := enc_roundtrip_basic_ring P hP bs hbs v hv sender rs eph payloadKey pt
    hpk hnamed hpub hlen k hwf hh order hperm i hi sk hmem hsk hns h hb blks hseal
  obtain ⟨rfl, hs⟩ := honly _ hsk' i' hi' hpe
  simp only at hs
  subst hs
  exact hopen

/-- a basic keyring holding none of the recipient keys (and opening none of the
    boxes) gets `noDecryptionKey` and no plaintext -/
theorem C01_no_key_basic (P : Prims) (hP : P.Lawful) (bs : Nat)
    (v : Version) (hv : v = v1 ∨ v = v2)
    (sender : Option Bytes) (rs : List Recipient) (eph payloadKey pt : Bytes)
    (hlen : ∀ r ∈ rs, r.hidden = false → r.pub.length = 32)
    (k : Basic.Keyring) (hwf : WF k) (hh : Honest P k) (order : List SecretKey) (hperm : order.Perm k.encKeys)
    (hnone : ∀ e ∈ k.encKeys, ∀ r ∈ rs, r.pub ≠ e.pub)
    (hopen : ∀ e ∈ k.encKeys, ∀ j, j < rs.length → ∀ n, Nonce.payloadKeyBox v j = .ok n →
        P.unbox e.sec (P.boxPub eph) n (P.box eph (rs.getD j default).pub n payloadKey) = none)
    (h : EncHeader) (hb : Bytes) (blks : List EncBlock)
    (hseal : sealPackets P bs v sender rs eph payloadKey pt = .ok (h, hb, blks)) :
    Decrypt.openAll P knownMajor (k.toRing order) (.ok hb h) ⟨blks.map some, .eof⟩ = .error .noDecryptionKey ∧
    (Decrypt.openStream P knownMajor (k.toRing order) (.ok hb h) ⟨blks.map some, .eof⟩).released = [] := by
  have h32 := hdr32_of_sealPackets P hP bs hv sender rs eph payloadKey pt h hb blks hseal hlen
  rw [dec_openAll_ok_eq P hwf hh hperm knownMajor hb h _ h32, dec_openStream_ok_eq P hwf hh hperm knownMajor hb h _ h32]
  apply enc_no_key P hP bs v hv sender rs eph payloadKey pt (order.map (·.sec)) ?_ ?_ h hb blks hseal
  · exact of_secs hperm fun e he r hr => hh e he ▸ hnone e he r hr
  · exact of_secs hperm hopen

/-- **Round trip on the emitted BYTES with a basic keyring** (cf. `C01_roundtrip_bytes_ring`) -/
theorem C01_roundtrip_bytes_basic (P : Prims) (hP : P.Lawful) (bs : Nat) (hbs : 0 < bs) (hbs32 : bs + 16 < 2 ^ 32)
    (v : Version) (hv : v = v1 ∨ v = v2)
    (sender : Option Bytes) (rs : List Recipient) (eph payloadKey pt : Bytes)
    (hpk : payloadKey.length = 32)
    (hnamed : ∀ s, sender = some s → P.boxPub s ≠ P.boxPub eph)
    (hpub : ∀ r ∈ rs, r.hidden = false → r.pub ≠ [])
    (hlen : ∀ r ∈ rs, r.hidden = false → r.pub.length = 32)
    (k : Basic.Keyring) (hwf : WF k) (hh : Honest P k) (order : List SecretKey) (hperm : order.Perm k.encKeys)
    (i : Nat) (hi : i < rs.length) (sk : Bytes) (hmem : (⟨P.boxPub sk, sk⟩ : SecretKey) ∈ k.encKeys)
    (hsk : (rs.getD i default).pub = P.boxPub sk)
    (hns : RingNoSpuriousOpen P v eph payloadKey rs (k.encKeys.map (·.sec)))
    (L : Nat) (hL : ∀ r ∈ rs, r.pub.length ≤ L) (hsmall : 145 + rs.length * (L + 63) < 2 ^ 32)
    (msg : Bytes) (hmsg : sealWith P bs v sender rs eph payloadKey pt = .ok msg) :
    ∃ hr ps, Wire.splitEnc msg = .ok (hr, ps) ∧
      ∃ i' sk', i' < rs.length ∧ (⟨P.boxPub sk', sk'⟩ : SecretKey) ∈ k.encKeys ∧
        (rs.getD i' default).pub = P.boxPub sk' ∧
        Decrypt.openAll P knownMajor (k.toRing order) hr ps =
          .ok ({ senderKey := P.boxPub (sender.getD eph), senderIsAnon := sender.isNone,
                 receiverKey := sk', receiverIsAnon := (rs.getD i' default).hidden,
                 namedReceivers := (rs.filter (fun r => !r.hidden)).map (·.pub),
                 numAnonReceivers := if (rs.getD i' default).hidden then (rs.filter (·.hidden)).length else 0 }, pt) := by
  obtain ⟨h, hb, blks, hs, hver, hsplit⟩ := WireRT.enc_bytes_split P hP bs hbs hbs32 v hv sender rs eph payloadKey pt hpk
    L hL hsmall msg hmsg
  refine ⟨_, _, hsplit, ?_⟩
  rw [← hver, WireRT.openAll_asRead]
  exact enc_roundtrip_basic_ring P hP bs hbs v hv sender rs eph payloadKey pt hpk hnamed hpub hlen k hwf hh order hperm
    i hi sk hmem hsk hns h hb blks hs

/-! ## non-vacuity and the excluded points (toy primitives, evaluated by the kernel) -/

/-- a keyring built by three imports: foreign, recipient `[3]`, foreign -/
def toyRing : Basic.Keyring :=
  Basic.Keyring.empty.importAll
    [⟨Toy.prims.boxPub [7], [7]⟩, ⟨Toy.prims.boxPub [3], [3]⟩, ⟨Toy.prims.boxPub [8], [8]⟩]

example : WF toyRing ∧ Honest Toy.prims toyRing :=
  ⟨importAll_empty_wf _, importAll_honest (empty_honest _) _ (by decide)⟩

/-- seal the message of the examples for a recipient list and open it -/
def toyOpen (kr : Saltpack.Keyring) (rs : List Recipient) : Except Err (MKI × Bytes) :=
  match sealPackets Toy.prims 4 v2 (some [1]) rs [2] (Toy.pad 32 [9]) [1, 2, 3, 4, 5] with
  | .ok (h, hb, blks) => Decrypt.openAll Toy.prims knownMajor kr (.ok hb h) ⟨blks.map some, .eof⟩
  | .error e => .error e

/-- hidden `[4]`, visible `[3]` -/
def toyRsV : List Recipient := [⟨Toy.prims.boxPub [4], true⟩, ⟨Toy.prims.boxPub [3], false⟩]

/-- the round trip, in import order and in another iteration order of the map -/
example : toyOpen toyRing.ring toyRsV =
    .ok ({ senderKey := Toy.prims.boxPub [1], senderIsAnon := false, receiverKey := [3], receiverIsAnon := false,
           namedReceivers := [Toy.prims.boxPub [3]], numAnonReceivers := 0 }, [1, 2, 3, 4, 5]) := by decide +kernel

example : toyOpen (toyRing.toRing toyRing.encKeys.reverse) toyRsV =
    .ok ({ senderKey := Toy.prims.boxPub [1], senderIsAnon := false, receiverKey := [3], receiverIsAnon := false,
           namedReceivers := [Toy.prims.boxPub [3]], numAnonReceivers := 0 }, [1, 2, 3, 4, 5]) := by decide +kernel

/-- …as a hidden recipient (the two hidden recipients of Props/C01.lean) -/
example : toyOpen toyRing.ring toyRs =
    .ok ({ senderKey := Toy.prims.boxPub [1], senderIsAnon := false, receiverKey := [3], receiverIsAnon := true,
           namedReceivers := [], numAnonReceivers := 2 }, [1, 2, 3, 4, 5]) := by decide +kernel

/-- a keyring without any recipient key -/
example : toyOpen (Basic.Keyring.empty.importAll [⟨Toy.prims.boxPub [7], [7]⟩]).ring toyRsV = .error .noDecryptionKey := by
  decide +kernel

/-- `LookupBoxSecretKey` on a kid list with an absent short kid, a present kid
    that is too LONG, and a present kid: index 1, the entry for `[3]` -/
example : toyRing.lookupBoxSecretKey [[1], Toy.prims.boxPub [3] ++ [5, 5], Toy.prims.boxPub [7]] =
    (1, some ⟨Toy.prims.boxPub [3], [3]⟩) := by decide +kernel

/-- re-import of a public key with another secret: the map entry is replaced -/
example : mapGet ((toyRing.importBoxKey (Toy.prims.boxPub [3]) [9]).encKeys) (Toy.prims.boxPub [3]) =
    some ⟨Toy.prims.boxPub [3], [9]⟩ ∧ (toyRing.importBoxKey (Toy.prims.boxPub [3]) [9]).encKeys.length = 3 := by decide +kernel

/-- **excluded point `Honest`**: `ImportBoxKey(pub of [3], secret [9])` — the
    lookup by key id finds the entry, its secret does not open the box: the
    answer is the key object's `decryptionFailed`, not `noDecryptionKey`, and no
    round trip -/
example : toyOpen (Basic.Keyring.empty.importAll [⟨Toy.prims.boxPub [3], [9]⟩]).ring toyRsV = .error .decryptionFailed := by
  decide +kernel

/-- **excluded point `hlen`**: a recipient whose key id is its raw key followed
    by one more byte (33 bytes).  The basic keyring copies the kid into 32 bytes,
    finds the key and opens the message; the faithful keyring, which compares key
    ids as they are, has no key.  So at this point the two keyrings differ — and
    the basic keyring errs on the side of the round trip. -/
example :
    (toyOpen toyRing.ring [⟨Toy.prims.boxPub [3] ++ [0], false⟩]).toOption.map (·.2) = some [1, 2, 3, 4, 5] ∧
    toyOpen (faithfulKeyring Toy.prims [[7], [3], [8]]) [⟨Toy.prims.boxPub [3] ++ [0], false⟩] =
      .error .noDecryptionKey := by decide +kernel

/-- …and a key id that is the raw key WITHOUT its last (zero) byte (31 bytes) -/
example :
    (toyOpen toyRing.ring [⟨(Toy.prims.boxPub [3]).take 31, false⟩]).toOption.map (·.2) = some [1, 2, 3, 4, 5] ∧
    toyOpen (faithfulKeyring Toy.prims [[7], [3], [8]]) [⟨(Toy.prims.boxPub [3]).take 31, false⟩] =
      .error .noDecryptionKey := by decide +kernel

end Saltpack.Props.C01
