/-
  Property C20 — independent operations may run concurrently without
  interference.

  The statements:
  * `C20_frame`: the *generated* effect summary of /repo (extractor: SSA of every
    non-test function outside `init`/`NewEncoding` and the `basic` keyring's own
    Import/Generate/New mutators) contains no store, map update, foreign
    pointer-receiver call or interface invocation whose target is rooted in a
    package-level variable or reached through ANY pointer to a `basex.Encoding`
    or a `basic.Keyring` — wherever that pointer came from (a parameter, a field
    such as `encoder.enc` or `armorParams.Encoding`, a call result): the shared
    state is read-only after construction.  Re-checked by the kernel on every run.
  * `C20_globals_known`: the *generated* list of package-level variables is,
    entry for entry, the list written out here (error values, the four shipped
    encodings, the armor parameters, the eight frame-checker function values) —
    a new, renamed or removed global breaks this obligation before any input is
    needed, however it is named.
  * `C20_schedule_independent` / `C20_schedules_agree`: GENERIC facts about
    interleavings (nothing saltpack-specific in them): in a machine where
    threads interleave atomic steps over private state and a shared state that,
    by the TYPE of `step`, no step can write, every schedule gives each thread
    exactly the state of its solo run.  They say what "no interference" means
    once the shared state is read-only; that saltpack's shared state IS
    read-only after construction is the content of `C20_frame` alone (and of the
    race-detector runs), not of these two theorems.
  What this cannot exhibit (labelled partial in MANIFEST): soundness of the
  static write-set extraction (aliasing through interfaces, stdlib internals)
  and the Go memory model itself; the thorough tier adds a race-detector run.
-/
import Saltpack.Gen.Inventory

namespace Saltpack.Props.C20

/-- the shared write set of the current source tree is empty -/
theorem C20_frame : Saltpack.Gen.sharedWrites = [] := by decide


/-- **The package-level variables are exactly these** (regenerated from /repo's
    typed AST on every run; compared entry by entry, so a new mutable global
    fails here whatever its name — no name-prefix filter): the BaseX error
    value and the four shipped encodings (`*basex.Encoding`, written only by
    `NewEncoding` during package initialisation — outside the effect summary's
    scope by construction, and never afterwards: `C20_frame`), the armor
    parameters, the `Err…` sentinel values, and the eight frame-checker
    function values. -/
theorem C20_globals_known : Saltpack.Gen.globals = ["basex.Base58StdEncoding", "basex.Base58StdEncodingStrict", "basex.Base62StdEncoding", "basex.Base62StdEncodingStrict", "basex.ErrInvalidEncodingLength", "sp.Armor62Params", "sp.ErrBadBoxKey", "sp.ErrBadEphemeralKey", "sp.ErrBadLookup", "sp.ErrBadReceivers", "sp.ErrBadSenderKeySecretbox", "sp.ErrBadSignature", "sp.ErrBadSymmetricKey", "sp.ErrDecryptionFailed", "sp.ErrFailedToReadHeaderBytes", "sp.ErrInsufficientRandomness", "sp.ErrNoDecryptionKey", "sp.ErrNotASaltpackMessage", "sp.ErrOverflow", "sp.ErrPacketOverflow", "sp.ErrPunctuated", "sp.ErrShortSliceOrBuffer", "sp.ErrTrailingGarbage", "sp.ErrUnexpectedEmptyBlock", "sp.ErrWrongNumberOfKeys", "sp.armor62DetachedSignatureFrameChecker", "sp.armor62DetachedSignatureHeaderChecker", "sp.armor62EncryptionFrameChecker", "sp.armor62EncryptionHeaderChecker", "sp.armor62SignatureFrameChecker", "sp.armor62SignatureHeaderChecker", "sp.armor62SigncryptionFrameChecker", "sp.armor62SigncryptionHeaderChecker"] := rfl

/-- **No lock, pool, atomic, channel, hash or buffer state is reachable from a
    package-level variable** (regenerated from the types of /repo on every run):
    the effect summary sees stores and calls; a `sync.Pool` or a mutex-guarded
    cache hung on a shared `*basex.Encoding` mutates through methods of a foreign
    package instead, and is caught here by its TYPE. -/
theorem C20_no_sync_in_shared : Saltpack.Gen.sharedHazards = [] := by decide

/-- the expected shape of all memory reachable from package-level variables -/
def expectedSharedShapes : List String := ["basex.Base58StdEncoding : *basex.Encoding=struct{encode []byte; decodeMap [256]*math/big.Int; skipMap [256]bool; base256BlockLen int; baseXBlockLen int; base int; logOfBase float64; baseBig *math/big.Int; skipBytes string}", "basex.Base58StdEncodingStrict : *basex.Encoding=struct{encode []byte; decodeMap [256]*math/big.Int; skipMap [256]bool; base256BlockLen int; baseXBlockLen int; base int; logOfBase float64; baseBig *math/big.Int; skipBytes string}", "basex.Base62StdEncoding : *basex.Encoding=struct{encode []byte; decodeMap [256]*math/big.Int; skipMap [256]bool; base256BlockLen int; baseXBlockLen int; base int; logOfBase float64; baseBig *math/big.Int; skipBytes string}", "basex.Base62StdEncodingStrict : *basex.Encoding=struct{encode []byte; decodeMap [256]*math/big.Int; skipMap [256]bool; base256BlockLen int; baseXBlockLen int; base int; logOfBase float64; baseBig *math/big.Int; skipBytes string}", "basex.ErrInvalidEncodingLength : error", "sp.Armor62Params : sp.armorParams=struct{BytesPerWord int; WordsPerLine int; Punctuation byte; Encoding *basex.Encoding=struct{encode []byte; decodeMap [256]*math/big.Int; skipMap [256]bool; base256BlockLen int; baseXBlockLen int; base int; logOfBase float64; baseBig *math/big.Int; skipBytes string}}", "sp.ErrBadBoxKey : error", "sp.ErrBadEphemeralKey : error", "sp.ErrBadLookup : error", "sp.ErrBadReceivers : error", "sp.ErrBadSenderKeySecretbox : error", "sp.ErrBadSignature : error", "sp.ErrBadSymmetricKey : error", "sp.ErrDecryptionFailed : error", "sp.ErrFailedToReadHeaderBytes : error", "sp.ErrInsufficientRandomness : error", "sp.ErrNoDecryptionKey : error", "sp.ErrNotASaltpackMessage : error", "sp.ErrOverflow : error", "sp.ErrPacketOverflow : error", "sp.ErrPunctuated : error", "sp.ErrShortSliceOrBuffer : error", "sp.ErrTrailingGarbage : error", "sp.ErrUnexpectedEmptyBlock : error", "sp.ErrWrongNumberOfKeys : error", "sp.armor62DetachedSignatureFrameChecker : sp.FrameChecker=func", "sp.armor62DetachedSignatureHeaderChecker : sp.HeaderChecker=func", "sp.armor62EncryptionFrameChecker : sp.FrameChecker=func", "sp.armor62EncryptionHeaderChecker : sp.HeaderChecker=func", "sp.armor62SignatureFrameChecker : sp.FrameChecker=func", "sp.armor62SignatureHeaderChecker : sp.HeaderChecker=func", "sp.armor62SigncryptionFrameChecker : sp.FrameChecker=func", "sp.armor62SigncryptionHeaderChecker : sp.HeaderChecker=func"]

/-- **The shared state has exactly this shape**: own struct types expanded field
    by field, so a new field of `basex.Encoding` or `armorParams` (a cache, a
    scratch buffer, a pool) fails here before any schedule is needed; the fields
    present are the immutable-after-construction tables `C20_frame` speaks about. -/
theorem C20_shared_shape : Saltpack.Gen.sharedShapes = expectedSharedShapes := rfl

theorem utf8EncodeChar_ascii (c : Char) (b : UInt8) (rest : List UInt8)
    (h : String.utf8EncodeChar c = b :: rest) (hb : b < 128) : rest = [] ∧ c.toNat = b.toNat := by
  unfold String.utf8EncodeChar at h
  dsimp only at h
  replace hb : b.toNat < 128 := UInt8.lt_iff_toNat_lt.mp hb
  split at h
  · next hv =>
    obtain ⟨rfl, rfl⟩ := List.cons.inj h
    rw [UInt8.toNat_ofNat', Nat.mod_eq_of_lt (by omega)]
    exact ⟨rfl, rfl⟩
  · -- otherwise the first byte is `0xc0`, `0xe0` or `0xf0` plus a few bits
    exfalso
    have hfirst : ∀ x m k : Nat, m + k ≤ 256 → 128 ≤ k → 0 < m → ¬ (UInt8.ofNat (x % m + k)).toNat < 128 := by
      intro x m k hmk hk hm
      have := Nat.mod_lt x hm
      rw [UInt8.toNat_ofNat', Nat.mod_eq_of_lt (by omega)]
      omega
    split at h
    · obtain ⟨rfl, -⟩ := List.cons.inj h
      exact hfirst _ 0x20 0xc0 (by decide) (by decide) (by decide) hb
    · split at h
      · obtain ⟨rfl, -⟩ := List.cons.inj h
        exact hfirst _ 0x10 0xe0 (by decide) (by decide) (by decide) hb
      · obtain ⟨rfl, -⟩ := List.cons.inj h
        exact hfirst _ 0x08 0xf0 (by decide) (by decide) (by decide) hb

theorem toList_of_ascii (s : String) (bs : List UInt8) (h : s.toByteArray.data.toList = bs)
    (hb : ∀ b ∈ bs, b < 128) : s.toList.map Char.toNat = bs.map UInt8.toNat := by
  rw [← String.ofList_toList (s := s), String.toByteArray_ofList, List.utf8Encode,
    List.toList_data_toByteArray] at h
  generalize s.toList = l at h
  induction l generalizing bs with
  | nil => cases h; rfl
  | cons c l ih =>
    rw [List.flatMap_cons] at h
    cases hc : String.utf8EncodeChar c with
    | nil => exact absurd hc String.utf8EncodeChar_ne_nil
    | cons b rest =>
      rw [hc] at h
      subst h
      obtain ⟨rfl, hcb⟩ := utf8EncodeChar_ascii c b rest hc (hb b List.mem_cons_self)
      rw [List.map_cons, hcb, ih _ (fun b' hb' => hb b' (List.mem_cons_of_mem _ hb')) rfl]
      rfl

/-- the byte lists are the UTF-8 encodings of the names; the kernel encodes a
    literal far more cheaply than it decodes one with `String.toList` -/
theorem globals_utf8 :
    Saltpack.Gen.globals.map (fun s => s.toByteArray.data.toList) = Saltpack.Gen.globalsBytes := by
  decide +kernel

theorem globalsBytes_ascii : ∀ bs ∈ Saltpack.Gen.globalsBytes, ∀ b ∈ bs, b < 128 := by
  decide +kernel

/-- The extractor prints the names twice, as strings (`globals`) and as byte
    lists (`globalsBytes`); nothing else in the development reads the byte lists.
    This checks that the two printouts agree, character for character. -/
theorem C20_globals_bytes_in_step :
    Saltpack.Gen.globalsBytes.map (·.map UInt8.toNat) =
      Saltpack.Gen.globals.map (fun s => s.toList.map Char.toNat) := by
  rw [← globals_utf8, List.map_map]
  refine List.map_congr_left fun s hs => (toList_of_ascii s _ rfl (globalsBytes_ascii _ ?_)).symm
  rw [← globals_utf8]
  exact List.mem_map_of_mem hs

/-- an interleaved machine: `step t g s` is one atomic step of thread `t` on its
    private state `s`, reading the shared state `g` — and, by its type, unable
    to change it (that is what `C20_frame` establishes for the code) -/
def runSched {G σ : Type} (step : Nat → G → σ → σ) (g : G) : List Nat → (Nat → σ) → (Nat → σ)
  | [], st => st
  | t :: rest, st => runSched step g rest (fun u => if u = t then step t g (st t) else st u)

def iter {σ : Type} (f : σ → σ) : Nat → σ → σ
  | 0, s => s
  | n + 1, s => iter f n (f s)

/-- **every schedule gives each thread the result of its solo run**: thread `t`
    ends in the state obtained by applying its own step as many times as it was
    scheduled, regardless of what the other threads did in between.
    A generic fact about any `step` of this type — steps that CANNOT write the
    shared state `g`; it holds for every such machine and says nothing about
    saltpack by itself.  The saltpack-specific premise (the code's steps are of
    this kind: the regenerated SSA effect summary is empty) is `C20_frame`. -/
theorem C20_schedule_independent {G σ : Type} (step : Nat → G → σ → σ) (g : G)
    (sched : List Nat) (st : Nat → σ) (t : Nat) :
    runSched step g sched st t = iter (step t g) (sched.count t) (st t) := by
  induction sched generalizing st with
  | nil => rfl
  | cons u rest ih =>
    rw [runSched, ih]
    by_cases h : t = u
    · subst h
      rw [List.count_cons_self, if_pos rfl, iter]
    · rw [List.count_cons_of_ne (Ne.symm h), if_neg h]

/-- in particular two schedules with the same per-thread step counts agree
    (equally generic; see `C20_schedule_independent`) -/
theorem C20_schedules_agree {G σ : Type} (step : Nat → G → σ → σ) (g : G)
    (s1 s2 : List Nat) (st : Nat → σ) (t : Nat) (h : s1.count t = s2.count t) :
    runSched step g s1 st t = runSched step g s2 st t := by
  rw [C20_schedule_independent, C20_schedule_independent, h]

/-! ## non-vacuity -/
example : runSched (fun t (g : Nat) s => s + g + t) 10 [0, 1, 0] (fun _ => 0) 0 = 20 := by decide
example : Saltpack.Gen.globals.length = 33 := by decide

end Saltpack.Props.C20
