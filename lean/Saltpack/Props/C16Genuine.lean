/-
  Property C16 — prefix stability covers every spec-following header: for EVERY
  genuine armored message —
  `Armor.seal62` under the frame type of its mode, any brand of ≤ 128
  alphanumerics, of a binary message with a spec-following header start (any bin
  tag / array tag width, format name, `[major, minor]`, mode) and at least 32
  bytes — the shortest prefix that shows the first 43 payload characters meets
  the hypotheses of `C16_armored_ok_stable`, and EVERY prefix that contains it,
  extended by ARBITRARY bytes, is classified with the right brand, mode and
  version.  The last steps are here; what they rest on is in
  Saltpack/Proofs/ClassifyGenuine.lean and ClassifyStable.lean.

  Partial (re-flowing): `C16_armored_first_block` covers every text that begins
  with the canonical frame line, its period, and the first block's characters
  separated by any runs of SPACES; first blocks re-flowed with `\n`, `\r`, `\t`,
  `>` or a re-flowed frame line are covered by the correspondence only
  (`classify.armored.prefix` on re-flowed texts, every prefix).
-/
import Saltpack.Proofs.ClassifyGenuine

namespace Saltpack.Props.C16
open Saltpack Saltpack.Classify Saltpack.Msgpack Saltpack.Armor Saltpack.Proofs Saltpack.Proofs.ClsStable

/-- **how every genuine armored message begins**: the frame line, its period,
    then — separated by single spaces — exactly the 43 characters of the first
    base62 block (the encoding of the first 32 bytes), then the rest -/
theorem C16_armored_seal_begins (typ : Int) (brand M : Bytes) (h : 32 ≤ M.length) :
    ∃ w rest, Armor.seal62 typ brand M = Armor.header typ brand ++ [Armor.period] ++ w ++ rest ∧
      (∀ c ∈ w, isAlnum c = true ∨ c = Armor.space) ∧
      w.filter (· != Armor.space) = Basex.encode Gen.base62Std.strict (M.take 32) :=
  seal62_begins typ brand M h

/-- **frame, period, first block** (any spacing by spaces; `q` arbitrary bytes):
    if the binary classifier answers `r` on the 32 bytes the block encodes, the
    text and every extension are classified `r` under the genuine brand and
    frame label -/
theorem C16_armored_first_block (typ : Int) (ht : Armorable typ) (brand : Bytes) (hb : BrandOK brand) (w q : Bytes)
    (hw : ∀ c ∈ w, isAlnum c = true ∨ c = Armor.space)
    (M32 : Bytes) (hlen : M32.length = 32)
    (hchars : w.filter (· != Armor.space) = Basex.encode Gen.base62Std.strict M32)
    (r : Int × Version) (hok : binarySlice M32 = .ok r) :
    ∃ sffx, typeString typ = some sffx ∧
      armoredPrefix (Armor.header typ brand ++ [Armor.period] ++ w ++ q) = conclude brand sffx (.ok r) ∧
      armoredPrefix (Armor.header typ brand ++ [Armor.period] ++ w) = conclude brand sffx (.ok r) := by
  obtain ⟨sffx, Z, hts, hm, hcz, hasc⟩ := frame_block_match typ ht brand hb w hw
  obtain ⟨hfb, h32⟩ := block_chars M32 Z (hcz.trans hchars) hlen
  exact ⟨sffx, hts, arm_ok_stable _ q hasc brand sffx Z hm h32 r (by rw [hfb]; exact hok)⟩

/-- **Every genuine armored message, every prefix from the first block on, every
    extension.**  `M`: a binary message with a spec-following header start (as in
    `C16_binary_correct`) of at least 32 bytes; `text = Armor.seal62` of it under
    the frame type of its mode (`armorTypeOf`) and any brand.  Then `text` begins
    `header ++ "." ++ w` with `w` showing exactly the first 43 payload characters;
    that prefix satisfies the hypotheses of `C16_armored_ok_stable` (ASCII, the
    frame expression matches with the genuine brand and label, ≥ 32 bytes decoded,
    the first decoded block is classified `(t, major.minor)`); and every prefix
    `text.take k` that contains it, followed by ARBITRARY bytes `q` (`q = []`: the
    prefix itself; `q` = the rest of the message: the whole message), is
    classified `(brand, t, major.minor)`. -/
theorem C16_armored_genuine_prefix_stable (brand : Bytes) (hb : BrandOK brand)
    (btag atag tail : Bytes) (hbt : IsBinTag btag) (hat : IsArrTag atag)
    (ma mi t : Nat) (hma : ma < 128) (hmi : mi < 128) (ht : isMode (t : Int) = true)
    (hlen : 32 ≤ (btag ++ atag ++ encode (.str Gen.c_sp_FormatName) ++ encode (.arr [.int ma, .int mi]) ++ encode (.int t) ++ tail).length) :
    let M := btag ++ atag ++ encode (.str Gen.c_sp_FormatName) ++ encode (.arr [.int ma, .int mi]) ++ encode (.int t) ++ tail
    let text := Armor.seal62 (armorTypeOf t) brand M
    ∃ w rest sffx payload,
      text = Armor.header (armorTypeOf t) brand ++ [Armor.period] ++ w ++ rest ∧
      (w.filter (· != Armor.space)).length = 43 ∧
      (∀ c ∈ Armor.header (armorTypeOf t) brand ++ [Armor.period] ++ w, c < 128) ∧
      matchHeader (Armor.trimSpace (Armor.collapse (Armor.header (armorTypeOf t) brand ++ [Armor.period] ++ w))) =
        some (brand, sffx, payload) ∧
      32 ≤ (decOf payload).length ∧
      binarySlice (firstBlockOf payload) = .ok ((t : Int), ⟨ma, mi⟩) ∧
      (∀ k, (Armor.header (armorTypeOf t) brand ++ [Armor.period] ++ w).length ≤ k → ∀ q,
        armoredPrefix (text.take k ++ q) = .ok (brand, (t : Int), ⟨ma, mi⟩)) := by
  intro M text
  have hty : Armorable (armorTypeOf t) := by
    unfold armorTypeOf Armorable
    split
    · exact Or.inr (Or.inl rfl)
    · split
      · exact Or.inr (Or.inr rfl)
      · exact Or.inl rfl
  obtain ⟨w, rest, htext, hw, hchars⟩ := seal62_begins (armorTypeOf t) brand M hlen
  have hlenM : 32 ≤ M.length := hlen
  have h32 : (M.take 32).length = 32 := by rw [List.length_take]; omega
  have hok : binarySlice (M.take 32) = .ok ((t : Int), ⟨ma, mi⟩) :=
    bin_correct_prefix btag atag tail hbt hat ma mi t hma hmi ht 32 (by omega) (by omega)
  obtain ⟨sffx, Z, hts, hm, hcz, hasc⟩ := frame_block_match (armorTypeOf t) hty brand hb w hw
  obtain ⟨hfb, hd32⟩ := block_chars (M.take 32) Z (hcz.trans hchars) h32
  refine ⟨w, rest, sffx, Z, htext, ?_, hasc, hm, hd32, by rw [hfb]; exact hok, ?_⟩
  · rw [hchars, Saltpack.Proofs.encode_length _ Saltpack.Proofs.params62_strict_wf, h32]; decide
  · intro k hk q
    have hp : text.take k = (Armor.header (armorTypeOf t) brand ++ [Armor.period] ++ w) ++ rest.take (k - (Armor.header (armorTypeOf t) brand ++ [Armor.period] ++ w).length) := by
      show (Armor.seal62 (armorTypeOf t) brand M).take k = _
      rw [htext, List.take_append, List.take_of_length_le hk]
    rw [hp, List.append_assoc]
    have := (arm_ok_stable _ (rest.take (k - (Armor.header (armorTypeOf t) brand ++ [Armor.period] ++ w).length) ++ q)
      hasc brand sffx Z hm hd32 ((t : Int), ⟨ma, mi⟩) (by rw [hfb]; exact hok)).1
    rw [this]
    exact conclude_genuine brand t ⟨ma, mi⟩ ht sffx hts

/-! ## non-vacuity -/

/-- a v2 encryption header start, 40 bytes, brand `KB`: the hypotheses hold -/
example : BrandOK [75, 66] ∧ IsBinTag [0xc4, 0x40] ∧ IsArrTag [0x96] ∧ isMode ((0 : Nat) : Int) = true ∧
    32 ≤ ([0xc4, 0x40] ++ [0x96] ++ encode (.str Gen.c_sp_FormatName) ++ encode (.arr [.int (2 : Nat), .int (0 : Nat)]) ++
      encode (.int (0 : Nat)) ++ List.replicate 26 7).length :=
  ⟨⟨by decide, by decide⟩, Or.inl ⟨_, rfl⟩, Or.inl ⟨0x96, by decide, by decide, rfl⟩, by decide, by decide⟩

/-- and the conclusion, evaluated on that message: frame line + period = 36 characters, `w` = 46
    (3 spaces + 43): the 82-character prefix is classified, one character less is "short";
    a longer prefix and the whole text are classified the same -/
example :
    let M : Bytes := [0xc4, 0x40] ++ [0x96] ++ encode (.str Gen.c_sp_FormatName) ++
      encode (.arr [.int (2 : Nat), .int (0 : Nat)]) ++ encode (.int (0 : Nat)) ++ List.replicate 26 7
    armoredPrefix ((Armor.seal62 mtEncryption [75, 66] M).take 82) = .ok ([75, 66], 0, ⟨2, 0⟩) ∧
    armoredPrefix ((Armor.seal62 mtEncryption [75, 66] M).take 81) = .short ∧
    armoredPrefix ((Armor.seal62 mtEncryption [75, 66] M).take 90) = .ok ([75, 66], 0, ⟨2, 0⟩) ∧
    armoredPrefix (Armor.seal62 mtEncryption [75, 66] M) = .ok ([75, 66], 0, ⟨2, 0⟩) := by decide +kernel

end Saltpack.Props.C16
