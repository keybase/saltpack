/-
  C02 (encryption: only authenticated plaintext is released) at the BYTE level:
  for every byte string handed to `NewDecryptStream` that the front end reads (`… = .ok r`).

  `Props/C02.lean` states stream logic and the reduction for an arbitrary packet
  stream and an arbitrary receiver state.  Here the packets are THOSE THE FRONT
  END PRODUCED from the bytes (`Front.readEnc`: go-codec's typed decoding `Codec`,
  in go-codec's order and with its leniencies and limits — maps for arrays,
  authenticators of any length, byte strings as integer arrays, the depth budget
  for reserved extras, …; the spec-shaped reader `Wire` only where `Codec` calls
  the input unmodelled) and the state is the one `processHeader` returned for the
  header decoded from these bytes.
-/
import Saltpack.Proofs.CodecBytesAuth
import Saltpack.Toy

namespace Saltpack.Props.C02
open Saltpack Saltpack.Proofs

/-- **Every byte string: refusal, or a packet-level run.**  Whatever `msg` is, if
    the front end reads it the result of `Decrypt.openBytes` is either a refusal
    (no decodable header, or the header check failed) that released nothing, or
    exactly `Decrypt.run` from the state of the accepted header over the packets
    decoded from `msg`. -/
theorem C02_bytes_cases (P : Prims) (valid : Validator) (kr : Keyring) (msg : Bytes) (r : Decrypt.Result)
    (hopen : Decrypt.openBytes P valid kr msg = .ok r) :
    (r.released = [] ∧ r.err ≠ none ∧ r.mki = none) ∨
    ∃ hb h ps log st, Front.readEnc msg = .ok (.ok hb h, ps) ∧
      Decrypt.processHeader P valid kr (P.hash hb) h = (log, .ok st) ∧
      r = ⟨some st.mki, (Decrypt.run P st ps.items ps.tail 1).bytes, (Decrypt.run P st ps.items ps.tail 1).err, log⟩ := by
  obtain ⟨hr, ps, hrd, rfl⟩ := dec_openBytes_ok hopen
  cases hr with
  | unreadable => left; simp [Decrypt.openStream]
  | undecodable _ => left; simp [Decrypt.openStream]
  | ok hb h =>
    obtain ⟨x, hx⟩ : ∃ x, Decrypt.processHeader P valid kr (P.hash hb) h = x := ⟨_, rfl⟩
    obtain ⟨log, res⟩ := x
    cases res with
    | error e => left; simp [Decrypt.openStream, hx]
    | ok st =>
      right
      refine ⟨hb, h, ps, log, st, hrd, hx, ?_⟩
      simp [Decrypt.openStream, hx]

/-- **Level A (in order, no gaps), every byte string.**  What is released is
    nothing (with an error), or the concatenation of the chunks of an accepted
    PREFIX of the packets the front end decoded from `msg`, numbered from 1. -/
theorem C02_released_is_accepted_prefix_bytes (P : Prims) (valid : Validator) (kr : Keyring) (msg : Bytes)
    (r : Decrypt.Result) (hopen : Decrypt.openBytes P valid kr msg = .ok r) :
    (r.released = [] ∧ r.err ≠ none) ∨
    ∃ hb h ps log st, Front.readEnc msg = .ok (.ok hb h, ps) ∧
      Decrypt.processHeader P valid kr (P.hash hb) h = (log, .ok st) ∧
      ∃ bs : List EncBlock, (bs.map some) <+: ps.items ∧
        Chain (Dec.accept P st) (Decrypt.blockFinal st.version) 1 bs r.released := by
  rcases C02_bytes_cases P valid kr msg r hopen with ⟨a, b, _⟩ | ⟨hb, h, ps, log, st, h1, h2, rfl⟩
  · exact Or.inl ⟨a, b⟩
  · exact Or.inr ⟨hb, h, ps, log, st, h1, h2, Dec.run_prefix P st ps.items ps.tail 1⟩

/-- **Level A (complete iff clean), every byte string.**  The byte-level run ends
    without error iff the header decoded from `msg` was accepted, the packets
    decoded from `msg` are exactly one complete message — every packet accepted at
    its position, only the last one final — and the input ends cleanly behind it. -/
theorem C02_clean_end_iff_complete_bytes (P : Prims) (valid : Validator) (kr : Keyring) (msg : Bytes)
    (r : Decrypt.Result) (hopen : Decrypt.openBytes P valid kr msg = .ok r) :
    r.err = none ↔
      ∃ hb h ps log st, Front.readEnc msg = .ok (.ok hb h, ps) ∧
        Decrypt.processHeader P valid kr (P.hash hb) h = (log, .ok st) ∧
        ∃ bs : List EncBlock, ps.items = bs.map some ∧ ps.tail = .eof ∧
          Complete (Dec.accept P st) (Decrypt.blockFinal st.version) 1 bs r.released := by
  constructor
  · intro he
    rcases C02_bytes_cases P valid kr msg r hopen with ⟨_, b, _⟩ | ⟨hb, h, ps, log, st, h1, h2, rfl⟩
    · exact (b he).elim
    · exact ⟨hb, h, ps, log, st, h1, h2, (Dec.run_ok_iff P st ps.items ps.tail 1).mp he⟩
  · rintro ⟨hb, h, ps, log, st, h1, h2, hc⟩
    have := dec_bytes_run P valid kr msg hb h ps h1 log st h2
    rw [hopen] at this
    injection this with this
    subst this
    exact (Dec.run_ok_iff P st ps.items ps.tail 1).mpr hc

/-- the all-at-once form (`Open`) on what the front end read returns plaintext
    only if the streaming form on the same bytes ended cleanly, and then exactly
    what the streaming form released, with the key identity the streaming form reports -/
theorem C02_all_at_once_only_if_clean_bytes (P : Prims) (valid : Validator) (kr : Keyring) (msg : Bytes)
    (hr : HeaderRead EncHeader) (ps : PStream EncBlock) (hread : Front.readEnc msg = .ok (hr, ps))
    (m : MKI) (pt : Bytes) (h : Decrypt.openAll P valid kr hr ps = .ok (m, pt)) :
    ∃ r, Decrypt.openBytes P valid kr msg = .ok r ∧ r.err = none ∧ r.released = pt ∧ r.mki = some m :=
  ⟨_, dec_openBytes_of_read hread, dec_openAll_ok h⟩

/-- **The reduction, every byte string.**  The front end read `msg` into header
    bytes `hb`, header `h`, packets `ps`; the receiver accepted the header (state
    `st`).  Relative to any history `H` of honest messages: nothing is released
    and the run fails; or what is released is the first `m` chunks of ONE honest
    message with the hash of THESE header bytes and this MAC key — all of it iff
    the run ends cleanly; or `AuthEnc.BreakIn P st H ps.items` (`C02_break_def`):
    a MAC forgery or hash collision exhibited by a packet decoded from `msg` that
    this run reached and accepted.

    The hypotheses `hv`, `hhl` of `C02_authentic_or_break` are discharged here
    (validator contract, lawful hash); `hlen`, `hplan`, `hv1`, `hkey`, `hone` are
    as there (the last two are the stated ASSUMPTIONS). -/
theorem C02_authentic_or_break_bytes (P : Prims) (hP : P.Lawful) (valid : Validator) (hvalid : ValidatorOK valid)
    (kr : Keyring) (msg hb : Bytes) (h : EncHeader) (ps : PStream EncBlock)
    (hread : Front.readEnc msg = .ok (.ok hb h, ps))
    (log : List KeyCall) (st : Decrypt.State)
    (hhdr : Decrypt.processHeader P valid kr (P.hash hb) h = (log, .ok st))
    (H : List AuthEnc.Event)
    (hlen : ∀ e ∈ H, e.headerHash.length = 64)
    (hplan : ∀ e ∈ H, e.headerHash = P.hash hb → PlanOK e.plan ∧ e.plan.length < 2 ^ 64 - 1)
    (hv1 : h.version.major = 1 → ∀ e ∈ H, e.headerHash = P.hash hb → ∀ p ∈ e.plan, (p.1 = [] ↔ p.2 = true))
    (hkey : ∀ e ∈ H, e.headerHash = P.hash hb → e.payloadKey = st.payloadKey)
    (hone : ∀ e ∈ H, ∀ e' ∈ H, e.headerHash = P.hash hb → e'.headerHash = P.hash hb → e = e') :
    ∃ r, Decrypt.openBytes P valid kr msg = .ok r ∧
      (r.released = [] ∧ r.err ≠ none ∨
       (∃ e ∈ H, (e.headerHash = P.hash hb ∧ e.macKey = st.macKey) ∧
          ∃ m, m ≤ e.plan.length ∧ r.released = planPrefix e.plan m ∧ (r.err = none → m = e.plan.length)) ∨
       AuthEnc.BreakIn P st H ps.items) := by
  obtain ⟨hv, hh, hhl⟩ := dec_state_ok P hP valid hvalid kr hb h log st hhdr
  have hver := dec_processHeader_version P valid kr _ h log st hhdr
  refine ⟨_, dec_bytes_run P valid kr msg hb h ps hread log st hhdr, ?_⟩
  have := AuthEnc.authentic_or_break P hP st hv hhl H hlen (by rw [hh]; exact hplan)
    (by rw [hh, hver]; exact hv1) (by rw [hh]; exact hkey) (by rw [hh]; exact hone) ps.items ps.tail
  rw [hh] at this
  exact this

/-! ## a concrete hostile byte string (kernel-evaluated)

  A V2 encryption message whose header is genuine in shape but whose payload
  packet is a FIXMAP (`83 …` = 3 pairs = 6 flat elements: final, authenticators,
  ciphertext, then three surplus elements that go-codec swallows), the
  authenticator list itself a fixmap of one pair whose "authenticators" are a
  3-byte bin and an array of two integers (go-codec pads both to 32 bytes).
  `Wire` calls it unmodelled; the front end decodes it (through `Codec`); no keyring holds a key, so
  the byte-level run refuses at the header — first disjunct of every theorem above. -/

def hostileEncMsg : Bytes :=
  headerPacket (Msgpack.encode (⟨Gen.c_sp_FormatName, v2, mtEncryption, List.replicate 32 5, [9],
      [⟨none, [1, 2, 3]⟩]⟩ : EncHeader).toVal) ++
    [0x83, 0xc3, 0x81, 0xc4, 0x03, 0x01, 0x02, 0x03, 0x92, 0x07, 0x08, 0xc4, 0x02, 0x0a, 0x0b, 0x01, 0x02, 0x03]

/-- a keyring without long-term keys (it imports every ephemeral public key) -/
def emptyRing : Keyring := ⟨fun _ => (-1, none), fun _ => none, [], fun k => some k, fun _ => none⟩

example : (match Wire.splitEnc hostileEncMsg with | .unmodelled _ => true | .ok _ => false) = true := by decide +kernel

/-- the packet the front end decodes from the map: two 32-byte authenticators, the ciphertext, final -/
example : (Front.readEnc hostileEncMsg).toOption.map (fun x => (x.2.items, x.2.tail)) =
    some ([some ⟨[[1, 2, 3] ++ List.replicate 29 0, [7, 8] ++ List.replicate 30 0], [0x0a, 0x0b], true⟩], .eof) := by
  decide

example : (Decrypt.openBytes Toy.prims knownMajor emptyRing hostileEncMsg).toOption.map
    (fun r => (r.released, r.err)) = some ([], some .noDecryptionKey) := by decide +kernel

/-- the hypothesis `P.Lawful` of the reductions above can be met -/
example : Toy.prims.Lawful := Toy.lawful

end Saltpack.Props.C02
