/-
  C03 (signcryption round trip) on the emitted BYTES through the byte-level
  receiver `Signcrypt.openBytes` (Model/Front.lean) — the transfer of
  `C03_roundtrip_box_bytes*` / `C03_roundtrip_sym_bytes*` (stated for the
  spec-shaped split `Wire.splitSigncrypt`) to the Codec-first front end:
  on what `Signcrypt.sealWith` emits go-codec's typed reader gives
  the same header read and packets as the spec-shaped one (`C09_bridge_seal_signcrypt`).
-/
import Saltpack.Props.C03
import Saltpack.Proofs.CodecBytesFront

namespace Saltpack.Props.C03
open Saltpack Saltpack.Encrypt Saltpack.Proofs

/-- **The transfer**: a `Wire`-split all-at-once opening of a signcrypted message
    is the byte-level receiver's result on these bytes -/
theorem C03_bytes_front_of_wire (P : Prims) (hP : P.Lawful) (bs : Nat) (hbs : 0 < bs) (hbs32 : bs + 80 < 2 ^ 32)
    (sender : Option Bytes) (rs : List Signcrypt.Recipient) (eph payloadKey pt : Bytes)
    (hpk : payloadKey.length = 32) (L : Nat) (hL32 : 32 ≤ L)
    (hid : ∀ key ident, Signcrypt.Recipient.sym key ident ∈ rs → ident.length ≤ L)
    (hsmall : 145 + rs.length * (L + 63) < 2 ^ 32)
    (msg : Bytes) (hmsg : Signcrypt.sealWith P bs sender rs eph payloadKey pt = .ok msg)
    (kr : Keyring) (res : Signcrypt.Resolver) (snd : Option Bytes) (pt' : Bytes)
    (hw : ∃ hr ps, Wire.splitSigncrypt msg = .ok (hr, ps) ∧ Signcrypt.openAll P kr res hr ps = .ok (snd, pt')) :
    ∃ r, Signcrypt.openBytes P kr res msg = .ok r ∧ r.err = none ∧ r.released = pt' ∧ r.sender = snd := by
  obtain ⟨hr, ps, hsplit, hopen⟩ := hw
  have hrd := (front_of_wire_sealed_signcrypt P hP bs hbs hbs32 sender rs eph payloadKey pt hpk L hL32 hid hsmall msg hmsg
    _ hsplit).2
  exact ⟨_, sc_openBytes_of_read hrd, sc_openAll_ok hopen⟩

/-- on a signcrypted message the front end reads exactly what the spec-shaped reader reads -/
theorem C03_front_is_wire_on_sealed (P : Prims) (hP : P.Lawful) (bs : Nat) (hbs : 0 < bs) (hbs32 : bs + 80 < 2 ^ 32)
    (sender : Option Bytes) (rs : List Signcrypt.Recipient) (eph payloadKey pt : Bytes)
    (hpk : payloadKey.length = 32) (L : Nat) (hL32 : 32 ≤ L)
    (hid : ∀ key ident, Signcrypt.Recipient.sym key ident ∈ rs → ident.length ≤ L)
    (hsmall : 145 + rs.length * (L + 63) < 2 ^ 32)
    (msg : Bytes) (hmsg : Signcrypt.sealWith P bs sender rs eph payloadKey pt = .ok msg)
    (x : HeaderRead EncHeader × PStream SigncryptBlock) (hw : Wire.splitSigncrypt msg = .ok x) :
    Codec.splitSigncrypt msg = .ok x ∧ Front.readSigncrypt msg = .ok x :=
  front_of_wire_sealed_signcrypt P hP bs hbs hbs32 sender rs eph payloadKey pt hpk L hL32 hid hsmall msg hmsg x hw

/-- **Round trip on the emitted bytes through the front end — box-key recipient,
    any keyring holding the key, with or without a resolver**
    (`C03_roundtrip_box_bytes_ring` transferred) -/
theorem C03_roundtrip_box_bytes_ring_front (P : Prims) (hP : P.Lawful) (bs : Nat) (hbs : 0 < bs) (hbs32 : bs + 80 < 2 ^ 32)
    (sender : Option Bytes) (rs : List Signcrypt.Recipient) (eph payloadKey pt : Bytes)
    (hpk : payloadKey.length = 32)
    (hsender : ∀ s, sender = some s → ¬ ((P.sigPub s).all (· == 0)))
    (hblocks : (Encrypt.chunkPlan v2 bs pt).length < 2 ^ 64 - 1)
    (sks : List Bytes) (res : Signcrypt.Resolver)
    (i : Nat) (hi : i < rs.length) (sk : Bytes) (hmem : sk ∈ sks) (hsk : rs.getD i default = .box (P.boxPub sk))
    (hnc : ∀ s ∈ sks, ∀ j, j ≤ i → j < rs.length →
      Signcrypt.keyIdentifier P (Signcrypt.derivedKeyFromBoxKeys P (P.boxPub eph) s) j =
        Decrypt.kidOf ((Signcrypt.header P sender eph payloadKey rs).receivers.getD j default) →
      rs.getD j default = .box (P.boxPub s))
    (L : Nat) (hL32 : 32 ≤ L)
    (hid : ∀ key ident, Signcrypt.Recipient.sym key ident ∈ rs → ident.length ≤ L)
    (hsmall : 145 + rs.length * (L + 63) < 2 ^ 32)
    (msg : Bytes) (hmsg : Signcrypt.sealWith P bs sender rs eph payloadKey pt = .ok msg) :
    ∃ r, Signcrypt.openBytes P (faithfulKeyring P sks) res msg = .ok r ∧ r.err = none ∧ r.released = pt ∧
      r.sender = sender.map P.sigPub :=
  C03_bytes_front_of_wire P hP bs hbs hbs32 sender rs eph payloadKey pt hpk L hL32 hid hsmall msg hmsg _ _ _ _
    (C03_roundtrip_box_bytes_ring P hP bs hbs hbs32 sender rs eph payloadKey pt hpk hsender hblocks sks res i hi sk hmem
      hsk hnc L hL32 hid hsmall msg hmsg)

/-- … keyring = exactly the recipient's key (`C03_roundtrip_box_bytes` transferred) -/
theorem C03_roundtrip_box_bytes_front (P : Prims) (hP : P.Lawful) (bs : Nat) (hbs : 0 < bs) (hbs32 : bs + 80 < 2 ^ 32)
    (sender : Option Bytes) (rs : List Signcrypt.Recipient) (eph payloadKey pt : Bytes)
    (hpk : payloadKey.length = 32)
    (hsender : ∀ s, sender = some s → ¬ ((P.sigPub s).all (· == 0)))
    (hblocks : (Encrypt.chunkPlan v2 bs pt).length < 2 ^ 64 - 1)
    (i : Nat) (hi : i < rs.length) (sk : Bytes) (hsk : rs.getD i default = .box (P.boxPub sk))
    (hnc : ∀ j, j < i → Signcrypt.keyIdentifier P (Signcrypt.derivedKeyFromBoxKeys P (P.boxPub eph) sk) j ≠
        Decrypt.kidOf ((Signcrypt.header P sender eph payloadKey rs).receivers.getD j default))
    (L : Nat) (hL32 : 32 ≤ L)
    (hid : ∀ key ident, Signcrypt.Recipient.sym key ident ∈ rs → ident.length ≤ L)
    (hsmall : 145 + rs.length * (L + 63) < 2 ^ 32)
    (msg : Bytes) (hmsg : Signcrypt.sealWith P bs sender rs eph payloadKey pt = .ok msg) :
    ∃ r, Signcrypt.openBytes P (faithfulKeyring P [sk]) none msg = .ok r ∧ r.err = none ∧ r.released = pt ∧
      r.sender = sender.map P.sigPub :=
  C03_bytes_front_of_wire P hP bs hbs hbs32 sender rs eph payloadKey pt hpk L hL32 hid hsmall msg hmsg _ _ _ _
    (C03_roundtrip_box_bytes P hP bs hbs hbs32 sender rs eph payloadKey pt hpk hsender hblocks i hi sk hsk hnc
      L hL32 hid hsmall msg hmsg)

/-- … symmetric-key recipients, keyring of foreign box keys and a resolver
    (`C03_roundtrip_sym_bytes_ring` transferred) -/
theorem C03_roundtrip_sym_bytes_ring_front (P : Prims) (hP : P.Lawful) (bs : Nat) (hbs : 0 < bs) (hbs32 : bs + 80 < 2 ^ 32)
    (sender : Option Bytes) (rs : List Signcrypt.Recipient) (eph payloadKey pt : Bytes)
    (hpk : payloadKey.length = 32)
    (hsender : ∀ s, sender = some s → ¬ ((P.sigPub s).all (· == 0)))
    (hblocks : (Encrypt.chunkPlan v2 bs pt).length < 2 ^ 64 - 1)
    (sks : List Bytes)
    (hfor : ∀ s ∈ sks, ∀ j, j < (Signcrypt.header P sender eph payloadKey rs).receivers.length →
      Signcrypt.keyIdentifier P (Signcrypt.derivedKeyFromBoxKeys P (P.boxPub eph) s) j ≠
        Decrypt.kidOf ((Signcrypt.header P sender eph payloadKey rs).receivers.getD j default))
    (f : List Bytes → Except Err (List (Option Bytes))) (keys : List (Option Bytes))
    (hf : f ((Signcrypt.header P sender eph payloadKey rs).receivers.map Decrypt.kidOf) = .ok keys)
    (hlen : keys.length = rs.length)
    (htrue : ∀ (j : Nat) (k : Bytes), keys[j]? = some (some k) → ∃ ident, rs[j]? = some (Signcrypt.Recipient.sym k ident))
    (hsome : ∃ (j : Nat) (k : Bytes), keys[j]? = some (some k))
    (L : Nat) (hL32 : 32 ≤ L)
    (hid : ∀ key ident, Signcrypt.Recipient.sym key ident ∈ rs → ident.length ≤ L)
    (hsmall : 145 + rs.length * (L + 63) < 2 ^ 32)
    (msg : Bytes) (hmsg : Signcrypt.sealWith P bs sender rs eph payloadKey pt = .ok msg) :
    ∃ r, Signcrypt.openBytes P (faithfulKeyring P sks) (some f) msg = .ok r ∧ r.err = none ∧ r.released = pt ∧
      r.sender = sender.map P.sigPub :=
  C03_bytes_front_of_wire P hP bs hbs hbs32 sender rs eph payloadKey pt hpk L hL32 hid hsmall msg hmsg _ _ _ _
    (C03_roundtrip_sym_bytes_ring P hP bs hbs hbs32 sender rs eph payloadKey pt hpk hsender hblocks sks hfor f keys hf
      hlen htrue hsome L hL32 hid hsmall msg hmsg)

/-- … and symmetric-key recipients, empty keyring (`C03_roundtrip_sym_bytes` transferred) -/
theorem C03_roundtrip_sym_bytes_front (P : Prims) (hP : P.Lawful) (bs : Nat) (hbs : 0 < bs) (hbs32 : bs + 80 < 2 ^ 32)
    (sender : Option Bytes) (rs : List Signcrypt.Recipient) (eph payloadKey pt : Bytes)
    (hpk : payloadKey.length = 32)
    (hsender : ∀ s, sender = some s → ¬ ((P.sigPub s).all (· == 0)))
    (hblocks : (Encrypt.chunkPlan v2 bs pt).length < 2 ^ 64 - 1)
    (f : List Bytes → Except Err (List (Option Bytes))) (keys : List (Option Bytes))
    (hf : f ((Signcrypt.header P sender eph payloadKey rs).receivers.map Decrypt.kidOf) = .ok keys)
    (hlen : keys.length = rs.length)
    (htrue : ∀ (j : Nat) (k : Bytes), keys[j]? = some (some k) → ∃ ident, rs[j]? = some (Signcrypt.Recipient.sym k ident))
    (hsome : ∃ (j : Nat) (k : Bytes), keys[j]? = some (some k))
    (L : Nat) (hL32 : 32 ≤ L)
    (hid : ∀ key ident, Signcrypt.Recipient.sym key ident ∈ rs → ident.length ≤ L)
    (hsmall : 145 + rs.length * (L + 63) < 2 ^ 32)
    (msg : Bytes) (hmsg : Signcrypt.sealWith P bs sender rs eph payloadKey pt = .ok msg) :
    ∃ r, Signcrypt.openBytes P (faithfulKeyring P []) (some f) msg = .ok r ∧ r.err = none ∧ r.released = pt ∧
      r.sender = sender.map P.sigPub :=
  C03_bytes_front_of_wire P hP bs hbs hbs32 sender rs eph payloadKey pt hpk L hL32 hid hsmall msg hmsg _ _ _ _
    (C03_roundtrip_sym_bytes P hP bs hbs hbs32 sender rs eph payloadKey pt hpk hsender hblocks f keys hf hlen htrue hsome
      L hL32 hid hsmall msg hmsg)

end Saltpack.Props.C03
