/-
  C06 (attached signatures: only signed bytes are released) at the BYTE level:
  for every byte string handed to `NewVerifyStream` that the front end reads (`… = .ok r`).

  The packets are those the front end produced from the bytes (`Front.readSig`:
  go-codec's typed decoding `Codec`; `Wire` only where `Codec` says unmodelled); the verifier's state is
  `⟨h.version, P.hash hb, pk⟩` for the header `h` (bytes `hb`) decoded from them
  and the key `pk` the keyring returned for `h.senderPublic`.
-/
import Saltpack.Proofs.CodecBytesAuth
import Saltpack.Toy

namespace Saltpack.Props.C06
open Saltpack Saltpack.Proofs

/-- **Every byte string: refusal, or a packet-level run** (validators admitting
    majors 1, 2 — the documented contract). -/
theorem C06_bytes_cases (P : Prims) (valid : Validator) (hvalid : ValidatorOK valid) (kr : Keyring) (msg : Bytes)
    (r : Sign.Result) (hopen : Sign.verifyBytes P valid kr msg = .ok r) :
    (r.released = [] ∧ r.err ≠ none) ∨
    ∃ hb h ps pk, Front.readSig msg = .ok (.ok hb h, ps) ∧
      Sign.validate valid h mtAttached = .ok () ∧ kr.lookupSigningPublicKey h.senderPublic = some pk ∧
      r = ⟨some pk, (Sign.run P ⟨h.version, P.hash hb, pk⟩ ps.items ps.tail 1).bytes,
            (Sign.run P ⟨h.version, P.hash hb, pk⟩ ps.items ps.tail 1).err⟩ := by
  obtain ⟨hr, ps, hrd, rfl⟩ := sig_verifyBytes_ok hopen
  cases hr with
  | unreadable => left; simp [Sign.verifyStream]
  | undecodable _ => left; simp [Sign.verifyStream]
  | ok hb h =>
    cases hval : Sign.validate valid h mtAttached with
    | error e => left; simp [Sign.verifyStream, hval]
    | ok u =>
      cases hpk : kr.lookupSigningPublicKey h.senderPublic with
      | none => left; simp [Sign.verifyStream, hval, hpk]
      | some pk =>
        right
        refine ⟨hb, h, ps, pk, hrd, hval, hpk, ?_⟩
        have := sig_bytes_run P valid hvalid kr msg hb h ps hrd hval pk hpk
        rw [sig_verifyBytes_of_read hrd] at this
        injection this

/-- **Level A (in order, no gaps), every byte string.** -/
theorem C06_released_is_accepted_prefix_bytes (P : Prims) (valid : Validator) (hvalid : ValidatorOK valid)
    (kr : Keyring) (msg : Bytes) (r : Sign.Result) (hopen : Sign.verifyBytes P valid kr msg = .ok r) :
    (r.released = [] ∧ r.err ≠ none) ∨
    ∃ hb h ps pk, Front.readSig msg = .ok (.ok hb h, ps) ∧
      Sign.validate valid h mtAttached = .ok () ∧ kr.lookupSigningPublicKey h.senderPublic = some pk ∧
      ∃ bs : List SigBlock, (bs.map some) <+: ps.items ∧
        Chain (Ver.accept P ⟨h.version, P.hash hb, pk⟩) (Sign.blockFinal h.version) 1 bs r.released := by
  rcases C06_bytes_cases P valid hvalid kr msg r hopen with a | ⟨hb, h, ps, pk, h1, h2, h3, rfl⟩
  · exact Or.inl a
  · exact Or.inr ⟨hb, h, ps, pk, h1, h2, h3, Ver.run_prefix P ⟨h.version, P.hash hb, pk⟩ ps.items ps.tail 1⟩

/-- **Level A (complete iff clean), every byte string.** -/
theorem C06_clean_end_iff_complete_bytes (P : Prims) (valid : Validator) (hvalid : ValidatorOK valid)
    (kr : Keyring) (msg : Bytes) (r : Sign.Result) (hopen : Sign.verifyBytes P valid kr msg = .ok r) :
    r.err = none ↔
      ∃ hb h ps pk, Front.readSig msg = .ok (.ok hb h, ps) ∧
        Sign.validate valid h mtAttached = .ok () ∧ kr.lookupSigningPublicKey h.senderPublic = some pk ∧
        ∃ bs : List SigBlock, ps.items = bs.map some ∧ ps.tail = .eof ∧
          Complete (Ver.accept P ⟨h.version, P.hash hb, pk⟩) (Sign.blockFinal h.version) 1 bs r.released := by
  constructor
  · intro he
    rcases C06_bytes_cases P valid hvalid kr msg r hopen with ⟨_, b⟩ | ⟨hb, h, ps, pk, h1, h2, h3, rfl⟩
    · exact (b he).elim
    · exact ⟨hb, h, ps, pk, h1, h2, h3, (Ver.run_ok_iff P ⟨h.version, P.hash hb, pk⟩ ps.items ps.tail 1).mp he⟩
  · rintro ⟨hb, h, ps, pk, h1, h2, h3, hc⟩
    have := sig_bytes_run P valid hvalid kr msg hb h ps h1 h2 pk h3
    rw [hopen] at this
    injection this with this
    subst this
    exact (Ver.run_ok_iff P ⟨h.version, P.hash hb, pk⟩ ps.items ps.tail 1).mpr hc

/-- the all-at-once form (`Verify`) on what the front end read returns a message
    only if the streaming form on the same bytes ended cleanly, and then what the
    streaming form released, attributed to the signer it reports -/
theorem C06_all_at_once_only_if_clean_bytes (P : Prims) (valid : Validator) (kr : Keyring) (msg : Bytes)
    (hr : HeaderRead SigHeader) (ps : PStream SigBlock) (hread : Front.readSig msg = .ok (hr, ps))
    (k m : Bytes) (h : Sign.verifyAll P valid kr hr ps = .ok (k, m)) :
    ∃ r, Sign.verifyBytes P valid kr msg = .ok r ∧ r.err = none ∧ r.released = m ∧ r.signer = some k :=
  ⟨_, sig_verifyBytes_of_read hread, sig_verifyAll_ok h⟩

/-- **The reduction, every byte string.**  The front end read `msg` into header
    bytes `hb`, header `h`, packets `ps`; the header passed `validate` and the
    keyring knows the signer (`pk`).  Released bytes are the first `m` chunks of
    ONE message the owner of `pk` signed under the hash of THESE header bytes, all
    iff clean; or nothing and an error; or `AuthSig.BreakIn` (`C06_break_def`) on
    the packets decoded from `msg`.  `hv`, `hhl` of `C06_authentic_or_break` are
    discharged (validator contract, lawful hash); `hitems` (fewer than 2^64
    packets) stays — a byte string that long does not exist in practice. -/
theorem C06_authentic_or_break_bytes (P : Prims) (hP : P.Lawful) (valid : Validator) (hvalid : ValidatorOK valid)
    (kr : Keyring) (msg hb : Bytes) (h : SigHeader) (ps : PStream SigBlock)
    (hread : Front.readSig msg = .ok (.ok hb h, ps))
    (hval : Sign.validate valid h mtAttached = .ok ()) (pk : Bytes)
    (hpk : kr.lookupSigningPublicKey h.senderPublic = some pk)
    (H : List AuthSig.Event)
    (hlen : ∀ e ∈ H, e.headerHash.length = 64)
    (hplan : ∀ e ∈ H, e.headerHash = P.hash hb → PlanOK e.plan ∧ e.plan.length < 2 ^ 64)
    (hv1 : h.version.major = 1 → ∀ e ∈ H, e.headerHash = P.hash hb → ∀ p ∈ e.plan, (p.1 = [] ↔ p.2 = true))
    (hone : ∀ e ∈ H, ∀ e' ∈ H, e.headerHash = P.hash hb → e'.headerHash = P.hash hb → e = e')
    (hitems : ps.items.length < 2 ^ 64) :
    ∃ r, Sign.verifyBytes P valid kr msg = .ok r ∧ r.signer = some pk ∧
      (r.released = [] ∧ r.err ≠ none ∨
       (∃ e ∈ H, e.headerHash = P.hash hb ∧ ∃ m, m ≤ e.plan.length ∧ r.released = planPrefix e.plan m ∧
          (r.err = none → m = e.plan.length)) ∨
       AuthSig.BreakIn P ⟨h.version, P.hash hb, pk⟩ H ps.items) := by
  have hv : h.version.major = 1 ∨ h.version.major = 2 := hvalid _ (sig_validate_ok valid h _ hval).2.1
  exact ⟨_, sig_bytes_run P valid hvalid kr msg hb h ps hread hval pk hpk, rfl,
    AuthSig.authentic_or_break P hP ⟨h.version, P.hash hb, pk⟩ hv (hP.hash_len hb) H hlen hplan hv1 hone ps.items hitems
      ps.tail⟩

/-! ## a concrete hostile byte string (kernel-evaluated)

  An attached-signature message (V2) whose payload packet is a FIXMAP where the
  packet array is expected: `82 c3 c4 01 09 c4 01 41 07` = two pairs = the flat
  elements `true, bin[09], bin[41], 7`.  `Wire` calls it unmodelled; the front end
  decodes the block ⟨sig [9], chunk "A", final⟩; the signature does not verify:
  nothing released, an error — the first disjunct. -/

def hostileSigMsg : Bytes :=
  headerPacket (Msgpack.encode (Sign.header v2 [1] mtAttached [2]).toVal) ++
    [0x82, 0xc3, 0xc4, 0x01, 0x09, 0xc4, 0x01, 0x41, 0x07]

def anyRing : Keyring := ⟨fun _ => (-1, none), fun _ => none, [], fun _ => none, fun k => some k⟩

example : (match Wire.splitSig hostileSigMsg with | .unmodelled _ => true | .ok _ => false) = true := by decide +kernel

example : (Front.readSig hostileSigMsg).toOption.map (fun x => (x.2.items, x.2.tail)) =
    some ([some ⟨[9], [0x41], true⟩], .eof) := by decide +kernel

example : (Sign.verifyBytes Toy.prims knownMajor anyRing hostileSigMsg).toOption.map
    (fun r => (r.signer, r.released, r.err)) = some (some [1], [], some .badSignature) := by decide +kernel

def goodHeader : Bytes := Msgpack.encode (Sign.header v2 (Toy.prims.sigPub [1]) mtAttached [2]).toVal

/-- the same shape carrying the genuine (toy) signature on chunk "A" is
    accepted: the map-shaped packet is read as the final packet of the message,
    and "A" is released with a clean end -/
def goodMapMsg : Bytes :=
  headerPacket goodHeader ++ [0x82, 0xc3] ++
    Msgpack.encBin (Toy.prims.sign [1]
      ((attachedSignatureInput Toy.prims v2 (Toy.prims.hash goodHeader) [0x41] 0 true).toOption.getD [])) ++
    [0xc4, 0x01, 0x41, 0x07]

example : (match Wire.splitSig goodMapMsg with | .unmodelled _ => true | .ok _ => false) = true := by decide +kernel

example : (Sign.verifyBytes Toy.prims knownMajor anyRing goodMapMsg).toOption.map
    (fun r => (r.released, r.err)) = some ([0x41], none) := by decide +kernel

/-! ## depth budget and read order, kernel-evaluated on the model

  A genuine (toy-signed) V2 message, one final packet `94 c3 <sig> "A" <extra>`
  with a reserved extra element nested `d` arrays deep (`91^d 00`): go-codec's depth
  budget inside a V2 block is 97 — depth 97 is accepted, depth 98 is a decode error
  and NOTHING is released (Go: `max depth exceeded`).  The spec-shaped reader
  accepts both; the front end (Codec first) follows go-codec. -/

def deepMsg (d : Nat) : Bytes :=
  headerPacket goodHeader ++ [0x94, 0xc3] ++
    Msgpack.encBin (Toy.prims.sign [1]
      ((attachedSignatureInput Toy.prims v2 (Toy.prims.hash goodHeader) [0x41] 0 true).toOption.getD [])) ++
    [0xc4, 0x01, 0x41] ++ List.replicate d 0x91 ++ [0x00]

example : (Sign.verifyBytes Toy.prims knownMajor anyRing (deepMsg 97)).toOption.map
    (fun r => (r.released, r.err)) = some ([0x41], none) := by decide +kernel

example : (Sign.verifyBytes Toy.prims knownMajor anyRing (deepMsg 98)).toOption.map
    (fun r => (r.released, r.err)) = some ([], some .decodeError) := by decide +kernel

example : (match Wire.splitSig (deepMsg 98) with | .ok x => x.2.items.length == 1 && x.2.tail == .eof | _ => false) = true := by
  decide +kernel

/-- read ORDER: `93 c3 05 c6 00001000 01 02` — an integer where the
    signature is expected, then a truncated bin32: go-codec reports the wrong type
    (decode error), not the truncation -/
example : (Sign.verifyBytes Toy.prims knownMajor anyRing
      (headerPacket goodHeader ++ [0x93, 0xc3, 0x05, 0xc6, 0x00, 0x00, 0x10, 0x00, 0x01, 0x02])).toOption.map
    (fun r => (r.released, r.err)) = some ([], some .decodeError) := by decide +kernel

/-- … while the same truncated object BEHIND the final packet is read by
    `assertEndOfStream` generically: `io.EOF`, a clean end — Go accepts the message
    (`Front.settle`) -/
example : (Sign.verifyBytes Toy.prims knownMajor anyRing (deepMsg 3 ++ [0xc4, 0x05, 0x01])).toOption.map
    (fun r => (r.released, r.err)) = some ([0x41], none) := by decide +kernel

example : (Sign.verifyBytes Toy.prims knownMajor anyRing (deepMsg 3 ++ [0x05])).toOption.map
    (fun r => (r.released, r.err)) = some ([0x41], some .trailingGarbage) := by decide +kernel

/-- the hypothesis `P.Lawful` of the reductions above can be met -/
example : Toy.prims.Lawful := Toy.lawful

end Saltpack.Props.C06
