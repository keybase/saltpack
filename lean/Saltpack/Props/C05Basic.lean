/-
  Property C05 with the library's OWN keyring (package `basic`, model
  Saltpack/Model/Basic.lean): `Verify` with ANY `basic.Keyring` returns exactly
  the signed message and the signer's key.

  A basic keyring's `LookupSigningPublicKey(kid)` copies `kid` into a 32-byte
  array and returns it: it never consults the keys imported with
  `ImportSigningKey`, and it never returns nil.  So the round trip needs NO
  hypothesis on the keyring — and, the other side of the same coin,
  `C05_no_sender_key` never applies: a basic keyring "knows" every signer, it
  is the caller who must compare the returned key with the one expected
  (`C05_basic_accepts_any_signer`).
-/
import Saltpack.Proofs.BasicRT
import Saltpack.Props.C05
import Saltpack.Toy

namespace Saltpack.Props.C05
open Saltpack Saltpack.Basic Saltpack.Encrypt Saltpack.Proofs.BasicRing

/-- `LookupSigningPublicKey` of a basic keyring: the 32-byte copy of the kid,
    whatever the keyring holds; in particular the key itself for a 32-byte kid -/
theorem C05_basic_lookup (k : Basic.Keyring) (order : List SecretKey) (kid : Bytes) :
    (k.toRing order).lookupSigningPublicKey kid = some (kidToPublicKey kid) ∧
    (kid.length = 32 → (k.toRing order).lookupSigningPublicKey kid = some kid) :=
  ⟨rfl, toRing_lookupSig k order⟩

/-- importing signing keys changes no answer of the keyring -/
theorem C05_basic_import_irrelevant (k : Basic.Keyring) (pub sec : Bytes) (order : List SecretKey) :
    (k.importSigningKey pub sec).toRing order = k.toRing order := by
  have hl : ∀ kids o, (k.importSigningKey pub sec).lookupFrom kids o = k.lookupFrom kids o := by
    intro kids
    induction kids with
    | nil => intro o; rfl
    | cons kid rest ih =>
      intro o
      simp only [Basic.Keyring.lookupFrom]
      rw [ih]
      rfl
  simp only [Basic.Keyring.toRing, Basic.Keyring.lookupBoxSecretKey, hl]
  rfl

/-- **Round trip with any basic keyring** (empty, or holding whatever keys):
    for every message, both versions, every chunk size, signing key and header
    nonce -/
theorem C05_roundtrip_basic (P : Prims) (hP : P.Lawful) (bs : Nat) (hbs : 0 < bs)
    (v : Version) (hv : v = v1 ∨ v = v2) (signer nonce msg : Bytes)
    (k : Basic.Keyring) (order : List SecretKey)
    (h : SigHeader) (hb : Bytes) (blks : List SigBlock)
    (hs : Sign.attachedPackets P bs v signer nonce msg = .ok (h, hb, blks)) :
    Sign.verifyAll P knownMajor (k.toRing order) (.ok hb h) ⟨blks.map some, .eof⟩ = .ok (P.sigPub signer, msg) :=
  C05_roundtrip P hP bs hbs v hv signer nonce msg (k.toRing order) (basic_knows_signer P hP k order signer) h hb blks hs

/-- …on the emitted BYTES -/
theorem C05_roundtrip_bytes_basic (P : Prims) (hP : P.Lawful) (bs : Nat) (hbs : 0 < bs) (hbs32 : bs < 2 ^ 32)
    (v : Version) (hv : v = v1 ∨ v = v2) (signer nonce msg : Bytes) (hn : nonce.length + 92 < 2 ^ 32)
    (k : Basic.Keyring) (order : List SecretKey)
    (out : Bytes) (hout : Sign.attachedWith P bs v signer nonce msg = .ok out) :
    ∃ hr ps, Wire.splitSig out = .ok (hr, ps) ∧
      Sign.verifyAll P knownMajor (k.toRing order) hr ps = .ok (P.sigPub signer, msg) :=
  C05_roundtrip_bytes P hP bs hbs hbs32 v hv signer nonce msg hn (k.toRing order) (basic_knows_signer P hP k order signer)
    out hout

/-- …and armored -/
theorem C05_roundtrip_armored_basic (P : Prims) (hP : P.Lawful) (bs : Nat) (hbs : 0 < bs) (hbs32 : bs < 2 ^ 32)
    (v : Version) (hv : v = v1 ∨ v = v2) (signer nonce msg : Bytes) (hn : nonce.length + 92 < 2 ^ 32)
    (k : Basic.Keyring) (order : List SecretKey)
    (brand : Bytes) (hbr : Proofs.BrandOK brand)
    (out : Bytes) (hout : Sign.attachedWith P bs v signer nonce msg = .ok out) :
    ∃ r hr ps, Armor.open62 (some mtAttached) (Armor.seal62 mtAttached brand out) = .ok r ∧
      r.payload = out ∧ r.brand = brand ∧
      Wire.splitSig r.payload = .ok (hr, ps) ∧
      Sign.verifyAll P knownMajor (k.toRing order) hr ps = .ok (P.sigPub signer, msg) :=
  C05_roundtrip_armored P hP bs hbs hbs32 v hv signer nonce msg hn (k.toRing order)
    (basic_knows_signer P hP k order signer) brand hbr out hout

/-- **a basic keyring accepts any signer**: for every header that passes
    validation — whoever signed, whatever the packets — the keyring's lookup
    succeeds (never `noSenderKey`) and the signer `NewVerifyStream` reports is
    the 32-byte copy of the header's signer field; comparing it with the signer
    one expects is the caller's business -/
theorem C05_basic_accepts_any_signer (P : Prims) (valid : Validator) (k : Basic.Keyring) (order : List SecretKey)
    (hb : Bytes) (h : SigHeader) (ps : PStream SigBlock) (hv : Sign.validate valid h mtAttached = .ok ()) :
    (Sign.verifyStream P valid (k.toRing order) (.ok hb h) ps).signer = some (kidToPublicKey h.senderPublic) := by
  unfold Sign.verifyStream
  simp only [hv, Basic.Keyring.toRing, Basic.Keyring.lookupSigningPublicKey]
  split <;> rfl

/-! ## non-vacuity -/

/-- sign with `[5]`, verify with an EMPTY basic keyring and with one into which
    an unrelated signing key was imported: the message and the signer's key -/
example : ∃ h hb blks,
    Sign.attachedPackets Toy.prims 4 v2 [5] [0, 1] [1, 2, 3, 4, 5] = .ok (h, hb, blks) ∧
    Sign.verifyAll Toy.prims knownMajor Basic.Keyring.empty.ring (.ok hb h) ⟨blks.map some, .eof⟩ =
      .ok (Toy.prims.sigPub [5], [1, 2, 3, 4, 5]) ∧
    Sign.verifyAll Toy.prims knownMajor (Basic.Keyring.empty.importSigningKey (Toy.prims.sigPub [6]) [6]).ring (.ok hb h)
      ⟨blks.map some, .eof⟩ = .ok (Toy.prims.sigPub [5], [1, 2, 3, 4, 5]) := by
  obtain ⟨h, hb, blks, hs, _⟩ := C05_sign_total Toy.prims 4 v2 (Or.inr rfl) [5] [0, 1] [1, 2, 3, 4, 5]
  exact ⟨h, hb, blks, hs,
    C05_roundtrip_basic Toy.prims Toy.lawful 4 (by decide) v2 (Or.inr rfl) [5] [0, 1] [1, 2, 3, 4, 5] _ _ h hb blks hs,
    C05_roundtrip_basic Toy.prims Toy.lawful 4 (by decide) v2 (Or.inr rfl) [5] [0, 1] [1, 2, 3, 4, 5] _ _ h hb blks hs⟩

end Saltpack.Props.C05
