/-
  C04 (signcryption: only authenticated plaintext is released) at the BYTE level:
  for every byte string handed to `NewSigncryptOpenStream` that the front end reads (`… = .ok r`).

  The packets are those the front end produced from the bytes
  (`Front.readSigncrypt`: go-codec's typed decoding `Codec`; `Wire` only where `Codec` says unmodelled), the
  state is the one `processHeader` returned for the header decoded from them.
-/
import Saltpack.Proofs.CodecBytesAuth
import Saltpack.Toy

namespace Saltpack.Props.C04
open Saltpack Saltpack.Proofs

/-- **Every byte string: refusal, or a packet-level run.** -/
theorem C04_bytes_cases (P : Prims) (kr : Keyring) (res : Signcrypt.Resolver) (msg : Bytes) (r : Signcrypt.Result)
    (hopen : Signcrypt.openBytes P kr res msg = .ok r) :
    (r.released = [] ∧ r.err ≠ none ∧ r.sender = none) ∨
    ∃ hb h ps log st, Front.readSigncrypt msg = .ok (.ok hb h, ps) ∧
      Signcrypt.processHeader P kr res (P.hash hb) h = (log, .ok st) ∧
      r = ⟨st.sender, (Signcrypt.run P st ps.items ps.tail 1).bytes, (Signcrypt.run P st ps.items ps.tail 1).err, log⟩ := by
  obtain ⟨hr, ps, hrd, rfl⟩ := sc_openBytes_ok hopen
  cases hr with
  | unreadable => left; simp [Signcrypt.openStream]
  | undecodable _ => left; simp [Signcrypt.openStream]
  | ok hb h =>
    obtain ⟨x, hx⟩ : ∃ x, Signcrypt.processHeader P kr res (P.hash hb) h = x := ⟨_, rfl⟩
    obtain ⟨log, rs⟩ := x
    cases rs with
    | error e => left; simp [Signcrypt.openStream, hx]
    | ok st =>
      right
      refine ⟨hb, h, ps, log, st, hrd, hx, ?_⟩
      simp [Signcrypt.openStream, hx]

/-- **Level A (in order, no gaps), every byte string.** -/
theorem C04_released_is_accepted_prefix_bytes (P : Prims) (kr : Keyring) (res : Signcrypt.Resolver) (msg : Bytes)
    (r : Signcrypt.Result) (hopen : Signcrypt.openBytes P kr res msg = .ok r) :
    (r.released = [] ∧ r.err ≠ none) ∨
    ∃ hb h ps log st, Front.readSigncrypt msg = .ok (.ok hb h, ps) ∧
      Signcrypt.processHeader P kr res (P.hash hb) h = (log, .ok st) ∧
      ∃ bs : List SigncryptBlock, (bs.map some) <+: ps.items ∧
        Chain (Sc.accept P st) (·.final) 1 bs r.released := by
  rcases C04_bytes_cases P kr res msg r hopen with ⟨a, b, _⟩ | ⟨hb, h, ps, log, st, h1, h2, rfl⟩
  · exact Or.inl ⟨a, b⟩
  · exact Or.inr ⟨hb, h, ps, log, st, h1, h2, Sc.run_prefix P st ps.items ps.tail 1⟩

/-- **Level A (complete iff clean), every byte string.** -/
theorem C04_clean_end_iff_complete_bytes (P : Prims) (kr : Keyring) (res : Signcrypt.Resolver) (msg : Bytes)
    (r : Signcrypt.Result) (hopen : Signcrypt.openBytes P kr res msg = .ok r) :
    r.err = none ↔
      ∃ hb h ps log st, Front.readSigncrypt msg = .ok (.ok hb h, ps) ∧
        Signcrypt.processHeader P kr res (P.hash hb) h = (log, .ok st) ∧
        ∃ bs : List SigncryptBlock, ps.items = bs.map some ∧ ps.tail = .eof ∧
          Complete (Sc.accept P st) (·.final) 1 bs r.released := by
  constructor
  · intro he
    rcases C04_bytes_cases P kr res msg r hopen with ⟨_, b, _⟩ | ⟨hb, h, ps, log, st, h1, h2, rfl⟩
    · exact (b he).elim
    · exact ⟨hb, h, ps, log, st, h1, h2, (Sc.run_ok_iff P st ps.items ps.tail 1).mp he⟩
  · rintro ⟨hb, h, ps, log, st, h1, h2, hc⟩
    have := sc_bytes_run P kr res msg hb h ps h1 log st h2
    rw [hopen] at this
    injection this with this
    subst this
    exact (Sc.run_ok_iff P st ps.items ps.tail 1).mpr hc

/-- the all-at-once form (`SigncryptOpen`) on what the front end read returns
    plaintext only if the streaming form on the same bytes ended cleanly, and then
    what the streaming form released, attributed to the sender it reports -/
theorem C04_all_at_once_only_if_clean_bytes (P : Prims) (kr : Keyring) (res : Signcrypt.Resolver) (msg : Bytes)
    (hr : HeaderRead EncHeader) (ps : PStream SigncryptBlock) (hread : Front.readSigncrypt msg = .ok (hr, ps))
    (snd : Option Bytes) (pt : Bytes) (h : Signcrypt.openAll P kr res hr ps = .ok (snd, pt)) :
    ∃ r, Signcrypt.openBytes P kr res msg = .ok r ∧ r.err = none ∧ r.released = pt ∧ r.sender = snd :=
  ⟨_, sc_openBytes_of_read hread, sc_openAll_ok h⟩

/-- **The reduction (named sender), every byte string.**  The front end read
    `msg` into header bytes `hb`, header `h`, packets `ps`; the receiver accepted
    the header with the named sender `spk`.  Released bytes are the first `m`
    chunks of ONE message the owner of `spk` signcrypted under the hash of THESE
    header bytes, all iff clean; or nothing and an error; or
    `AuthSc.BreakIn P st spk H ps.items` (`C04_break_def`) on the packets decoded
    from `msg`.  `hhl` of `C04_authentic_or_break` is discharged (lawful hash). -/
theorem C04_authentic_or_break_bytes (P : Prims) (hP : P.Lawful) (kr : Keyring) (res : Signcrypt.Resolver)
    (msg hb : Bytes) (h : EncHeader) (ps : PStream SigncryptBlock)
    (hread : Front.readSigncrypt msg = .ok (.ok hb h, ps))
    (log : List KeyCall) (st : Signcrypt.State)
    (hhdr : Signcrypt.processHeader P kr res (P.hash hb) h = (log, .ok st))
    (spk : Bytes) (hs : st.sender = some spk)
    (H : List AuthSc.Event)
    (hlen : ∀ e ∈ H, e.headerHash.length = 64)
    (hplan : ∀ e ∈ H, e.headerHash = P.hash hb → PlanOK e.plan ∧ e.plan.length < 2 ^ 64)
    (hone : ∀ e ∈ H, ∀ e' ∈ H, e.headerHash = P.hash hb → e'.headerHash = P.hash hb → e = e') :
    ∃ r, Signcrypt.openBytes P kr res msg = .ok r ∧ r.sender = some spk ∧
      (r.released = [] ∧ r.err ≠ none ∨
       (∃ e ∈ H, e.headerHash = P.hash hb ∧ ∃ m, m ≤ e.plan.length ∧ r.released = planPrefix e.plan m ∧
          (r.err = none → m = e.plan.length)) ∨
       AuthSc.BreakIn P st spk H ps.items) := by
  obtain ⟨hh, hhl⟩ := sc_state_ok P hP kr res hb h log st hhdr
  refine ⟨_, sc_bytes_run P kr res msg hb h ps hread log st hhdr, hs, ?_⟩
  have := AuthSc.authentic_or_break P hP st spk hs hhl H hlen (by rw [hh]; exact hplan) (by rw [hh]; exact hone)
    ps.items ps.tail
  rw [hh] at this
  exact this

/-! ## a concrete hostile byte string (kernel-evaluated)

  A signcryption message whose payload packet is a fixmap keyed by go-codec's
  FIELD NAMES in reverse order: `{"final": true, "ctext": [1, 2, 3]}` with the
  ciphertext an array of integers.  `Wire` calls it unmodelled; the front end
  decodes the block `⟨[1, 2, 3], true⟩`. -/

def hostileScMsg : Bytes :=
  headerPacket (Msgpack.encode (⟨Gen.c_sp_FormatName, v2, mtSigncryption, List.replicate 32 5, [9],
      [⟨some [7], [1, 2, 3]⟩]⟩ : EncHeader).toVal) ++
    [0x82, 0xa5, 0x66, 0x69, 0x6e, 0x61, 0x6c, 0xc3, 0xa5, 0x63, 0x74, 0x65, 0x78, 0x74, 0x93, 0x01, 0x02, 0x03]

/-- a keyring without long-term keys (it imports every ephemeral public key) -/
def emptyRing : Keyring := ⟨fun _ => (-1, none), fun _ => none, [], fun k => some k, fun _ => none⟩

example : (match Wire.splitSigncrypt hostileScMsg with | .unmodelled _ => true | .ok _ => false) = true := by decide +kernel

example : (Front.readSigncrypt hostileScMsg).toOption.map (fun x => (x.2.items, x.2.tail)) =
    some ([some ⟨[1, 2, 3], true⟩], .eof) := by decide +kernel

example : (Signcrypt.openBytes Toy.prims emptyRing none hostileScMsg).toOption.map
    (fun r => (r.released, r.err)) = some ([], some .noDecryptionKey) := by decide +kernel

/-- the hypothesis `P.Lawful` of the reductions above can be met -/
example : Toy.prims.Lawful := Toy.lawful

end Saltpack.Props.C04
