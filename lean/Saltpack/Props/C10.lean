/-
  Property C10 — BaseX is exact base conversion, and decoding accepts only
  canonical blocks.

  §1–§5 the one-shot encoder and decoder, §6–§8 the streaming forms agree with
  them.  Lemmas shared with other modules are in Saltpack/Proofs/Basex.lean,
  BasexLen.lean, StackBasex.lean, BasexBlocks.lean.  Everything is stated for an
  arbitrary well-formed encoding `e` (`Enc.WF`), and `Enc.WF` is established for the four *generated* shipped encodings by
  kernel evaluation at the end (so the float-computed length tables of the
  running code are checked against exact integer arithmetic on every run).
-/
import Saltpack.Proofs.Params62
import Saltpack.Proofs.Basex
import Saltpack.Proofs.BasexBlocks
import Saltpack.Proofs.StreamLemmas
import Saltpack.Gen.BasexTables

namespace Saltpack.Props.C10
open Saltpack Saltpack.Basex

/-! ## 1. Encoding is the block-wise big-endian positional base conversion -/

/-- A block of `n ≤ blockLen` bytes becomes exactly `EncodedLen n` characters… -/
theorem C10_encodeBlock_length (e : Enc) (bs : Bytes) :
    (encodeBlock e bs).length = e.encLen bs.length :=
  Proofs.encodeBlock_length e bs

/-- …whose digits, read big-endian in base `base`, are the big-endian value of
    the bytes (so no high digit is lost: leading zeros kept, nothing truncated). -/
theorem C10_encodeBlock_value (e : Enc) (he : e.WF) (bs : Bytes) (h : bs.length ≤ e.blockLen) :
    natOfDigits e.base (encodeBlockDigits e bs) = natOfBytes bs ∧
    (∀ d ∈ encodeBlockDigits e bs, d < e.base) :=
  Proofs.encodeBlock_value e he bs h

/-- Output length of the multi-block encoder is `EncodedLen`. -/
theorem C10_encode_length (e : Enc) (he : e.WF) (bs : Bytes) :
    (encode e bs).length = e.encLen bs.length :=
  Proofs.encode_length e he bs

/-- `EncodedLen` on one block is the least number of digits that can hold every
    value of that many bytes; `DecodedLen` the greatest number of bytes whose
    every value fits the digits (exact integer arithmetic, from `WF`). -/
theorem C10_len_helpers_exact (e : Enc) (he : e.WF) :
    (∀ r, r ≤ e.blockLen → 256 ^ r ≤ e.base ^ (e.encLen r) ∧
        (e.encLen r = 0 ∨ e.base ^ (e.encLen r - 1) < 256 ^ r)) ∧
    (∀ c, c ≤ e.charBlockLen → 256 ^ (e.decLen c) ≤ e.base ^ c ∧ e.base ^ c < 256 ^ (e.decLen c + 1)) :=
  ⟨Proofs.encLen_spec he, Proofs.decLen_spec he⟩

/-! ## 2. Round trip -/

/-- Decoding the encoding returns the original bytes — every byte string, any
    number of blocks, strict or skipping variant. -/
theorem C10_roundtrip (e : Enc) (he : e.WF) (bs : Bytes) :
    decode e (encode e bs) = .ok bs :=
  Proofs.decode_encode e he bs

/-! ## 3. Canonicity: strict decoding accepts only the unique encoding -/

/-- In strict mode, whatever decodes successfully is *the* encoding of the
    result.  Hence foreign characters, non-minimal block lengths and blocks
    whose value overflows the decoded length are all rejected. -/
theorem C10_canonical (e : Enc) (he : e.WF) (hs : e.skip = []) (s : List UInt8) (bs : Bytes) :
    decode e s = .ok bs → encode e bs = s :=
  Proofs.decode_canonical e he hs s bs

theorem C10_injective (e : Enc) (he : e.WF) (hs : e.skip = []) (s₁ s₂ : List UInt8) (bs : Bytes) :
    decode e s₁ = .ok bs → decode e s₂ = .ok bs → s₁ = s₂ := by
  intro h1 h2
  rw [← C10_canonical e he hs s₁ bs h1, ← C10_canonical e he hs s₂ bs h2]

/-- rejected: a character outside the alphabet, … -/
theorem C10_rejects_foreign (e : Enc) (he : e.WF) (hs : e.skip = []) (s : List UInt8)
    (c : UInt8) (hc : c ∈ s) (hd : e.digit? c = none) : ∃ x, decode e s = .error x := by
  cases h : decode e s with
  | error x => exact ⟨x, rfl⟩
  | ok bs =>
    have := (Proofs.decode_canonical_aux e he hs _ s 0 bs (Nat.lt_succ_self _) h).2 c hc
    rw [hd] at this
    cases this

/-- … a block length that no byte count encodes to, … -/
theorem C10_rejects_nonminimal (e : Enc) (ds : List Nat) (h : e.validLen ds.length = false) :
    decodeBlockDigits e ds = .error .badLen := by
  simp [decodeBlockDigits, h]

/-- … and a block whose value does not fit the decoded length -/
theorem C10_rejects_overflow (e : Enc) (ds : List Nat)
    (h : 256 ^ (e.decLen ds.length) ≤ natOfDigits e.base ds) :
    decodeBlockDigits e ds = .error .badLen := by
  unfold decodeBlockDigits
  split
  · rfl
  · simp [h]

/-! ## 4. The skipping variant is the strict one on the filtered string -/

theorem C10_skipping (e : Enc) (he : e.WF) (s : List UInt8)
    (h : ∀ c ∈ s, (e.digit? c).isSome ∨ e.isSkip c = true) :
    (decode e s).toOption = (decode e.strict (filterSkip e s)).toOption := by
  unfold decode
  exact Proofs.decode_skipping_aux e he _ _ s 0 0 h (Nat.lt_succ_self _) (Nat.lt_succ_self _)

/-! ## 5. The shipped encodings (generated from the running code) are well-formed -/

theorem C10_wf_base62Std : Gen.base62Std.WF := Proofs.params62_wf
theorem C10_wf_base62StdStrict : Gen.base62StdStrict.WF :=
  Proofs.base62Std_strict ▸ Proofs.strict_wf Proofs.params62_wf
theorem C10_wf_base58Std : Gen.base58Std.WF := Proofs.base58Std_wf
theorem C10_wf_base58StdStrict : Gen.base58StdStrict.WF :=
  Proofs.base58Std_strict ▸ Proofs.strict_wf Proofs.base58Std_wf

theorem C10_strict_is_strict : Gen.base62StdStrict.skip = [] ∧ Gen.base58StdStrict.skip = [] := ⟨rfl, rfl⟩

theorem C10_strict_twins :
    Gen.base62Std.strict = Gen.base62StdStrict ∧ Gen.base58Std.strict = Gen.base58StdStrict :=
  ⟨Proofs.base62Std_strict, Proofs.base58Std_strict⟩

/-! ## 6. Strict decoding is block-wise: any split at multiples of the character
       block length; `decodePrefix` is `decode`

  All statements are about strings of alphabet characters (the decoder stream
  sits behind the filtering reader, which lets nothing else through) and about
  the strict twin `e.strict`, which is what `decodePrefix` calls; for an
  encoding without skip characters `e.strict = e` (`C10_strict_eq_self`), the
  `_noskip` corollaries spell that out.  Only `0 < e.charBlockLen` is needed
  (`Enc.WF.cblock_pos`). -/

theorem C10_strict_eq_self (e : Enc) (hs : e.skip = []) : e.strict = e := by
  cases e
  simp only at hs
  simp only [Enc.strict, hs]

/-- **Two pieces.**  If the first piece is a whole number of character blocks,
    decoding the concatenation is decoding both pieces and concatenating: it
    succeeds iff both do. -/
theorem C10_decoder_append (e : Enc) (hN : 0 < e.charBlockLen) (a b : List UInt8)
    (hd : ∀ c ∈ a ++ b, (e.digit? c).isSome) (ha : e.charBlockLen ∣ a.length) :
    (decode e.strict (a ++ b)).toOption =
      (decode e.strict a).toOption.bind (fun x => (decode e.strict b).toOption.map (fun y => x ++ y)) := by
  obtain ⟨k, hk⟩ := ha
  exact Proofs.decode_strict_append e hN k a b hd (by rw [hk, Nat.mul_comm])

/-- **Any number of pieces.**  Split a string of alphabet characters anywhere at
    multiples of the character block length (every piece but the last a whole
    number of blocks — zero blocks allowed —, the last piece arbitrary): the
    one-shot decoding is the concatenation of the decodings of the pieces, and
    fails (`none`) iff the decoding of some piece fails. -/
theorem C10_decoder_blocks (e : Enc) (hN : 0 < e.charBlockLen) (blocks : List (List UInt8))
    (hd : ∀ c ∈ blocks.flatten, (e.digit? c).isSome)
    (hb : ∀ b ∈ blocks.dropLast, e.charBlockLen ∣ b.length) :
    (decode e.strict blocks.flatten).toOption =
      (blocks.mapM (fun b => (decode e.strict b).toOption)).map List.flatten :=
  Proofs.decode_strict_blocks e hN blocks hd hb

/-- the failure case of `C10_decoder_blocks` on its own -/
theorem C10_decoder_blocks_error (e : Enc) (hN : 0 < e.charBlockLen) (blocks : List (List UInt8))
    (hd : ∀ c ∈ blocks.flatten, (e.digit? c).isSome)
    (hb : ∀ b ∈ blocks.dropLast, e.charBlockLen ∣ b.length) :
    (∃ x, decode e.strict blocks.flatten = .error x) ↔ ∃ b ∈ blocks, ∃ x, decode e.strict b = .error x := by
  rw [← Proofs.toOption_eq_none, C10_decoder_blocks e hN blocks hd hb, Option.map_eq_none_iff,
    Proofs.mapM_option_eq_none]
  constructor
  · rintro ⟨b, hb, h⟩; exact ⟨b, hb, (Proofs.toOption_eq_none _).mp h⟩
  · rintro ⟨b, hb, h⟩; exact ⟨b, hb, (Proofs.toOption_eq_none _).mpr h⟩

theorem C10_decoder_blocks_noskip (e : Enc) (hN : 0 < e.charBlockLen) (hs : e.skip = [])
    (blocks : List (List UInt8))
    (hd : ∀ c ∈ blocks.flatten, (e.digit? c).isSome)
    (hb : ∀ b ∈ blocks.dropLast, e.charBlockLen ∣ b.length) :
    (decode e blocks.flatten).toOption = (blocks.mapM (fun b => (decode e b).toOption)).map List.flatten := by
  have h := C10_decoder_blocks e hN blocks hd hb
  rw [C10_strict_eq_self e hs] at h
  exact h

/-- **`decodePrefix` is `decode`** on alphabet strings (with enough fuel; the
    model calls it with `s.length + 1`): the whole decoding and no error when
    `decode` succeeds, an error when it fails. -/
theorem C10_decodePrefix_is_decode (e : Enc) (hN : 0 < e.charBlockLen) (s : List UInt8)
    (hd : ∀ c ∈ s, (e.digit? c).isSome) (fuel : Nat) (hf : s.length < fuel) :
    (∀ y, decode e.strict s = .ok y → decodePrefix e fuel s = (y, none)) ∧
    ((∃ x, decode e.strict s = .error x) → ∃ pre x, decodePrefix e fuel s = (pre, some x)) := by
  obtain ⟨h1, h2⟩ := Proofs.decodePrefix_spec e hN fuel s hd hf
  refine ⟨fun y hy => h1 y ?_, fun hx => h2 ?_⟩
  · rw [← Proofs.decode_strict_digits e s hd]; exact (Proofs.toOption_eq_some _ _).mpr hy
  · rw [← Proofs.decode_strict_digits e s hd]; exact (Proofs.toOption_eq_none _).mpr hx

/-- …and conversely: `decodePrefix` reports no error exactly when `decode`
    succeeds, with the same bytes -/
theorem C10_decodePrefix_ok_iff (e : Enc) (hN : 0 < e.charBlockLen) (s : List UInt8)
    (hd : ∀ c ∈ s, (e.digit? c).isSome) (fuel : Nat) (hf : s.length < fuel) (y : Bytes) :
    decodePrefix e fuel s = (y, none) ↔ decode e.strict s = .ok y := by
  obtain ⟨h1, h2⟩ := C10_decodePrefix_is_decode e hN s hd fuel hf
  constructor
  · intro h
    cases hdec : decode e.strict s with
    | ok z =>
      have := h1 z hdec
      rw [h] at this
      cases this; rfl
    | error x =>
      obtain ⟨p, x', hp⟩ := h2 ⟨x, hdec⟩
      rw [h] at hp
      cases hp
  · exact h1 y

/-- the failure case in full: the bytes that come with the error are the
    decoding of the `k` whole blocks before the first failing block, and the
    error is that block's -/
theorem C10_decodePrefix_error (e : Enc) (hN : 0 < e.charBlockLen) (s : List UInt8)
    (hd : ∀ c ∈ s, (e.digit? c).isSome) (fuel : Nat) (hf : s.length < fuel) (pre : Bytes) (x : Basex.Err)
    (h : decodePrefix e fuel s = (pre, some x)) :
    ∃ k, k * e.charBlockLen < s.length ∧
      decode e.strict (s.take (k * e.charBlockLen)) = .ok pre ∧
      decode e.strict ((s.drop (k * e.charBlockLen)).take e.charBlockLen) = .error x := by
  obtain ⟨h1, h2⟩ := Proofs.decodePrefix_blocks e hN fuel s hd hf
  cases hS : Proofs.decS e s with
  | some y => rw [h1 y hS] at h; cases h
  | none =>
    obtain ⟨k, p, x', hp, hk1, hk2, hk3⟩ := h2 hS
    rw [h] at hp
    cases hp
    refine ⟨k, hk1, ?_, hk3⟩
    rw [← Proofs.toOption_eq_some, Proofs.decode_strict_digits e _ (Proofs.allDig_take _ hd)]
    exact hk2

theorem C10_decodePrefix_is_decode_noskip (e : Enc) (hN : 0 < e.charBlockLen) (hs : e.skip = [])
    (s : List UInt8) (hd : ∀ c ∈ s, (e.digit? c).isSome) (fuel : Nat) (hf : s.length < fuel) :
    (∀ y, decode e s = .ok y → decodePrefix e fuel s = (y, none)) ∧
    ((∃ x, decode e s = .error x) → ∃ pre x, decodePrefix e fuel s = (pre, some x)) := by
  have h := C10_decodePrefix_is_decode e hN s hd fuel hf
  rw [C10_strict_eq_self e hs] at h
  exact h

/-! ## 7. The encoder stream is the one-shot encoder -/

/-- **BaseX encoder stream = one-shot encoding**: however the input is split
    over `Write` calls (empty writes included), after `Close` (which reports
    success) the concatenation of what reached the underlying writer is
    `encode` of the concatenated input.  (Same statement as
    `C13_basex_encoder_independent`.) -/
theorem C10_encoder_stream_is_encode (enc : Basex.Enc) (he : enc.WF) (ws : List Bytes) :
    let s1 := ws.foldl (fun (s : Stream.EncState) w => (s.write w).2.2) ({ enc := enc } : Stream.EncState)
    let r := s1.close
    r.1 = true ∧ r.2.written.flatten = Basex.encode enc ws.flatten :=
  Proofs.encStream_any_split enc he ws

/-! ## 8. The length helpers over several blocks -/

/-- `EncodedLen` / `DecodedLen` are additive over whole blocks: `q` byte blocks
    are `q` character blocks, plus the helper's answer on what is left (for
    `r ≤ blockLen` resp. `r ≤ charBlockLen` that answer is the exact one of
    `C10_len_helpers_exact`; the statement holds for every `r`). -/
theorem C10_len_helpers_multiblock (e : Enc) (he : e.WF) (q r : Nat) :
    e.encLen (q * e.blockLen + r) = q * e.charBlockLen + e.encLen r ∧
    e.decLen (q * e.charBlockLen + r) = q * e.blockLen + e.decLen r :=
  ⟨Proofs.encLen_add_blocks e he.block_pos q r, Proofs.decLen_add_blocks e he.cblock_pos q r⟩

theorem C10_len_helpers_whole_blocks (e : Enc) (he : e.WF) (q : Nat) :
    e.encLen (q * e.blockLen) = q * e.charBlockLen ∧ e.decLen (q * e.charBlockLen) = q * e.blockLen := by
  have h := C10_len_helpers_multiblock e he q 0
  rw [Proofs.encLen_zero he, Proofs.decLen_zero he] at h
  exact h

theorem C10_decLen_encLen (e : Enc) (he : e.WF) (n : Nat) : e.decLen (e.encLen n) = n := by
  have hB := he.block_pos
  have hn : n = (n / e.blockLen) * e.blockLen + n % e.blockLen := by
    rw [Nat.mul_comm]; exact (Nat.div_add_mod n e.blockLen).symm
  have hr : n % e.blockLen < e.blockLen := Nat.mod_lt _ hB
  generalize n / e.blockLen = q at hn
  generalize n % e.blockLen = r at hn hr
  subst hn
  rw [(C10_len_helpers_multiblock e he q r).1, (C10_len_helpers_multiblock e he q _).2]
  by_cases h0 : r = 0
  · subst h0; rw [Proofs.encLen_zero he, Proofs.decLen_zero he]
  · rw [Proofs.decLen_encLen he r (by omega) (by omega)]

theorem C10_encode_length_multiblock (e : Enc) (he : e.WF) (bs : Bytes) (q r : Nat)
    (h : bs.length = q * e.blockLen + r) :
    (encode e bs).length = q * e.charBlockLen + e.encLen r := by
  rw [C10_encode_length e he, h, (C10_len_helpers_multiblock e he q r).1]

theorem C10_decode_length (e : Enc) (he : e.WF) (hs : e.skip = []) (s : List UInt8) (bs : Bytes)
    (h : decode e s = .ok bs) : bs.length = e.decLen s.length := by
  rw [← C10_canonical e he hs s bs h, C10_encode_length e he, C10_decLen_encLen e he]

/-! ## non-vacuity -/

example : decode Gen.base62StdStrict (encode Gen.base62StdStrict [0, 255, 7]) = .ok [0, 255, 7] := by decide +kernel
/-- the overflow block of defect D1 (`"48"` = 4·62+8 = 256) is rejected, its
    canonical neighbour `"01"` is accepted -/
example : decode Gen.base62StdStrict [52, 56] = .error .badLen := by decide +kernel
example : decode Gen.base62StdStrict [48, 49] = .ok [1] := by decide +kernel
/-- a one-character block is never valid -/
example : decode Gen.base62StdStrict [48] = .error .badLen := by decide +kernel

/-- one full block of `'0'` then the two-character block `"01"`: piecewise and
    one-shot -/
example :
    decode Gen.base62StdStrict (List.replicate 43 48 ++ [48, 49]) = .ok (List.replicate 32 0 ++ [1]) ∧
    decode Gen.base62StdStrict (List.replicate 43 48) = .ok (List.replicate 32 0) ∧
    decode Gen.base62StdStrict [48, 49] = .ok [1] := by decide +kernel
/-- the hypotheses of `C10_decoder_blocks` are satisfiable (three pieces: one
    block, no block, a final short block), and so is its failure case -/
example :
    (decode Gen.base62StdStrict.strict [List.replicate 43 48, [], [48, 49]].flatten).toOption =
      ([List.replicate 43 48, [], [48, 49]].mapM
        (fun b => (decode Gen.base62StdStrict.strict b).toOption)).map List.flatten :=
  C10_decoder_blocks Gen.base62StdStrict (by decide +kernel) _ (by decide +kernel) (by decide +kernel)
example : ∃ b ∈ [List.replicate 43 48, [52, 56]], ∃ x, decode Gen.base62StdStrict.strict b = .error x :=
  (C10_decoder_blocks_error Gen.base62StdStrict (by decide +kernel) [List.replicate 43 48, [52, 56]]
    (by decide +kernel) (by decide +kernel)).mp ⟨.badLen, by decide +kernel⟩
/-- the block-boundary hypothesis is needed: `"01"` decodes, its pieces `"0"`, `"1"` do not -/
example : decode Gen.base62StdStrict ([48] ++ [49]) = .ok [1] ∧
    decode Gen.base62StdStrict [48] = .error .badLen ∧ decode Gen.base62StdStrict [49] = .error .badLen := by
  decide +kernel
/-- `decodePrefix`: success, and failure in the second block (first block's
    bytes, second block's error) -/
example : decodePrefix Gen.base62StdStrict 46 (List.replicate 43 48 ++ [48, 49]) =
    (List.replicate 32 0 ++ [1], none) := by decide +kernel
example : decodePrefix Gen.base62StdStrict 46 (List.replicate 43 48 ++ [52, 56]) =
    (List.replicate 32 0, some .badLen) := by decide +kernel
example : ∃ k, k * Gen.base62StdStrict.charBlockLen < (List.replicate 43 48 ++ [52, 56] : List UInt8).length ∧
    decode Gen.base62StdStrict.strict ((List.replicate 43 48 ++ [52, 56] : List UInt8).take
      (k * Gen.base62StdStrict.charBlockLen)) = .ok (List.replicate 32 0) ∧
    decode Gen.base62StdStrict.strict (((List.replicate 43 48 ++ [52, 56] : List UInt8).drop
      (k * Gen.base62StdStrict.charBlockLen)).take Gen.base62StdStrict.charBlockLen) = .error .badLen :=
  C10_decodePrefix_error Gen.base62StdStrict (by decide +kernel) (List.replicate 43 48 ++ [52, 56]) (by decide +kernel)
    46 (by decide +kernel) (List.replicate 32 0) .badLen (by decide +kernel)
/-- the encoder stream over a block boundary (31 + 3 bytes, an empty write in between) -/
example :
    let ws : List Bytes := [List.replicate 31 7, [], [1, 2, 3]]
    let s1 := ws.foldl (fun (s : Stream.EncState) w => (s.write w).2.2)
      ({ enc := Gen.base62StdStrict } : Stream.EncState)
    s1.close.1 = true ∧ s1.close.2.written.length = 2 ∧
    s1.close.2.written.flatten = encode Gen.base62StdStrict (List.replicate 31 7 ++ [1, 2, 3]) := by decide +kernel
/-- lengths: 67 = 2·32 + 3 bytes ↦ 2·43 + 5 characters and back; 35 bytes ↦ 43 + 5 characters -/
example : Gen.base62StdStrict.encLen 67 = 2 * 43 + 5 ∧ Gen.base62StdStrict.decLen 91 = 2 * 32 + 3 ∧
    Gen.base62StdStrict.encLen 3 = 5 ∧ Gen.base62StdStrict.decLen 5 = 3 := by decide +kernel
example : (encode Gen.base62StdStrict (List.replicate 35 0)).length = 1 * 43 + 5 := by decide +kernel
example : Gen.base62StdStrict.strict = Gen.base62StdStrict := rfl

end Saltpack.Props.C10
