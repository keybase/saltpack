/-
  Property C13 — write-split independence of the WHOLE sender streams at byte
  level, header packet included (Model/SenderStream.lean: constructor, `Write`*,
  `Close` of `encryptStream` / `signcryptSealStream` / `signAttachedStream` /
  `signDetachedStream` as state machines over an underlying writer), as a
  corollary of `SenderP.run_success`: the bytes a successful run
  leaves at the writer are the all-at-once output of the CONCATENATED plaintext
  (`Sender.oneShot` = `Encrypt.sealWith` / `Sign.attachedWith` /
  `Signcrypt.sealWith`, whose chunk plan is the one `C13_write_independent`
  speaks about), whatever the split — empty writes included.
  Checked against the real constructors by the correspondence streams
  `sender.split.*`.

  PARTIAL in one respect (hence the name): the statements are about runs whose
  calls REPORT success.  That over a never-failing writer every call does
  report success whenever the all-at-once form exists (no `ErrPacketOverflow`)
  is Props/C13SenderFull.lean.
-/
import Saltpack.Proofs.SenderStreamInst

namespace Saltpack.Props.C13
open Saltpack Saltpack.Sender Saltpack.Proofs.SenderP

/-- **Two splits of the same plaintext, same bytes** (any underlying writer):
    if both runs report success in every call, what the writer accepted is the
    same — the all-at-once output of the concatenation — and every `Write`
    returned the length of its argument. -/
theorem C13_sender_stream_independent_partial {ω : Type} (wr : ω → Bytes → Bool × ω) (obs : ω → Bytes)
    (hw : ObsWriter wr obs) (cfg : Cfg) (hp : ∀ b, (cfg.pieces b).flatten = b) (hb : 0 < cfg.bs)
    (hif : IndexFail cfg.pkt) (v : Version) (hv : cfg.v1shape = (v == v1)) (w0 : ω) (headerBytes : Bytes)
    (ws ws' : List Bytes) (hsame : ws.flatten = ws'.flatten)
    (hi : (PSt.init wr cfg.pieces w0 headerBytes).1 = true)
    (hws : ∀ x ∈ (PSt.writes wr cfg (PSt.init wr cfg.pieces w0 headerBytes).2 ws).1, x.2 = none)
    (hc : ((PSt.writes wr cfg (PSt.init wr cfg.pieces w0 headerBytes).2 ws).2.close wr cfg).1 = none)
    (hws' : ∀ x ∈ (PSt.writes wr cfg (PSt.init wr cfg.pieces w0 headerBytes).2 ws').1, x.2 = none)
    (hc' : ((PSt.writes wr cfg (PSt.init wr cfg.pieces w0 headerBytes).2 ws').2.close wr cfg).1 = none) :
    obs ((PSt.writes wr cfg (PSt.init wr cfg.pieces w0 headerBytes).2 ws).2.close wr cfg).2.codec.w =
      obs ((PSt.writes wr cfg (PSt.init wr cfg.pieces w0 headerBytes).2 ws').2.close wr cfg).2.codec.w ∧
    ∃ M, oneShot cfg v headerBytes ws.flatten = .ok M ∧
      obs ((PSt.writes wr cfg (PSt.init wr cfg.pieces w0 headerBytes).2 ws).2.close wr cfg).2.codec.w = obs w0 ++ M := by
  obtain ⟨B, hB, ho, _⟩ := run_success wr obs hw cfg hp hb hif v hv w0 headerBytes ws hi hws hc
  obtain ⟨B', hB', ho', _⟩ := run_success wr obs hw cfg hp hb hif v hv w0 headerBytes ws' hi hws' hc'
  rw [← hsame, hB] at hB'
  injection hB' with hB'
  refine ⟨by rw [ho, ho', hB'], headerPacket headerBytes ++ B, by simp [oneShot, hB], by rw [ho, List.append_assoc]⟩

/-- the stream = the all-at-once sender, for encryption: a successful run over
    the scripted writer leaves exactly `Encrypt.sealWith` of the concatenated
    plaintext, so any two splits give identical messages, identical in form to
    the all-at-once result -/
theorem C13_encrypt_stream_is_seal_partial (P : Prims) (bs : Nat) (hb : 0 < bs) (pieces : Bytes → List Bytes)
    (hp : ∀ b, (pieces b).flatten = b) (v : Version) (sender : Option Bytes) (rs : List Encrypt.Recipient)
    (eph pk : Bytes) (hbytes : Bytes) (cfg : Cfg) (hs : encryptSetup P bs pieces v sender rs eph pk = .ok (hbytes, cfg))
    (ws : List Bytes)
    (hi : (PSt.init Wr.write cfg.pieces ({} : Wr) hbytes).1 = true)
    (hws : ∀ x ∈ (PSt.writes Wr.write cfg (PSt.init Wr.write cfg.pieces ({} : Wr) hbytes).2 ws).1, x.2 = none)
    (hc : ((PSt.writes Wr.write cfg (PSt.init Wr.write cfg.pieces ({} : Wr) hbytes).2 ws).2.close Wr.write cfg).1 = none) :
    Encrypt.sealWith P bs v sender rs eph pk ws.flatten =
      .ok ((PSt.writes Wr.write cfg (PSt.init Wr.write cfg.pieces ({} : Wr) hbytes).2 ws).2.close Wr.write cfg).2.codec.w.bytes := by
  have hm := encrypt_mode P bs hb pieces hp v sender rs eph pk hbytes cfg hs
  obtain ⟨B, hB, ho, _⟩ := run_success Wr.write Wr.bytes wr_obs cfg hm.pieces hm.bs_pos hm.refuse v hm.shape
    ({} : Wr) hbytes ws hi hws hc
  rw [hm.whole_iff, ho]
  simp [oneShot, hB, Wr.bytes]

/-- the detached-signature stream: any split, same signature packet — `Write`
    only extends the hashed message, the run is `Sign.detachedWith` of the
    concatenation (UNCONDITIONALLY a prefix of it; all of it when the constructor
    and `Close` report success) -/
theorem C13_detached_stream_independent (pieces : Bytes → List Bytes) (hbytes : Bytes) (sp : Bytes → Bytes)
    (sink : Stream.Sink) (part : List Nat) (ws ws' : List Bytes) (hsame : ws.flatten = ws'.flatten) :
    (DSt.writes (DSt.init Wr.write pieces ({ sink := sink, part := part } : Wr) hbytes).2 ws).2.close Wr.write pieces sp =
      (DSt.writes (DSt.init Wr.write pieces ({ sink := sink, part := part } : Wr) hbytes).2 ws').2.close Wr.write pieces sp := by
  rw [(det_writes ws _).1, (det_writes ws' _).1, hsame]

/-! ## non-vacuity: three splits of [1,2,3,4,5] (toy configuration: 2-byte blocks) -/

private def toy : Cfg :=
  { bs := 2, v1shape := false, hasErr := true,
    pkt := fun i c f => .ok ([UInt8.ofNat i, if f then 1 else 0] ++ c), pieces := fun b => b.map ([·]) }

private def run (ws : List Bytes) : Bool × List (Nat × Option Err) × Option Err × Bytes :=
  let i := PSt.init Wr.write toy.pieces ({} : Wr) [7]
  let r := PSt.writes Wr.write toy i.2 ws
  let c := r.2.close Wr.write toy
  (i.1, r.1, c.1, c.2.codec.w.bytes)

example : (run [[1, 2, 3, 4, 5]]).2.2 = (none, [0xc4, 1, 7, 0, 0, 1, 2, 1, 0, 3, 4, 2, 1, 5]) := by decide +kernel
example : (run [[1], [], [2, 3], [4], [], [5], []]).2.2 = (run [[1, 2, 3, 4, 5]]).2.2 := by decide +kernel
example : (run [[1, 2], [3, 4], [5]]).2.2 = (run [[1, 2, 3, 4, 5]]).2.2 := by decide +kernel
example : oneShot toy v2 [7] [1, 2, 3, 4, 5] = .ok [0xc4, 1, 7, 0, 0, 1, 2, 1, 0, 3, 4, 2, 1, 5] := by decide +kernel

end Saltpack.Props.C13
