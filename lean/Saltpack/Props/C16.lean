/-
  Property C16 — stream classification is correct, prefix-stable and
  side-effect free.  The statements, each with the last step of its proof where
  no other file needs that step; the lemmas are in Saltpack/Proofs/ClassifyLemmas.lean
  (+ ClassifyAux, ClassifyCodec).

  `Classify.binarySlice`, `armoredPrefix`, `classifyStream` model
  `IsSaltpackBinarySlice`, `IsSaltpackArmoredPrefix` (its three regular
  expressions re-implemented as recognisers) and `ClassifyStream`; they are
  compared with the implementation on every prefix length of genuine messages
  of all modes × versions × brands × re-flows, on bufio readers of sizes from
  the documented minimum upward, and on ~2 000 non-saltpack and near-miss
  strings per quick run.  The dispatch of `ClassifyEncryptedStreamAndMakeDecoder`
  is checked by the implementation-side predicate (same plaintext and identities
  as the direct entry point).
  Prefix stability of the armored classifier: here for every prefix of the frame
  line — canonical or re-flowed —, for the frame with its period, and for texts
  that do not yet show a full first block; with the first block present in
  Props/C16Stable.lean (`C16_armored_ok_stable`) and, for every genuine message,
  Props/C16Genuine.lean.  Non-consumption itself (the reader still delivers every byte
  afterwards) is observed by the correspondence (remaining-bytes check); the
  model side is `C16_peeks_only`.
-/
import Saltpack.Proofs.ClassifyLemmas

namespace Saltpack.Props.C16
open Saltpack Saltpack.Classify Saltpack.Msgpack Saltpack.Proofs

/-- fewer than 23 bytes: "more data is needed" — never "not saltpack" -/
theorem C16_binary_short (b : Bytes) (h : b.length < 23) : binarySlice b = .short := by
  rw [CodecMono.binarySlice_eq, if_pos h]

/-- **Binary classification is correct** for every header start a
    spec-following sender can write — any bin tag width, any array tag width, the
    format name, `[major, minor]` (also unknown minors), the mode: these fit in
    23 bytes even with bin32 and array32 tags — whatever follows… -/
theorem C16_binary_correct (btag atag tail : Bytes) (hb : IsBinTag btag) (ha : IsArrTag atag)
    (ma mi t : Nat) (hma : ma < 128) (hmi : mi < 128) (ht : isMode (t : Int) = true)
    (hlen : 23 ≤ (btag ++ atag ++ encode (.str Gen.c_sp_FormatName) ++ encode (.arr [.int ma, .int mi]) ++ encode (.int t) ++ tail).length) :
    binarySlice (btag ++ atag ++ encode (.str Gen.c_sp_FormatName) ++ encode (.arr [.int ma, .int mi]) ++ encode (.int t) ++ tail) =
      .ok ((t : Int), ⟨ma, mi⟩) :=
  bin_correct btag atag tail hb ha ma mi t hma hmi ht hlen

/-- …and **prefix-stable**: every prefix of at least 23 bytes gets the same answer -/
theorem C16_binary_prefix_stable (btag atag tail : Bytes) (hb : IsBinTag btag) (ha : IsArrTag atag)
    (ma mi t : Nat) (hma : ma < 128) (hmi : mi < 128) (ht : isMode (t : Int) = true) (k : Nat) (hk : 23 ≤ k)
    (hlen : 23 ≤ (btag ++ atag ++ encode (.str Gen.c_sp_FormatName) ++ encode (.arr [.int ma, .int mi]) ++ encode (.int t) ++ tail).length) :
    binarySlice ((btag ++ atag ++ encode (.str Gen.c_sp_FormatName) ++ encode (.arr [.int ma, .int mi]) ++ encode (.int t) ++ tail).take k) =
      .ok ((t : Int), ⟨ma, mi⟩) :=
  bin_correct_prefix btag atag tail hb ha ma mi t hma hmi ht k hk hlen

/-- **Soundness**: whatever is classified really carries, in this order, a bin
    tag, an array tag, and — as go-codec's typed decoders (`Model/Codec.lean`) read
    them from the bytes that follow — the saltpack format name (`Decode(&string)`:
    bin, str or an array of small ints), that version (`Decode(&Version)`) and that
    mode (`Decode(&MessageType)`) -/
theorem C16_binary_sound (b : Bytes) (t : Int) (v : Version) (h : binarySlice b = .ok (t, v)) :
    isMode t = true ∧ 23 ≤ b.length ∧
    ∃ skip askip r1 r2 r3,
      (skip = 2 ∨ skip = 3 ∨ skip = 5) ∧ (askip = 1 ∨ askip = 3 ∨ askip = 5) ∧
      decName (b.drop (skip + askip)) = .ok (Gen.c_sp_FormatName, r1) ∧
      decVersionTop r1 = .ok (v, r2) ∧
      decMode r2 = .ok (t, r3) :=
  bin_sound b t v h

theorem C16_only_four_modes (b : Bytes) (t : Int) (v : Version) (h : binarySlice b = .ok (t, v)) :
    t = mtEncryption ∨ t = mtAttached ∨ t = mtDetached ∨ t = mtSigncryption :=
  bin_modes b t v h

/-- **Armored, prefix stability (frame)**: every prefix of a genuine frame line —
    any armorable type, any alphanumeric brand — is "short", never "not saltpack" -/
theorem C16_armored_frame_prefix (typ : Int) (ht : Armorable typ) (brand : Bytes) (hb : BrandOK brand) (k : Nat) :
    armoredPrefix ((Armor.header typ brand).take k) = .short :=
  arm_frame_prefix_short typ ht brand hb k

/-- **Armored, prefix stability (before the first block)**: the frame with its
    period but fewer than 43 payload characters is "short" -/
theorem C16_armored_needs_block (typ : Int) (ht : Armorable typ) (brand : Bytes) (hb : BrandOK brand) (body : Bytes)
    (hbody : ∀ c ∈ body, isAlnum c = true ∨ c = Armor.space)
    (hfew : (body.filter (· != Armor.space)).length < 43) :
    armoredPrefix (Armor.header typ brand ++ [Armor.period, Armor.space] ++ body) = .short := by
  have := arm_needs_block_gen typ ht brand hb (Armor.space :: body)
    (fun c hc => (List.mem_cons.mp hc).elim Or.inr (hbody c))
    (by rw [List.filter_cons, if_neg (by decide)]; exact hfew)
  simpa using this

/-- **Armored, prefix stability (re-flowed frame)**: every prefix of every
    *variant* of a genuine frame line (separating spaces replaced by arbitrary
    non-empty runs of space / tab / CR / LF / '>', such runs added around — the
    notion of C11) is "short", never "not saltpack" -/
theorem C16_armored_reflowed_prefix (typ : Int) (ht : Armorable typ) (brand : Bytes) (hb : BrandOK brand)
    (f' : Bytes) (hv : FrameVariant (Armor.header typ brand) f') (k : Nat) :
    armoredPrefix (f'.take k) = .short := by
  open Saltpack.Armor ClsAux in
  rw [armoredPrefix_norm]
  unfold collapse
  obtain ⟨j, hj⟩ := collapseAux_take_prefix f' false k
  rw [hj]
  have hasc : ∀ c ∈ collapseAux false f', c < 128 := by
    intro c hc
    rcases collapseAux_mem f' false c hc with h | h
    · exact valid_lt c (hv.valid c h)
    · subst h; decide
  obtain ⟨p, q, hp, hq, hC⟩ := trimSpace_decomp _ hasc
  have hn : trimSpace (collapseAux false f') = header typ brand := hv.norm
  rw [hn] at hC
  rw [hC]
  by_cases hjp : j ≤ p.length
  · rw [List.append_assoc, List.take_append_of_le_length hjp]
    have : trimSpace (p.take j) = [] := by
      have := trimSpace_pre (p.take j) [] (fun c hc => (hp c (List.mem_of_mem_take hc)).1)
      rw [List.append_nil] at this
      rw [this]; rfl
    rw [this]
    decide
  · rw [List.append_assoc, List.take_append, List.take_of_length_le (by omega),
      trimSpace_pre _ _ (fun c hc => (hp c hc).1), List.take_append,
      trimSpace_post _ _ (fun c hc => (hq c (List.mem_of_mem_take hc)).1)]
    exact norm_frame_prefix_short typ ht brand hb _

/-- **Armored, prefix stability (the period)**: the frame line with just its period -/
theorem C16_armored_frame_period (typ : Int) (ht : Armorable typ) (brand : Bytes) (hb : BrandOK brand) :
    armoredPrefix (Armor.header typ brand ++ [Armor.period]) = .short := by
  simpa using arm_needs_block_gen typ ht brand hb [] (by simp) (by simp)

/-- …and with anything alphanumeric-or-space after the period that has fewer than
    43 payload characters (`C16_armored_needs_block` is the case of a space first) -/
theorem C16_armored_needs_block_gen (typ : Int) (ht : Armorable typ) (brand : Bytes) (hb : BrandOK brand) (w : Bytes)
    (hw : ∀ c ∈ w, isAlnum c = true ∨ c = Armor.space)
    (hfew : (w.filter (· != Armor.space)).length < 43) :
    armoredPrefix (Armor.header typ brand ++ [Armor.period] ++ w) = .short :=
  arm_needs_block_gen typ ht brand hb w hw hfew

/-- **Armored, soundness**: an answer is the binary classifier's answer on the
    bytes `dec` obtained by base62-decoding, block by block, the payload
    characters that *this very prefix* shows after its frame (`payload` is the
    regular expression's capture on the normalised prefix, `chars` its non-space
    characters; at least one full block, i.e. 32 bytes, was decoded), under the
    frame label of that very mode -/
theorem C16_armored_sound (pref brand : Bytes) (t : Int) (v : Version) (h : armoredPrefix pref = .ok (brand, t, v)) :
    ∃ typStr payload chars dec,
      matchHeader (Armor.trimSpace (Armor.collapse pref)) = some (brand, typStr, payload) ∧
      chars = payload.filter (· != Armor.space) ∧
      dec = (Basex.decodePrefix Gen.base62Std (chars.length + 1) chars).1 ∧
      32 ≤ dec.length ∧
      binarySlice dec = .ok (t, v) ∧
      (typStr = Gen.c_sp_EncryptionArmorString ∨ typStr = Gen.c_sp_SignedArmorString ∨
        typStr = Gen.c_sp_DetachedSignatureArmorString) ∧
      ((t = mtEncryption ∨ t = mtSigncryption) → typStr = Gen.c_sp_EncryptionArmorString) ∧
      (t = mtAttached → typStr = Gen.c_sp_SignedArmorString) ∧
      (t = mtDetached → typStr = Gen.c_sp_DetachedSignatureArmorString) := by
  open Saltpack.Armor ClsAux in
  rw [armoredPrefix_norm] at h
  rcases classifyNorm_cases (trimSpace (collapse pref)) with h' | h' | ⟨_, _, h'⟩ | ⟨brand', typStr, payload, hm, hlen, h'⟩
  any_goals (rw [h'] at h; cases h)
  rw [h'] at h
  obtain ⟨rfl, hbin, hlab⟩ := conclude_ok h
  have hty := matchHeader_type _ _ _ _ hm
  refine ⟨typStr, payload, _, _, hm, rfl, rfl, hlen, hbin, hty, ?_⟩
  have hmode := bin_modes _ _ _ hbin
  -- three frame labels, four modes: in each of the twelve cases `hlab` (the label does not contradict the mode)
  -- decides the three implications
  rcases hty with rfl | rfl | rfl <;> rcases hmode with rfl | rfl | rfl | rfl
  all_goals
    revert hlab
    decide

/-! ## the stream classifier -/

/-- **Peeks only**: the answer of `ClassifyStream` on a reader with buffer `size`
    depends on nothing but the first `size` bytes of the stream — exactly what
    `Peek(size)` returns without consuming.  (That the reader afterwards still
    delivers every byte is observed by the correspondence: remaining-bytes check.) -/
theorem C16_peeks_only (size : Nat) (a b : Bytes) (h : a.take size = b.take size) :
    classifyStream size a = classifyStream size b := by
  rw [stream_take size a, stream_take size b, h]

/-- **The stream classifier on a genuine binary message** (header start as in
    `C16_binary_correct`), for every reader buffer of at least 23 bytes: not
    armored, no brand, the mode and version of the header -/
theorem C16_stream_binary_correct (btag atag tail : Bytes) (hb : IsBinTag btag) (ha : IsArrTag atag)
    (ma mi t : Nat) (hma : ma < 128) (hmi : mi < 128) (ht : isMode (t : Int) = true) (size : Nat) (hs : 23 ≤ size)
    (hlen : 23 ≤ (btag ++ atag ++ encode (.str Gen.c_sp_FormatName) ++ encode (.arr [.int ma, .int mi]) ++ encode (.int t) ++ tail).length) :
    classifyStream size (btag ++ atag ++ encode (.str Gen.c_sp_FormatName) ++ encode (.arr [.int ma, .int mi]) ++ encode (.int t) ++ tail) =
      .ok (false, [], (t : Int), ⟨ma, mi⟩) :=
  stream_binary_correct btag atag tail hb ha ma mi t hma hmi ht size hs hlen

/-- a text that starts with a bin8/bin16/bin32 tag byte is never taken for armor -/
theorem C16_binary_not_armored (k : UInt8) (hk : k = 0xc4 ∨ k = 0xc5 ∨ k = 0xc6) (y : Bytes) :
    armoredPrefix (k :: y) = .notSaltpack :=
  arm_binlead k hk y

/-- **The stream classifier on armored input**: whatever the armored classifier
    answers on the peeked bytes is the stream's answer, flagged as armored -/
theorem C16_stream_armored_correct (size : Nat) (m brand : Bytes) (t : Int) (v : Version)
    (h : armoredPrefix (m.take size) = .ok (brand, t, v)) :
    classifyStream size m = .ok (true, brand, t, v) := by
  unfold classifyStream
  have hne : (m.take size).isEmpty = false := by
    cases hm : m.take size with
    | nil => rw [hm, show armoredPrefix [] = .short by decide] at h; cases h
    | cons _ _ => rfl
  simp only [hne, Bool.false_eq_true, if_false, h]

/-! ## non-vacuity -/
example : IsBinTag [0xc4, 0x97] ∧ IsArrTag [0x96] := ⟨Or.inl ⟨_, rfl⟩, Or.inl ⟨0x96, by decide, by decide, rfl⟩⟩
example : isMode (3 : Int) = true := by decide

end Saltpack.Props.C16
