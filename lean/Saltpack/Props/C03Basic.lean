/-
  Property C03 with the library's OWN keyring (package `basic`, model
  Saltpack/Model/Basic.lean): `SigncryptOpen` with a `basic.Keyring` — whose
  `GetAllBoxSecretKeys` iterates a Go map in an order of the runtime's choosing —
  returns exactly the plaintext and the sender.

  `order` is that iteration order: ANY permutation of the keyring's entries.
  `Honest`: stored public keys belong to their secrets (Props/C01Basic.lean).
  No hypothesis on key-id lengths is needed here: `signcryptOpenStream` never
  looks a box key up by its id, it derives identifiers from the secrets.
-/
import Saltpack.Proofs.BasicRT
import Saltpack.Proofs.Attribution
import Saltpack.Props.C03
import Saltpack.Toy

namespace Saltpack.Props.C03
open Saltpack Saltpack.Basic Saltpack.Encrypt Saltpack.Proofs Saltpack.Proofs.BasicRing

/-- `signcryptOpenStream.processHeader` consults a keyring through
    `ImportBoxEphemeralKey(header.Ephemeral)`, `GetAllBoxSecretKeys()` and
    `LookupSigningPublicKey(sender key)` only: if `kr2` (which returns sender
    keys as they are) processes a header to `(log, r)`, so does every `kr1` that
    agrees on the first two and on the sender key `r` names, if any -/
theorem C03_basic_keyring_use (P : Prims) (kr1 kr2 : Saltpack.Keyring) (res : Signcrypt.Resolver) (hh : Bytes)
    (h : EncHeader)
    (hi : kr1.importBoxEphemeralKey h.ephemeral = kr2.importBoxEphemeralKey h.ephemeral)
    (ha : kr1.getAllBoxSecretKeys = kr2.getAllBoxSecretKeys)
    (h2 : ∀ k, kr2.lookupSigningPublicKey k = some k)
    (log : List KeyCall) (r : Except Err Signcrypt.State)
    (hph : Signcrypt.processHeader P kr2 res hh h = (log, r))
    (h1 : ∀ st k, r = .ok st → st.sender = some k → kr1.lookupSigningPublicKey k = some k) :
    Signcrypt.processHeader P kr1 res hh h = (log, r) :=
  sc_processHeader_transfer P kr1 kr2 res hh h hi ha h2 log r hph h1

/-- **what sender a basic keyring reports — any length of the sender field**:
    signcrypt_open.go hands the opened sender-key slice, WHATEVER its length (no
    `rawBoxKeyFromSlice` there), to `LookupSigningPublicKey`; `basic.Keyring`
    copies it into a 32-byte array (`kidToSigningPublicKey`: shorter fields are
    zero-padded, longer ones truncated) and never answers nil.  So whenever the
    header is accepted, the sender secretbox opened to some `senderKey`, and the
    sender reported is none for an all-zero field and `kidToPublicKey senderKey`
    otherwise — never `ErrNoSenderKey`.  (Whether the packets then verify under
    that 32-byte key is the signature check's business.)  Correspondence: the
    32-byte copy itself is driven for every length by the stream `basic.kid`;
    a whole MESSAGE with such a field cannot be made with the library's own
    sender (`signcryptSealStream.init` panics "unexpected signing key length"
    for a signing key whose KID is not 32 bytes) — only a hostile sender emits
    one, and the receiver path is the generic `processHeader` the `basic.sc.open.*`
    streams drive. -/
theorem C03_basic_reports_sender (P : Prims) (k : Basic.Keyring) (order : List SecretKey)
    (res : Signcrypt.Resolver) (hh : Bytes) (h : EncHeader) (log : List KeyCall) (st : Signcrypt.State)
    (hph : Signcrypt.processHeader P (k.toRing order) res hh h = (log, .ok st)) :
    ∃ senderKey, P.sbOpen st.payloadKey Nonce.senderKeySecretBox h.senderSecretbox = some senderKey ∧
      st.sender = (if senderKey.all (· == 0) then none else some (kidToPublicKey senderKey)) := by
  obtain ⟨_, _, _, ⟨senderKey, hs, hnone, hsome⟩, _⟩ :=
    Saltpack.Proofs.signcrypt_attribution P (k.toRing order) res hh h log st hph
  refine ⟨senderKey, hs, ?_⟩
  cases hsnd : st.sender with
  | none => rw [if_pos (hnone.1 hsnd)]
  | some spk =>
    have hz : ¬ senderKey.all (· == 0) = true := fun hz => by rw [hnone.2 hz] at hsnd; cases hsnd
    rw [if_neg hz]
    exact (hsome spk hsnd).symm

/-- the 32-byte copy: a 3-byte field is zero-padded, a 33-byte field truncated -/
example : kidToPublicKey [1, 2, 3] = [1, 2, 3] ++ List.replicate 29 0 ∧
    kidToPublicKey (List.replicate 32 7 ++ [9]) = List.replicate 32 7 := by decide +kernel

/-- **Box-key recipient, basic keyring that holds its key, with or without a
    resolver, any iteration order of the map** (`C03_roundtrip_box_ring` for the
    library's own keyring): opens to exactly the plaintext and the sender's
    signing public key (none for an anonymous sender).  `hnc` as there: up to
    position `i`, an identifier derived from a keyring entry equals a header
    identifier only for the entry made for that very key. -/
theorem C03_roundtrip_box_basic (P : Prims) (hP : P.Lawful) (bs : Nat) (hbs : 0 < bs)
    (sender : Option Bytes) (rs : List Signcrypt.Recipient) (eph payloadKey pt : Bytes)
    (hpk : payloadKey.length = 32)
    (hsender : ∀ s, sender = some s → ¬ ((P.sigPub s).all (· == 0)))
    (hblocks : (chunkPlan v2 bs pt).length < 2 ^ 64 - 1)
    (k : Basic.Keyring) (hh : Honest P k) (order : List SecretKey) (hperm : order.Perm k.encKeys)
    (res : Signcrypt.Resolver)
    (i : Nat) (hi : i < rs.length) (sk : Bytes) (hmem : (⟨P.boxPub sk, sk⟩ : SecretKey) ∈ k.encKeys)
    (hsk : rs.getD i default = .box (P.boxPub sk))
    (h : EncHeader) (hb : Bytes) (blks : List SigncryptBlock)
    (hseal : Signcrypt.sealPackets P bs sender rs eph payloadKey pt = .ok (h, hb, blks))
    (hnc : ∀ e ∈ k.encKeys, ∀ j, j ≤ i → j < rs.length →
      Signcrypt.keyIdentifier P (Signcrypt.derivedKeyFromBoxKeys P (P.boxPub eph) e.sec) j =
        Decrypt.kidOf (h.receivers.getD j default) →
      rs.getD j default = .box e.pub) :
    Signcrypt.openAll P (k.toRing order) res (.ok hb h) ⟨blks.map some, .eof⟩ = .ok (sender.map P.sigPub, pt) :=
  sc_open_sealed_toRing P hP bs sender rs eph payloadKey pt h hb blks hseal k order res
    (sc_roundtrip_box_seal_ring P hP bs hbs sender rs eph payloadKey pt hpk hsender hblocks
      (order.map SecretKey.sec) res i hi sk ((mem_secs_of_perm hperm).2 (List.mem_map.2 ⟨_, hmem, rfl⟩)) hsk h hb blks hseal
      (of_secs hperm fun e he j hji hj hid => hh e he ▸ hnc e he j hji hj hid))

/-- **Symmetric-key recipients: a basic keyring of foreign box keys (or an empty
    one) and a resolver** (`C03_roundtrip_sym_ring`) -/
theorem C03_roundtrip_sym_basic (P : Prims) (hP : P.Lawful) (bs : Nat) (hbs : 0 < bs)
    (sender : Option Bytes) (rs : List Signcrypt.Recipient) (eph payloadKey pt : Bytes)
    (hpk : payloadKey.length = 32)
    (hsender : ∀ s, sender = some s → ¬ ((P.sigPub s).all (· == 0)))
    (hblocks : (chunkPlan v2 bs pt).length < 2 ^ 64 - 1)
    (h : EncHeader) (hb : Bytes) (blks : List SigncryptBlock)
    (hseal : Signcrypt.sealPackets P bs sender rs eph payloadKey pt = .ok (h, hb, blks))
    (k : Basic.Keyring) (order : List SecretKey) (hperm : order.Perm k.encKeys)
    (hfor : ∀ e ∈ k.encKeys, ∀ j, j < h.receivers.length →
      Signcrypt.keyIdentifier P (Signcrypt.derivedKeyFromBoxKeys P (P.boxPub eph) e.sec) j ≠
        Decrypt.kidOf (h.receivers.getD j default))
    (f : List Bytes → Except Err (List (Option Bytes))) (keys : List (Option Bytes))
    (hf : f (h.receivers.map Decrypt.kidOf) = .ok keys) (hlen : keys.length = rs.length)
    (htrue : ∀ (j : Nat) (key : Bytes), keys[j]? = some (some key) → ∃ ident, rs[j]? = some (Signcrypt.Recipient.sym key ident))
    (hsome : ∃ (j : Nat) (key : Bytes), keys[j]? = some (some key)) :
    Signcrypt.openAll P (k.toRing order) (some f) (.ok hb h) ⟨blks.map some, .eof⟩ = .ok (sender.map P.sigPub, pt) :=
  sc_open_sealed_toRing P hP bs sender rs eph payloadKey pt h hb blks hseal k order (some f)
    (sc_roundtrip_sym_seal_ring P hP bs hbs sender rs eph payloadKey pt hpk hsender hblocks h hb blks hseal
      (order.map SecretKey.sec) (of_secs hperm hfor) f keys hf hlen htrue hsome)

/-- **no recipient key in the basic keyring** (no entry produces the identifier
    of a header entry) and a resolver that resolves nothing, or none:
    `noDecryptionKey`, nothing released (`C03_no_key`) -/
theorem C03_no_key_basic (P : Prims) (hP : P.Lawful) (bs : Nat)
    (sender : Option Bytes) (rs : List Signcrypt.Recipient) (eph payloadKey pt : Bytes)
    (h : EncHeader) (hb : Bytes) (blks : List SigncryptBlock)
    (hseal : Signcrypt.sealPackets P bs sender rs eph payloadKey pt = .ok (h, hb, blks))
    (k : Basic.Keyring) (order : List SecretKey) (hperm : order.Perm k.encKeys)
    (hfor : ∀ e ∈ k.encKeys, ∀ j, j < h.receivers.length →
      Signcrypt.keyIdentifier P (Signcrypt.derivedKeyFromBoxKeys P (P.boxPub eph) e.sec) j ≠
        Decrypt.kidOf (h.receivers.getD j default))
    (res : Signcrypt.Resolver)
    (hres : ∀ f, res = some f → ∃ keys, f (h.receivers.map Decrypt.kidOf) = .ok keys ∧
      keys.length = rs.length ∧ ∀ k ∈ keys, k = none) :
    Signcrypt.openAll P (k.toRing order) res (.ok hb h) ⟨blks.map some, .eof⟩ = .error .noDecryptionKey ∧
    (Signcrypt.openStream P (k.toRing order) res (.ok hb h) ⟨blks.map some, .eof⟩).released = [] := by
  obtain ⟨hhd, _, _⟩ := RTSig.sc_sealPackets_inv P bs sender rs eph payloadKey pt h hb blks hseal
  obtain ⟨log, hph⟩ := sc_processHeader_no_key P sender rs eph payloadKey h
    (hhd ▸ scHdrOK_header P sender eph payloadKey rs) (order.map SecretKey.sec) (of_secs hperm hfor) res hres (P.hash hb)
  have hph' := sc_processHeader_toRing P k order res (P.hash hb) h
    (by rw [sc_hdr_ephemeral P bs sender rs eph payloadKey pt h hb blks hseal]; exact hP.pub_len eph)
    log _ hph (fun _ _ hst => by cases hst)
  have hst : Signcrypt.openStream P (k.toRing order) res (.ok hb h) ⟨blks.map some, .eof⟩ =
      ⟨none, [], some .noDecryptionKey, log⟩ := by
    simp only [Signcrypt.openStream, hph']
  exact ⟨by unfold Signcrypt.openAll; rw [hst], by rw [hst]⟩

/-- **Round trip on the emitted BYTES**, box-key recipient, basic keyring -/
theorem C03_roundtrip_box_bytes_basic (P : Prims) (hP : P.Lawful) (bs : Nat) (hbs : 0 < bs) (hbs32 : bs + 80 < 2 ^ 32)
    (sender : Option Bytes) (rs : List Signcrypt.Recipient) (eph payloadKey pt : Bytes)
    (hpk : payloadKey.length = 32)
    (hsender : ∀ s, sender = some s → ¬ ((P.sigPub s).all (· == 0)))
    (hblocks : (chunkPlan v2 bs pt).length < 2 ^ 64 - 1)
    (k : Basic.Keyring) (hh : Honest P k) (order : List SecretKey) (hperm : order.Perm k.encKeys)
    (res : Signcrypt.Resolver)
    (i : Nat) (hi : i < rs.length) (sk : Bytes) (hmem : (⟨P.boxPub sk, sk⟩ : SecretKey) ∈ k.encKeys)
    (hsk : rs.getD i default = .box (P.boxPub sk))
    (hnc : ∀ e ∈ k.encKeys, ∀ j, j ≤ i → j < rs.length →
      Signcrypt.keyIdentifier P (Signcrypt.derivedKeyFromBoxKeys P (P.boxPub eph) e.sec) j =
        Decrypt.kidOf ((Signcrypt.header P sender eph payloadKey rs).receivers.getD j default) →
      rs.getD j default = .box e.pub)
    (L : Nat) (hL32 : 32 ≤ L)
    (hid : ∀ key ident, Signcrypt.Recipient.sym key ident ∈ rs → ident.length ≤ L)
    (hsmall : 145 + rs.length * (L + 63) < 2 ^ 32)
    (msg : Bytes) (hmsg : Signcrypt.sealWith P bs sender rs eph payloadKey pt = .ok msg) :
    ∃ hr ps, Wire.splitSigncrypt msg = .ok (hr, ps) ∧
      Signcrypt.openAll P (k.toRing order) res hr ps = .ok (sender.map P.sigPub, pt) := by
  obtain ⟨hb, blks, hs, hsplit⟩ := WireRT.sc_bytes_split P hP bs hbs hbs32 sender rs eph payloadKey pt hpk L hL32 hid
    hsmall msg hmsg
  exact ⟨_, _, hsplit, C03_roundtrip_box_basic P hP bs hbs sender rs eph payloadKey pt hpk hsender hblocks k hh order hperm
    res i hi sk hmem hsk _ hb blks hs hnc⟩

/-! ## non-vacuity (toy primitives, evaluated by the kernel) -/

/-- seal the message of the examples and open it with a keyring / resolver -/
def toyScOpen (kr : Saltpack.Keyring) (res : Signcrypt.Resolver) (sender : Option Bytes)
    (rs : List Signcrypt.Recipient) : Except Err (Option Bytes × Bytes) :=
  match Signcrypt.sealPackets Toy.prims 4 sender rs [2] (Toy.pad 32 [9]) [1, 2, 3, 4, 5] with
  | .ok (h, hb, blks) => Signcrypt.openAll Toy.prims kr res (.ok hb h) ⟨blks.map some, .eof⟩
  | .error e => .error e

/-- the basic keyring holding the box key `[4]` (position 1 of `toyRs`) opens the
    message, in whichever order its single entry is iterated; the resolver is
    never consulted -/
example : toyScOpen (Basic.Keyring.empty.importAll [⟨Toy.prims.boxPub [4], [4]⟩]).ring
    (some (fun _ => .error .ioError)) (some [1]) toyRs = .ok (some (Toy.prims.sigPub [1]), [1, 2, 3, 4, 5]) := by decide +kernel

/-- symmetric-key recipients: a basic keyring with a foreign key + a resolver -/
example : toyScOpen (Basic.Keyring.empty.importAll [⟨Toy.prims.boxPub [7], [7]⟩]).ring
    (some (fun _ => .ok [none, some (Toy.pad 32 [1])])) none toySyms = .ok (none, [1, 2, 3, 4, 5]) := by decide +kernel

/-- two foreign keys, no resolver: `noDecryptionKey` in both iteration orders -/
example :
    toyScOpen (Basic.Keyring.empty.importAll [⟨Toy.prims.boxPub [7], [7]⟩, ⟨Toy.prims.boxPub [8], [8]⟩]).ring none none
      toySyms = .error .noDecryptionKey ∧
    toyScOpen ((Basic.Keyring.empty.importAll [⟨Toy.prims.boxPub [7], [7]⟩, ⟨Toy.prims.boxPub [8], [8]⟩]).toRing
      [⟨Toy.prims.boxPub [8], [8]⟩, ⟨Toy.prims.boxPub [7], [7]⟩]) none none toySyms = .error .noDecryptionKey := by
  decide +kernel

end Saltpack.Props.C03
