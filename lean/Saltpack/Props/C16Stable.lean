/-
  Property C16 — prefix stability of the ARMORED classifier once
  the first base62 block is present, and of the binary classifier.

  `IsSaltpackArmoredPrefix` normalises the text, matches the frame expression up
  to its period, captures the alphanumeric/space run after it, base62-decodes the
  captured characters block by block and hands ALL decoded bytes to
  `IsSaltpackBinarySlice`.  Stability of a definite verdict under extension of
  the text is FALSE in general (four concrete counterexamples below, each checked
  on the real code, see notes/ext-d.md):

  * the characters after the last full block are decoded as a SHORT final block;
    when the text grows they become part of a longer block and decode to other
    bytes.  A header whose fields reach beyond the first 32 decoded bytes (legal
    MessagePack with non-minimal widths) is therefore classified differently on a
    prefix and on its extension (`C16_armored_unstable_mode`: signcryption, then
    encryption; `C16_armored_unstable_not`: "not saltpack", then encryption);
  * `strings.TrimSpace` strips Unicode white space: a prefix that ends inside the
    UTF-8 encoding of such a rune is normalised differently from its extension
    (`C16_armored_unstable_utf8_front`, `…_back`).

  The true statement, proved here for ALL texts: an ASCII prefix `p` that shows
  the frame, its period and one full block whose 32 decoded bytes alone decide the
  binary verdict is classified like every extension `p ++ q` (arbitrary bytes
  `q`).  "Decide" holds in particular whenever the binary classifier answers with
  a mode on the first block (`C16_binary_ok_stable`) — which is the case for every
  header a spec-following sender writes (17 bytes).
-/
import Saltpack.Proofs.ClassifyStable

namespace Saltpack.Props.C16
open Saltpack Saltpack.Classify Saltpack.Msgpack Saltpack.Proofs Saltpack.Proofs.ClsStable

/-- **Binary, stability of a verdict**: a mode/version answer on a slice is the
    answer on every extension of the slice (all inputs, also hostile ones) -/
theorem C16_binary_ok_stable (b e : Bytes) (t : Int) (v : Version) (h : binarySlice b = .ok (t, v)) :
    binarySlice (b ++ e) = .ok (t, v) :=
  bin_ok_stable b e t v h

/-- the generic MessagePack parser of `Model/Msgpack.lean` is local as well: an object read from
    the front of `b` is read, to the same value, from the front of every extension -/
theorem C16_parse_extension (b : Bytes) (v : Val) (r e : Bytes) (h : parse1 b = .ok (v, r)) :
    parse1 (b ++ e) = .ok (v, r ++ e) :=
  (MpMono.mono_all _).1 b v r h e _ (by rw [List.length_append]; omega)

/-- **Armored, prefix stability once the first block is present.**  `p`: ASCII
    text whose normal form matches the frame expression (`brand`, frame type
    `typStr`, captured run `payload`) and whose captured characters decode to at
    least 32 bytes (the code's own condition); `hset`: the first decoded block
    alone decides the binary verdict (`Decides (firstBlockOf payload)`, written
    out).  Then every extension — by arbitrary bytes — gets the verdict of `p`. -/
theorem C16_armored_prefix_stable (p q : Bytes) (hp : ∀ c ∈ p, c < 128) (brand typStr payload : Bytes)
    (h : matchHeader (Armor.trimSpace (Armor.collapse p)) = some (brand, typStr, payload))
    (h32 : 32 ≤ (decOf payload).length)
    (hset : ∀ e, binarySlice (firstBlockOf payload ++ e) = binarySlice (firstBlockOf payload)) :
    armoredPrefix (p ++ q) = armoredPrefix p :=
  arm_block_stable p q hp brand typStr payload h h32 hset

/-- the verdict in that situation is never "short": it is what the frame label and
    the binary classifier (on the decoded bytes) conclude -/
theorem C16_armored_block_verdict (p brand typStr payload : Bytes)
    (h : matchHeader (Armor.trimSpace (Armor.collapse p)) = some (brand, typStr, payload))
    (h32 : 32 ≤ (decOf payload).length) :
    armoredPrefix p = conclude brand typStr (binarySlice (decOf payload)) :=
  arm_block_verdict p brand typStr payload h h32

/-- **a mode/version carried by the first block never changes**: if the binary
    classifier answers `r` on the first decoded block, then `p` and every
    extension are classified `r` under that frame (or both "not saltpack" when
    the frame label contradicts the mode) -/
theorem C16_armored_ok_stable (p q : Bytes) (hp : ∀ c ∈ p, c < 128) (brand typStr payload : Bytes)
    (h : matchHeader (Armor.trimSpace (Armor.collapse p)) = some (brand, typStr, payload))
    (h32 : 32 ≤ (decOf payload).length)
    (r : Int × Version) (hok : binarySlice (firstBlockOf payload) = .ok r) :
    armoredPrefix (p ++ q) = conclude brand typStr (.ok r) ∧ armoredPrefix p = conclude brand typStr (.ok r) :=
  arm_ok_stable p q hp brand typStr payload h h32 r hok

/-- the normal form of an ASCII prefix is a prefix of the normal form of every
    extension (the step that fails for non-ASCII prefixes) -/
theorem C16_norm_prefix (p q : Bytes) (hp : ∀ c ∈ p, c < 128) (hne : Armor.trimSpace (Armor.collapse p) ≠ []) :
    ∃ x, Armor.trimSpace (Armor.collapse (p ++ q)) = Armor.trimSpace (Armor.collapse p) ++ x :=
  norm_append p q hp hne

/-- the header expression on an extension: same brand, same frame type, the
    captured run grows -/
theorem C16_header_extension (s brand t pl x : Bytes) (h : matchHeader s = some (brand, t, pl)) :
    ∃ rest, pl = rest.takeWhile okc ∧ matchHeader (s ++ x) = some (brand, t, (rest ++ x).takeWhile okc) :=
  matchHeader_append s brand t pl x h

/-! ## the counterexamples (stability is false without the hypotheses) -/

/-- `BEGIN SALTPACK ENCRYPTED MESSAGE. ` + the block of a 32-byte header start
    `c6 00000040 dd 00000006 db 00000008 "saltpack" 92 ce 00000002 cd 0000` (the
    mode byte is byte 32) -/
def cePrefix : Bytes := "BEGIN SALTPACK ENCRYPTED MESSAGE. kx161UDnMIA4ddB3Vp9eTheOHnFkYmrJ596yPSuMi7E".toUTF8.toList

/-- **unstable mode**: the trailing `03` is a short block (one byte, 3 =
    signcryption); with one more character `03z` decodes to `00 f7` and the
    message is an encryption message -/
theorem C16_armored_unstable_mode :
    armoredPrefix (cePrefix ++ [48, 51]) = .ok ([], 3, ⟨2, 0⟩) ∧
    armoredPrefix (cePrefix ++ [48, 51] ++ [122]) = .ok ([], 0, ⟨2, 0⟩) := by
  decide +kernel

/-- a frame and a first block whose version array is cut off by the end of the block -/
def ceNotPrefix : Bytes :=
  "BEGIN SALTPACK ENCRYPTED MESSAGE. ".toUTF8.toList ++
    Basex.encode Gen.base62Std.strict ([0xc4, 0x40, 0x96, 0xa8] ++ Gen.c_sp_FormatName ++
      [0x9f, 2, 0, 0xcf, 0, 0, 0, 0, 0, 0, 0, 0, 0xcf, 0, 0, 0, 0, 0, 0, 0])

/-- **"not saltpack" is not final**: the version array cut off by the end of the
    first block is complete after the second -/
theorem C16_armored_unstable_not :
    armoredPrefix ceNotPrefix = .notSaltpack ∧
    armoredPrefix (ceNotPrefix ++ Basex.encode Gen.base62Std.strict (List.replicate 32 0)) = .ok ([], 0, ⟨2, 0⟩) := by
  decide +kernel

/-- **UTF-8 white space, front**: `c2` is "not saltpack"; `c2 a0` (a no-break
    space) in front of an armored message is trimmed away -/
theorem C16_armored_unstable_utf8_front :
    armoredPrefix [0xc2] = .notSaltpack ∧
    armoredPrefix ([0xc2] ++ [0xa0] ++ "BEGIN".toUTF8.toList) = .short := by
  decide +kernel

/-- **UTF-8 white space, back**: `BEGIN e2 80` is "not saltpack", `BEGIN e2 80 80`
    (an en quad) is "short" -/
theorem C16_armored_unstable_utf8_back :
    armoredPrefix ("BEGIN".toUTF8.toList ++ [0xe2, 0x80]) = .notSaltpack ∧
    armoredPrefix ("BEGIN".toUTF8.toList ++ [0xe2, 0x80] ++ [0x80]) = .short := by
  decide +kernel

/-! ## non-vacuity -/

/-- a genuine frame and first block (header `c4 40 96 a8 "saltpack" 92 02 00 00 …`):
    all hypotheses of `C16_armored_ok_stable` hold -/
def okPrefix : Bytes :=
  "BEGIN KEYBASE SALTPACK ENCRYPTED MESSAGE. ".toUTF8.toList ++
    Basex.encode Gen.base62Std.strict ([0xc4, 0x40, 0x96, 0xa8] ++ Gen.c_sp_FormatName ++
      [0x92, 2, 0, 0, 0xc4, 0x20] ++ List.replicate 14 7)

def okPayload : Bytes := okPrefix.drop 41

example : okPrefix.all (fun c => c < 128) = true ∧
    matchHeader (Armor.trimSpace (Armor.collapse okPrefix)) =
        some ("KEYBASE".toUTF8.toList, Gen.c_sp_EncryptionArmorString, okPayload) ∧
      32 ≤ (decOf okPayload).length ∧ binarySlice (firstBlockOf okPayload) = .ok (0, ⟨2, 0⟩) := by
  decide +kernel

end Saltpack.Props.C16
