/-
  Property C14 — I/O faults are reported, never swallowed, "so Close never
  reports success for a message that was not completely written": the BARE
  armor encoder stream (`NewArmor62EncoderStream`, public API; armor.go
  `armorEncoderStream.Write` / `spaceAndOutputBuffer` / `Close` after fix
  5ad1caa, defect D13) as the per-call machine `Sender.FArm`
  (Model/SenderStream.lean) over the scripted writer `Wr`, whose k-th `Write`
  fails as `sink` says.  Checked call by call, with the caller carrying on after
  errors, against the real `NewArmor62EncoderStream` by the correspondence
  stream `sender.fault.armorbare` (harness/cmd/corr/ext_B_armor.go).

  Every theorem holds for EVERY payload, every split into `Write`s (empty ones
  included), every fault script, and whatever the individual calls returned —
  `FArm.calls` runs all the calls regardless (a retrying caller).
-/
import Saltpack.Proofs.ArmorWriterFaults
import Saltpack.Proofs.ArmoredSenderWritten
import Saltpack.Proofs.SenderStreamWhole

namespace Saltpack.Props.C14
open Saltpack Saltpack.Sender Saltpack.Proofs Saltpack.Proofs.SenderP

/-! ## sticky -/

/-- **sticky**: a call during which an underlying write failed leaves the stream
    failed (`s.err` set); a failed stream refuses every later call — any sequence
    of `Write`s and `Close`s returns `(0, error)` each — and nothing changes any
    more: not the writer, not the buffer, not the encoder.  (For a SINGLE call
    the third conjunct is the first line of `Write`/`Close` unfolded — `if s.err
    != nil { return 0, s.err }`; its content is the induction over arbitrary call
    sequences, and `C14_armor_stream_sticky_run` ties `failed` to "an underlying
    write has failed" along runs from the constructor.) -/
theorem C14_armor_stream_sticky (a : FArm) (b : Bytes) :
    ((a.write b).2.w.faults ≠ a.w.faults → (a.write b).2.failed = true) ∧
    (a.close.2.w.faults ≠ a.w.faults → a.close.2.failed = true) ∧
    (a.failed = true → ∀ ops : List (Option Bytes), FArm.calls a ops = (ops.map (fun _ => (0, false)), a)) :=
  ⟨farm_write_fault_sets_flag a b, farm_close_fault_sets_flag a, fun h ops => farm_calls_failed ops a h⟩

/-- …along whole runs: constructor, then ANY calls `ops1` (whatever they
    returned); if by then an underlying write has failed, every later call of
    `ops2` returns an error and nothing more reaches the writer -/
theorem C14_armor_stream_sticky_run (par : Armor.Params) (hdr ftr : Bytes) (sink : Stream.Sink) (part : List Nat)
    (ops1 ops2 : List (Option Bytes)) :
    let i := FArm.init par hdr ftr ({ sink := sink, part := part } : Wr)
    let a := (FArm.calls i.2 ops1).2
    i.1 = true → a.w.faults ≠ 0 →
      FArm.calls a ops2 = (ops2.map (fun _ => (0, false)), a) ∧ (FArm.calls a ops2).2.w.bytes = a.w.bytes := by
  intro i a hi hne
  have h0 := (farm_init_sim par hdr ftr sink part hi).2.2
  have hf : a.failed = true := farm_calls_fault_flag 0 ops1 i.2 (fun h => absurd h0 h) hne
  have := farm_calls_failed ops2 a hf
  exact ⟨this, by rw [this]⟩

/-- a stream that has not failed: a call ends failed iff it returns an error, and
    it returns an error iff exactly one underlying write failed in it (the
    first: the call stops there) -/
theorem C14_armor_stream_error_iff_fault (a : FArm) (b : Bytes) (he : a.EncOk) (hf : a.failed = false) :
    (a.write b).2.failed = !(a.write b).1 ∧ a.close.2.failed = !a.close.1 ∧
    (a.write b).2.w.faults = a.w.faults + (if (a.write b).1 then 0 else 1) ∧
    a.close.2.w.faults = a.w.faults + (if a.close.1 then 0 else 1) := by
  have h1 := farm_write_faults a b
  have h2 := farm_close_faults a
  rw [(farm_encOk_write a b he).1, hf] at h1
  rw [(farm_encOk_close a he).1, hf] at h2
  exact ⟨farm_write_flag a b hf, farm_close_flag a hf, by simpa using h1, by simpa using h2⟩

/-- the byte count: a refused `Write` returns 0 (first conjunct: the first line
    of `Write` unfolded, stated for completeness); any other returns `len(b)` —
    also the one in which `spaceAndOutputBuffer` fails (`return n, err`) -/
theorem C14_armor_write_count (a : FArm) (b : Bytes) (he : a.EncOk) :
    (a.failed = true → a.writeN b = (0, false, a)) ∧ (a.failed = false → (a.writeN b).1 = b.length) :=
  ⟨farm_writeN_failed a b, farm_writeN_count a b he⟩

/-! ## `Close` never reports success for a message that was not completely written -/

/-- **the second clause of C14, literally**: constructor over a writer that
    fails as `sink` says, the payload `ws.flatten` split over `Write`s as `ws`
    says, the caller ignoring what the `Write`s return, then `Close`.  If `Close`
    returns success, then NO underlying write failed — not one, in no call — and
    what reached the writer is exactly the armored text of everything that was
    passed to `Write`. -/
theorem C14_armor_close_ok_means_all_written (par : Armor.Params) (he : par.enc.WF) (hw : 0 < par.bytesPerWord)
    (hdr ftr : Bytes) (sink : Stream.Sink) (part : List Nat) (ws : List Bytes) :
    let i := FArm.init par hdr ftr ({ sink := sink, part := part } : Wr)
    let c := (FArm.calls i.2 (ws.map some)).2.close
    i.1 = true → c.1 = true → c.2.w.faults = 0 ∧ c.2.w.bytes = Armor.sealText par hdr ftr ws.flatten := by
  intro i c hi hc
  have h := (farm_run_close par he hw hdr ftr sink part ws hi).1
  rw [← farm_calls_writes] at h
  exact h hc

/-- …for the shipped parameters: `NewArmor62EncoderStream(w, typ, brand)` -/
theorem C14_armor62_close_ok_means_all_written (typ : Int) (brand : Bytes) (sink : Stream.Sink) (part : List Nat) (ws : List Bytes) :
    let i := FArm.init62 typ brand ({ sink := sink, part := part } : Wr)
    let c := (FArm.calls i.2 (ws.map some)).2.close
    i.1 = true → c.1 = true → c.2.w.faults = 0 ∧ c.2.w.bytes = Armor.seal62 typ brand ws.flatten :=
  C14_armor_close_ok_means_all_written Armor.params62 Proofs.params62_wf (by decide) _ _ sink part ws

/-- **on failure: a prefix, never a text with a word or a separator missing in
    the middle** — whatever failed and whatever the calls returned, after the
    `Write`s and after `Close` the writer holds a prefix of the complete armored
    text of everything passed to `Write` -/
theorem C14_armor_failure_prefix (par : Armor.Params) (he : par.enc.WF) (hw : 0 < par.bytesPerWord)
    (hdr ftr : Bytes) (sink : Stream.Sink) (part : List Nat) (ws : List Bytes) :
    let i := FArm.init par hdr ftr ({ sink := sink, part := part } : Wr)
    let r := (FArm.calls i.2 (ws.map some)).2
    i.1 = true →
      r.w.bytes <+: Armor.sealText par hdr ftr ws.flatten ∧
      r.close.2.w.bytes <+: Armor.sealText par hdr ftr ws.flatten := by
  intro i r hi
  have h1 := farm_run_prefix par he hw hdr ftr sink part ws hi
  have h2 := (farm_run_close par he hw hdr ftr sink part ws hi).2
  rw [← farm_calls_writes] at h1 h2
  exact ⟨h1, h2⟩

theorem C14_armor62_failure_prefix (typ : Int) (brand : Bytes) (sink : Stream.Sink) (part : List Nat) (ws : List Bytes) :
    let i := FArm.init62 typ brand ({ sink := sink, part := part } : Wr)
    let r := (FArm.calls i.2 (ws.map some)).2
    i.1 = true →
      r.w.bytes <+: Armor.seal62 typ brand ws.flatten ∧ r.close.2.w.bytes <+: Armor.seal62 typ brand ws.flatten :=
  C14_armor_failure_prefix Armor.params62 Proofs.params62_wf (by decide) _ _ sink part ws

/-! ## the armored SENDERS (`NewEncryptArmor62Stream`, `NewSignArmor62Stream`,
     `NewSigncryptArmor62SealStream`): packet stream → go-codec → armor encoder stream →
     faulting writer, `closeForwarder`.  Success means written, through both layers. -/

/-- **success means written, armored**: if the armor constructor, the packet
    stream's constructor, every `Write` and `Close` (`closeForwarder`: packet
    stream, then armor stream) reported success, then no underlying write failed
    and the writer holds exactly the Armor62 text of the all-at-once binary
    message for the concatenated plaintext -/
theorem C14_armored_success_means_written (cfg : Cfg) (hp : ∀ b, (cfg.pieces b).flatten = b) (hb : 0 < cfg.bs)
    (hif : IndexFail cfg.pkt) (v : Version) (hv : cfg.v1shape = (v == v1)) (typ : Int) (brand : Bytes)
    (sink : Stream.Sink) (part : List Nat) (headerBytes : Bytes) (ws : List Bytes) :
    let a := FArm.init62 typ brand ({ sink := sink, part := part } : Wr)
    let i := PSt.init FArm.write cfg.pieces a.2 headerBytes
    let r := PSt.writes FArm.write cfg i.2 ws
    let c := armoredClose cfg r.2
    a.1 = true → i.1 = true → (∀ x ∈ r.1, x.2 = none) → c.1 = none →
      ∃ M, oneShot cfg v headerBytes ws.flatten = .ok M ∧
        c.2.codec.w.w.bytes = Armor.seal62 typ brand M ∧ c.2.codec.w.w.faults = 0 := by
  intro a i r c ha hi hws hc
  exact armored_success cfg hp hb hif v hv Armor.params62 Proofs.params62_wf (by decide)
    (Armor.header typ brand) (Armor.footer typ brand) sink part headerBytes ws ha hi hws hc

/-- **`closeForwarder.Close` returned nil ⇒ completely written, armored** — the
    property's second clause with NO hypothesis on what the packet stream's
    constructor and the `Write`s returned (only that the armor constructor
    returned a stream at all): the packet stream's constructor succeeded, every
    `Write` returned `(len p, nil)`, no underlying write failed and the writer
    holds exactly the Armor62 text of the all-at-once binary message -/
theorem C14_armored_close_ok_means_written (cfg : Cfg) (hp : ∀ b, (cfg.pieces b).flatten = b) (hb : 0 < cfg.bs)
    (hif : IndexFail cfg.pkt) (v : Version) (hv : cfg.v1shape = (v == v1)) (typ : Int) (brand : Bytes)
    (sink : Stream.Sink) (part : List Nat) (headerBytes : Bytes) (ws : List Bytes) :
    let a := FArm.init62 typ brand ({ sink := sink, part := part } : Wr)
    let i := PSt.init FArm.write cfg.pieces a.2 headerBytes
    let r := PSt.writes FArm.write cfg i.2 ws
    let c := armoredClose cfg r.2
    a.1 = true → c.1 = none →
      i.1 = true ∧ (∀ x ∈ r.1, x.2 = none) ∧
      ∃ M, oneShot cfg v headerBytes ws.flatten = .ok M ∧
        c.2.codec.w.w.bytes = Armor.seal62 typ brand M ∧ c.2.codec.w.w.faults = 0 := by
  intro a i r c ha hc
  obtain ⟨hi, hws⟩ := armored_close_ok_all_ok cfg hp hb hif a.2 headerBytes ws hc
  exact ⟨hi, hws, C14_armored_success_means_written cfg hp hb hif v hv typ brand sink part headerBytes ws ha hi hws hc⟩

/-- `NewEncryptArmor62Stream` + `Write`* + `Close`: every call reported success ⇒
    the writer holds `Armor.seal62 typ brand` of `Encrypt.sealWith` of the
    concatenated plaintext -/
theorem C14_encrypt_armored_success_means_written (P : Prims) (bs : Nat) (hb : 0 < bs) (pieces : Bytes → List Bytes)
    (hp : ∀ b, (pieces b).flatten = b) (v : Version) (sender : Option Bytes) (rs : List Encrypt.Recipient)
    (eph pk : Bytes) (hbytes : Bytes) (cfg : Cfg) (hs : encryptSetup P bs pieces v sender rs eph pk = .ok (hbytes, cfg))
    (typ : Int) (brand : Bytes) (sink : Stream.Sink) (part : List Nat) (ws : List Bytes) :
    let a := FArm.init62 typ brand ({ sink := sink, part := part } : Wr)
    let i := PSt.init FArm.write cfg.pieces a.2 hbytes
    let r := PSt.writes FArm.write cfg i.2 ws
    let c := armoredClose cfg r.2
    a.1 = true → i.1 = true → (∀ x ∈ r.1, x.2 = none) → c.1 = none →
      ∃ M, Encrypt.sealWith P bs v sender rs eph pk ws.flatten = .ok M ∧
        c.2.codec.w.w.bytes = Armor.seal62 typ brand M := by
  intro a i r c ha hi hws hc
  have hm := encrypt_mode P bs hb pieces hp v sender rs eph pk hbytes cfg hs
  obtain ⟨M, hM, ho, _⟩ := C14_armored_success_means_written cfg hm.pieces hm.bs_pos hm.refuse v hm.shape typ brand sink part
    hbytes ws ha hi hws hc
  exact ⟨M, (hm.whole_iff _ _).2 hM, ho⟩

/-- `NewSignArmor62Stream` likewise: `Sign.attachedWith` -/
theorem C14_sign_armored_success_means_written (P : Prims) (bs : Nat) (hb : 0 < bs) (pieces : Bytes → List Bytes)
    (hp : ∀ b, (pieces b).flatten = b) (v : Version) (signer nonce : Bytes) (hbytes : Bytes) (cfg : Cfg)
    (hs : signSetup P bs pieces v signer nonce = .ok (hbytes, cfg))
    (typ : Int) (brand : Bytes) (sink : Stream.Sink) (part : List Nat) (ws : List Bytes) :
    let a := FArm.init62 typ brand ({ sink := sink, part := part } : Wr)
    let i := PSt.init FArm.write cfg.pieces a.2 hbytes
    let r := PSt.writes FArm.write cfg i.2 ws
    let c := armoredClose cfg r.2
    a.1 = true → i.1 = true → (∀ x ∈ r.1, x.2 = none) → c.1 = none →
      ∃ M, Sign.attachedWith P bs v signer nonce ws.flatten = .ok M ∧
        c.2.codec.w.w.bytes = Armor.seal62 typ brand M := by
  intro a i r c ha hi hws hc
  have hm := sign_mode P bs hb pieces hp v signer nonce hbytes cfg hs
  obtain ⟨M, hM, ho, _⟩ := C14_armored_success_means_written cfg hm.pieces hm.bs_pos hm.refuse v hm.shape typ brand sink part
    hbytes ws ha hi hws hc
  exact ⟨M, (hm.whole_iff _ _).2 hM, ho⟩

/-- `NewSigncryptArmor62SealStream` likewise: `Signcrypt.sealWith` -/
theorem C14_signcrypt_armored_success_means_written (P : Prims) (bs : Nat) (hb : 0 < bs) (pieces : Bytes → List Bytes)
    (hp : ∀ b, (pieces b).flatten = b) (sender : Option Bytes) (rs : List Signcrypt.Recipient) (eph pk : Bytes)
    (hbytes : Bytes) (cfg : Cfg) (hs : signcryptSetup P bs pieces sender rs eph pk = .ok (hbytes, cfg))
    (typ : Int) (brand : Bytes) (sink : Stream.Sink) (part : List Nat) (ws : List Bytes) :
    let a := FArm.init62 typ brand ({ sink := sink, part := part } : Wr)
    let i := PSt.init FArm.write cfg.pieces a.2 hbytes
    let r := PSt.writes FArm.write cfg i.2 ws
    let c := armoredClose cfg r.2
    a.1 = true → i.1 = true → (∀ x ∈ r.1, x.2 = none) → c.1 = none →
      ∃ M, Signcrypt.sealWith P bs sender rs eph pk ws.flatten = .ok M ∧
        c.2.codec.w.w.bytes = Armor.seal62 typ brand M := by
  intro a i r c ha hi hws hc
  have hm := signcrypt_mode P bs hb pieces hp sender rs eph pk hbytes cfg hs
  obtain ⟨M, hM, ho, _⟩ := C14_armored_success_means_written cfg hm.pieces hm.bs_pos hm.refuse v2 hm.shape typ brand sink part
    hbytes ws ha hi hws hc
  exact ⟨M, (hm.whole_iff _ _).2 hM, ho⟩

/-- the three armored packet senders, `Close` alone: `NewEncryptArmor62Stream` /
    `NewSignArmor62Stream` / `NewSigncryptArmor62SealStream` + `Write`* + `Close`
    = nil ⇒ the writer holds `Armor.seal62 typ brand` of `Encrypt.sealWith` /
    `Sign.attachedWith` / `Signcrypt.sealWith` of the concatenated plaintext -/
theorem C14_armored_senders_close_ok_means_written (P : Prims) (bs : Nat) (hb : 0 < bs) (pieces : Bytes → List Bytes)
    (hp : ∀ b, (pieces b).flatten = b) (typ : Int) (brand : Bytes) (sink : Stream.Sink) (part : List Nat) (ws : List Bytes)
    (hbytes : Bytes) (cfg : Cfg)
    (ha : (FArm.init62 typ brand ({ sink := sink, part := part } : Wr)).1 = true)
    (hc : (armoredClose cfg (PSt.writes FArm.write cfg
      (PSt.init FArm.write cfg.pieces (FArm.init62 typ brand ({ sink := sink, part := part } : Wr)).2 hbytes).2 ws).2).1 = none) :
    let out := (armoredClose cfg (PSt.writes FArm.write cfg
      (PSt.init FArm.write cfg.pieces (FArm.init62 typ brand ({ sink := sink, part := part } : Wr)).2 hbytes).2 ws).2).2.codec.w.w.bytes
    (∀ v sender rs eph pk, encryptSetup P bs pieces v sender rs eph pk = .ok (hbytes, cfg) →
      ∃ M, Encrypt.sealWith P bs v sender rs eph pk ws.flatten = .ok M ∧ out = Armor.seal62 typ brand M) ∧
    (∀ v signer nonce, signSetup P bs pieces v signer nonce = .ok (hbytes, cfg) →
      ∃ M, Sign.attachedWith P bs v signer nonce ws.flatten = .ok M ∧ out = Armor.seal62 typ brand M) ∧
    (∀ sender rs eph pk, signcryptSetup P bs pieces sender rs eph pk = .ok (hbytes, cfg) →
      ∃ M, Signcrypt.sealWith P bs sender rs eph pk ws.flatten = .ok M ∧ out = Armor.seal62 typ brand M) := by
  intro out
  -- any mode: `Close` = nil alone gives the armor of the mode's all-at-once message
  have key : ∀ {v : Version} {whole : Bytes → Except Err Bytes}, Saltpack.Proofs.SenderP.Mode cfg v hbytes whole →
      ∃ M, whole ws.flatten = .ok M ∧ out = Armor.seal62 typ brand M := fun {v} {_} hm =>
    let ⟨_, _, M, hM, ho, _⟩ := C14_armored_close_ok_means_written cfg hm.pieces hm.bs_pos hm.refuse v hm.shape typ brand
      sink part hbytes ws ha hc
    ⟨M, (hm.whole_iff _ _).2 hM, ho⟩
  exact ⟨fun v sender rs eph pk hs => key (encrypt_mode P bs hb pieces hp v sender rs eph pk hbytes cfg hs),
    fun v signer nonce hs => key (sign_mode P bs hb pieces hp v signer nonce hbytes cfg hs),
    fun sender rs eph pk hs => key (signcrypt_mode P bs hb pieces hp sender rs eph pk hbytes cfg hs)⟩

/-! ## non-vacuity (toy parameters `toyArm`: words of 2 characters, lines of 2 words, base62;
     header "H", footer "F"; kernel-evaluated) -/

/-- constructor, calls, what the calls returned, what reached the writer, how many underlying writes failed -/
def bareRun (par : Armor.Params) (hdr ftr : Bytes) (sink : Stream.Sink) (ops : List (Option Bytes)) :
    Bool × List (Nat × Bool) × Bytes × Nat :=
  let i := FArm.init par hdr ftr ({ sink := sink } : Wr)
  let r := FArm.calls i.2 ops
  (i.1, r.1, r.2.w.bytes, r.2.w.faults)

-- no fault: the hypotheses of `C14_armor_close_ok_means_all_written` are met (constructor and Close succeed) …
example : bareRun toyArm [72] [70] [] [some [1], some [], some [2, 3], none] =
    (true, [(1, true), (0, true), (2, true), (0, true)], Armor.sealText toyArm [72] [70] [1, 2, 3], 0) := by decide +kernel
-- … = "H. 00 HB\nL. F.\n"
example : Armor.sealText toyArm [72] [70] [1, 2, 3] = [72, 46, 32, 48, 48, 32, 72, 66, 10, 76, 46, 32, 70, 46, 10] := by
  decide +kernel
/-- 32 bytes = one BaseX block of base62: the encoder hands 43 characters to the buffer, 21 words go out in the `Write` -/
def pl32 : Bytes := List.replicate 32 7

-- ONE TRANSIENT fault (the 3rd underlying write, the separator after the first word, fails; every
-- later write would succeed): the Write in which it happens returns (32, error); the caller carries
-- on: the next Write returns (0, error), Close returns an error (before fix 5ad1caa it returned
-- success, for a text without that separator: the excluded behaviour), a second Close too; nothing
-- more is written: "H. " and the first word
example : bareRun toyArm [72] [70] [false, false, true] [some pl32, some [4], none, none] =
    (true, [(32, false), (0, false), (0, false), (0, false)],
     (Armor.sealText toyArm [72] [70] (pl32 ++ [4])).take 5, 1) := by decide +kernel
-- a sticky failure of the writer from the 2nd write on: ONE failed write only, everything else is refused above it
example : bareRun toyArm [72] [70] [false, true, true, true, true, true] [some pl32, some [4], none] =
    (true, [(32, false), (0, false), (0, false)], [72, 46, 32], 1) := by decide +kernel
-- a Write that would only buffer (no underlying write) is refused after the fault as well
example : (bareRun toyArm [72] [70] [false, true] [some pl32, some []]).2.1 = [(32, false), (0, false)] := by decide +kernel
-- small payloads stay in the encoder until Close; a fault in Close (the 2nd write: the last, only word):
-- Close returns an error, a second Close is refused, a prefix is at the writer
example : bareRun toyArm [72] [70] [false, true] [some [1, 2, 3], some [4], none, none] =
    (true, [(3, true), (1, true), (0, false), (0, false)], [72, 46, 32], 1) := by decide +kernel
-- a fault in the very last write (pad + ". F.\n"): the body is there, the footer is not, Close returns an error
example : (bareRun toyArm [72] [70] [false, false, false, false, false, false, true] [some [1, 2, 3], none]).2 =
    ([(3, true), (0, false)], (Armor.sealText toyArm [72] [70] [1, 2, 3]).take 10, 1) := by decide +kernel
-- the constructor fails: no stream
example : (bareRun toyArm [72] [70] [true] []).1 = false := by decide +kernel
-- the hypotheses of the Armor62 form are satisfiable: `params62` is well formed (used above) and a
-- run with the shipped parameters succeeds
example : (FArm.init62 0 [] ({} : Wr)).1 = true := by decide +kernel

/-! ### …of the armored senders (toy packet stream: blocks of 2 bytes, packet = number ‖ final flag ‖ chunk,
     one armor-stream `Write` per byte; the shipped Armor62 parameters) -/

def toyPCfg : Cfg :=
  { bs := 2, v1shape := false, hasErr := true,
    pkt := fun i c f => .ok ([UInt8.ofNat i, if f then 1 else 0] ++ c), pieces := fun b => b.map ([·]) }

def armoredRun (sink : Stream.Sink) (ws : List Bytes) : Bool × Bool × List (Nat × Option Err) × Option Err × Bytes :=
  let a := FArm.init62 0 [] ({ sink := sink } : Wr)
  let i := PSt.init FArm.write toyPCfg.pieces a.2 [7]
  let r := PSt.writes FArm.write toyPCfg i.2 ws
  let c := armoredClose toyPCfg r.2
  (a.1, i.1, r.1, c.1, c.2.codec.w.w.bytes)

-- no fault: the hypotheses of `C14_armored_success_means_written` are met, the writer holds the
-- Armor62 text of the binary message (header packet c4 01 07, two non-final packets, the final one)
example : armoredRun [] [[1, 2, 3], [4, 5]] =
    (true, true, [(3, none), (2, none)], none,
     Armor.seal62 0 [] [0xc4, 1, 7, 0, 0, 1, 2, 1, 0, 3, 4, 2, 1, 5]) := by decide +kernel
-- the 2nd underlying write (the only word, written by the armor stream's Close) fails once: Close reports it
example : (armoredRun [false, true] [[1, 2, 3], [4, 5]]).2.2.2.1 = some .ioError := by decide +kernel

end Saltpack.Props.C14
