/-
  Property C19 (second half) — the order of recipient entries is a uniformly
  distributed permutation, independent of the caller's order.

  * the bounded draw `csprngUint32n` is *exactly* uniform over the accepted
    source values: every result `r < n` is produced by exactly `⌊2^32/n⌋`
    of the `2^32` source values, and those form one interval; rejected values
    cause a redraw;
  * Fisher–Yates maps legal draw vectors bijectively onto the arrangements.

  (The hidden-identity half of C19 is in Props/C19Fields.lean.)
  The arithmetic of the bounded draw (window on the product, ceiling division,
  counting) is in Saltpack/Proofs/RandDraw.lean, the Fisher–Yates loop lemmas in
  Saltpack/Proofs/RandShuffle.lean, and the link between the byte-level shuffle
  of the sender models and these word-level facts in Saltpack/Proofs/RandBytes.lean.
-/
import Saltpack.Proofs.RandDraw
import Saltpack.Proofs.RandShuffle
import Saltpack.Proofs.RandBytes

namespace Saltpack.Props.C19
open Saltpack Saltpack.Rand

/-! ## bounded draw -/

/-- The code's two-level test (`low < n`, then `low < -n % n`) rejects exactly
    the source values whose low product word is below `2^32 mod n`. -/
theorem C19_reject_iff (n v : Nat) (hn : 0 < n) (hn' : n < 2 ^ 32) :
    u32nStep n v = none ↔ (v * n) % 2 ^ 32 < 2 ^ 32 % n := by
  rw [Proofs.RandDraw.step_eq n v hn hn']
  split <;> simp [*]

theorem C19_result_in_range (n v r : Nat) (hn : 0 < n) (hv : v < 2 ^ 32) :
    u32nStep n v = some r → r < n :=
  Proofs.RandDraw.step_range n v r hn hv

/-- **Exact uniformity.** For every bound `0 < n < 2^32` and every result
    `r < n`, the accepted source values that yield `r` are exactly the
    `⌊2^32/n⌋` consecutive values starting at some `lo`. -/
theorem C19_uint32n_uniform (n r : Nat) (hn : 0 < n) (hn' : n < 2 ^ 32) (hr : r < n) :
    ∃ lo, lo + 2 ^ 32 / n ≤ 2 ^ 32 ∧
      ∀ v, v < 2 ^ 32 → (u32nStep n v = some r ↔ lo ≤ v ∧ v < lo + 2 ^ 32 / n) := by
  refine ⟨(r * 2 ^ 32 + 2 ^ 32 % n + (n - 1)) / n, ?_,
    fun v _ => (Proofs.RandDraw.step_some_iff n v r hn hn').trans (Proofs.RandDraw.window_iff n _ _ v hn)⟩
  -- `⌈(r+1)·2^32 / n⌉ ≤ 2^32` since `r + 1 ≤ n`
  rw [← Proofs.RandDraw.ceil_add_mul n _ _ hn, Proofs.RandDraw.ceil_le_iff n _ _ hn, Nat.add_assoc, Nat.add_comm (2 ^ 32 % n),
    Nat.mul_comm _ n, Nat.div_add_mod, ← Nat.succ_mul, Nat.mul_comm (2 ^ 32) n]
  exact Nat.mul_le_mul_right _ hr

/-- the same as a count over all `2^32` source values -/
theorem C19_uint32n_count (n r : Nat) (hn : 0 < n) (hn' : n < 2 ^ 32) (hr : r < n) :
    ((List.range (2 ^ 32)).filter (fun v => u32nStep n v = some r)).length = 2 ^ 32 / n := by
  obtain ⟨lo, hlo, hiff⟩ := C19_uint32n_uniform n r hn hn' hr
  exact Proofs.RandDraw.length_filter_range_interval _ _ lo _ hlo fun v hv => decide_eq_true_iff.trans (hiff v hv)

/-- a rejected value is skipped and the next one is drawn; an accepted one ends
    the draw and leaves the rest of the source untouched -/
theorem C19_redraw (n v : Nat) (vs : List Nat) :
    u32n n (v :: vs) = (match u32nStep n v with | some r => some (r, vs) | none => u32n n vs) := by
  rfl

/-! ## Fisher–Yates -/

/-- the output is a rearrangement of the input -/
theorem C19_shuffle_perm {α : Type} (js : List Nat) (l : List α) : (shuffle js l).Perm l :=
  Proofs.RandShuffle.shuffleLoop_perm _ js l

/-- different legal draw vectors give different arrangements (distinct items) -/
theorem C19_shuffle_injective {α : Type} (l : List α) (hl : l.Nodup) (js js' : List Nat)
    (h : ValidDraws (l.length - 1) js) (h' : ValidDraws (l.length - 1) js') :
    shuffle js l = shuffle js' l → js = js' := by
  cases l with
  | nil =>
    intro _
    have e : js = [] := h
    have e' : js' = [] := h'
    rw [e, e']
  | cons a t =>
    exact Proofs.RandShuffle.shuffleLoop_injective _ (a :: t) hl (by simp) js js' h h'

/-- every arrangement arises from a legal draw vector -/
theorem C19_shuffle_surjective {α : Type} (l l' : List α) (hp : l'.Perm l) :
    ∃ js, ValidDraws (l.length - 1) js ∧ shuffle js l = l' := by
  cases l with
  | nil =>
    have e : l' = [] := List.perm_nil.mp hp
    exact ⟨[], rfl, by rw [e]; rfl⟩
  | cons a t =>
    have hlen : l'.length = (a :: t).length := hp.length_eq
    have h1 : (a :: t).length - 1 + 1 = (a :: t).length := by simp
    refine Proofs.RandShuffle.shuffleLoop_surjective ((a :: t).length - 1) (a :: t) l' (by simp) hlen ?_ ?_
    · rw [h1, List.take_of_length_le (Nat.le_of_eq hlen), List.take_of_length_le (Nat.le_refl _)]
      exact hp
    · rw [h1, List.drop_of_length_le (Nat.le_of_eq hlen), List.drop_of_length_le (Nat.le_refl _)]

/-- **Bijection, hence independence of the caller's order**: whatever order the
    caller supplied the (distinct) recipients in, each target arrangement is
    reached by exactly one legal draw vector. -/
theorem C19_shuffle_bijection {α : Type} (l target : List α) (hl : l.Nodup) (hp : target.Perm l) :
    ∃ js, (ValidDraws (l.length - 1) js ∧ shuffle js l = target) ∧
      ∀ js', ValidDraws (l.length - 1) js' ∧ shuffle js' l = target → js' = js := by
  obtain ⟨js, hv, hs⟩ := C19_shuffle_surjective l target hp
  exact ⟨js, ⟨hv, hs⟩, fun js' h => C19_shuffle_injective l hl js' js h.1 hv (h.2.trans hs.symm)⟩

/-- the draws `csprngShuffle` extracts from source words are legal -/
theorem C19_drawsFrom_valid (k : Nat) (hk : k + 1 < 2 ^ 32) (vs js rest : List Nat)
    (hv : ∀ v ∈ vs, v < 2 ^ 32) :
    drawsFrom k vs = some (js, rest) → ValidDraws k js :=
  Proofs.RandDraw.drawsFrom_valid k vs js rest hv

/-! ## the sender models: from source bytes to the header order

  `Encrypt.sealRand` / `Signcrypt.sealRand` do not call `Rand.u32n` /
  `Rand.drawsFrom`; they run `Encrypt.shuffleDraws` over the byte source.  These
  theorems close the gap: the byte-level draws *are* `drawsFrom` of the 32-bit
  big-endian words read from the source, they are legal, and the recipient
  order of the emitted header is `Rand.shuffle` of them — so
  `C19_uint32n_uniform` and `C19_shuffle_bijection` reach the header order. -/

/-- `readWords c`: `c` successive full reads of 4 bytes, each taken as a
    big-endian word (`csprngUint32`) -/
theorem C19_readWords_def (c : Nat) (src : Source) :
    Proofs.readWords 0 src = some ([], src) ∧
    Proofs.readWords (c + 1) src =
      (match readFull 4 src with
       | none => none
       | some (b, src') =>
         match Proofs.readWords c src' with
         | none => none
         | some (ws, rest) => some (natOfBytes b :: ws, rest)) :=
  ⟨rfl, rfl⟩

/-- the draws of the byte-level shuffle are legal Fisher–Yates draws -/
theorem C19_shuffleDraws_valid (k : Nat) (src : Source) (fuel : Nat) (js : List Nat) (rest : Source)
    (h : Encrypt.shuffleDraws k src fuel = .ok (js, rest)) : ValidDraws k js :=
  Proofs.shuffleDraws_valid k src fuel js rest h

/-- **the byte-level draws are the word-level draws**: a successful
    `shuffleDraws k` read some number `c` of 32-bit words `ws` (each `< 2^32`)
    from the source, up to the returned rest, and its draw vector is
    `drawsFrom k ws` with every word consumed -/
theorem C19_shuffleDraws_are_drawsFrom (k : Nat) (src : Source) (fuel : Nat) (js : List Nat) (rest : Source)
    (h : Encrypt.shuffleDraws k src fuel = .ok (js, rest)) :
    ∃ c ws, Proofs.readWords c src = some (ws, rest) ∧ (∀ w ∈ ws, w < 2 ^ 32) ∧
      drawsFrom k ws = some (js, []) :=
  Proofs.shuffleDraws_words k src fuel js rest h

/-- **`Seal`: the header order is the shuffle.**  The message `sealRand` emits
    consists of the header packet of a header `hd` and the payload packets, where
    `hd.receivers` are the entries built for `Rand.shuffle js rs` in this order
    (key-id column spelled out), `js` being legal draws that are `drawsFrom` of
    the words `ws` read first from the source. -/
theorem C19_header_order_is_shuffle (P : Prims) (bs : Nat) (v : Version) (sender : Option Bytes)
    (rs : List Encrypt.Recipient) (eph : Encrypt.EphSource) (src : Source) (pt m : Bytes) (rest : Source)
    (h : Encrypt.sealRand P bs v sender rs eph src pt = .ok (m, rest)) :
    ∃ js src1 c ws ephSec pk hd hb blks body,
      Proofs.readWords c src = some (ws, src1) ∧ (∀ w ∈ ws, w < 2 ^ 32) ∧
      drawsFrom (rs.length - 1) ws = some (js, []) ∧
      ValidDraws (rs.length - 1) js ∧
      Encrypt.sealPackets P bs v sender (shuffle js rs) ephSec pk pt = .ok (hd, hb, blks) ∧
      Encrypt.encodeBlocks v blks = .ok body ∧
      m = headerPacket hb ++ body ∧ hb = Msgpack.encode hd.toVal ∧
      Encrypt.receiverEntries P v ephSec pk (shuffle js rs) 0 = .ok hd.receivers ∧
      hd.receivers.map (·.kid) = (shuffle js rs).map (fun r => if r.hidden then none else some r.pub) := by
  obtain ⟨js, ephSec, pk, hs, hm⟩ := Proofs.enc_sealRand_ok P bs v sender rs eph src pt m rest h
  obtain ⟨src1, -, hsd, -, -⟩ := Proofs.sealSecrets_ok _ eph src js ephSec pk rest hs
  obtain ⟨c, ws, hw, hlt, hdf⟩ := Proofs.shuffleDraws_words _ _ _ _ _ hsd
  obtain ⟨hd, hb, blks, body, h1⟩ := Proofs.sealWith_header P bs v sender _ ephSec pk pt m hm
  exact ⟨js, src1, c, ws, ephSec, pk, hd, hb, blks, body, hw, hlt, hdf, Proofs.shuffleDraws_valid _ _ _ _ _ hsd, h1⟩

/-- the same for `SigncryptSeal` (box keys followed by symmetric keys, shuffled
    together) -/
theorem C19_signcrypt_header_order_is_shuffle (P : Prims) (bs : Nat) (sender : Option Bytes)
    (boxes syms : List Signcrypt.Recipient) (eph : Encrypt.EphSource) (src : Source) (pt m : Bytes) (rest : Source)
    (h : Signcrypt.sealRand P bs sender boxes syms eph src pt = .ok (m, rest)) :
    ∃ js src1 c ws ephSec pk hd hb blks,
      Proofs.readWords c src = some (ws, src1) ∧ (∀ w ∈ ws, w < 2 ^ 32) ∧
      drawsFrom ((boxes ++ syms).length - 1) ws = some (js, []) ∧
      ValidDraws ((boxes ++ syms).length - 1) js ∧
      Signcrypt.sealPackets P bs sender (shuffle js (boxes ++ syms)) ephSec pk pt = .ok (hd, hb, blks) ∧
      m = headerPacket hb ++ Signcrypt.encodeBlocks blks ∧ hb = Msgpack.encode hd.toVal ∧
      hd.receivers = Signcrypt.receiverEntries P ephSec pk (shuffle js (boxes ++ syms)) 0 := by
  obtain ⟨js, ephSec, pk, hs, hm⟩ := Proofs.sc_sealRand_ok P bs sender boxes syms eph src pt m rest h
  obtain ⟨src1, -, hsd, -, -⟩ := Proofs.sealSecrets_ok _ eph src js ephSec pk rest hs
  obtain ⟨c, ws, hw, hlt, hdf⟩ := Proofs.shuffleDraws_words _ _ _ _ _ hsd
  obtain ⟨hd, hb, blks, h1⟩ := Proofs.sc_sealWith_header P bs sender _ ephSec pk pt m hm
  exact ⟨js, src1, c, ws, ephSec, pk, hd, hb, blks, hw, hlt, hdf, Proofs.shuffleDraws_valid _ _ _ _ _ hsd, h1⟩

/-- composed with the bijection: for distinct recipients, every arrangement
    `target` of the caller's list is the header order for exactly one legal draw
    vector — whatever order the caller used -/
theorem C19_header_order_reaches_all (rs target : List Encrypt.Recipient) (hl : rs.Nodup) (hp : target.Perm rs) :
    ∃ js, (ValidDraws (rs.length - 1) js ∧ shuffle js rs = target) ∧
      ∀ js', ValidDraws (rs.length - 1) js' ∧ shuffle js' rs = target → js' = js :=
  C19_shuffle_bijection rs target hl hp

/-! ## non-vacuity -/

example : u32nStep 3 0 = none ∧ u32nStep 3 1 = some 0 ∧ u32nStep 3 (2 ^ 32 - 1) = some 2 := by decide
example : shuffle [0, 1] [10, 20, 30] = [30, 20, 10] := by decide
example : ValidDraws 2 [0, 1] := by simp [ValidDraws]
/-- byte level: word 0 is rejected for bound 3 and redrawn; word 1 gives 0;
    word `2^32-1` gives 1 for bound 2 -/
example : Encrypt.shuffleDraws 2 [⟨[0, 0, 0, 0], false⟩, ⟨[0, 0, 0, 1], false⟩, ⟨[255, 255, 255, 255], false⟩] 4
    = .ok ([0, 1], []) := by decide
example : Proofs.readWords 3 [⟨[0, 0, 0, 0], false⟩, ⟨[0, 0, 0, 1], false⟩, ⟨[255, 255, 255, 255], false⟩]
    = some ([0, 1, 2 ^ 32 - 1], []) := by decide
example : drawsFrom 2 [0, 1, 2 ^ 32 - 1] = some ([0, 1], []) := by decide

end Saltpack.Props.C19
