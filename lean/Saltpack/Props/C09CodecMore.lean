/-
  C09 (spec-valid messages are accepted) through the model's OWN typed decoder
  (Model/Codec.lean = go-codec), beyond the three packet types of `Props/C09Codec.lean`:

  * decode-of-canonical, WITH the reserved extra trailing elements: the receivers
    list, both headers, the V1 and V2 encryption packets, the V2 signature packet,
    the outer header packet — `Codec.dec… (canonical encoding ++ extras) = ok fields`;
  * the BRIDGE between the two readers of the model: on canonical messages —
    structurally (`C09_bridge_*`: any header / packets within MessagePack's size
    limits) and for what the model senders emit (`C09_bridge_seal_*`) —
    `Wire.split*` and `Codec.split*` answer the same header read and the same
    packet stream; hence the front end (`Front.read*`) is either of them there.

  Extras must be encodable and nest at most 99 deep at struct level, 98 inside a
  V2 block (go-codec's depth limit, `C15_codec_depth_limit`).
  The front end asks `Codec` FIRST; the bridge is what lets the `Wire`-based byte theorems (round
  trips, C08, C09 acceptance) speak about the front end (`…_roundtrip_…bytes_front`,
  `C15_front_reads_sealed_*`).  The two readers do NOT agree on every byte string where `Wire`
  answers (a reserved extra nested beyond go-codec's depth budget: `Wire` accepts, go-codec and
  `Codec` refuse; a type error left of a truncation: `Wire` reports the truncation, go-codec and
  `Codec` the type error), which is why `Codec` is asked first.  NOT proved: the bridge with extras
  for the modes other than signcryption, for extras INSIDE the version pair / a recipient pair of a
  full message, and for non-canonical encodings (wide lengths, str-for-bin, …: tied by the
  correspondence streams `codec.list.*`, `deep.*` only).
-/
import Saltpack.Proofs.CodecBytes
import Saltpack.Proofs.AnyChunking
import Saltpack.Proofs.CodecBytesBridge
import Saltpack.Proofs.CodecBytesBridgeExtras
import Saltpack.Toy

namespace Saltpack.Props.C09
open Saltpack Saltpack.Msgpack Saltpack.Codec Saltpack.Proofs Saltpack.Proofs.CodecP Saltpack.Proofs.WireRT

/-! ## decode of canonical encodings -/

/-- one `receiverKeys` pair `[kid | nil, payload key box]` -/
theorem C09_codec_receiver (fuel rem : Nat) (rk : RecvKeys) (hk : ∀ k, rk.kid = some k → k.length < 2 ^ 32)
    (hb : rk.box.length < 2 ^ 32) (r : Bytes) :
    decReceiver fuel rem (encode rk.toVal ++ r) = .ok (rk, r) :=
  decReceiver_encode fuel rem rk hk hb r

theorem C09_codec_receivers (fuel rem : Nat) (rs : List RecvKeys) (hlen : rs.length < 2 ^ 32)
    (hrs : ∀ rk ∈ rs, (∀ k, rk.kid = some k → k.length < 2 ^ 32) ∧ rk.box.length < 2 ^ 32) (r : Bytes) :
    kSliceOf (decReceiver fuel rem) zeroRecv (encode (.arr (rs.map RecvKeys.toVal)) ++ r) = .ok (rs, r) :=
  decReceivers_encode fuel rem rs hlen hrs r

/-- the encryption / signcryption header with extras: `decodeFromBytes(&header, …)`
    returns exactly the sender's fields -/
theorem C09_codec_enc_header (h : EncHeader) (hf : h.formatName.length < 2 ^ 32)
    (hma : -(2 ^ 63 : Int) ≤ h.version.major ∧ h.version.major < (2 ^ 63 : Int))
    (hmi : -(2 ^ 63 : Int) ≤ h.version.minor ∧ h.version.minor < (2 ^ 63 : Int))
    (ht : -(2 ^ 63 : Int) ≤ h.typ ∧ h.typ < (2 ^ 63 : Int))
    (he : h.ephemeral.length < 2 ^ 32) (hs : h.senderSecretbox.length < 2 ^ 32)
    (hrl : h.receivers.length < 2 ^ 32)
    (hrs : ∀ rk ∈ h.receivers, (∀ k, rk.kid = some k → k.length < 2 ^ 32) ∧ rk.box.length < 2 ^ 32)
    (ex : List Val) (hex : TopExtras ex) (hlen : ex.length + 6 < 2 ^ 32) (r : Bytes) :
    decEncHeader (encode (.arr ([.str h.formatName, h.version.toVal, .int h.typ, .bin h.ephemeral, .bin h.senderSecretbox,
        .arr (h.receivers.map RecvKeys.toVal)] ++ ex)) ++ r) = .ok (h, r) :=
  decEncHeader_encode h hf hma hmi ht he hs hrl hrs ex hex hlen r

theorem C09_codec_sig_header (h : SigHeader) (hf : h.formatName.length < 2 ^ 32)
    (hma : -(2 ^ 63 : Int) ≤ h.version.major ∧ h.version.major < (2 ^ 63 : Int))
    (hmi : -(2 ^ 63 : Int) ≤ h.version.minor ∧ h.version.minor < (2 ^ 63 : Int))
    (ht : -(2 ^ 63 : Int) ≤ h.typ ∧ h.typ < (2 ^ 63 : Int))
    (hpk : h.senderPublic.length < 2 ^ 32) (hn : h.nonce.length < 2 ^ 32)
    (ex : List Val) (hex : TopExtras ex) (hlen : ex.length + 5 < 2 ^ 32) (r : Bytes) :
    decSigHeader (encode (.arr ([.str h.formatName, h.version.toVal, .int h.typ, .bin h.senderPublic, .bin h.nonce] ++ ex)) ++ r)
      = .ok (h, r) :=
  decSigHeader_encode h hf hma hmi ht hpk hn ex hex hlen r

/-- with no extras these are the encodings of `h.toVal` themselves -/
theorem C09_codec_headers_toVal :
    (∀ h : EncHeader, EncHeaderSized h → decEncHeader (encode h.toVal) = .ok (h, [])) ∧
    (∀ h : SigHeader, SigHeaderSized h → decSigHeader (encode h.toVal) = .ok (h, [])) :=
  ⟨fun _ s => s.dec, fun _ s => s.dec⟩

theorem C09_codec_authenticators (fuel rem : Nat) (auths : List Bytes) (hlen : auths.length < 2 ^ 32)
    (h32 : ∀ a ∈ auths, a.length = 32) (r : Bytes) :
    decAuthenticators fuel rem (encode (.arr (auths.map .bin)) ++ r) = .ok (auths, r) :=
  decAuthenticators_encode fuel rem auths hlen h32 r

/-- the V1 encryption packet `[authenticators, ctext] ++ extras` (`authsVal`: nil
    for an empty list, as `makeEncryptionBlock` writes it); no final flag on the wire -/
theorem C09_codec_enc_packet_v1 (auths : List Bytes) (hal : auths.length < 2 ^ 32) (h32 : ∀ a ∈ auths, a.length = 32)
    (ct : Bytes) (hct : ct.length < 2 ^ 32) (ex : List Val) (hex : TopExtras ex) (hlen : ex.length + 2 < 2 ^ 32)
    (r : Bytes) :
    decEncBlockV1 (encode (.arr ([authsVal auths, .bin ct] ++ ex)) ++ r) = .ok (⟨auths, ct, false⟩, r) :=
  decEncBlockV1_encode auths hal h32 ct hct ex hex hlen r

theorem C09_codec_enc_packet_v2 (f : Bool) (auths : List Bytes) (hal : auths.length < 2 ^ 32)
    (h32 : ∀ a ∈ auths, a.length = 32) (ct : Bytes) (hct : ct.length < 2 ^ 32)
    (ex : List Val) (hex : SelfExtras ex) (hlen : ex.length + 3 < 2 ^ 32) (r : Bytes) :
    decEncBlockV2 (encode (.arr ([.bool f, authsVal auths, .bin ct] ++ ex)) ++ r) = .ok (⟨auths, ct, f⟩, r) :=
  decEncBlockV2_encode f auths hal h32 ct hct ex hex hlen r

theorem C09_codec_sig_packet_v2 (f : Bool) (sg ch : Bytes) (hsg : sg.length < 2 ^ 32) (hch : ch.length < 2 ^ 32)
    (ex : List Val) (hex : SelfExtras ex) (hlen : ex.length + 3 < 2 ^ 32) (r : Bytes) :
    decSigBlockV2 (encode (.arr ([.bool f, .bin sg, .bin ch] ++ ex)) ++ r) = .ok (⟨sg, ch, f⟩, r) :=
  decSigBlockV2_encode f sg ch hsg hch ex hex hlen r

/-- the outer header packet: the header bytes as a bin, then decoded again -/
theorem C09_codec_header_packet {η : Type} (dec : Dec η) (hb : Bytes) (hl : hb.length < 2 ^ 32) (h : η) (r0 : Bytes)
    (hd : dec hb = .ok (h, r0)) (rest : Bytes) :
    decBytesTop (headerPacket hb ++ rest) = .ok (hb, rest) ∧
    Codec.readHeader dec (headerPacket hb ++ rest) = .ok (.ok hb h, rest) :=
  ⟨decBytesTop_headerPacket hb hl rest, readHeader_headerPacket dec hb hl h r0 hd rest⟩

/-! ## the bridge: both readers agree on canonical messages -/

theorem C09_bridge_enc (h : EncHeader) (s : EncHeaderSized h) (hv : h.version = v1 ∨ h.version = v2)
    (blks : List EncBlock)
    (hsz : ∀ b ∈ blks, b.auths ≠ [] ∧ b.auths.length < 2 ^ 32 ∧ (∀ a ∈ b.auths, a.length = 32) ∧ b.ct.length < 2 ^ 32)
    (body : Bytes) (he : Encrypt.encodeBlocks h.version blks = .ok body) :
    Wire.splitEnc (headerPacket (encode h.toVal) ++ body) =
      .ok (.ok (encode h.toVal) h, ⟨(blks.map (encAsRead h.version)).map some, .eof⟩) ∧
    Codec.splitEnc (headerPacket (encode h.toVal) ++ body) =
      .ok (.ok (encode h.toVal) h, ⟨(blks.map (encAsRead h.version)).map some, .eof⟩) :=
  bridge_enc h s hv blks hsz body he

theorem C09_bridge_signcrypt (h : EncHeader) (s : EncHeaderSized h) (blks : List SigncryptBlock)
    (hct : ∀ b ∈ blks, b.ct.length < 2 ^ 32) :
    Wire.splitSigncrypt (headerPacket (encode h.toVal) ++ Signcrypt.encodeBlocks blks) =
      .ok (.ok (encode h.toVal) h, ⟨blks.map some, .eof⟩) ∧
    Codec.splitSigncrypt (headerPacket (encode h.toVal) ++ Signcrypt.encodeBlocks blks) =
      .ok (.ok (encode h.toVal) h, ⟨blks.map some, .eof⟩) :=
  bridge_signcrypt h s blks hct

theorem C09_bridge_sig (h : SigHeader) (s : SigHeaderSized h) (hv : h.version = v1 ∨ h.version = v2)
    (blks : List SigBlock) (hsz : ∀ b ∈ blks, b.sig.length < 2 ^ 32 ∧ b.chunk.length < 2 ^ 32)
    (body : Bytes) (he : Sign.encodeBlocks h.version blks = .ok body) :
    Wire.splitSig (headerPacket (encode h.toVal) ++ body) =
      .ok (.ok (encode h.toVal) h, ⟨(blks.map (sigAsRead h.version)).map some, .eof⟩) ∧
    Codec.splitSig (headerPacket (encode h.toVal) ++ body) =
      .ok (.ok (encode h.toVal) h, ⟨(blks.map (sigAsRead h.version)).map some, .eof⟩) :=
  bridge_sig h s hv blks hsz body he

theorem C09_bridge_detached (h : SigHeader) (s : SigHeaderSized h) (sg : Bytes) (hsg : sg.length < 2 ^ 32) :
    Wire.splitDetached (headerPacket (encode h.toVal) ++ encBin sg) = .ok (.ok (encode h.toVal) h, .sig sg) ∧
    Codec.splitDetached (headerPacket (encode h.toVal) ++ encBin sg) = .ok (.ok (encode h.toVal) h, .sig sg) :=
  bridge_detached h s sg hsg

/-- **Bridge WITH reserved extras, signcryption.**  The header
    array carries extra trailing elements `exH`, every packet `[ctext, final]` its
    own extras — all encodable and nested at most 99 deep (go-codec's budget; one
    level deeper go-codec refuses the message).  The spec-shaped reader, go-codec's
    typed reader and the front end give the same header read (header bytes = the
    bytes WITH extras) and exactly the packets, clean end. -/
theorem C09_bridge_signcrypt_extras (h : EncHeader) (s : EncHeaderSized h) (exH : List Val) (hexH : TopExtras exH)
    (hlenH : exH.length + 6 < 2 ^ 32) (hbytes : (encode (encHeaderValEx h exH)).length < 2 ^ 32)
    (pk : List (SigncryptBlock × List Val))
    (hpk : ∀ p ∈ pk, p.1.ct.length < 2 ^ 32 ∧ TopExtras p.2 ∧ p.2.length + 2 < 2 ^ 32) :
    Wire.splitSigncrypt (headerPacket (encode (encHeaderValEx h exH)) ++ (pk.map scPacketValEx).flatMap encode) =
      .ok (.ok (encode (encHeaderValEx h exH)) h, ⟨(pk.map (·.1)).map some, .eof⟩) ∧
    Codec.splitSigncrypt (headerPacket (encode (encHeaderValEx h exH)) ++ (pk.map scPacketValEx).flatMap encode) =
      .ok (.ok (encode (encHeaderValEx h exH)) h, ⟨(pk.map (·.1)).map some, .eof⟩) ∧
    Front.readSigncrypt (headerPacket (encode (encHeaderValEx h exH)) ++ (pk.map scPacketValEx).flatMap encode) =
      .ok (.ok (encode (encHeaderValEx h exH)) h, ⟨(pk.map (·.1)).map some, .eof⟩) := by
  have hcodec : Codec.splitSigncrypt (headerPacket (encode (encHeaderValEx h exH)) ++ (pk.map scPacketValEx).flatMap encode) =
      .ok (.ok (encode (encHeaderValEx h exH)) h, ⟨(pk.map (·.1)).map some, .eof⟩) := by
    have hd : decEncHeader (encode (encHeaderValEx h exH)) = .ok (h, []) := by
      have := decEncHeader_encode h s.fmt s.major s.minor s.typ s.eph s.ssb s.rlen s.rs exH hexH hlenH []
      rw [List.append_nil] at this
      exact this
    have := codec_split_encoded decEncHeader (fun _ => some decSigncryptBlock) (encode (encHeaderValEx h exH)) hbytes h [] hd
      decSigncryptBlock rfl (topStruct_nil _ _) (pk.map (fun p => (scPacketValEx p, p.1))) (by
        intro q hq rest
        rw [List.mem_map] at hq
        obtain ⟨p, hp, rfl⟩ := hq
        obtain ⟨a, b, c⟩ := hpk p hp
        exact decSigncryptBlock_encode p.1.ct a p.1.final p.2 b c rest)
    simp only [List.map_map, Function.comp_def] at this
    rw [List.map_map]
    exact this
  refine ⟨?_, hcodec, front_of_codec_eof hcodec⟩
  have hwfH : ValWF (encHeaderValEx h exH) := by
    have hw := s.wf
    cases hw with
    | arr _ hl hall =>
      apply ValWF.arr _ (by simp; omega)
      intro y hy
      rcases List.mem_append.1 hy with hy | hy
      · exact hall y hy
      · exact hexH.wf y hy
  have hview : viewEncHeader (encHeaderValEx h exH) = some h := viewEncHeader_extras h exH
  have := split_encoded viewEncHeader (fun _ => viewSigncryptBlock) (encHeaderValEx h exH) hwfH h hview hbytes
    (pk.map scPacketValEx) (by
      intro v hv
      rw [List.mem_map] at hv
      obtain ⟨p, hp, rfl⟩ := hv
      obtain ⟨a, b, c⟩ := hpk p hp
      apply ValWF.arr _ (by simp; omega)
      intro y hy
      rcases List.mem_append.1 hy with hy | hy
      · simp only [List.mem_cons, List.not_mem_nil, or_false] at hy
        rcases hy with rfl | rfl
        · exact ValWF.bin _ a
        · exact ValWF.bool _
      · exact b.wf y hy) (pk.map (·.1)) (by
      rw [List.map_map, List.map_map]
      apply List.map_congr_left
      intro p _
      exact viewSigncryptBlock_extras p.1.ct p.1.final p.2)
  unfold Wire.splitSigncrypt
  exact this

theorem C09_extras_vals_def (h : EncHeader) (ex : List Val) (p : SigncryptBlock × List Val) :
    encHeaderValEx h ex = .arr ([.str h.formatName, h.version.toVal, .int h.typ, .bin h.ephemeral, .bin h.senderSecretbox,
      .arr (h.receivers.map RecvKeys.toVal)] ++ ex) ∧
    scPacketValEx p = .arr ([.bin p.1.ct, .bool p.1.final] ++ p.2) :=
  ⟨rfl, rfl⟩

/-- **Genuine sender output, encryption**: what `Encrypt.sealWith` emits (any
    primitives with the wire sizes, any recipients, chunk size, plaintext) is read
    identically by both readers -/
theorem C09_bridge_seal_enc (P : Prims) (hS : WireSizes P) (bs : Nat) (hbs : 0 < bs) (hbs32 : bs + 16 < 2 ^ 32)
    (v : Version) (sender : Option Bytes) (rs : List Encrypt.Recipient) (eph pk pt : Bytes)
    (hpk : pk.length + 16 < 2 ^ 32) (hpub : ∀ r ∈ rs, r.pub.length < 2 ^ 32)
    (h : EncHeader) (hb : Bytes) (blks : List EncBlock) (body : Bytes)
    (hs : Encrypt.sealPackets P bs v sender rs eph pk pt = .ok (h, hb, blks))
    (he : Encrypt.encodeBlocks v blks = .ok body) (hhb : hb.length < 2 ^ 32) :
    Wire.splitEnc (headerPacket hb ++ body) = .ok (.ok hb h, ⟨(blks.map (encAsRead v)).map some, .eof⟩) ∧
    Codec.splitEnc (headerPacket hb ++ body) = .ok (.ok hb h, ⟨(blks.map (encAsRead v)).map some, .eof⟩) :=
  bridge_seal_enc P hS bs hbs hbs32 v sender rs eph pk pt hpk hpub h hb blks body hs he hhb

theorem C09_bridge_seal_signcrypt (P : Prims) (hS : WireSizes P) (bs : Nat) (hbs : 0 < bs) (hbs32 : bs + 80 < 2 ^ 32)
    (sender : Option Bytes) (rs : List Signcrypt.Recipient) (eph pk pt : Bytes)
    (hpk : pk.length + 16 < 2 ^ 32)
    (hid : ∀ key ident, Signcrypt.Recipient.sym key ident ∈ rs → ident.length < 2 ^ 32)
    (h : EncHeader) (hb : Bytes) (blks : List SigncryptBlock)
    (hs : Signcrypt.sealPackets P bs sender rs eph pk pt = .ok (h, hb, blks)) (hhb : hb.length < 2 ^ 32) :
    Wire.splitSigncrypt (headerPacket hb ++ Signcrypt.encodeBlocks blks) = .ok (.ok hb h, ⟨blks.map some, .eof⟩) ∧
    Codec.splitSigncrypt (headerPacket hb ++ Signcrypt.encodeBlocks blks) = .ok (.ok hb h, ⟨blks.map some, .eof⟩) :=
  bridge_seal_signcrypt P hS bs hbs hbs32 sender rs eph pk pt hpk hid h hb blks hs hhb

theorem C09_bridge_seal_sig (P : Prims) (hS : WireSizes P) (bs : Nat) (hbs : 0 < bs) (hbs32 : bs < 2 ^ 32)
    (v : Version) (signer nonce msg : Bytes) (hn : nonce.length + 92 < 2 ^ 32)
    (h : SigHeader) (hb : Bytes) (blks : List SigBlock) (body : Bytes)
    (hs : Sign.attachedPackets P bs v signer nonce msg = .ok (h, hb, blks))
    (he : Sign.encodeBlocks v blks = .ok body) :
    Wire.splitSig (headerPacket hb ++ body) = .ok (.ok hb h, ⟨(blks.map (sigAsRead v)).map some, .eof⟩) ∧
    Codec.splitSig (headerPacket hb ++ body) = .ok (.ok hb h, ⟨(blks.map (sigAsRead v)).map some, .eof⟩) :=
  bridge_seal_sig P hS bs hbs hbs32 v signer nonce msg hn h hb blks body hs he

theorem C09_bridge_seal_detached (P : Prims) (hS : WireSizes P) (v : Version) (signer nonce msg out : Bytes)
    (hn : nonce.length + 92 < 2 ^ 32) (hout : Sign.detachedWith P v signer nonce msg = .ok out) :
    ∃ hb h sg, Wire.splitDetached out = .ok (.ok hb h, .sig sg) ∧ Codec.splitDetached out = .ok (.ok hb h, .sig sg) :=
  bridge_seal_detached P hS v signer nonce msg out hn hout

/-- so on a sealed encryption message the byte-level front end (Codec first) IS that common answer
    (all four modes: `C15_front_reads_sealed_*`; the receivers' results: the `…_roundtrip_…bytes_front` theorems of
    Props/C01Bytes … C07Bytes) -/
theorem C09_front_on_sealed_enc (P : Prims) (hS : WireSizes P) (bs : Nat) (hbs : 0 < bs) (hbs32 : bs + 16 < 2 ^ 32)
    (v : Version) (sender : Option Bytes) (rs : List Encrypt.Recipient) (eph pk pt : Bytes)
    (hpk : pk.length + 16 < 2 ^ 32) (hpub : ∀ r ∈ rs, r.pub.length < 2 ^ 32)
    (h : EncHeader) (hb : Bytes) (blks : List EncBlock) (body : Bytes)
    (hs : Encrypt.sealPackets P bs v sender rs eph pk pt = .ok (h, hb, blks))
    (he : Encrypt.encodeBlocks v blks = .ok body) (hhb : hb.length < 2 ^ 32) :
    Front.readEnc (headerPacket hb ++ body) = .ok (.ok hb h, ⟨(blks.map (encAsRead v)).map some, .eof⟩) :=
  front_of_codec_eof (bridge_seal_enc P hS bs hbs hbs32 v sender rs eph pk pt hpk hpub h hb blks body hs he hhb).2

/-! ## non-vacuity (kernel-evaluated) -/

example : WireSizes Toy.prims := WireSizes.of_lawful Toy.lawful

/-- a V2 encryption packet with two authenticators and one reserved extra element -/
example : decEncBlockV2 (encode (.arr ([.bool true, authsVal [List.replicate 32 1, List.replicate 32 2], .bin [7]] ++ [.int 5])) ++ [9])
    = .ok (⟨[List.replicate 32 1, List.replicate 32 2], [7], true⟩, [9]) := by decide +kernel

/-- a signature header with an extra element -/
example : decSigHeader (encode (.arr ([.str Gen.c_sp_FormatName, v2.toVal, .int mtAttached, .bin [1], .bin [2]] ++ [.str [120]])))
    = .ok (Sign.header v2 [1] mtAttached [2], []) := by decide +kernel

/-- a signcryption message with an extra in the header and a nested extra in its packet: the front end reads it -/
example : (Front.readSigncrypt (headerPacket (encode (encHeaderValEx ⟨Gen.c_sp_FormatName, v2, mtSigncryption, [1], [2], []⟩ [.int 7])) ++
      encode (scPacketValEx (⟨[9], true⟩, [.arr [.arr [.str [120]]]])))).toOption.map (fun x => (x.2.items, x.2.tail)) =
    some ([some ⟨[9], true⟩], .eof) := by decide +kernel

/-- the hypothesis "32-byte authenticators" cannot go: a 3-byte authenticator is
    zero-padded by go-codec, so the decoder does NOT return the sender's field -/
example : (decEncBlockV2 (encode (.arr [.bool true, .arr [.bin [1, 2, 3]], .bin [7]]))).toOption.map (·.1.auths)
    = some [[1, 2, 3] ++ List.replicate 29 0] := by decide +kernel

end Saltpack.Props.C09
