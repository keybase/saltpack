/-
  C15 (hostile input) at the BYTE level: for every byte string THE FRONT END READS.

  `Props/C15.lean` proves "no run ends in `Err.panic`" for every decoded header
  and packet stream, under the hypothesis `htail` that the stream's own tail
  error is not a panic.  `Model/Front.lean` turns a byte string into such a
  stream the way the receivers' reads do: `Codec.split*` — go-codec's typed
  decoding, in go-codec's order, with its leniencies and its depth budget — and,
  only where `Codec` calls the input unmodelled, the spec-shaped `Wire.split*`.
  Here the two are composed: whenever the front end reads `msg` (it does not
  answer `unmodelled` — the honest hypothesis `… = .ok r` of every theorem), the
  receiver run on what it read never ends in a panic — all keyrings, resolvers,
  validators admitting majors 1, 2 only.  `htail` holds of every tail a front end
  produces: a clean end or a plain decode error (`C15_front_tails_plain`).

  About `unmodelled`: the front end answers it exactly when `Codec` does and `Wire` does not know
  the input either (`C15_front_unmodelled_def`, an unfolding — it bounds nothing); on every genuine
  sender output it does answer, through `Codec` (`C15_front_reads_sealed_*`); the packet loop never
  runs out of fuel and an `unmodelled` answer comes from one packet decode
  (`C15_blocks_unmodelled_partial`; its progress hypothesis, that fuel is never the reason and that
  every reason is one of the three documented in Model/Codec.lean: Props/C15Front.lean).  How often
  hostile inputs hit them is measured by the correspondence (0.0–0.3 %).
-/
import Saltpack.Proofs.CodecBytes
import Saltpack.Proofs.CodecBytesBridge
import Saltpack.Toy

namespace Saltpack.Props.C15
open Saltpack Saltpack.Proofs

/-- **Decryption, every byte string.** -/
theorem C15_decrypt_no_panic_bytes (P : Prims) (hP : P.Lawful) (valid : Validator) (hvalid : ValidatorOK valid)
    (kr : Keyring) (msg : Bytes) (r : Decrypt.Result)
    (hread : Decrypt.openBytes P valid kr msg = .ok r) (e : Err) (h : r.err = some e) :
    Err.isPanic e = false := by
  obtain ⟨hr, ps, hrd, rfl⟩ := dec_openBytes_ok hread
  exact dec_no_panic P hP valid hvalid kr hr ps (front_tail hrd).no_panic e h

/-- **Signcryption, every byte string** (any keyring, any resolver). -/
theorem C15_signcrypt_open_no_panic_bytes (P : Prims) (kr : Keyring) (res : Signcrypt.Resolver) (msg : Bytes)
    (r : Signcrypt.Result) (hread : Signcrypt.openBytes P kr res msg = .ok r) (e : Err) (h : r.err = some e) :
    Err.isPanic e = false := by
  obtain ⟨hr, ps, hrd, rfl⟩ := sc_openBytes_ok hread
  exact sc_no_panic P kr res hr ps (front_tail hrd).no_panic e h

/-- **Attached signatures, every byte string.** -/
theorem C15_verify_no_panic_bytes (P : Prims) (valid : Validator) (hvalid : ValidatorOK valid)
    (kr : Keyring) (msg : Bytes) (r : Sign.Result)
    (hread : Sign.verifyBytes P valid kr msg = .ok r) (e : Err) (h : r.err = some e) :
    Err.isPanic e = false := by
  obtain ⟨hr, ps, hrd, rfl⟩ := sig_verifyBytes_ok hread
  exact ver_no_panic P valid hvalid kr hr ps (front_tail hrd).no_panic e h

/-- **Detached signatures, every signature byte string and every message.** -/
theorem C15_verify_detached_no_panic_bytes (P : Prims) (valid : Validator) (kr : Keyring) (sigMsg msg : Bytes)
    (r : Except Err Bytes) (hread : Sign.verifyDetachedBytes P valid kr sigMsg msg = .ok r) (e : Err)
    (h : r = .error e) : Err.isPanic e = false := by
  obtain ⟨hr, sr, hrd, rfl⟩ := sig_verifyDetachedBytes_ok hread
  exact det_no_panic P valid kr hr sr msg (readDetached_plain sigMsg hr sr hrd).no_panic e h

/-- the hypothesis `htail` / `hsr` of `C15_*_no_panic` holds for every byte string -/
theorem C15_front_tails_plain (msg : Bytes) :
    (∀ hr ps, Front.readEnc msg = .ok (hr, ps) → ps.tail = .eof ∨ ps.tail = .err .decodeError) ∧
    (∀ hr ps, Front.readSigncrypt msg = .ok (hr, ps) → ps.tail = .eof ∨ ps.tail = .err .decodeError) ∧
    (∀ hr ps, Front.readSig msg = .ok (hr, ps) → ps.tail = .eof ∨ ps.tail = .err .decodeError) ∧
    (∀ hr sr, Front.readDetached msg = .ok (hr, sr) →
      ∀ e, sr = .none e → e = .unexpectedEOF ∨ e = .decodeError) :=
  ⟨fun _ _ => front_tail, fun _ _ => front_tail, fun _ _ => front_tail, readDetached_plain msg⟩

/-- **`unmodelled`, unfolded.**  The
    front end answers `unmodelled w` exactly when go-codec's typed reader of the
    model answers `unmodelled w` AND the spec-shaped reader does not know the input
    either — for all four front ends.  This is the definition of `Front.orWire`
    spelled out; it does not bound the set of unmodelled inputs (see the header). -/
theorem C15_front_unmodelled_def (msg : Bytes) (w : String) :
    (Front.readEnc msg = .error w ↔ Codec.splitEnc msg = .error w ∧ ∃ w', Wire.splitEnc msg = .unmodelled w') ∧
    (Front.readSigncrypt msg = .error w ↔
      Codec.splitSigncrypt msg = .error w ∧ ∃ w', Wire.splitSigncrypt msg = .unmodelled w') ∧
    (Front.readSig msg = .error w ↔ Codec.splitSig msg = .error w ∧ ∃ w', Wire.splitSig msg = .unmodelled w') ∧
    (Front.readDetached msg = .error w ↔
      Codec.splitDetached msg = .error w ∧ ∃ w', Wire.splitDetached msg = .unmodelled w') := by
  refine ⟨?_, ?_, ?_, ?_⟩
  · unfold Front.readEnc; rw [orWire_error_iff, settle_error]
  · unfold Front.readSigncrypt; rw [orWire_error_iff, settle_error]
  · unfold Front.readSig; rw [orWire_error_iff, settle_error]
  · unfold Front.readDetached; rw [orWire_error_iff, codecDetached_error]

/-- **Where go-codec's typed reader answers, the front end is that reader** (all
    four front ends): the same header read, the same packets; the tail is the
    typed reader's, except that behind a final packet a truncated object the typed
    decoder refuses counts as the clean end `assertEndOfStream`'s generic read
    reports (`Front.settle`) — in particular a stream `Codec` ends cleanly is
    handed over unchanged. -/
theorem C15_front_is_codec_where_modelled (msg : Bytes) :
    (∀ hr ps, Codec.splitEnc msg = .ok (hr, ps) →
      ∃ ps', Front.readEnc msg = .ok (hr, ps') ∧ ps'.items = ps.items ∧ (ps'.tail = ps.tail ∨ ps'.tail = .eof)) ∧
    (∀ hr ps, Codec.splitSigncrypt msg = .ok (hr, ps) →
      ∃ ps', Front.readSigncrypt msg = .ok (hr, ps') ∧ ps'.items = ps.items ∧ (ps'.tail = ps.tail ∨ ps'.tail = .eof)) ∧
    (∀ hr ps, Codec.splitSig msg = .ok (hr, ps) →
      ∃ ps', Front.readSig msg = .ok (hr, ps') ∧ ps'.items = ps.items ∧ (ps'.tail = ps.tail ∨ ps'.tail = .eof)) ∧
    (∀ hr d, Codec.splitDetached msg = .ok (hr, d) → Front.readDetached msg = .ok (hr, Front.detSig d)) :=
  ⟨fun _ _ h => front_of_codec h, fun _ _ h => front_of_codec h, fun _ _ h => front_of_codec h,
   fun _ _ h => orWire_of_codec (codecDetached_of_ok h)⟩

/-- the spec-shaped reader is consulted only where the typed reader gives up (stated for the
    encryption front end; `Proofs.front_ok` is the same for all three packet front ends) -/
theorem C15_front_is_wire_only_where_codec_unmodelled (msg : Bytes) (hr : HeaderRead EncHeader) (ps : PStream EncBlock)
    (h : Front.readEnc msg = .ok (hr, ps)) :
    (∃ ps0, Codec.splitEnc msg = .ok (hr, ps0) ∧ ps.items = ps0.items ∧ (ps.tail = ps0.tail ∨ ps.tail = .eof)) ∨
    ∃ w, Codec.splitEnc msg = .error w ∧ Wire.splitEnc msg = .ok (hr, ps) :=
  front_ok h

/-- **The packet loop never exhausts its fuel — partial.**  `Codec.split*` read
    the packets with `Codec.blocks dec (rest.length + 1) rest`.  If every
    successful packet decode consumes at least one byte (`hprog`; for the packet
    decoders of the model: `C15_front_packet_decode_progress`, Props/C15Front.lean),
    then with fuel beyond the input length the loop answers
    `unmodelled w` only because ONE packet decode — the typed one, or the generic
    one tried at the same position after a typed decode error — answered
    `unmodelled w` on a suffix reached by successful typed decodes. -/
theorem C15_blocks_unmodelled_partial {β : Type} (dec : Codec.Dec β)
    (hprog : ∀ b x r, dec b = .ok (x, r) → r.length < b.length) :
    ∀ (fuel : Nat) (b : Bytes) (w : String), b.length < fuel → Codec.blocks dec fuel b = .error w →
      ∃ b' : Bytes, b'.length ≤ b.length ∧
        (dec b' = .error (.unmodelled w) ∨ (∃ why, dec b' = .error (.err why)) ∧ Codec.generic b' = .error (.unmodelled w)) :=
  blocks_unmodelled_provenance dec hprog

/-- non-vacuity of `hprog`: a decoder that takes one byte per packet -/
example : ∀ (fuel : Nat) (b : Bytes) (w : String), b.length < fuel →
    Codec.blocks (fun b => match b with | [] => .error .eof | x :: r => .ok (x, r)) fuel b ≠ .error w := by
  intro fuel b w hf h
  obtain ⟨b', _, hb'⟩ := C15_blocks_unmodelled_partial
    (fun b => match b with | [] => .error .eof | x :: r => .ok (x, r))
    (by intro b x r h; cases b with
        | nil => cases h
        | cons y t => cases h; simp) fuel b w hf h
  rcases hb' with h1 | ⟨⟨why, h1⟩, _⟩
  · cases b' <;> cases h1
  · cases b' <;> cases h1

/-- **Genuine sender output is read** (never `unmodelled`), by go-codec's typed
    reader, as the header and the packets the sender wrote — encryption.
    (Hypotheses: those of the bridge `C09_bridge_seal_enc`.) -/
theorem C15_front_reads_sealed_enc (P : Prims) (hS : WireSizes P) (bs : Nat) (hbs : 0 < bs) (hbs32 : bs + 16 < 2 ^ 32)
    (v : Version) (sender : Option Bytes) (rs : List Encrypt.Recipient) (eph pk pt : Bytes)
    (hpk : pk.length + 16 < 2 ^ 32) (hpub : ∀ r ∈ rs, r.pub.length < 2 ^ 32)
    (h : EncHeader) (hb : Bytes) (blks : List EncBlock) (body : Bytes)
    (hs : Encrypt.sealPackets P bs v sender rs eph pk pt = .ok (h, hb, blks))
    (he : Encrypt.encodeBlocks v blks = .ok body) (hhb : hb.length < 2 ^ 32) :
    Front.readEnc (headerPacket hb ++ body) = .ok (.ok hb h, ⟨(blks.map (encAsRead v)).map some, .eof⟩) :=
  front_of_codec_eof (CodecP.bridge_seal_enc P hS bs hbs hbs32 v sender rs eph pk pt hpk hpub h hb blks body hs he hhb).2

/-- … signcryption -/
theorem C15_front_reads_sealed_signcrypt (P : Prims) (hS : WireSizes P) (bs : Nat) (hbs : 0 < bs)
    (hbs32 : bs + 80 < 2 ^ 32) (sender : Option Bytes) (rs : List Signcrypt.Recipient) (eph pk pt : Bytes)
    (hpk : pk.length + 16 < 2 ^ 32)
    (hid : ∀ key ident, Signcrypt.Recipient.sym key ident ∈ rs → ident.length < 2 ^ 32)
    (h : EncHeader) (hb : Bytes) (blks : List SigncryptBlock)
    (hs : Signcrypt.sealPackets P bs sender rs eph pk pt = .ok (h, hb, blks)) (hhb : hb.length < 2 ^ 32) :
    Front.readSigncrypt (headerPacket hb ++ Signcrypt.encodeBlocks blks) = .ok (.ok hb h, ⟨blks.map some, .eof⟩) :=
  front_of_codec_eof (CodecP.bridge_seal_signcrypt P hS bs hbs hbs32 sender rs eph pk pt hpk hid h hb blks hs hhb).2

/-- … attached signatures -/
theorem C15_front_reads_sealed_sig (P : Prims) (hS : WireSizes P) (bs : Nat) (hbs : 0 < bs) (hbs32 : bs < 2 ^ 32)
    (v : Version) (signer nonce msg : Bytes) (hn : nonce.length + 92 < 2 ^ 32)
    (h : SigHeader) (hb : Bytes) (blks : List SigBlock) (body : Bytes)
    (hs : Sign.attachedPackets P bs v signer nonce msg = .ok (h, hb, blks))
    (he : Sign.encodeBlocks v blks = .ok body) :
    Front.readSig (headerPacket hb ++ body) = .ok (.ok hb h, ⟨(blks.map (sigAsRead v)).map some, .eof⟩) :=
  front_of_codec_eof (CodecP.bridge_seal_sig P hS bs hbs hbs32 v signer nonce msg hn h hb blks body hs he).2

/-- … detached signatures -/
theorem C15_front_reads_sealed_detached (P : Prims) (hS : WireSizes P) (v : Version) (signer nonce msg out : Bytes)
    (hn : nonce.length + 92 < 2 ^ 32) (hout : Sign.detachedWith P v signer nonce msg = .ok out) :
    ∃ hb h sg, Front.readDetached out = .ok (.ok hb h, .sig sg) := by
  obtain ⟨hb, h, sg, _, hc⟩ := CodecP.bridge_seal_detached P hS v signer nonce msg out hn hout
  exact ⟨hb, h, sg, orWire_of_codec (codecDetached_of_ok hc)⟩

/-! ## a concrete hostile byte string (kernel-evaluated)

  An attached-signature message whose payload packet is a FIXMAP where the
  packet array is expected: `82 c3 c4 01 09 c4 01 41 07` = map of 2 pairs, which
  go-codec reads as the 4 flat elements `true, bin[09], bin[41], 7` of the V2
  block (`final`, `signature`, `payload_chunk`, one surplus element swallowed).
  The spec-shaped reader calls it unmodelled; the front end reads it through
  `Codec` (its primary reader); the verifier refuses the signature — an error, no panic. -/

def hostileSigMsg : Bytes :=
  headerPacket (Msgpack.encode (Sign.header v2 [1] mtAttached [2]).toVal) ++
    [0x82, 0xc3, 0xc4, 0x01, 0x09, 0xc4, 0x01, 0x41, 0x07]

/-- a keyring that knows every signer -/
def anyRing : Keyring := ⟨fun _ => (-1, none), fun _ => none, [], fun _ => none, fun k => some k⟩

example : (match Wire.splitSig hostileSigMsg with | .unmodelled _ => true | .ok _ => false) = true := by decide +kernel

example : (Front.readSig hostileSigMsg).toOption.map (fun x => (x.2.items, x.2.tail)) =
    some ([some ⟨[9], [0x41], true⟩], .eof) := by decide +kernel

example : (Sign.verifyBytes Toy.prims knownMajor anyRing hostileSigMsg).toOption.map (fun r => (r.released, r.err)) =
    some ([], some .badSignature) := by decide +kernel

/-- the hypotheses of `C15_verify_no_panic_bytes` are met by this instance -/
example : ∀ r, Sign.verifyBytes Toy.prims knownMajor anyRing hostileSigMsg = .ok r →
    ∀ e, r.err = some e → Err.isPanic e = false :=
  fun r hr e he => C15_verify_no_panic_bytes Toy.prims knownMajor knownMajor_ok anyRing hostileSigMsg r hr e he

/-- an empty fixmap as the whole header (`c4 01 80`): every field stays zero, the
    format name is refused — for every keyring -/
example (kr : Keyring) : (Decrypt.openBytes Toy.prims knownMajor kr [0xc4, 0x01, 0x80]).toOption.map
    (fun r => (r.released, r.err)) = some ([], some .notASaltpackMessage) := by rfl

end Saltpack.Props.C15
