/-
  Property C13 — write-split independence of the ARMORED sender streams
  (`NewEncryptArmor62Stream`, `NewSignArmor62Stream`,
  `NewSignDetachedArmor62Stream`, `NewSigncryptArmor62SealStream`: packet stream
  → go-codec → armor encoder stream → writer, `closeForwarder`), at byte level,
  UNCONDITIONALLY — the armored counterpart of Props/C13SenderFull.lean (the
  four BINARY streams); `C14_*_armored_success_means_written` say the same only
  under "every call reported success".

  The armor encoder stream `FArm` over a scripted writer with an exhausted
  fault script (`({} : Wr)`, every underlying `Write` succeeds) is itself a
  never-failing writer (`GoodWriter FArm.write GoodA`): every `Write` AND its
  `Close` succeed.  Hence, for EVERY plaintext and EVERY split into `Write`s:

    * both constructors succeed;
    * when the all-at-once binary message `M` exists every `Write` returns
      `(len p, nil)`, `Close` returns nil and the writer holds exactly
      `Armor.seal62 typ brand M`;
    * when it does not exist (a packet number is refused: `ErrPacketOverflow`)
      `Close` returns the error, the armor stream is not closed, and the writer
      holds the unclosed armor text of the packets before the refused one;
    * in both cases the bytes depend on the concatenation only: two splits of
      the same plaintext leave the SAME bytes, no hypothesis on what the calls
      returned.

  Checked against the real constructors by the correspondence streams
  `sender.split.*` (armored modes).
-/
import Saltpack.Proofs.ArmoredSenderTotal

namespace Saltpack.Props.C13
open Saltpack Saltpack.Sender Saltpack.Proofs Saltpack.Proofs.SenderP

/-- **the armor encoder stream over a never-failing writer never fails**: the
    `GoodWriter` instance for `FArm` (invariant `GoodA`: fault script below
    exhausted, `s.err` unset, BaseX encoder healthy), its `Close` succeeds too,
    and the constructor over `({} : Wr)` succeeds in such a state -/
theorem C13_armor_stream_never_fails :
    GoodWriter FArm.write GoodA ∧ (∀ a, GoodA a → a.close.1 = true) ∧
    (∀ par hdr ftr, (FArm.init par hdr ftr ({} : Wr)).1 = true ∧ GoodA (FArm.init par hdr ftr ({} : Wr)).2) :=
  ⟨farm_good, farm_close_good, farm_init_good⟩

/-- **Totality and the bytes of every armored run over a never-failing
    writer**, any packet-stream configuration meeting the side conditions the
    three instances meet, the shipped Armor62 parameters -/
theorem C13_armored_sender_stream_total (cfg : Cfg) (hp : ∀ b, (cfg.pieces b).flatten = b) (hb : 0 < cfg.bs)
    (hif : IndexFail cfg.pkt) (v : Version) (hv : cfg.v1shape = (v == v1)) (typ : Int) (brand : Bytes)
    (headerBytes : Bytes) (ws : List Bytes) :
    let a := FArm.init62 typ brand ({} : Wr)
    let i := PSt.init FArm.write cfg.pieces a.2 headerBytes
    let r := PSt.writes FArm.write cfg i.2 ws
    let c := armoredClose cfg r.2
    a.1 = true ∧ i.1 = true ∧
    (∀ B, planBytes cfg.pkt (Encrypt.chunkPlan v cfg.bs ws.flatten) 0 = .ok B →
      r.1 = ws.map (fun p => (p.length, none)) ∧ c.1 = none ∧
      c.2.codec.w.w.bytes = Armor.seal62 typ brand (headerPacket headerBytes ++ B)) ∧
    ((∀ B, planBytes cfg.pkt (Encrypt.chunkPlan v cfg.bs ws.flatten) 0 ≠ .ok B) →
      c.1 ≠ none ∧
      c.2.codec.w.w.bytes = armorUnclosed Armor.params62 (Armor.header typ brand) (Armor.footer typ brand)
        (headerPacket headerBytes ++ planOkBytes cfg.pkt (Encrypt.chunkPlan v cfg.bs ws.flatten) 0)) :=
  armored_run_good cfg hp hb hif v hv Armor.params62 Proofs.params62_wf (by decide)
    (Armor.header typ brand) (Armor.footer typ brand) headerBytes ws

/-- **Two splits of the same plaintext, same armored bytes — unconditionally**:
    no hypothesis on what the calls returned, and also when a packet number is
    refused on the way. -/
theorem C13_armored_sender_stream_independent (cfg : Cfg) (hp : ∀ b, (cfg.pieces b).flatten = b) (hb : 0 < cfg.bs)
    (hif : IndexFail cfg.pkt) (v : Version) (hv : cfg.v1shape = (v == v1)) (typ : Int) (brand : Bytes)
    (headerBytes : Bytes) (ws ws' : List Bytes) (hsame : ws.flatten = ws'.flatten) :
    let a := FArm.init62 typ brand ({} : Wr)
    let i := PSt.init FArm.write cfg.pieces a.2 headerBytes
    (armoredClose cfg (PSt.writes FArm.write cfg i.2 ws).2).2.codec.w.w.bytes =
      (armoredClose cfg (PSt.writes FArm.write cfg i.2 ws').2).2.codec.w.w.bytes := by
  intro a i
  obtain ⟨_, _, h3, h4⟩ := C13_armored_sender_stream_total cfg hp hb hif v hv typ brand headerBytes ws
  obtain ⟨_, _, h3', h4'⟩ := C13_armored_sender_stream_total cfg hp hb hif v hv typ brand headerBytes ws'
  cases hB : planBytes cfg.pkt (Encrypt.chunkPlan v cfg.bs ws.flatten) 0 with
  | ok B =>
    rw [(h3 B hB).2.2, (h3' B (by rw [← hsame]; exact hB)).2.2]
  | error e =>
    have hno : ∀ B, planBytes cfg.pkt (Encrypt.chunkPlan v cfg.bs ws.flatten) 0 ≠ .ok B := by
      intro B h; rw [hB] at h; cases h
    rw [(h4 hno).2, (h4' (by rw [← hsame]; exact hno)).2, hsame]

/-- when the all-at-once binary form `M` exists: every call of every split
    reports success and the writer holds exactly `Armor.seal62 typ brand M` -/
theorem C13_armored_sender_stream_is_armor_of_oneShot (cfg : Cfg) (hp : ∀ b, (cfg.pieces b).flatten = b) (hb : 0 < cfg.bs)
    (hif : IndexFail cfg.pkt) (v : Version) (hv : cfg.v1shape = (v == v1)) (typ : Int) (brand : Bytes)
    (headerBytes : Bytes) (ws : List Bytes) (M : Bytes) (hM : oneShot cfg v headerBytes ws.flatten = .ok M) :
    let a := FArm.init62 typ brand ({} : Wr)
    let i := PSt.init FArm.write cfg.pieces a.2 headerBytes
    let r := PSt.writes FArm.write cfg i.2 ws
    let c := armoredClose cfg r.2
    a.1 = true ∧ i.1 = true ∧ r.1 = ws.map (fun p => (p.length, none)) ∧ c.1 = none ∧
      c.2.codec.w.w.bytes = Armor.seal62 typ brand M := by
  intro a i r c
  obtain ⟨B, hB, rfl⟩ := oneShot_ok cfg v headerBytes _ M hM
  obtain ⟨h1, h2, h3, _⟩ := C13_armored_sender_stream_total cfg hp hb hif v hv typ brand headerBytes ws
  obtain ⟨g1, g2, g3⟩ := h3 B hB
  exact ⟨h1, h2, g1, g2, g3⟩

/-! ## the four armored senders -/

/-- **`NewEncryptArmor62Stream` = armor of `Seal`, for every split**: the writer
    holds `Armor.seal62 typ brand (Encrypt.sealWith … (concatenated plaintext))`
    and every call reports success -/
theorem C13_encrypt_armored_is_armor_of_seal (P : Prims) (bs : Nat) (hb : 0 < bs) (pieces : Bytes → List Bytes)
    (hp : ∀ b, (pieces b).flatten = b) (v : Version) (sender : Option Bytes) (rs : List Encrypt.Recipient)
    (eph pk : Bytes) (hbytes : Bytes) (cfg : Cfg) (hs : encryptSetup P bs pieces v sender rs eph pk = .ok (hbytes, cfg))
    (typ : Int) (brand : Bytes) (ws : List Bytes) (M : Bytes)
    (hM : Encrypt.sealWith P bs v sender rs eph pk ws.flatten = .ok M) :
    let a := FArm.init62 typ brand ({} : Wr)
    let i := PSt.init FArm.write cfg.pieces a.2 hbytes
    let r := PSt.writes FArm.write cfg i.2 ws
    let c := armoredClose cfg r.2
    a.1 = true ∧ i.1 = true ∧ r.1 = ws.map (fun p => (p.length, none)) ∧ c.1 = none ∧
      c.2.codec.w.w.bytes = Armor.seal62 typ brand M := by
  have hm := encrypt_mode P bs hb pieces hp v sender rs eph pk hbytes cfg hs
  exact C13_armored_sender_stream_is_armor_of_oneShot cfg hm.pieces hm.bs_pos hm.refuse v hm.shape typ brand hbytes ws M
    ((hm.whole_iff _ _).1 hM)

/-- `NewEncryptArmor62Stream`, two splits, same bytes — unconditionally -/
theorem C13_encrypt_armored_independent (P : Prims) (bs : Nat) (hb : 0 < bs) (pieces : Bytes → List Bytes)
    (hp : ∀ b, (pieces b).flatten = b) (v : Version) (sender : Option Bytes) (rs : List Encrypt.Recipient)
    (eph pk : Bytes) (hbytes : Bytes) (cfg : Cfg) (hs : encryptSetup P bs pieces v sender rs eph pk = .ok (hbytes, cfg))
    (typ : Int) (brand : Bytes) (ws ws' : List Bytes) (hsame : ws.flatten = ws'.flatten) :
    let a := FArm.init62 typ brand ({} : Wr)
    let i := PSt.init FArm.write cfg.pieces a.2 hbytes
    (armoredClose cfg (PSt.writes FArm.write cfg i.2 ws).2).2.codec.w.w.bytes =
      (armoredClose cfg (PSt.writes FArm.write cfg i.2 ws').2).2.codec.w.w.bytes := by
  have hm := encrypt_mode P bs hb pieces hp v sender rs eph pk hbytes cfg hs
  exact C13_armored_sender_stream_independent cfg hm.pieces hm.bs_pos hm.refuse v hm.shape typ brand hbytes ws ws' hsame

/-- **`NewSignArmor62Stream` = armor of `Sign` (attached), for every split** -/
theorem C13_sign_armored_is_armor_of_attached (P : Prims) (bs : Nat) (hb : 0 < bs) (pieces : Bytes → List Bytes)
    (hp : ∀ b, (pieces b).flatten = b) (v : Version) (signer nonce : Bytes) (hbytes : Bytes) (cfg : Cfg)
    (hs : signSetup P bs pieces v signer nonce = .ok (hbytes, cfg))
    (typ : Int) (brand : Bytes) (ws : List Bytes) (M : Bytes)
    (hM : Sign.attachedWith P bs v signer nonce ws.flatten = .ok M) :
    let a := FArm.init62 typ brand ({} : Wr)
    let i := PSt.init FArm.write cfg.pieces a.2 hbytes
    let r := PSt.writes FArm.write cfg i.2 ws
    let c := armoredClose cfg r.2
    a.1 = true ∧ i.1 = true ∧ r.1 = ws.map (fun p => (p.length, none)) ∧ c.1 = none ∧
      c.2.codec.w.w.bytes = Armor.seal62 typ brand M := by
  have hm := sign_mode P bs hb pieces hp v signer nonce hbytes cfg hs
  exact C13_armored_sender_stream_is_armor_of_oneShot cfg hm.pieces hm.bs_pos hm.refuse v hm.shape typ brand hbytes ws M
    ((hm.whole_iff _ _).1 hM)

theorem C13_sign_armored_independent (P : Prims) (bs : Nat) (hb : 0 < bs) (pieces : Bytes → List Bytes)
    (hp : ∀ b, (pieces b).flatten = b) (v : Version) (signer nonce : Bytes) (hbytes : Bytes) (cfg : Cfg)
    (hs : signSetup P bs pieces v signer nonce = .ok (hbytes, cfg))
    (typ : Int) (brand : Bytes) (ws ws' : List Bytes) (hsame : ws.flatten = ws'.flatten) :
    let a := FArm.init62 typ brand ({} : Wr)
    let i := PSt.init FArm.write cfg.pieces a.2 hbytes
    (armoredClose cfg (PSt.writes FArm.write cfg i.2 ws).2).2.codec.w.w.bytes =
      (armoredClose cfg (PSt.writes FArm.write cfg i.2 ws').2).2.codec.w.w.bytes := by
  have hm := sign_mode P bs hb pieces hp v signer nonce hbytes cfg hs
  exact C13_armored_sender_stream_independent cfg hm.pieces hm.bs_pos hm.refuse v hm.shape typ brand hbytes ws ws' hsame

/-- **`NewSigncryptArmor62SealStream` = armor of `SigncryptSeal`, for every
    split** (the Go constructor passes `typ = MessageTypeEncryption`: see
    `Signcrypt.sealArmor62` / Props/C03Armored.lean) -/
theorem C13_signcrypt_armored_is_armor_of_seal (P : Prims) (bs : Nat) (hb : 0 < bs) (pieces : Bytes → List Bytes)
    (hp : ∀ b, (pieces b).flatten = b) (sender : Option Bytes) (rs : List Signcrypt.Recipient) (eph pk : Bytes)
    (hbytes : Bytes) (cfg : Cfg) (hs : signcryptSetup P bs pieces sender rs eph pk = .ok (hbytes, cfg))
    (typ : Int) (brand : Bytes) (ws : List Bytes) (M : Bytes)
    (hM : Signcrypt.sealWith P bs sender rs eph pk ws.flatten = .ok M) :
    let a := FArm.init62 typ brand ({} : Wr)
    let i := PSt.init FArm.write cfg.pieces a.2 hbytes
    let r := PSt.writes FArm.write cfg i.2 ws
    let c := armoredClose cfg r.2
    a.1 = true ∧ i.1 = true ∧ r.1 = ws.map (fun p => (p.length, none)) ∧ c.1 = none ∧
      c.2.codec.w.w.bytes = Armor.seal62 typ brand M := by
  have hm := signcrypt_mode P bs hb pieces hp sender rs eph pk hbytes cfg hs
  exact C13_armored_sender_stream_is_armor_of_oneShot cfg hm.pieces hm.bs_pos hm.refuse v2 hm.shape typ brand hbytes ws M
    ((hm.whole_iff _ _).1 hM)

theorem C13_signcrypt_armored_independent (P : Prims) (bs : Nat) (hb : 0 < bs) (pieces : Bytes → List Bytes)
    (hp : ∀ b, (pieces b).flatten = b) (sender : Option Bytes) (rs : List Signcrypt.Recipient) (eph pk : Bytes)
    (hbytes : Bytes) (cfg : Cfg) (hs : signcryptSetup P bs pieces sender rs eph pk = .ok (hbytes, cfg))
    (typ : Int) (brand : Bytes) (ws ws' : List Bytes) (hsame : ws.flatten = ws'.flatten) :
    let a := FArm.init62 typ brand ({} : Wr)
    let i := PSt.init FArm.write cfg.pieces a.2 hbytes
    (armoredClose cfg (PSt.writes FArm.write cfg i.2 ws).2).2.codec.w.w.bytes =
      (armoredClose cfg (PSt.writes FArm.write cfg i.2 ws').2).2.codec.w.w.bytes := by
  have hm := signcrypt_mode P bs hb pieces hp sender rs eph pk hbytes cfg hs
  exact C13_armored_sender_stream_independent cfg hm.pieces hm.bs_pos hm.refuse v2 hm.shape typ brand hbytes ws ws' hsame

/-- **`NewSignDetachedArmor62Stream` = armor of `SignDetached`, for every
    split**: everything reports success and the writer holds the armor text of
    `Sign.detachedWith` of the concatenation (so two splits leave the same bytes) -/
theorem C13_detached_armored_is_armor_of_detached (P : Prims) (pieces : Bytes → List Bytes)
    (hp : ∀ b, (pieces b).flatten = b) (v : Version) (signer nonce : Bytes) (hbytes : Bytes) (sp : Bytes → Bytes)
    (hs : detachedSetup P v signer nonce = .ok (hbytes, sp)) (typ : Int) (brand : Bytes) (ws : List Bytes) :
    let a := FArm.init62 typ brand ({} : Wr)
    let i := DSt.init FArm.write pieces a.2 hbytes
    let r := DSt.writes i.2 ws
    let c := armoredCloseD pieces sp r.2
    a.1 = true ∧ i.1 = true ∧ r.1 = ws.map (fun p => (p.length, none)) ∧ c.1 = none ∧
      ∃ M, Sign.detachedWith P v signer nonce ws.flatten = .ok M ∧
        c.2.codec.w.w.bytes = Armor.seal62 typ brand M := by
  intro a i r c
  obtain ⟨h1, h2, h3, h4, h5⟩ := armored_det_good pieces hp sp Armor.params62 Proofs.params62_wf
    (by decide) (Armor.header typ brand) (Armor.footer typ brand) hbytes ws
  exact ⟨h1, h2, h3, h4, _, (detachedWith_iff P v signer nonce ws.flatten _).2 ⟨hbytes, sp, hs, rfl⟩, h5⟩

/-! ## non-vacuity (toy packet stream: blocks of 2 bytes, packet = number ‖ final flag ‖ chunk, one
     armor-stream `Write` per byte; the shipped Armor62 parameters; kernel-evaluated) -/

private def toyA : Cfg :=
  { bs := 2, v1shape := false, hasErr := true,
    pkt := fun i c f => .ok ([UInt8.ofNat i, if f then 1 else 0] ++ c), pieces := fun b => b.map ([·]) }

/-- refuses packet numbers ≥ 2 (stands for `ErrPacketOverflow`) -/
private def toyAOverflow : Cfg :=
  { toyA with pkt := fun i c f => if i < 2 then .ok ([UInt8.ofNat i, if f then 1 else 0] ++ c) else .error .packetOverflow }

private def runA (cfg : Cfg) (ws : List Bytes) : Bool × Bool × List (Nat × Option Err) × Option Err × Bytes :=
  let a := FArm.init62 0 [] ({} : Wr)
  let i := PSt.init FArm.write cfg.pieces a.2 [7]
  let r := PSt.writes FArm.write cfg i.2 ws
  let c := armoredClose cfg r.2
  (a.1, i.1, r.1, c.1, c.2.codec.w.w.bytes)

example : runA toyA [[1], [], [2, 3], [4], [], [5], []] =
    (true, true, [(1, none), (0, none), (2, none), (1, none), (0, none), (1, none), (0, none)], none,
      Armor.seal62 0 [] [0xc4, 1, 7, 0, 0, 1, 2, 1, 0, 3, 4, 2, 1, 5]) := by decide +kernel
example : oneShot toyA v2 [7] [1, 2, 3, 4, 5] = .ok [0xc4, 1, 7, 0, 0, 1, 2, 1, 0, 3, 4, 2, 1, 5] := by decide +kernel
/-- with a refused packet number: the calls fail (differently per split), `Close` reports the
    error, the BYTES agree and are the unclosed armor text of the packets before the refused one -/
example : (runA toyAOverflow [[1, 2, 3, 4, 5, 6, 7]]).2.2.2 =
    (some .packetOverflow, armorUnclosed Armor.params62 (Armor.header 0 []) (Armor.footer 0 [])
      [0xc4, 1, 7, 0, 0, 1, 2, 1, 0, 3, 4]) := by decide +kernel
example : (runA toyAOverflow [[1, 2, 3], [4, 5], [6], [7]]).2.2.2 =
    (some .packetOverflow, armorUnclosed Armor.params62 (Armor.header 0 []) (Armor.footer 0 [])
      [0xc4, 1, 7, 0, 0, 1, 2, 1, 0, 3, 4]) := by decide +kernel

end Saltpack.Props.C13
