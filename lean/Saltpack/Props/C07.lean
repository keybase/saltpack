/-
  Property C07 — detached signatures verify exactly the signed message and
  nothing else.  Statements only; proofs in Saltpack/Proofs/RoundTripSig.lean,
  RingSig.lean and Receiver.lean.
-/
import Saltpack.Proofs.RoundTripSig
import Saltpack.Proofs.SignReader
import Saltpack.Proofs.WireRT
import Saltpack.Toy

namespace Saltpack.Props.C07
open Saltpack

/-- **Round trip**: a detached signature for `msg` by `signer` verifies against
    `msg` under a keyring that knows the signer, and returns the signer's key. -/
theorem C07_roundtrip (P : Prims) (hP : P.Lawful)
    (v : Version) (hv : v = v1 ∨ v = v2) (signer nonce msg : Bytes)
    (kr : Keyring) (hk : kr.lookupSigningPublicKey (P.sigPub signer) = some (P.sigPub signer)) :
    let h := Sign.header v (P.sigPub signer) mtDetached nonce
    let hb := Msgpack.encode h.toVal
    Sign.verifyDetached P knownMajor kr (.ok hb h)
        (.sig (P.sign signer (detachedSignatureInput P (P.hash hb) msg))) msg = .ok (P.sigPub signer) :=
  Proofs.detached_roundtrip P hP v hv signer nonce msg kr hk

/-- **Soundness**: verification succeeds for a (message, signature) pair only
    through a successful signature check, under the key the keyring returned for
    the header's signer field, on exactly
    `"saltpack detached signature\0" ‖ hash(hash(header bytes) ‖ message)`, with
    a header that says "saltpack", an admitted version and detached mode.  So
    the signer signed exactly this message under exactly this header in detached
    mode — or the signature scheme / the hash is broken IN THIS VERY
    VERIFICATION: `C07_sound_or_break` below makes that precise with the
    anchored `DetachedBreakIn P k H hb msg sg` (a forgery is the signature `sg`
    that was accepted here, on the input computed here; a collision is between
    the string `P.hash hb ++ msg` hashed here and the string an honest signing
    event hashed).  This is the detached counterpart of the anchored
    `AuthSig.BreakIn` of C06 (`C06_break_def`); an un-anchored break ("some
    forgery or collision exists") would be provable outright. -/
theorem C07_sound (P : Prims) (valid : Validator) (kr : Keyring)
    (hr : HeaderRead SigHeader) (sr : Sign.SigRead) (msg k : Bytes)
    (hok : Sign.verifyDetached P valid kr hr sr msg = .ok k) :
    ∃ hb h sg, hr = .ok hb h ∧ sr = .sig sg ∧
      h.formatName = Gen.c_sp_FormatName ∧ valid h.version = true ∧ h.typ = mtDetached ∧
      kr.lookupSigningPublicKey h.senderPublic = some k ∧
      P.verify k (Gen.c_sp_signatureDetachedString ++ P.hash (P.hash hb ++ msg)) sg = true :=
  Proofs.detached_sound P valid kr hr sr msg k hok

/-! ## what is signed determines header hash and message -/

/-- **Unique decomposition of the hashed string**: header hash (64 bytes) ‖
    message determines both parts. -/
theorem C07_input_unique (hh hh' m m' : Bytes) (h1 : hh.length = 64) (h2 : hh'.length = 64)
    (h : hh ++ m = hh' ++ m') : hh = hh' ∧ m = m' :=
  List.append_inj h (by omega)

/-- the detached signature input is `domain ‖ hash(header hash ‖ message)`: two
    inputs coincide exactly when those hashes coincide (the domain is a fixed
    prefix) … -/
theorem C07_detached_input_eq_iff (P : Prims) (hh hh' m m' : Bytes) :
    detachedSignatureInput P hh m = detachedSignatureInput P hh' m' ↔
      P.hash (hh ++ m) = P.hash (hh' ++ m') := by
  unfold detachedSignatureInput detachedSignatureInputFromHash
  exact ⟨List.append_cancel_left, fun h => by rw [h]⟩

/-- … so equal detached inputs mean equal (header hash, message) — or the two
    explicit strings `hh ++ m ≠ hh' ++ m'` are a hash collision.  (Uniqueness is
    of the HASHED string; the signed string only contains its hash.) -/
theorem C07_detached_input_unique (P : Prims) (hh hh' m m' : Bytes)
    (h1 : hh.length = 64) (h2 : hh'.length = 64)
    (h : detachedSignatureInput P hh m = detachedSignatureInput P hh' m') :
    (hh = hh' ∧ m = m') ∨ (hh ++ m ≠ hh' ++ m' ∧ P.hash (hh ++ m) = P.hash (hh' ++ m')) := by
  have hh_eq := (C07_detached_input_eq_iff P hh hh' m m').1 h
  by_cases he : hh ++ m = hh' ++ m'
  · exact Or.inl (C07_input_unique hh hh' m m' h1 h2 he)
  · exact Or.inr ⟨he, hh_eq⟩

/-! ## soundness as a reduction, with an ANCHORED break -/

/-- an honest detached signing event of the key's owner: header hash and message -/
structure DetachedEvent where
  headerHash : Bytes
  msg : Bytes

/-- every input the honest owner of the key signed in detached mode -/
def HonestlySignedDetached (P : Prims) (H : List DetachedEvent) (inp : Bytes) : Prop :=
  ∃ e ∈ H, inp = detachedSignatureInput P e.headerHash e.msg

/-- **The break a detached verification of (`hb`, `msg`, `sg`) under key `k` can
    exhibit** — anchored to that verification:
    * forgery: THE signature `sg` verifies under `k` on THE input computed from
      `hb` and `msg`, and the owner of `k` never signed that input; or
    * collision: THE string `P.hash hb ++ msg` hashed in this verification and
      the string `e.headerHash ++ e.msg` of an honest event are different
      strings with the same hash. -/
def DetachedBreakIn (P : Prims) (k : Bytes) (H : List DetachedEvent) (hb msg sg : Bytes) : Prop :=
  (P.verify k (detachedSignatureInput P (P.hash hb) msg) sg = true ∧
      ¬ HonestlySignedDetached P H (detachedSignatureInput P (P.hash hb) msg)) ∨
  (∃ e ∈ H, P.hash hb ++ msg ≠ e.headerHash ++ e.msg ∧
      P.hash (P.hash hb ++ msg) = P.hash (e.headerHash ++ e.msg))

/-- **Soundness, as a reduction** (`H`: everything the owner of the returned key
    ever signed in detached mode, header hashes 64 bytes): a successful
    verification means the owner signed exactly this message under exactly this
    header hash — or `DetachedBreakIn` for this very (header, message,
    signature). -/
theorem C07_sound_or_break (P : Prims) (hP : P.Lawful) (valid : Validator) (kr : Keyring)
    (hr : HeaderRead SigHeader) (sr : Sign.SigRead) (msg k : Bytes)
    (H : List DetachedEvent) (hlen : ∀ e ∈ H, e.headerHash.length = 64)
    (hok : Sign.verifyDetached P valid kr hr sr msg = .ok k) :
    ∃ hb h sg, hr = .ok hb h ∧ sr = .sig sg ∧ kr.lookupSigningPublicKey h.senderPublic = some k ∧
      ((∃ e ∈ H, e.headerHash = P.hash hb ∧ e.msg = msg) ∨ DetachedBreakIn P k H hb msg sg) := by
  obtain ⟨hb, h, sg, hhr, hsr, _, _, _, hk, hver⟩ := Proofs.detached_sound P valid kr hr sr msg k hok
  refine ⟨hb, h, sg, hhr, hsr, hk, ?_⟩
  by_cases hs : HonestlySignedDetached P H (detachedSignatureInput P (P.hash hb) msg)
  · obtain ⟨e, he, hinp⟩ := hs
    rcases C07_detached_input_unique P _ _ _ _ (hP.hash_len hb) (hlen e he) hinp with ⟨e1, e2⟩ | ⟨hne, heq⟩
    · exact Or.inl ⟨e, he, e1.symm, e2.symm⟩
    · exact Or.inr (Or.inr ⟨e, he, hne, heq⟩)
  · exact Or.inr (Or.inl ⟨hver, hs⟩)

/-- the break is not always true: it is FALSE whenever the history contains the
    verified (header hash, message) and nothing else — for every `Prims` -/
theorem C07_break_not_trivial (P : Prims) (k hb msg sg : Bytes) :
    ¬ DetachedBreakIn P k [⟨P.hash hb, msg⟩] hb msg sg := by
  rintro (⟨_, hnot⟩ | ⟨e, he, hne, _⟩)
  · exact hnot ⟨_, List.mem_singleton.2 rfl, rfl⟩
  · rw [List.mem_singleton.1 he] at hne
    exact hne rfl

/-- **Mode separation**: the three signature domain strings are pairwise
    distinct and none is a prefix of another, so an attached-mode signature, an
    attached packet's signature or a signcryption signature is a signature on a
    *different* input and can never verify as detached (and vice versa) without a
    signature forgery. -/
theorem C07_mode_separation :
    Gen.c_sp_signatureAttachedString.length = Gen.c_sp_signatureDetachedString.length ∧
    Gen.c_sp_signatureAttachedString ≠ Gen.c_sp_signatureDetachedString ∧
    ¬ (Gen.c_sp_signatureAttachedString <+: Gen.c_sp_signatureEncryptedString) ∧
    ¬ (Gen.c_sp_signatureDetachedString <+: Gen.c_sp_signatureEncryptedString) ∧
    ¬ (Gen.c_sp_signatureEncryptedString <+: Gen.c_sp_signatureAttachedString) ∧
    ¬ (Gen.c_sp_signatureEncryptedString <+: Gen.c_sp_signatureDetachedString) :=
  Proofs.domains_separate

theorem C07_inputs_differ (x y : Bytes) :
    Gen.c_sp_signatureAttachedString ++ x ≠ Gen.c_sp_signatureDetachedString ++ y := by
  intro h
  have hl := Proofs.domains_separate.1
  have := (List.append_inj h hl).1
  exact Proofs.domains_separate.2.1 this

/-- the header's mode is checked: a header that does not say "detached" is
    refused before any signature is looked at -/
theorem C07_wrong_mode_refused (P : Prims) (valid : Validator) (kr : Keyring) (hb : Bytes) (h : SigHeader)
    (sr : Sign.SigRead) (msg : Bytes) (ht : h.typ ≠ mtDetached) :
    ∃ e, Sign.verifyDetached P valid kr (.ok hb h) sr msg = .error e := by
  cases hres : Sign.verifyDetached P valid kr (.ok hb h) sr msg with
  | error e => exact ⟨e, rfl⟩
  | ok k =>
    obtain ⟨hb', h', sg, hhr, _, _, _, htyp, _⟩ := Proofs.detached_sound P valid kr _ sr msg k hres
    cases hhr
    exact absurd htyp ht

/-! ## the message given as a reader -/

/-- **Any reader fragmentation**: a reader that delivers the message in any
    fragments `frags` and reports EOF either alone or together with a last
    fragment gives exactly the answer of the bytes form on the concatenation —
    so genuine signatures verify and every altered message is refused
    (`C07_roundtrip`, `C07_sound`) however the reader delivers it. -/
theorem C07_reader_any_fragmentation (P : Prims) (valid : Validator) (kr : Keyring)
    (hr : HeaderRead SigHeader) (sr : Sign.SigRead) (frags : List Bytes) (last : Option Bytes) :
    Sign.verifyDetachedReader P valid kr hr sr (Proofs.fragSource frags last)
      = Sign.verifyDetached P valid kr hr sr (frags.flatten ++ last.getD []) :=
  Proofs.verifyDetachedReader_eq P valid kr hr sr _ _ (Proofs.copyAll_frag frags last)

/-- a reader that fails (alone or with data, after any fragments) never yields a
    successful verification -/
theorem C07_reader_fault_refused (P : Prims) (valid : Validator) (kr : Keyring)
    (hr : HeaderRead SigHeader) (sr : Sign.SigRead) (frags : List Bytes) (d : Bytes) (z : Err)
    (rest : Stream.Source) :
    ∃ e, Sign.verifyDetachedReader P valid kr hr sr (frags.map (·, none) ++ (d, some (.err z)) :: rest) = .error e :=
  Proofs.verifyDetachedReader_fault P valid kr hr sr _ z (Proofs.copyAll_fault frags d z rest)

/-- **Round trip on the emitted BYTES**: what `SignDetached` emits, split into
    header and signature object, verifies against the message
    (`nonce.length + 92` bounds the encoded signature header,
    `WireRT.sig_header_facts`) -/
theorem C07_roundtrip_bytes (P : Prims) (hP : P.Lawful)
    (v : Version) (signer nonce msg : Bytes) (hn : nonce.length + 92 < 2 ^ 32)
    (kr : Keyring) (hk : kr.lookupSigningPublicKey (P.sigPub signer) = some (P.sigPub signer))
    (out : Bytes) (hout : Sign.detachedWith P v signer nonce msg = .ok out) :
    ∃ hr sr, Wire.splitDetached out = .ok (hr, sr) ∧
      Sign.verifyDetached P knownMajor kr hr sr msg = .ok (P.sigPub signer) :=
  Proofs.detached_roundtrip_bytes P hP v signer nonce msg hn kr hk out hout

/-! ## non-vacuity -/
example : Sign.copyAll [([1, 2], none), ([], none), ([3], some .eof), ([9], none)] = ([1, 2, 3], none) := by decide

example : Toy.prims.Lawful := Toy.lawful

end Saltpack.Props.C07
