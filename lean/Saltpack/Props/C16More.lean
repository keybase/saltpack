/-
  Property C16 — short streams ending in EOF (the case Props/C16Bufio.lean does not
  cover), and stability of "not saltpack" before the frame matches (beside
  Props/C16Stable.lean).

  (a) The bufio machine on a stream SHORTER than the buffer that ends in EOF.
      `Peek(size)` returns all the bytes together with `io.EOF` and forgets the
      condition; `IsSaltpackBinary`'s `Peek(23)` and the later `Read`s ask the
      underlying reader again.  For every script without `(0, nil)` reads in
      which EOF is sticky (`EofSticky`: after a delivery that carried `io.EOF`
      every later read is `(0, io.EOF)` — what every reader that stays at its end
      does; an exhausted script answers so forever) the machine is the pure
      classifier and consumes nothing: `C16_stream_machine_pure_short`,
      `C16_classify_then_drain_eof` (ANY length: shorter or longer than the
      buffer).  Without stickiness the statement is false
      (`C16_short_eof_needs_sticky`, kernel-evaluated).
      Correspondence: `bufio.classify` (modes one/bytes/rand/eofdata/empty).

  (b) Stability of a "not saltpack" verdict of `IsSaltpackArmoredPrefix` given
      BEFORE the frame expression matches.  Proved for every text that does not
      begin like `BEGIN ` (`C16_armored_not_begin_stable`: ASCII `p` whose normal
      form is neither a prefix of `BEGIN ` nor starts with `BEGIN `: `p` AND every
      extension `p ++ q`, arbitrary bytes `q`, are "not saltpack" — the verdict a
      binary-looking or foreign text gets, e.g. a PGP armor) — PARTIAL: the other
      half (the normal form starts with `BEGIN ` but cannot be continued to a
      frame, e.g. `BEGIN KB KB SALTPACK`) needs the converse of
      `C16_header_extension` (a header match of `s ++ x` whose period lies inside
      `s` is a match of `s`) and the word-wise monotonicity of the six prefix
      tests; that half stays covered by the correspondence only (every prefix of
      genuine and re-flowed frames, near misses, random strings: `classify.armored.*`)
      and by the paper argument of notes/ext-d.md / notes/ext-g.md.

  The machine lemmas (`peek_keep`, `classify_view`, `classify_then_drain_of`) are in Proofs/Bufio.lean.
-/
import Saltpack.Proofs.Bufio
import Saltpack.Proofs.ClassifyNotBegin

namespace Saltpack.Props.C16
open Saltpack Saltpack.Classify Saltpack.Stream Saltpack.Bufio Saltpack.Proofs.BufioP

/-- a script that ends at its first EOF (the usual reader) is EOF-sticky, and so
    is one that goes on answering `(0, EOF)` -/
theorem C16_sticky_examples :
    EofSticky [([1, 2], none), ([3], some .eof)] ∧
    EofSticky [([1, 2], none), ([], some .eof), ([], some .eof)] ∧
    EofSticky [([1], some (.err .ioError)), ([2], some .eof)] ∧
    ¬ EofSticky [([1], some .eof), ([2], none)] := by
  refine ⟨?_, ?_, ?_, ?_⟩
  · intro p hp; cases hp
  · intro p hp
    simp only [List.mem_cons, List.not_mem_nil, or_false] at hp
    exact hp
  · intro p hp; cases hp
  · intro h
    have := h ([2], none) (by simp)
    cases this

/-- one underlying read keeps a script EOF-sticky, and after a read that
    reported EOF only `(0, EOF)` reads are left -/
theorem C16_sticky_preserved (cap : Nat) (src : Source) (hs : EofSticky src)
    (d : Bytes) (e : Option RErr) (src' : Source) (h : srcRead cap src = (d, e, src')) :
    EofSticky src' ∧ (e = some .eof → AllEof src') :=
  srcRead_sticky cap src hs d e src' h

/-- **`Peek` on a stream that ends in EOF before `n ≤ size` bytes**: all the
    bytes and `io.EOF` are returned, the condition is forgotten — and the reader
    will still deliver exactly what it would have delivered before -/
theorem C16_peek_short_eof (n : Nat) (s : BState) (hi : Inv s) (hs : StickyInv s) (all : Bytes)
    (hv : view s = (all, .src .eof)) (hshort : all.length < n) (hn : n ≤ s.size)
    (out : Bytes) (e : Option BErr) (s' : BState) (h : peek n s = (out, e, s')) :
    out = all ∧ e = some (.src .eof) ∧ Inv s' ∧ StickyInv s' ∧ s'.size = s.size ∧ view s' = view s := by
  obtain ⟨ho, he, hi', hs', hv'⟩ := peek_keep n s hi hn (Or.inr ⟨by rw [hv], hs⟩) out e s' h
  rw [hv] at ho he
  dsimp only at ho he
  exact ⟨ho.trans (List.take_of_length_le (by omega)), he.trans (if_neg (by omega)), hi',
    (peek_sticky n s hs out e s' h).1, hs', hv'⟩

/-- **`ClassifyStream` on a short stream ending in EOF is the pure classifier
    and consumes nothing** (the complement of `C16_stream_machine_pure`, which
    needs a full buffer, and of `C16_stream_error_reported`, the short stream
    ending in an error) -/
theorem C16_stream_machine_pure_short (s : BState) (hi : Inv s) (hs : StickyInv s) (all : Bytes)
    (hv : view s = (all, .src .eof)) (hshort : all.length < s.size) :
    Inv (classifyStreamM s).2 ∧ StickyInv (classifyStreamM s).2 ∧ view (classifyStreamM s).2 = view s ∧
    (classifyStreamM s).1 = .v (classifyStream s.size all) := by
  obtain ⟨h1, h2, h3, h4⟩ := classify_view s hi (by omega) (Or.inr ⟨by rw [hv], hs⟩)
  rw [hv] at h3
  exact ⟨h1, h4 hs, h2, h3⟩

/-- **classification, then reading the stream to its end, for EVERY stream that
    ends in EOF** — shorter or longer than the buffer: fresh
    `NewReaderSize(src, size)`, any EOF-sticky script without `(0, nil)` reads
    (every fragmentation, data together with EOF, EOF alone, repeated EOFs), any
    read size: the verdict is the pure function of the source's bytes and
    draining afterwards yields EXACTLY those bytes and `io.EOF` -/
theorem C16_classify_then_drain_eof (src : Source) (size cap fuel : Nat) (hp : Progress src) (hst : EofSticky src)
    (heof : (total src).2 = .eof) (hcap : 0 < cap) (hfuel : (total src).1.length + 1 ≤ fuel) :
    let r := classifyStreamM (newReaderSize src size)
    r.1 = .v (classifyStream (max size minReadBufferSize) (total src).1) ∧
    (drain cap fuel r.2 []).1 = (total src).1 ∧
    (drain cap fuel r.2 []).2.1 = some (.src .eof) :=
  heof ▸ classify_then_drain_of src size cap fuel hp hcap (Or.inr ⟨heof, hst⟩) hfuel

/-- **the stickiness hypothesis is necessary**: a reader that delivers data
    AFTER having reported EOF (3 bytes with EOF, then 2 more) — `ClassifyStream`
    peeks `[1,2,3]`+EOF, forgets the EOF, peeks again and pulls the later bytes
    into the buffer; draining then yields 5 bytes although the stream "ended"
    after 3 -/
theorem C16_short_eof_needs_sticky :
    let src : Source := [([1, 2, 3], some .eof), ([4, 5], none)]
    Progress src ∧ (total src) = ([1, 2, 3], .eof) ∧
    (drain 4 10 (classifyStreamM (newReaderSize src 32)).2 []).1 = [1, 2, 3, 4, 5] := by
  decide

/-! ## (b) "not saltpack" before the frame expression matches -/

/-- **a text that does not begin like `BEGIN ` is "not saltpack", and stays so
    under every extension**: ASCII `p`, normal form `s` (white-space runs
    collapsed, trimmed) neither a prefix of `BEGIN ` nor starting with `BEGIN `;
    `q` arbitrary bytes -/
theorem C16_armored_not_begin_stable (p q : Bytes) (hp : ∀ c ∈ p, c < 128)
    (h1 : ¬ Armor.trimSpace (Armor.collapse p) <+: Gen.c_sp_headerMarker ++ [Armor.space])
    (h2 : ¬ Gen.c_sp_headerMarker ++ [Armor.space] <+: Armor.trimSpace (Armor.collapse p)) :
    armoredPrefix p = .notSaltpack ∧ armoredPrefix (p ++ q) = .notSaltpack := by
  have hne : Armor.trimSpace (Armor.collapse p) ≠ [] := by
    intro h0; rw [h0] at h1; exact h1 List.nil_prefix
  obtain ⟨x, hx⟩ := Saltpack.Proofs.ClsStable.norm_append p q hp hne
  refine ⟨?_, ?_⟩
  · rw [Saltpack.Proofs.ClsAux.armoredPrefix_norm]
    exact Saltpack.Proofs.ClsStable.classifyNorm_not_begin _ _ List.prefix_rfl
      (Saltpack.Proofs.trimSpace_no_trailing_space _) h1 h2
  · rw [Saltpack.Proofs.ClsAux.armoredPrefix_norm]
    exact Saltpack.Proofs.ClsStable.classifyNorm_not_begin _ _ ⟨x, hx.symm⟩
      (Saltpack.Proofs.trimSpace_no_trailing_space _) h1 h2

/-- the same on normal forms, for any text `t` that starts with `s` and has no
    trailing space -/
theorem C16_norm_not_begin (s t : Bytes) (hst : s <+: t) (hlast : t.getLast? ≠ some Armor.space)
    (h1 : ¬ s <+: Gen.c_sp_headerMarker ++ [Armor.space]) (h2 : ¬ Gen.c_sp_headerMarker ++ [Armor.space] <+: s) :
    Saltpack.Proofs.ClsAux.classifyNorm t = .notSaltpack :=
  Saltpack.Proofs.ClsStable.classifyNorm_not_begin s t hst hlast h1 h2

/-- non-vacuity: `-----BEGIN PGP` (a PGP armor), `BEGINX`, `begin ` meet the hypotheses -/
example : (∀ c ∈ ([45, 45, 45, 45, 45, 66, 69, 71, 73, 78, 32, 80, 71, 80] : Bytes), c < 128) ∧
    ¬ Armor.trimSpace (Armor.collapse [45, 45, 45, 45, 45, 66, 69, 71, 73, 78, 32, 80, 71, 80]) <+:
        Gen.c_sp_headerMarker ++ [Armor.space] ∧
    ¬ Gen.c_sp_headerMarker ++ [Armor.space] <+:
        Armor.trimSpace (Armor.collapse [45, 45, 45, 45, 45, 66, 69, 71, 73, 78, 32, 80, 71, 80]) := by decide +kernel
example : armoredPrefix [66, 69, 71, 73, 78, 88] = .notSaltpack ∧
    ¬ Armor.trimSpace (Armor.collapse [66, 69, 71, 73, 78, 88]) <+: Gen.c_sp_headerMarker ++ [Armor.space] ∧
    ¬ Gen.c_sp_headerMarker ++ [Armor.space] <+: Armor.trimSpace (Armor.collapse [66, 69, 71, 73, 78, 88]) := by decide +kernel
/-- the half that is NOT covered: starts with `BEGIN `, can never become a frame, "not saltpack" -/
example : armoredPrefix [66, 69, 71, 73, 78, 32, 75, 32, 75, 32, 83] = .notSaltpack := by decide +kernel

/-! ## non-vacuity of (a) -/

/-- a 5-byte stream (`BEGIN`) in two deliveries, the second with EOF, behind a
    4096-byte reader: `short`, and all five bytes are still delivered -/
def shortSrc : Source := [([66, 69], none), ([71, 73, 78], some .eof)]

example : Progress shortSrc ∧ EofSticky shortSrc ∧ (total shortSrc) = ([66, 69, 71, 73, 78], .eof) := by
  refine ⟨by decide, ?_, by decide⟩
  intro p hp
  cases hp

example : (classifyStreamM (newReaderSize shortSrc 4096)).1 = .v .short ∧
    (drain 2 10 (classifyStreamM (newReaderSize shortSrc 4096)).2 []).1 = [66, 69, 71, 73, 78] ∧
    (drain 2 10 (classifyStreamM (newReaderSize shortSrc 4096)).2 []).2.1 = some (.src .eof) := by decide +kernel

/-- the empty stream: `io.EOF` -/
example : (classifyStreamM (newReaderSize [] 4096)).1 = .v .eof ∧
    classifyStream 4096 [] = .eof := by decide

end Saltpack.Props.C16
