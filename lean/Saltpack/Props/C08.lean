/-
  Property C08 — everything the library emits is the wire format the
  specification defines.

  The chain: (1) `Seal`, `Sign`, `SignDetached`, `SigncryptSeal` and their
  streaming / armored forms are byte-identical to the code model's encoders
  (correspondence, scripted randomness; every run); (2) the code model's
  encoders are byte-identical, for ALL inputs, to the independent reference
  sender written from specs/*.md with its own constants (theorems below);
  (3) the bytes the implementation emits are parsed, fully authenticated — every
  recipient's authenticator on every packet — and decoded by the independent
  strict reference decoder `SpecDecode` (every run).
  KNOWN FINDING (D10): the random header nonce of signatures is 16 bytes where
  the signing specifications say 32 — `C08_sig_nonce_len_known_finding`; the
  conformance theorems for signatures therefore hold for whatever nonce is
  drawn (`_partial`: nonce length not as specified).
-/
import Saltpack.Proofs.SpecEq
import Saltpack.Proofs.MsgpackRT
import Saltpack.Proofs.MsgpackMin

namespace Saltpack.Props.C08
open Saltpack Saltpack.Spec Saltpack.Proofs

/-- the constants the code uses (generated from /repo) are the specification's -/
theorem C08_constants :
    Gen.c_sp_FormatName = sFormatName ∧
    mtEncryption = sModeEncryption ∧ mtAttached = sModeAttached ∧ mtDetached = sModeDetached ∧
    mtSigncryption = sModeSigncryption ∧
    Nonce.senderKeySecretBox = sNonceSenderKey ∧ Nonce.payloadKeyBoxV1 = sNoncePayloadKeyV1 ∧
    Nonce.derivedSharedKey = sNonceDerived ∧
    Gen.c_sp_signatureAttachedString = sSigAttached ∧ Gen.c_sp_signatureDetachedString = sSigDetached ∧
    Gen.c_sp_signatureEncryptedString = sSigEncrypted ∧
    Gen.c_sp_signcryptionBoxKeyIdentifierContext = sCtxBoxKeyIdentifier ∧
    Gen.c_sp_signcryptionSymmetricKeyContext = sCtxSymmetricKey ∧
    blockSize = 1048576 ∧ sigBlockSize = 1048576 :=
  ⟨c_format.symm, rfl, rfl, rfl, rfl, c_senderKey.symm, c_payloadV1.symm, c_derived.symm, c_sigAtt.symm,
    c_sigDet.symm, c_sigEnc.symm, c_ctxBox.symm, c_ctxSym.symm, by decide, by decide⟩

theorem C08_nonces (i : Nat) (hh : Bytes) (f : Bool) :
    Nonce.payloadKeyBoxV2 i = sNonceRecip i ∧ Nonce.chunkSecretBox i = sNonceChunk i ∧
    Nonce.hashFlagCounter hh f i = sHashNonce hh f i ∧ finalByte f = sFinal f :=
  ⟨(c_recip i).symm, (c_chunk i).symm, rfl, rfl⟩

/-- **Encryption V1/V2**: for every input, what the code model emits is exactly
    what the reference sender emits (twice-encoded header, specified nonces, key
    boxes, recipient identifiers, MAC inputs, packet field order, final flag). -/
theorem C08_conforms_encryption (P : Prims) (bs : Nat) (v : Version) (hv : v = v1 ∨ v = v2)
    (sender : Option Bytes) (rs : List Encrypt.Recipient) (eph pk pt out : Bytes)
    (h : Encrypt.sealWith P bs v sender rs eph pk pt = .ok out) :
    out = Spec.encodePlan P (layoutOf v) {} sender rs eph pk (Encrypt.chunkPlan v bs pt) :=
  spec_eq_encryption P bs v hv sender rs eph pk pt out h

theorem C08_conforms_signcryption (P : Prims) (bs : Nat) (sender : Option Bytes) (rs : List Signcrypt.Recipient)
    (eph pk pt out : Bytes)
    (h : Signcrypt.sealWith P bs sender rs eph pk pt = .ok out) :
    out = Spec.signcryptPlan P {} sender rs eph pk (Encrypt.chunkPlan v2 bs pt) := by
  obtain ⟨hdr, hb, blks, hs, rfl⟩ := seal_bytes_are_packets_signcrypt P bs sender rs eph pk pt out h
  obtain ⟨rfl, rfl, hblks⟩ := RTSig.sc_sealPackets_inv P bs sender rs eph pk pt hdr hb blks hs
  rw [scBlocks_eq P sender pk _ _ 0 blks hblks, scHeader_eq]
  rfl

/-- **Attached signatures V1/V2** — partial: for whatever header nonce is drawn
    (its length is the known finding below) -/
theorem C08_conforms_attached_partial (P : Prims) (bs : Nat) (v : Version) (hv : v = v1 ∨ v = v2)
    (signer nonce msg out : Bytes)
    (h : Sign.attachedWith P bs v signer nonce msg = .ok out) :
    out = Spec.attachedPlan P (layoutOf v) {} signer nonce (Encrypt.chunkPlan v bs msg) := by
  obtain ⟨hdr, hb, blks, body, hs, hbody, rfl⟩ := seal_bytes_are_packets_sig P bs v signer nonce msg out h
  obtain ⟨rfl, rfl, hblks⟩ := RTSig.attachedPackets_inv P bs v signer nonce msg hdr hb blks hs
  rw [attBlocks_eq P v hv signer _ _ 0 blks body hblks hbody]
  simp only [attachedPlan, sigHeader_eq v hv, headerPacket, mtAttached, sModeAttached]
  rfl

/-- **Detached signatures V1/V2** — partial, as above -/
theorem C08_conforms_detached_partial (P : Prims) (v : Version) (hv : v = v1 ∨ v = v2) (signer nonce msg out : Bytes)
    (h : Sign.detachedWith P v signer nonce msg = .ok out) :
    out = Spec.detached P (layoutOf v) {} signer nonce msg := by
  rw [(seal_bytes_are_packets_detached P v signer nonce msg out h).2]
  simp only [Spec.detached, sigHeader_eq v hv, headerPacket, detachedSignatureInput,
    detachedSignatureInputFromHash, c_sigDet]
  rfl

/-- the full statement for signatures ("nonce is 32 random bytes") is FALSE of
    the code: it draws 16.  Recorded as a known finding, not repaired. -/
theorem C08_sig_nonce_len_known_finding :
    Sign.sigNonceLen = 16 ∧ Spec.sSigNonceLen = 32 ∧ Sign.sigNonceLen ≠ Spec.sSigNonceLen :=
  by decide

/-- **Chunks**: at most 1 MiB, the final marker on the last packet only, and
    they concatenate to the plaintext -/
theorem C08_chunks (v : Version) (pt : Bytes) :
    (∀ p ∈ Encrypt.chunkPlan v blockSize pt, p.1.length ≤ 1048576) ∧
    (∃ pre c, Encrypt.chunkPlan v blockSize pt = pre ++ [(c, true)] ∧ ∀ p ∈ pre, p.2 = false) ∧
    ((Encrypt.chunkPlan v blockSize pt).map (·.1)).flatten = pt :=
  go_plan_legal v pt

/-- **MessagePack round trip** (the name speaks of minimality, the statement does not): what is written parses
    back to exactly the value written, also when more bytes follow.  This is a
    round-trip statement ONLY: the parser is lenient (it accepts every
    MessagePack form, also non-minimal ones), so this theorem does not by itself
    say that the encoder picks the shortest form, nor anything about nil.
    Minimality is `C08_encode_is_shortest` (+ `C08_encode_is_shortest_prefix`,
    `C08_shortest_is_unique`); "byte strings are `bin`, the only nil ever written
    is the key id of a hidden recipient" is the family `C08_no_nil_bins_*`. -/
theorem C08_minimal_msgpack (v : Msgpack.Val) (hv : ValWF v) (rest : Bytes) :
    Msgpack.parse1 (Msgpack.encode v ++ rest) = .ok (v, rest) :=
  parse1_encode v hv rest

/-- an encryption / signcryption header whose fields fit MessagePack's 32-bit lengths and
    64-bit integers is a value the round trip `C08_minimal_msgpack` applies to -/
theorem C08_header_is_wf (h : EncHeader)
    (h1 : h.formatName.length < 2 ^ 32) (h2 : h.ephemeral.length < 2 ^ 32)
    (h3 : h.senderSecretbox.length < 2 ^ 32) (h4 : h.receivers.length < 2 ^ 32)
    (h5 : ∀ r ∈ h.receivers, r.box.length < 2 ^ 32 ∧ ∀ k, r.kid = some k → k.length < 2 ^ 32)
    (h6 : -(2 ^ 63 : Int) ≤ h.version.major ∧ h.version.major < 2 ^ 64)
    (h7 : -(2 ^ 63 : Int) ≤ h.version.minor ∧ h.version.minor < 2 ^ 64)
    (h8 : -(2 ^ 63 : Int) ≤ h.typ ∧ h.typ < 2 ^ 64) : ValWF h.toVal :=
  encHeader_wf h h1 h2 h3 h4 h5 h6 h7 h8

/-! ### minimal MessagePack encodings

  `Msgpack.parse1` accepts ALL MessagePack forms of a value (a 1-byte string may
  arrive as fixstr, str8, str16 or str32; 5 as a fixint or as `cc 05`, `cd 00 05`,
  `d0 05`, …).  `Msgpack.encode` — the encoder the sender models use for every
  packet — always produces a shortest one. -/

/-- **Minimal encodings**: among all byte strings that the (lenient) parser
    reads as the value `v`, the encoding the library emits is a shortest one. -/
theorem C08_encode_is_shortest :
    ∀ (b : Bytes) (v : Msgpack.Val), Msgpack.parse1 b = .ok (v, []) → ValWF v →
      (Msgpack.encode v).length ≤ b.length :=
  fun b v h hv => MsgpackMin.parse_shortest _ b v [] h hv

/-- the same inside a stream of objects: whatever prefix of `b` the parser
    consumes for `v`, it is at least as long as `encode v` -/
theorem C08_encode_is_shortest_prefix (b : Bytes) (v : Msgpack.Val) (rest : Bytes)
    (h : Msgpack.parse1 b = .ok (v, rest)) (hv : ValWF v) :
    (Msgpack.encode v).length + rest.length ≤ b.length :=
  MsgpackMin.parse_shortest _ b v rest h hv

/-- non-vacuity: a non-minimal form (str8 of "a", 3 bytes) is accepted by the
    parser as the same value that the encoder writes in 2 bytes (fixstr) -/
example : Msgpack.parse1 [0xd9, 0x01, 0x61] = .ok (.str [0x61], []) ∧
    Msgpack.encode (.str [0x61]) = [0xa1, 0x61] ∧ ValWF (.str [0x61]) :=
  ⟨by rfl, by rfl, ValWF.str _ (by simp)⟩

set_option maxRecDepth 4096 in
/-- non-minimal integer and bin forms are accepted too, the encoder writes the short ones -/
example : Msgpack.parse1 [0xcd, 0x00, 0x05] = .ok (.int 5, []) ∧ Msgpack.encode (.int 5) = [0x05] ∧
    Msgpack.parse1 [0xc5, 0x00, 0x01, 0x07] = .ok (.bin [0x07], []) ∧
    Msgpack.encode (.bin [0x07]) = [0xc4, 0x01, 0x07] :=
  ⟨by rfl, by rfl, by rfl, by rfl⟩

/-- **The shortest accepted encoding is unique** (= the canonical one), for
    trees whose integers are all below 256 (`smallInts`; negative integers are
    unrestricted).  All integers saltpack writes are version numbers and the
    message type (`C08_packets_have_small_ints`).
    The restriction is needed — see `C08_shortest_not_unique_for_wide_ints`. -/
theorem C08_shortest_is_unique (b : Bytes) (v : Msgpack.Val)
    (h : Msgpack.parse1 b = .ok (v, [])) (hv : ValWF v) (hsm : smallInts v = true)
    (hlen : b.length = (Msgpack.encode v).length) : b = Msgpack.encode v := by
  have := MsgpackMin.parse_unique _ b v [] h hv hsm hlen
  rwa [List.append_nil] at this

/-- without the restriction uniqueness is FALSE in MessagePack itself: a
    non-negative integer from 256 up has a signed form of the same length as the
    unsigned form the encoder (like go-codec) picks. -/
theorem C08_shortest_not_unique_for_wide_ints :
    Msgpack.parse1 [0xd1, 0x01, 0x00] = .ok (.int 256, []) ∧
    Msgpack.encode (.int 256) = [0xcd, 0x01, 0x00] ∧ ValWF (.int 256) :=
  ⟨by rfl, by rfl, ValWF.int _ (by decide) (by decide)⟩

theorem C08_packets_have_small_ints :
    (∀ h : EncHeader, h.version.major < 256 → h.version.minor < 256 → h.typ < 256 →
      smallInts h.toVal = true) ∧
    (∀ h : SigHeader, h.version.major < 256 → h.version.minor < 256 → h.typ < 256 →
      smallInts h.toVal = true) :=
  ⟨MsgpackMin.smallInts_encHeader, MsgpackMin.smallInts_sigHeader⟩

/-! ### byte strings are `bin`; the only nil is the key id of a hidden recipient

  Stated on the trees (`toVal`) that the sender models hand to `encode`:
  `nilFree t` = there is no `nil` anywhere in `t`.  Every byte-string field is a
  `.bin` node by construction of `toVal`; the only `toVal` that can produce
  `.nil` is `optBin none` — the key id of a receiver pair — and `encBlockVal` for
  an EMPTY authenticator list (Go's nil slice), which the receiver check rules
  out (`C08_no_nil_bins_enc_payload_sealed`). -/

theorem C08_no_nil_bins_sig_header (h : SigHeader) : nilFree h.toVal = true :=
  by simp [SigHeader.toVal, Version.toVal]

/-- encryption / signcryption headers: the five leading fields are never nil;
    each receiver is the pair `[key id or nil, box]`, with nil exactly for
    `kid = none` -/
theorem C08_no_nil_bins_enc_header_shape (h : EncHeader) :
    ∃ f0 f1 f2 f3 f4,
      h.toVal = .arr [f0, f1, f2, f3, f4, .arr (h.receivers.map RecvKeys.toVal)] ∧
      nilFree f0 = true ∧ nilFree f1 = true ∧ nilFree f2 = true ∧ nilFree f3 = true ∧
      nilFree f4 = true ∧
      ∀ r ∈ h.receivers, r.toVal = .arr [optBin r.kid, .bin r.box] ∧
        (optBin r.kid = .nil ↔ r.kid = none) :=
  ⟨_, _, _, _, _, rfl, by simp, by simp [Version.toVal], by simp, by simp, by simp,
    fun r _ => ⟨rfl, MsgpackMin.optBin_nil_iff r.kid⟩⟩

theorem C08_no_nil_bins_enc_header_iff (h : EncHeader) :
    nilFree h.toVal = true ↔ ∀ r ∈ h.receivers, r.kid ≠ none :=
  MsgpackMin.nilFree_encHeader_iff h

/-- encryption V1/V2, the header the sender model builds: the key id at position
    `j` is nil exactly when the `j`-th recipient is a hidden one -/
theorem C08_no_nil_bins_enc_header_sender (P : Prims) (v : Version) (sender : Option Bytes)
    (eph pk : Bytes) (rs : List Encrypt.Recipient) (h : EncHeader) :
    Encrypt.header P v sender eph pk rs = .ok h → (v = v1 ∨ v = v2) →
    ∀ (j : Nat) (r : RecvKeys), h.receivers[j]? = some r →
      (r.kid = none ↔ (rs.getD j default).hidden = true) := by
  intro hh hv
  obtain ⟨_, _, _, _, _, hlen, hget, _⟩ := header_spec P hv sender eph pk rs h hh
  intro j r hr
  have hj : j < rs.length := by
    rw [← hlen]
    exact (List.getElem?_eq_some_iff.1 hr).1
  obtain ⟨n, _, hj'⟩ := hget j hj
  rw [hr] at hj'
  simp only [Option.some.injEq] at hj'
  subst hj'
  rw [List.getD_eq_getElem?_getD, List.getElem?_eq_getElem hj, Option.getD_some]
  unfold kidSpec
  cases rs[j].hidden <;> simp

theorem C08_no_nil_bins_enc_header_sender_iff (P : Prims) (v : Version) (sender : Option Bytes)
    (eph pk : Bytes) (rs : List Encrypt.Recipient) (h : EncHeader)
    (hh : Encrypt.header P v sender eph pk rs = .ok h) (hv : v = v1 ∨ v = v2) :
    nilFree h.toVal = true ↔ ∀ r ∈ rs, r.hidden = false := by
  obtain ⟨_, _, _, _, _, _, _, hk⟩ := header_spec P hv sender eph pk rs h hh
  rw [MsgpackMin.nilFree_encHeader_iff]
  have e1 : (∀ r ∈ h.receivers, r.kid ≠ none) ↔ ∀ k ∈ h.receivers.map (·.kid), k ≠ none := by
    simp [List.mem_map]
  have e2 : (∀ r ∈ rs, r.hidden = false) ↔ ∀ k ∈ rs.map kidSpec, k ≠ none := by
    simp only [List.mem_map, forall_exists_index, and_imp, forall_apply_eq_imp_iff₂]
    constructor
    · intro hall r hr
      simp [kidSpec, hall r hr]
    · intro hall r hr
      have := hall r hr
      unfold kidSpec at this
      cases hd : r.hidden
      · rfl
      · simp [hd] at this
  rw [e1, e2, hk]

theorem C08_no_nil_bins_signcrypt_header (P : Prims) (sender : Option Bytes) (eph pk : Bytes)
    (rs : List Signcrypt.Recipient) :
    (∀ r ∈ (Signcrypt.header P sender eph pk rs).receivers, r.kid ≠ none) ∧
    nilFree (Signcrypt.header P sender eph pk rs).toVal = true :=
  ⟨MsgpackMin.sc_header_kid_ne_none P sender eph pk rs, MsgpackMin.sc_header_nilFree P sender eph pk rs⟩

/-- encryption payload packets: nil-free as soon as there is an authenticator.
    (`encBlockVal` writes nil for an EMPTY authenticator list — second clause —
    which cannot happen after `checkReceivers`: next theorem.) -/
theorem C08_no_nil_bins_enc_payload (v : Version) (auths : List Bytes) (ct : Bytes) (f : Bool)
    (val : Msgpack.Val) :
    (encBlockVal v auths ct f = .ok val → auths ≠ [] → nilFree val = true) ∧
    (encBlockVal v2 [] ct f = .ok (.arr [.bool f, .nil, .bin ct]) ∧
      nilFree (.arr [.bool f, .nil, .bin ct]) = false) :=
  ⟨MsgpackMin.encBlockVal_nilFree v auths ct f val, MsgpackMin.encBlockVal_empty_has_nil ct f⟩

theorem C08_no_nil_bins_enc_blocks (P : Prims) (v : Version) (pk hh : Bytes) (mks : List Bytes)
    (hm : mks ≠ []) (plan : List (Bytes × Bool)) (k : Nat) (blks : List EncBlock)
    (h : Encrypt.blockStructs P v pk hh mks plan k = .ok blks) :
    ∀ b ∈ blks, b.auths ≠ [] := by
  intro b hb h0
  obtain ⟨j, p, _, hs⟩ := WireRT.blockStructs_mem P v pk hh mks plan k blks h b hb
  obtain ⟨ph, rfl⟩ := WireRT.blockStruct_inv hs
  exact hm (List.map_eq_nil_iff.1 h0)

theorem C08_no_nil_bins_enc_payload_sealed (P : Prims) (bs : Nat) (v : Version)
    (sender : Option Bytes) (rs : List Encrypt.Recipient) (eph pk pt : Bytes)
    (h : EncHeader) (hb : Bytes) (blks : List EncBlock)
    (hseal : Encrypt.sealPackets P bs v sender rs eph pk pt = .ok (h, hb, blks)) :
    ∀ b ∈ blks, b.auths ≠ [] ∧
      ∀ val, encBlockVal v b.auths b.ct b.final = .ok val → nilFree val = true := by
  -- `checkReceivers` has made the recipient list, hence the authenticator list, non-empty
  obtain ⟨hcr, _, mks, hm, hbl⟩ := sealPackets_inv P bs v sender rs eph pk pt h hb blks hseal
  have hmne := WireRT.macKeys_ne_nil (WireRT.sealPackets_version P bs v sender rs eph pk pt _ hseal) hcr hm
  intro b hb'
  have ha := C08_no_nil_bins_enc_blocks P v pk _ mks hmne _ 0 blks hbl b hb'
  exact ⟨ha, fun val hval => MsgpackMin.encBlockVal_nilFree v b.auths b.ct b.final val hval ha⟩

theorem C08_no_nil_bins_signcrypt_payload (ct : Bytes) (f : Bool) :
    nilFree (signcryptBlockVal ct f) = true :=
  by simp [signcryptBlockVal]

theorem C08_no_nil_bins_sig_payload (v : Version) (sig chunk : Bytes) (f : Bool) (val : Msgpack.Val)
    (h : sigBlockVal v sig chunk f = .ok val) : nilFree val = true := by
  unfold sigBlockVal at h
  split at h
  · cases h; simp
  · split at h
    · cases h; simp
    · cases h

/-- non-vacuity: a header with one hidden recipient does contain a nil, one with
    a named recipient does not -/
example :
    nilFree (EncHeader.toVal ⟨[0x73], v2, 0, [1], [2], [⟨none, [3]⟩]⟩) = false ∧
    nilFree (EncHeader.toVal ⟨[0x73], v2, 0, [1], [2], [⟨some [9], [3]⟩]⟩) = true :=
  ⟨by decide, by decide⟩

end Saltpack.Props.C08
