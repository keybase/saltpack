/-
  Property C08 — the strict reference decoder for SIGNCRYPTION handed ALL
  recipients' keys (Model/SpecDecodeAll.lean: `ScMsg.checkAll`,
  `signcryptionAll`): completeness and FULL soundness — every recipient's
  header entry is tied to the reference sender, where
  `C08_oracle_sound_signcryption_partial` (Props/C08Decode.lean, one
  recipient's key) ties only the opener's.

  Lemmas: Proofs/SpecDecodeScAll.lean.  Driven on every genuine
  `SigncryptSeal` output by the correspondence streams `oracle.sc.all.*`
  (Driver/ExtG.lean op `sd.scall`, harness/cmd/corr/ext_G.go).
-/
import Saltpack.Proofs.SpecDecodeScAll
import Saltpack.Toy

namespace Saltpack.Props.C08
open Saltpack Saltpack.SpecDecode Saltpack.Proofs.SDW

/-- **completeness**: every message of the reference sender — named or
    anonymous sender, any non-empty list of box-key and symmetric-key
    recipients, any plan obeying the chunk rules — is accepted with one key per
    recipient (each recipient's own), the decoded content being the sender's
    inputs -/
theorem C08_oracle_complete_signcryption_all (P : Prims) (hL : P.Lawful) (sender : Option Bytes)
    (hs : ∀ s, sender = some s → P.sigPub s ≠ zeros 32)
    (rs : List Signcrypt.Recipient) (hrs : rs ≠ []) (eph pk : Bytes) (pl : List (Bytes × Bool))
    (hpl : PlanOK 2 0 pl) (hpl0 : pl ≠ []) (keys : List ScKey) (hkeys : ScKeysFor P keys rs)
    (hwf : ScMsgWF (specScMsg P sender rs eph pk pl)) :
    ∃ m, ScMsg.parse (Spec.signcryptPlan P {} sender rs eph pk pl) = .ok m ∧
      m.checkAll P keys = .ok ⟨pk, specScSenderPub P sender, pl.map (·.1)⟩ ∧
      signcryptionAll P (Spec.signcryptPlan P {} sender rs eph pk pl) keys =
        .ok (scSummaryAll m ⟨pk, specScSenderPub P sender, pl.map (·.1)⟩) := by
  have hparse : ScMsg.parse (Spec.signcryptPlan P {} sender rs eph pk pl) = .ok (specScMsg P sender rs eph pk pl) := by
    rw [spec_signcryptPlan_render]; exact ScMsg.parse_complete _ hwf
  have hchk := sc_checkAll_complete P hL sender hs rs hrs eph pk pl hpl hpl0 keys hkeys
  refine ⟨_, hparse, hchk, ?_⟩
  exact (signcryptionAll_ok_iff P _ keys _).2 ⟨_, _, hparse, hchk, rfl⟩

/-- **`C08_oracle_sound_signcryption`** (full).  Whenever the oracle accepts a
    byte string `b` with one key per recipient entry: `b` parses to wire fields
    `m` with `m.render = b`, there is one key per entry and at least one entry,
    the decoded chunk plan obeys the chunk rules, and `b` is EXACTLY the
    reference sender's output `Spec.signcryptPlan` for the decoded payload key,
    sender, recipients — EVERY entry: a box recipient is the public key of the
    secret the oracle holds, a symmetric-key recipient that key with the
    identifier in the header — and chunk plan.  `ephSec` is the secret behind
    the ephemeral public key, which the oracle never sees.  Anonymous sender:
    unconditional; named sender: for a scheme with unique signatures
    (`SigCanonical`, as in `C08_oracle_sound_attached`). -/
theorem C08_oracle_sound_signcryption (P : Prims) (hL : P.Lawful) (hC : OpenCanonical P) (b : Bytes)
    (keys : List ScKey) (s : String) (h : signcryptionAll P b keys = .ok s) :
    ∃ (m : ScMsg) (o : ScOpened), ScMsg.parse b = .ok m ∧ m.checkAll P keys = .ok o ∧ s = scSummaryAll m o ∧
      m.render = b ∧ keys.length = m.recvs.length ∧ m.recvs ≠ [] ∧ o.senderPub.length = 32 ∧
      PlanOK 2 0 (scPlanOf o.chunks m.pkts) ∧ (scPlanOf o.chunks m.pkts).map (·.1) = o.chunks ∧
      ∀ ephSec, m.eph = P.boxPub ephSec →
        (o.senderPub = zeros 32 →
          b = Spec.signcryptPlan P {} none (scRsOf P keys m.recvs) ephSec o.payloadKey (scPlanOf o.chunks m.pkts)) ∧
        (SigCanonical P → ∀ senderSec, o.senderPub = P.sigPub senderSec → o.senderPub ≠ zeros 32 →
          b = Spec.signcryptPlan P {} (some senderSec) (scRsOf P keys m.recvs) ephSec o.payloadKey
                (scPlanOf o.chunks m.pkts)) := by
  obtain ⟨m, o, hp, hc, hs⟩ := (signcryptionAll_ok_iff P b keys s).1 h
  have hr := ScMsg.parse_sound hp
  obtain ⟨a1, a2, a3, a4, a5, a6⟩ := sc_checkAll_sound P hL hC m keys o hc
  refine ⟨m, o, hp, hc, hs, hr, a1, a2, a3, a4, a5, ?_⟩
  intro ephSec he
  obtain ⟨b1, b2⟩ := a6 ephSec he
  constructor
  · intro hz
    rw [spec_signcryptPlan_render, ← b1 hz, hr]
  · intro hS senderSec hsp hnz
    rw [spec_signcryptPlan_render, ← b2 hS senderSec hsp hnz, hr]

/-- the same at the level of the decoded wire fields: the accepted message IS
    the reference sender's message, field for field (every recipient entry,
    the sender secretbox, every packet) -/
theorem C08_oracle_sound_signcryption_fields (P : Prims) (hL : P.Lawful) (hC : OpenCanonical P) (m : ScMsg)
    (keys : List ScKey) (o : ScOpened) (h : m.checkAll P keys = .ok o) :
    keys.length = m.recvs.length ∧ m.recvs ≠ [] ∧ o.senderPub.length = 32 ∧
    PlanOK 2 0 (scPlanOf o.chunks m.pkts) ∧ (scPlanOf o.chunks m.pkts).map (·.1) = o.chunks ∧
    ∀ ephSec, m.eph = P.boxPub ephSec →
      (o.senderPub = zeros 32 →
        m = specScMsg P none (scRsOf P keys m.recvs) ephSec o.payloadKey (scPlanOf o.chunks m.pkts)) ∧
      (SigCanonical P → ∀ senderSec, o.senderPub = P.sigPub senderSec → o.senderPub ≠ zeros 32 →
        m = specScMsg P (some senderSec) (scRsOf P keys m.recvs) ephSec o.payloadKey (scPlanOf o.chunks m.pkts)) :=
  sc_checkAll_sound P hL hC m keys o h

/-- the all-keys oracle refines the one-key oracle: what it accepts, the
    one-key oracle accepts at EVERY recipient index with that recipient's key,
    with the same decoded content -/
theorem C08_oracle_all_refines_each (P : Prims) (m : ScMsg) (keys : List ScKey) (o : ScOpened)
    (h : m.checkAll P keys = .ok o) (j : Nat) (r : ScRecv) (k : ScKey)
    (hr : m.recvs[j]? = some r) (hk : keys[j]? = some k) : m.check P j k = .ok o := by
  obtain ⟨pk, pks, hall, hsame, hbody⟩ := (checkAll_ok_iff P).1 h
  obtain ⟨pk', h1, h2⟩ := scRecvKeysAll_get P m.eph m.recvs keys 0 (pk :: pks) hall j r k hr hk
  obtain rfl : pk' = pk := by
    cases j with
    | zero => simp at h1; exact h1.symm
    | succ j => exact hsame pk' (List.mem_of_getElem? (by simpa using h1))
  exact (sc_check_ok_iff P).2 ⟨r, pk', hr, by simpa using h2, hbody⟩

/-! ## non-vacuity (kernel-evaluated, toy primitives) -/

def scAllToyRs : List Signcrypt.Recipient :=
  [.box (Toy.prims.boxPub [4]), .sym (zeros 32) [5, 5], .box (Toy.prims.boxPub [6])]

def scAllToyKeys : List ScKey := [.box [4], .sym (zeros 32), .box [6]]

def scAllToyPlan : List (Bytes × Bool) := [([9, 8], false), ([7], true)]

def scAllToyMsg (sender : Option Bytes) : Bytes :=
  Spec.signcryptPlan Toy.prims {} sender scAllToyRs [2] (List.replicate 32 3) scAllToyPlan

/-- a message whose SECOND recipient entry carries a payload key box sealed
    for a different payload key, everything else (header hash included)
    consistent: the first recipient opens it without noticing -/
def scAllToyForged : ScMsg :=
  let m0 := specScHdr Toy.prims (some [1]) scAllToyRs [2] (List.replicate 32 3)
  let bad := specScRecv Toy.prims [2] (List.replicate 32 4) 1 (.sym (zeros 32) [5, 5])
  let m1 : ScMsg := { m0 with recvs := m0.recvs.set 1 bad }
  { m1 with pkts := scAllToyPlan.zipIdx.map (fun (cf, i) =>
      specScPkt Toy.prims (some [1]) (List.replicate 32 3) (Toy.prims.hash m1.headerBytes) i cf.1 cf.2) }

set_option maxRecDepth 100000 in
example :
    -- genuine messages (named and anonymous sender) are accepted with all keys …
    (signcryptionAll Toy.prims (scAllToyMsg (some [1])) scAllToyKeys).toBool = true ∧
    (signcryptionAll Toy.prims (scAllToyMsg none) scAllToyKeys).toBool = true ∧
    -- … not with a key of the wrong kind for a recipient, nor with a key missing (the toy
    -- primitives are degenerate — their derived keys do not depend on the recipient's key —, so a
    -- wrong key of the right kind is not a usable example here; the forged message below is)
    (signcryptionAll Toy.prims (scAllToyMsg (some [1])) [.sym (zeros 32), .sym (zeros 32), .box [6]]).toBool = false ∧
    (signcryptionAll Toy.prims (scAllToyMsg (some [1])) [.box [4], .sym (zeros 32)]).toBool = false ∧
    -- the forged message: accepted by the one-key oracle at index 0, rejected with all keys
    (scAllToyForged.check Toy.prims 0 (.box [4])).toBool = true ∧
    (signcryptionAll Toy.prims scAllToyForged.render scAllToyKeys).toBool = false ∧
    (signcryption Toy.prims scAllToyForged.render 0 (some [4]) none).toBool = true := by
  decide +kernel

example : ScKeysFor Toy.prims scAllToyKeys scAllToyRs :=
  ⟨⟨[4], rfl, rfl⟩, rfl, ⟨[6], rfl, rfl⟩, trivial⟩

end Saltpack.Props.C08
