/-
  Property C05 — attached signatures round trip to the exact message and signer.

  The shared lemmas are in Proofs/RingSig, RoundTripSig, PlanLemmas, ChunkPlan.
  The theorems are about the packet structures the sender model builds
  (`Sign.attachedPackets`); `Sign.attachedWith` is exactly their MessagePack
  encoding, which the correspondence compares byte-for-byte with `Sign` /
  `NewSignStream` of the implementation, and `C05_wire` / `C05_roundtrip_bytes`
  relate bytes and structures (`parse ∘ encode = id`).
-/
import Saltpack.Proofs.RoundTripSig
import Saltpack.Proofs.MsgpackRT
import Saltpack.Proofs.WireRT
import Saltpack.Proofs.ArmoredRT
import Saltpack.Toy

namespace Saltpack.Props.C05
open Saltpack Saltpack.Encrypt

/-- **Round trip.** For every message, both versions, every chunk size, every
    signing key and header nonce: a keyring that knows the signer verifies the
    signed message to exactly the original bytes and returns the signer's key. -/
theorem C05_roundtrip (P : Prims) (hP : P.Lawful) (bs : Nat) (hbs : 0 < bs)
    (v : Version) (hv : v = v1 ∨ v = v2) (signer nonce msg : Bytes)
    (kr : Keyring) (hk : kr.lookupSigningPublicKey (P.sigPub signer) = some (P.sigPub signer))
    (h : SigHeader) (hb : Bytes) (blks : List SigBlock)
    (hs : Sign.attachedPackets P bs v signer nonce msg = .ok (h, hb, blks)) :
    Sign.verifyAll P knownMajor kr (.ok hb h) ⟨blks.map some, .eof⟩ = .ok (P.sigPub signer, msg) :=
  Proofs.sign_roundtrip P hP bs hbs v hv signer nonce msg kr hk h hb blks hs

/-- a keyring that does not know the signer gets `noSenderKey` and no bytes -/
theorem C05_no_sender_key (P : Prims) (bs : Nat)
    (v : Version) (hv : v = v1 ∨ v = v2) (signer nonce msg : Bytes)
    (kr : Keyring) (hk : kr.lookupSigningPublicKey (P.sigPub signer) = none)
    (h : SigHeader) (hb : Bytes) (blks : List SigBlock)
    (hs : Sign.attachedPackets P bs v signer nonce msg = .ok (h, hb, blks)) :
    Sign.verifyAll P knownMajor kr (.ok hb h) ⟨blks.map some, .eof⟩ = .error .noSenderKey ∧
    (Sign.verifyStream P knownMajor kr (.ok hb h) ⟨blks.map some, .eof⟩).released = [] := by
  obtain ⟨hh, _, _⟩ := Proofs.RTSig.attachedPackets_inv P bs v signer nonce msg h hb blks hs
  have hval := Proofs.sign_header_validates v (Proofs.knownMajor_of hv) (P.sigPub signer) nonce mtAttached (Or.inl rfl)
  rw [hh]
  have hvs : Sign.verifyStream P knownMajor kr (.ok hb (Sign.header v (P.sigPub signer) mtAttached nonce))
      ⟨blks.map some, .eof⟩ = ⟨none, [], some .noSenderKey⟩ := by
    unfold Sign.verifyStream
    simp only [hval]
    simp only [Sign.header, hk]
  unfold Sign.verifyAll
  rw [hvs]
  exact ⟨rfl, rfl⟩

/-- signing never fails for a supported version (so the round trip is not vacuous) -/
theorem C05_sign_total (P : Prims) (bs : Nat) (v : Version) (hv : v = v1 ∨ v = v2)
    (signer nonce msg : Bytes) :
    ∃ h hb blks, Sign.attachedPackets P bs v signer nonce msg = .ok (h, hb, blks) ∧
      blks.length = (chunkPlan v bs msg).length := by
  obtain ⟨blks, hblk⟩ := Proofs.RTSig.sign_blockStructs_ok P v hv signer
    (P.hash (Msgpack.encode (Sign.header v (P.sigPub signer) mtAttached nonce).toVal)) (chunkPlan v bs msg) 0
  refine ⟨Sign.header v (P.sigPub signer) mtAttached nonce,
    Msgpack.encode (Sign.header v (P.sigPub signer) mtAttached nonce).toVal, blks, ?_,
    Proofs.RTSig.sign_blockStructs_length P v signer _ _ 0 blks hblk⟩
  unfold Sign.attachedPackets
  simp only [Proofs.knownVersion_of hv, Bool.not_true, Bool.false_eq_true, if_false, hblk]

/-- chunking of the message into packets -/
theorem C05_chunking (v : Version) (bs : Nat) (hb : 0 < bs) (msg : Bytes) :
    ((chunkPlan v bs msg).map (·.1)).flatten = msg ∧
    (∀ p ∈ chunkPlan v bs msg, p.1.length ≤ bs) ∧
    (∃ pre c, chunkPlan v bs msg = pre ++ [(c, true)] ∧ ∀ p ∈ pre, p.2 = false) :=
  ⟨Proofs.chunkPlan_flatten v bs msg, Proofs.chunkPlan_size v bs hb msg, Proofs.chunkPlan_final v bs msg⟩

/-- streaming and all-at-once forms agree: `Verify` returns exactly what reading
    `NewVerifyStream` to the end releases, and only if that ended cleanly -/
theorem C05_forms_agree (P : Prims) (valid : Validator) (kr : Keyring) (hr : HeaderRead SigHeader)
    (ps : PStream SigBlock) (k m : Bytes) :
    Sign.verifyAll P valid kr hr ps = .ok (k, m) ↔
      (Sign.verifyStream P valid kr hr ps).err = none ∧ (Sign.verifyStream P valid kr hr ps).signer = some k ∧
      (Sign.verifyStream P valid kr hr ps).released = m := by
  unfold Sign.verifyAll
  generalize Sign.verifyStream P valid kr hr ps = r
  obtain ⟨sg, rel, err⟩ := r
  cases err <;> cases sg <;> simp

/-- binary form = structures: the bytes `Sign` emits parse back into the
    header bytes and packets (MessagePack round trip) -/
theorem C05_wire (v : Msgpack.Val) (hv : Proofs.ValWF v) (rest : Bytes) :
    Msgpack.parse1 (Msgpack.encode v ++ rest) = .ok (v, rest) :=
  Proofs.parse1_encode v hv rest

/-- **Round trip on the emitted BYTES**: what `Sign` emits, split as a
    verifier's MessagePack stream splits it, verifies to exactly the message and
    the signer's key (`nonce.length + 92` bounds the encoded signature header,
    `WireRT.sig_header_facts`; the real nonce has 16 bytes) -/
theorem C05_roundtrip_bytes (P : Prims) (hP : P.Lawful) (bs : Nat) (hbs : 0 < bs) (hbs32 : bs < 2 ^ 32)
    (v : Version) (hv : v = v1 ∨ v = v2) (signer nonce msg : Bytes) (hn : nonce.length + 92 < 2 ^ 32)
    (kr : Keyring) (hk : kr.lookupSigningPublicKey (P.sigPub signer) = some (P.sigPub signer))
    (out : Bytes) (hout : Sign.attachedWith P bs v signer nonce msg = .ok out) :
    ∃ hr ps, Wire.splitSig out = .ok (hr, ps) ∧
      Sign.verifyAll P knownMajor kr hr ps = .ok (P.sigPub signer, msg) :=
  Proofs.sign_roundtrip_bytes P hP bs hbs hbs32 v hv signer nonce msg hn kr hk out hout

/-- **Armored round trip** (`SignArmor62` ∘ `Dearmor62Verify`, model level): the
    armored text dearmors, with validated `BEGIN/END [brand] SALTPACK SIGNED
    MESSAGE` frames (`C11_roundtrip`), to exactly the binary message and the
    brand, and that payload verifies to the message and the signer's key. -/
theorem C05_roundtrip_armored (P : Prims) (hP : P.Lawful) (bs : Nat) (hbs : 0 < bs) (hbs32 : bs < 2 ^ 32)
    (v : Version) (hv : v = v1 ∨ v = v2) (signer nonce msg : Bytes) (hn : nonce.length + 92 < 2 ^ 32)
    (kr : Keyring) (hk : kr.lookupSigningPublicKey (P.sigPub signer) = some (P.sigPub signer))
    (brand : Bytes) (hbr : Proofs.BrandOK brand)
    (out : Bytes) (hout : Sign.attachedWith P bs v signer nonce msg = .ok out) :
    ∃ r hr ps, Armor.open62 (some mtAttached) (Armor.seal62 mtAttached brand out) = .ok r ∧
      r.payload = out ∧ r.brand = brand ∧
      Wire.splitSig r.payload = .ok (hr, ps) ∧
      Sign.verifyAll P knownMajor kr hr ps = .ok (P.sigPub signer, msg) :=
  Proofs.sign_armored_roundtrip P hP bs hbs hbs32 v hv signer nonce msg hn kr hk brand hbr out hout

/-- **Attached signatures under any minor version and any header bytes**
    (forward compatibility of the verifier; the general form behind
    `C05_roundtrip`, cf. `C09_accepts_attached`): a header `[v.major, minor]` for
    an arbitrary `minor`, carried by arbitrary bytes `hb` (hashed as sent), with
    packets signed over `hash hb`, verifies to the message of the Go sender's
    chunk plan. -/
theorem C05_roundtrip_any_minor (P : Prims) (hP : P.Lawful) (bs : Nat) (hbs : 0 < bs)
    (v : Version) (hv : v = v1 ∨ v = v2) (minor : Int) (signer nonce msg : Bytes)
    (kr : Keyring) (hk : kr.lookupSigningPublicKey (P.sigPub signer) = some (P.sigPub signer))
    (hb : Bytes) (blks : List SigBlock)
    (hblk : Sign.blockStructs P v signer (P.hash hb) (chunkPlan v bs msg) 0 = .ok blks) :
    Sign.verifyAll P knownMajor kr
        (.ok hb (Sign.header ⟨v.major, minor⟩ (P.sigPub signer) mtAttached nonce)) ⟨blks.map some, .eof⟩ =
      .ok (P.sigPub signer, msg) := by
  have hplan := Proofs.chunkPlan_valid v hv bs hbs msg
  have := Proofs.sign_roundtrip_gen P hP v hv minor signer nonce (chunkPlan v bs msg) hplan.finalLast hplan.empty_v1
    hplan.emptySole kr hk _ hb blks ⟨rfl, hblk⟩
  rwa [Proofs.chunkPlan_flatten] at this

/-! ## non-vacuity: the hypotheses are met by the toy primitives -/
example : Toy.prims.Lawful := Toy.lawful

end Saltpack.Props.C05
