/-
  The generated encodings are well formed: one kernel evaluation of `Enc.wfCheck`
  for each of `base62Std` (the encoding of the shipped armor) and `base58Std`.
  The strict twins share their tables with these (the two equalities below, also
  evaluated), and `Enc.WF` does not mention the skip set (`Proofs.strict_wf`), so
  they need no table check of their own.
-/
import Saltpack.Model.Armor
import Saltpack.Proofs.BasexWF
import Saltpack.Proofs.Basex

namespace Saltpack.Proofs

theorem params62_wf : Armor.params62.enc.WF := Basex.Enc.wf_of_check _ (by decide +kernel)

theorem params62_strict_wf : Gen.base62Std.strict.WF := strict_wf params62_wf

theorem base58Std_wf : Gen.base58Std.WF := Basex.Enc.wf_of_check _ (by decide +kernel)

theorem base62Std_strict : Gen.base62Std.strict = Gen.base62StdStrict := by decide +kernel

theorem base58Std_strict : Gen.base58Std.strict = Gen.base58StdStrict := by decide +kernel

end Saltpack.Proofs
