/-
  The armored composition (packet stream → go-codec → armorEncoderStream →
  faulting writer, `closeForwarder`).

  The armor stream's loop `spaceAndOutputBuffer` is a pure computation of the
  slices to write (`spacePieces`) followed by `writePieces` over the scripted
  writer: whatever a `Write` or `Close` does to the writer below is a fact about
  `writePieces Wr.write`.  Hence the armor stream is a writer in the sense of
  `FltWriter`, and every "reported / kept" theorem of the packet streams holds
  for the armored streams.
-/
import Saltpack.Proofs.SenderStreamInst
import Saltpack.Proofs.StreamLemmas

namespace Saltpack.Proofs.SenderP
open Saltpack Saltpack.Sender

theorem wr_write_faults (w : Wr) (p : Bytes) :
    (w.write p).2.faults = w.faults + (if (w.write p).1 then 0 else 1) := by
  unfold Wr.write
  cases hs : w.sink with
  | nil => simp
  | cons f rest => cases f <;> simp

theorem wr_writePieces_faults : ∀ (ps : List Bytes) (w : Wr),
    (writePieces Wr.write ps w).2.faults = w.faults + (if (writePieces Wr.write ps w).1 then 0 else 1) := by
  intro ps
  induction ps with
  | nil => intro w; rfl
  | cons p ps ih =>
    intro w
    have h := wr_write_faults w p
    rw [writePieces_cons]
    cases hw : w.write p with
    | mk ok w' =>
      rw [hw] at h
      cases ok with
      | true => exact (ih w').trans (by rw [h]; rfl)
      | false => exact h

/-- `spaceAndOutputBuffer` on the buffer `buf` after `n` words, without the writer: the slices it writes
    (every word of `bytesPerWord` characters but the last, each followed by its separator), the
    buffer and the word count it ends with -/
def spacePieces (par : Armor.Params) : Nat → Bytes → Nat → List Bytes × Bytes × Nat
  | 0, buf, n => ([], buf, n)
  | fuel + 1, buf, n =>
    if buf.length > par.bytesPerWord then
      let r := spacePieces par fuel (buf.drop par.bytesPerWord) (n + 1)
      (buf.take par.bytesPerWord :: [if (n + 1) % par.wordsPerLine = 0 then Armor.newline else Armor.space] :: r.1, r.2)
    else ([], buf, n)

/-- `spaceAndOutputBuffer` over the faulting writer writes `spacePieces` up to the first failure; only
    buffer, word count and writer change, and after a failure buffer and word count no longer matter -/
theorem farm_spaceOut_eq : ∀ (fuel : Nat) (a : FArm),
    ∃ buf n, FArm.spaceOut fuel a =
        ((writePieces Wr.write (spacePieces a.par fuel a.buf a.nWords).1 a.w).1,
         { a with buf := buf, nWords := n, w := (writePieces Wr.write (spacePieces a.par fuel a.buf a.nWords).1 a.w).2 }) ∧
      ((writePieces Wr.write (spacePieces a.par fuel a.buf a.nWords).1 a.w).1 = true →
        (buf, n) = (spacePieces a.par fuel a.buf a.nWords).2) := by
  intro fuel
  induction fuel with
  | zero => intro a; exact ⟨a.buf, a.nWords, rfl, fun _ => rfl⟩
  | succ fuel ih =>
    intro a
    unfold FArm.spaceOut spacePieces
    by_cases hgt : a.buf.length > a.par.bytesPerWord
    · simp only [hgt, if_true]
      unfold writePieces
      cases a.w.write (a.buf.take a.par.bytesPerWord) with
      | mk ok1 w1 =>
        cases ok1 with
        | false => exact ⟨_, _, rfl, fun h => nomatch h⟩
        | true =>
          simp only
          rw [writePieces_cons]
          cases w1.write [if (a.nWords + 1) % a.par.wordsPerLine = 0 then Armor.newline else Armor.space] with
          | mk ok2 w2 =>
            cases ok2 with
            | false => exact ⟨_, _, rfl, fun h => nomatch h⟩
            | true => exact ih { a with buf := a.buf.drop a.par.bytesPerWord, nWords := a.nWords + 1, w := w2 }
    · simp only [hgt, if_false]
      exact ⟨a.buf, a.nWords, rfl, fun _ => rfl⟩


/-! ### the armor stream's `Write` and `Close`, branch by branch -/

/-- a complete `spaceAndOutputBuffer` (the fuel `Write` and `Close` give it) -/
def spaced (par : Armor.Params) (buf : Bytes) (n : Nat) : List Bytes × Bytes × Nat :=
  spacePieces par (buf.length + 1) buf n

theorem farm_writeN_failed (a : FArm) (b : Bytes) (hf : a.failed = true) : a.writeN b = (0, false, a) := by
  unfold FArm.writeN; simp [hf]

theorem farm_write_failed (a : FArm) (b : Bytes) (hf : a.failed = true) : a.write b = (false, a) := by
  unfold FArm.write; rw [farm_writeN_failed a b hf]

theorem farm_write_encFail (a : FArm) (b : Bytes) (hf : a.failed = false) (he : (a.enc.write b).2.1 = false) :
    a.write b = (false, { a.feed (a.enc.write b).2.2 with failed := true }) := by
  unfold FArm.write FArm.writeN
  rw [if_neg (by simp [hf])]
  rcases hw : a.enc.write b with ⟨n, ok, e'⟩
  rw [hw] at he
  cases he
  rfl

/-- `he` always holds: `farm_encOk_write` -/
theorem farm_write_live (a : FArm) (b : Bytes) (hf : a.failed = false) (he : (a.enc.write b).2.1 = true) :
    ∃ buf n, a.write b =
        ((writePieces Wr.write (spaced a.par (a.feed (a.enc.write b).2.2).buf a.nWords).1 a.w).1,
         { a.feed (a.enc.write b).2.2 with
             buf := buf, nWords := n,
             w := (writePieces Wr.write (spaced a.par (a.feed (a.enc.write b).2.2).buf a.nWords).1 a.w).2,
             failed := !(writePieces Wr.write (spaced a.par (a.feed (a.enc.write b).2.2).buf a.nWords).1 a.w).1 }) ∧
      ((writePieces Wr.write (spaced a.par (a.feed (a.enc.write b).2.2).buf a.nWords).1 a.w).1 = true →
        (buf, n) = (spaced a.par (a.feed (a.enc.write b).2.2).buf a.nWords).2) := by
  obtain ⟨buf, n, hsp, hs⟩ := farm_spaceOut_eq ((a.feed (a.enc.write b).2.2).buf.length + 1) (a.feed (a.enc.write b).2.2)
  refine ⟨buf, n, ?_, hs⟩
  unfold FArm.write FArm.writeN
  rw [if_neg (by simp [hf])]
  rcases hw : a.enc.write b with ⟨k, ok, e'⟩
  rw [hw] at he hsp
  cases he
  dsimp only [FArm.feed, spaced] at hsp ⊢
  rw [hsp]
  generalize writePieces Wr.write (spacePieces a.par ((a.buf ++ e'.written.flatten).length + 1)
    (a.buf ++ e'.written.flatten) a.nWords).1 a.w = r
  obtain ⟨ok, w'⟩ := r
  cases ok
  · rfl
  · show (true, _) = (true, _)
    congr 2

/-- the armor stream's `Write` returns an error iff an underlying write failed
    during it — exactly one, the first — or the call was refused (`s.err` set by
    an earlier failure: no underlying write at all) or the BaseX encoder failed
    (never: `farm_encOk_write`) -/
theorem farm_write_faults (a : FArm) (b : Bytes) :
    (a.write b).2.w.faults =
      a.w.faults + (if (a.write b).1 || a.failed || !(a.enc.write b).2.1 then 0 else 1) := by
  cases hf : a.failed with
  | true => rw [farm_write_failed a b hf]; rfl
  | false =>
    cases he : (a.enc.write b).2.1 with
    | false => rw [farm_write_encFail a b hf he]; rfl
    | true =>
      obtain ⟨_, _, h, -⟩ := farm_write_live a b hf he
      rw [h, Bool.or_false, Bool.not_true, Bool.or_false]
      exact wr_writePieces_faults _ _

/-- a refused call fails without any write below it: hence `FltWriter.fail` is `≤` -/
theorem farm_flt : FltWriter FArm.write (fun a => a.w.faults) := by
  constructor
  · intro a p a' h
    have := farm_write_faults a p
    rw [h] at this
    simpa using this
  · intro a p a' h
    have := farm_write_faults a p
    rw [h] at this
    show a.w.faults ≤ a'.w.faults
    rw [this]; omega

/-- the slices `Close` writes after the encoder has been closed: the words, the last word, then pad,
    `". "`, footer, `".\n"` in one slice -/
def closePieces (par : Armor.Params) (ftr buf : Bytes) (n : Nat) : List Bytes :=
  (spaced par buf n).1 ++
    [(spaced par buf n).2.1,
     (if (spaced par buf n).2.1.length = par.bytesPerWord then
        (if ((spaced par buf n).2.2 + 1) % par.wordsPerLine = 0 then [Armor.newline] else [Armor.space])
      else []) ++ [Armor.period, Armor.space] ++ ftr ++ [Armor.period, Armor.newline]]

theorem farm_close_failed (a : FArm) (hf : a.failed = true) : a.close = (false, a) := by
  unfold FArm.close; simp [hf]

theorem farm_close_encFail (a : FArm) (hf : a.failed = false) (he : a.enc.close.1 = false) :
    a.close = (false, { a.feed a.enc.close.2 with failed := true }) := by
  unfold FArm.close
  rw [if_neg (by simp [hf])]
  rcases hw : a.enc.close with ⟨ok, e'⟩
  rw [hw] at he
  cases he
  rfl

/-- `he` always holds: `farm_encOk_close` -/
theorem farm_close_live (a : FArm) (hf : a.failed = false) (he : a.enc.close.1 = true) :
    ∃ buf n, a.close =
      ((writePieces Wr.write (closePieces a.par a.ftr (a.feed a.enc.close.2).buf a.nWords) a.w).1,
       { a.feed a.enc.close.2 with
           buf := buf, nWords := n,
           w := (writePieces Wr.write (closePieces a.par a.ftr (a.feed a.enc.close.2).buf a.nWords) a.w).2,
           failed := !(writePieces Wr.write (closePieces a.par a.ftr (a.feed a.enc.close.2).buf a.nWords) a.w).1 }) := by
  obtain ⟨buf, n, hsp, hs⟩ := farm_spaceOut_eq ((a.feed a.enc.close.2).buf.length + 1) (a.feed a.enc.close.2)
  unfold FArm.close
  rw [if_neg (by simp [hf])]
  rcases hw : a.enc.close with ⟨ok, e'⟩
  rw [hw] at he hsp hs
  cases he
  dsimp only [FArm.feed, spaced, closePieces] at hsp hs ⊢
  rw [hsp, writePieces_append]
  generalize writePieces Wr.write (spacePieces a.par ((a.buf ++ e'.written.flatten).length + 1)
    (a.buf ++ e'.written.flatten) a.nWords).1 a.w = r at hs ⊢
  obtain ⟨ok, w'⟩ := r
  cases ok with
  | false => exact ⟨buf, n, rfl⟩
  | true =>
    obtain ⟨rfl, rfl⟩ := Prod.mk.inj (hs rfl)
    simp only [if_true]
    rw [writePieces_cons]
    cases w'.write (spacePieces a.par ((a.buf ++ e'.written.flatten).length + 1)
        (a.buf ++ e'.written.flatten) a.nWords).2.1 with
    | mk ok1 w1 =>
      cases ok1 with
      | false => exact ⟨_, _, rfl⟩
      | true =>
        simp only
        rw [writePieces_one]
        exact ⟨_, _, rfl⟩

theorem farm_close_faults (a : FArm) :
    a.close.2.w.faults = a.w.faults + (if a.close.1 || a.failed || !a.enc.close.1 then 0 else 1) := by
  cases hf : a.failed with
  | true => rw [farm_close_failed a hf]; rfl
  | false =>
    cases he : a.enc.close.1 with
    | false => rw [farm_close_encFail a hf he]; rfl
    | true =>
      obtain ⟨_, _, h⟩ := farm_close_live a hf he
      rw [h, Bool.or_false, Bool.not_true, Bool.or_false]
      exact wr_writePieces_faults _ _

/-! ### the BaseX encoder inside the armor stream never fails (its writer is a `bytes.Buffer`) -/

open Saltpack.Stream in
theorem interior_sinkless : ∀ (fuel : Nat) (s : EncState) (p : Bytes) (n : Nat), s.sink = [] → s.failed = false →
    (EncState.interior fuel s p n).1 = true ∧ (EncState.interior fuel s p n).2.1.sink = [] ∧
    (EncState.interior fuel s p n).2.1.failed = false := by
  intro fuel
  induction fuel with
  | zero => intro s p n hs hf; exact ⟨rfl, hs, hf⟩
  | succ fuel ih =>
    intro s p n hs hf
    unfold EncState.interior
    by_cases hge : p.length ≥ s.enc.blockLen
    · simp only [if_pos hge]
      rw [under_nofail s _ hs]
      simp only [Bool.not_true, Bool.false_eq_true, if_false]
      exact ih _ _ _ hs hf
    · rw [if_neg hge]
      exact ⟨rfl, hs, hf⟩

open Saltpack.Stream in
theorem encRest_sinkless (s : EncState) (p : Bytes) (n : Nat) (hs : s.sink = []) (hf : s.failed = false) :
    (encRest s p n).2.1 = true ∧ (encRest s p n).2.2.sink = [] ∧ (encRest s p n).2.2.failed = false := by
  obtain ⟨i1, i2, i3⟩ := interior_sinkless (p.length + 1) s p n hs hf
  unfold encRest
  simp only [i1, Bool.not_true, Bool.false_eq_true, if_false]
  exact ⟨trivial, i2, i3⟩

open Saltpack.Stream in
theorem enc_write_sinkless (s : EncState) (p : Bytes) (hs : s.sink = []) (hf : s.failed = false) :
    (s.write p).2.1 = true ∧ (s.write p).2.2.sink = [] ∧ (s.write p).2.2.failed = false := by
  rw [write_eq]
  simp only [hf, Bool.false_eq_true, if_false]
  by_cases hb : (!s.buf.isEmpty) = true
  · simp only [hb, if_true]
    by_cases hl : (encFringe s p).length < s.enc.blockLen
    · rw [if_pos hl]; exact ⟨rfl, hs, rfl⟩
    · simp only [hl, if_false]
      have hu : encFringeU s p = (true, { ({ s with buf := [] } : EncState) with
          written := s.written ++ [Basex.encode s.enc (encFringe s p)] }) := by
        unfold encFringeU
        exact under_nofail _ _ hs
      rw [hu]
      simp only [Bool.not_true, Bool.false_eq_true, if_false]
      exact encRest_sinkless _ _ _ hs hf
  · simp only [hb, Bool.false_eq_true, if_false]
    exact encRest_sinkless s p 0 hs hf

open Saltpack.Stream in
theorem enc_close_sinkless (s : EncState) (hs : s.sink = []) (hf : s.failed = false) :
    s.close.1 = true ∧ s.close.2.sink = [] ∧ s.close.2.failed = false := by
  unfold EncState.close
  by_cases hb : s.buf.isEmpty = true
  · simp [hb, hf, hs]
  · rw [if_pos (by simp [hf, hb]), under_nofail _ _ hs]
    exact ⟨rfl, hs, hf⟩

/-- the encoder of the armor stream is healthy and its writer (the
    `bytes.Buffer`) has no fault script -/
def _root_.Saltpack.Sender.FArm.EncOk (a : FArm) : Prop := a.enc.sink = [] ∧ a.enc.failed = false

theorem farm_encOk_init (par : Armor.Params) (hdr ftr : Bytes) (w : Wr) : (FArm.init par hdr ftr w).2.EncOk := by
  unfold FArm.init
  cases w.write (hdr ++ [Armor.period, Armor.space]) with
  | mk ok w' => exact ⟨rfl, rfl⟩

theorem farm_encOk_write (a : FArm) (b : Bytes) (h : a.EncOk) :
    (a.enc.write b).2.1 = true ∧ (a.write b).2.EncOk := by
  obtain ⟨e1, e2, e3⟩ := enc_write_sinkless a.enc b h.1 h.2
  refine ⟨e1, ?_⟩
  cases hf : a.failed with
  | true => rw [farm_write_failed a b hf]; exact h
  | false =>
    obtain ⟨_, _, he, -⟩ := farm_write_live a b hf e1
    rw [he]
    exact ⟨e2, e3⟩

theorem farm_encOk_close (a : FArm) (h : a.EncOk) : a.enc.close.1 = true ∧ a.close.2.EncOk := by
  obtain ⟨e1, e2, e3⟩ := enc_close_sinkless a.enc h.1 h.2
  refine ⟨e1, ?_⟩
  cases hf : a.failed with
  | true => rw [farm_close_failed a hf]; exact h
  | false =>
    obtain ⟨_, _, he⟩ := farm_close_live a hf e1
    rw [he]
    exact ⟨e2, e3⟩

/-- after a fault `closeForwarder.Close` does not even close the armor stream -/
theorem armoredClose_spec (cfg : Cfg) (st : PSt FArm) :
    ((armoredClose cfg st).1 = none → (armoredClose cfg st).2.codec.w.w.faults = st.codec.w.w.faults) ∧
    (st.codec.failed = true → (armoredClose cfg st).1 ≠ none ∧ (armoredClose cfg st).2.codec = st.codec) := by
  have hcl := close_flt FArm.write (fun a => a.w.faults) farm_flt cfg st
  unfold armoredClose
  constructor
  · cases hc : st.close FArm.write cfg with
    | mk r st' =>
      rw [hc] at hcl
      cases r with
      | some e => intro h; cases h
      | none =>
        simp only
        have h1 := hcl.1 rfl
        simp only at h1
        have h2 := farm_close_faults st'.codec.w
        cases hac : st'.codec.w.close with
        | mk ok a =>
          rw [hac] at h2
          cases ok with
          | false => intro h; cases h
          | true =>
            intro _
            -- `h2`: the armor stream's `Close` succeeded, so it added no fault; `h1`: nor did the packet stream's
            show a.w.faults = st.codec.w.w.faults
            rw [h2, h1]
            rfl
  · intro hf
    obtain ⟨h1, h2, _⟩ := dead_close_codec FArm.write cfg st (Or.inl hf)
    cases hc : st.close FArm.write cfg with
    | mk r st' =>
      rw [hc] at h1 h2
      cases r with
      | none => exact absurd rfl h1
      | some e => exact ⟨by simp, h2⟩

end Saltpack.Proofs.SenderP
