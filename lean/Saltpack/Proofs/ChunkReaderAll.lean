/-
  chunkReader (chunk_reader.go), read-fragmentation independence for an
  arbitrary chunker `next`:  however the caller sizes its `Read` buffers, the
  bytes handed out are the concatenation of the chunks up to the first
  condition, then that condition; the condition is sticky.
-/
import Saltpack.Model.Stream
import Saltpack.Proofs.StreamLemmas
import Saltpack.Proofs.PunctAll

namespace Saltpack.Proofs
open Saltpack Saltpack.Stream

/-- the chunks a chunker hands out until its first condition (`fuel` bounds the number of calls) -/
def chunkTrace {σ : Type} (next : σ → Bytes × Option RErr × σ) : (fuel : Nat) → σ → List Bytes × Option RErr
  | 0, _ => ([], none)
  | f + 1, s =>
    match next s with
    | (c, some e, _) => ([c], some e)
    | (c, none, s') => let r := chunkTrace next f s'; (c :: r.1, r.2)

/-- read to the end with buffer sizes `caps` (cycled): concatenation of what every `Read` returned, and the first
    condition reported.  `inner` is the fuel of each single `crRead`: one round per chunk fetched in that call and
    one more, so a chunker that reaches its condition within `n` calls needs `n + 1 ≤ inner`. -/
def crReadAll {σ : Type} (next : σ → Bytes × Option RErr × σ) (caps : List Nat) (inner : Nat) :
    (fuel : Nat) → Nat → CRState σ → Bytes → Bytes × Option RErr × CRState σ
  | 0, _, s, acc => (acc, none, s)
  | fuel + 1, k, s, acc =>
    let cap := caps.getD (k % caps.length) 1
    let (d, e, s1) := crRead next cap inner s []
    match e with
    | none => crReadAll next caps inner fuel (k + 1) s1 (acc ++ d)
    | some x => (acc ++ d, some x, s1)

/-- what the model reports where the Go code panics (empty chunk, no error) -/
def crPanic : RErr := .err (.panic "chunkReader")

/-! ### `chunkTrace` -/

section
variable {σ : Type} (next : σ → Bytes × Option RErr × σ)

theorem chunkTrace_succ_some {s s' : σ} {c : Bytes} {e : RErr} (f : Nat) (h : next s = (c, some e, s')) :
    chunkTrace next (f + 1) s = ([c], some e) := by
  simp [chunkTrace, h]

theorem chunkTrace_succ_none {s s' : σ} {c : Bytes} (f : Nat) (h : next s = (c, none, s')) :
    chunkTrace next (f + 1) s = (c :: (chunkTrace next f s').1, (chunkTrace next f s').2) := by
  simp [chunkTrace, h]

/-- a trace that ends in a condition has at least one chunk (the one delivered with the condition) -/
theorem chunkTrace_ne_nil : ∀ (n : Nat) (s : σ) (cs : List Bytes) (e : RErr),
    chunkTrace next n s = (cs, some e) → cs ≠ [] := by
  intro n s cs e h
  cases n with
  | zero => simp [chunkTrace] at h
  | succ n =>
    rcases hn : next s with ⟨c, eo, s'⟩
    cases eo with
    | some x =>
      rw [chunkTrace_succ_some next n hn] at h
      simp only [Prod.mk.injEq] at h
      rw [← h.1]; simp
    | none =>
      rw [chunkTrace_succ_none next n hn] at h
      simp only [Prod.mk.injEq] at h
      rw [← h.1]; simp

theorem chunkTrace_length_le : ∀ (n : Nat) (s : σ), (chunkTrace next n s).1.length ≤ n := by
  intro n
  induction n with
  | zero => intro s; simp [chunkTrace]
  | succ n ih =>
    intro s
    rcases hn : next s with ⟨c, eo, s'⟩
    cases eo with
    | some x => rw [chunkTrace_succ_some next n hn]; simp
    | none =>
      rw [chunkTrace_succ_none next n hn]
      have := ih s'
      simp only [List.length_cons]; omega

theorem chunkTrace_mono : ∀ (n m : Nat) (s : σ) (cs : List Bytes) (e : RErr),
    chunkTrace next n s = (cs, some e) → n ≤ m → chunkTrace next m s = (cs, some e) := by
  intro n
  induction n with
  | zero => intro m s cs e h; simp [chunkTrace] at h
  | succ n ih =>
    intro m s cs e h hm
    obtain ⟨m, rfl⟩ : ∃ m', m = m' + 1 := ⟨m - 1, by omega⟩
    rcases hn : next s with ⟨c, eo, s'⟩
    cases eo with
    | some x =>
      rw [chunkTrace_succ_some next n hn] at h
      rw [chunkTrace_succ_some next m hn]; exact h
    | none =>
      rw [chunkTrace_succ_none next n hn] at h
      rw [chunkTrace_succ_none next m hn]
      simp only [Prod.mk.injEq] at h
      have h' : chunkTrace next n s' = ((chunkTrace next n s').1, some e) := by rw [← h.2]
      rw [ih m s' _ e h' (by omega)]
      simp [h.1]

/-! ### one `crRead` step -/

theorem crRead_length_le (cap : Nat) : ∀ (f : Nat) (s : CRState σ) (acc : Bytes), acc.length ≤ cap →
    (crRead next cap f s acc).1.length ≤ cap := by
  intro f
  induction f with
  | zero => intro s acc h; exact h
  | succ f ih =>
    intro s acc hacc
    rw [crRead_succ]
    by_cases hno : cap - acc.length < s.prevChunk.length
    · rw [if_pos hno, List.length_append, List.length_take]; omega
    · rw [if_neg hno]
      have hacc' : (acc ++ s.prevChunk).length ≤ cap := by rw [List.length_append]; omega
      cases s.prevErr with
      | some e => exact hacc'
      | none =>
        by_cases hp : (next s.chunker).1 = [] ∧ (next s.chunker).2.1 = none
        · simp only [if_pos hp]; exact hacc'
        · simp only [if_neg hp]; exact ih _ _ hacc'

/-! ### the invariant: what is still to be delivered, and the condition after it -/

/-- `P` is what state `s` still has to deliver (the pending chunk, then the
    chunks up to and including the one that carries the condition) and `e` the
    condition reported after it; no fetch on the way is the panic case -/
def CRInv (n : Nat) (s : CRState σ) (P : Bytes) (e : RErr) : Prop :=
  (s.prevErr = some e ∧ P = s.prevChunk) ∨
  (s.prevErr = none ∧ ∃ cs, chunkTrace next n s.chunker = (cs, some e) ∧
    (∀ c ∈ cs.dropLast, c ≠ []) ∧ P = s.prevChunk ++ cs.flatten)

theorem CRInv_mono {n m : Nat} {s : CRState σ} {P : Bytes} {e : RErr} (h : CRInv next n s P e) (hm : n ≤ m) :
    CRInv next m s P e := by
  rcases h with h | ⟨h1, cs, h2, h3, h4⟩
  · exact Or.inl h
  · exact Or.inr ⟨h1, cs, chunkTrace_mono next n m _ cs e h2 hm, h3, h4⟩

theorem CRInv_fetch {n : Nat} {s : CRState σ} {P : Bytes} {e : RErr} (h : CRInv next n s P e) (he : s.prevErr = none) :
    ∃ m, n = m + 1 ∧ ¬ ((next s.chunker).1 = [] ∧ (next s.chunker).2.1 = none) ∧
      ∃ P2, P = s.prevChunk ++ P2 ∧
        CRInv next m ⟨(next s.chunker).2.2, (next s.chunker).1, (next s.chunker).2.1⟩ P2 e := by
  rcases h with ⟨he', _⟩ | ⟨_, cs, htr, hne, hP⟩
  · rw [he] at he'; cases he'
  · cases n with
    | zero => cases htr
    | succ m =>
      refine ⟨m, rfl, ?_⟩
      rcases hn : next s.chunker with ⟨c, eo, s'⟩
      cases eo with
      | some x =>
        rw [chunkTrace_succ_some next m hn] at htr
        cases htr
        exact ⟨fun h => Option.some_ne_none e h.2, c, by rw [hP, List.flatten_singleton], Or.inl ⟨rfl, rfl⟩⟩
      | none =>
        rw [chunkTrace_succ_none next m hn] at htr
        have htr' : chunkTrace next m s' = ((chunkTrace next m s').1, some e) := by rw [← (Prod.mk.inj htr).2]
        rw [← (Prod.mk.inj htr).1, List.dropLast_cons_of_ne_nil (chunkTrace_ne_nil next m s' _ e htr')] at hne
        refine ⟨fun h => hne c List.mem_cons_self h.1, c ++ (chunkTrace next m s').1.flatten, ?_,
          Or.inr ⟨rfl, _, htr', fun c' hc' => hne c' (List.mem_cons_of_mem _ hc'), rfl⟩⟩
        rw [hP, ← (Prod.mk.inj htr).1, List.flatten_cons]

theorem crRead_step (cap : Nat) (e : RErr) : ∀ (inner n : Nat) (s : CRState σ) (acc P : Bytes),
    CRInv next n s P e → n + 1 ≤ inner →
    (P.length ≤ cap - acc.length →
      ∃ s', crRead next cap inner s acc = (acc ++ P, some e, s') ∧ s'.prevChunk = [] ∧ s'.prevErr = some e) ∧
    (cap - acc.length < P.length →
      ∃ s', crRead next cap inner s acc = (acc ++ P.take (cap - acc.length), none, s') ∧
        CRInv next n s' (P.drop (cap - acc.length)) e) := by
  intro inner
  induction inner with
  | zero => intro n s acc P _ hi; omega
  | succ f ih =>
    intro n s acc P hinv hi
    rw [crRead_succ]
    by_cases hno : cap - acc.length < s.prevChunk.length
    · -- the pending chunk alone fills the buffer: the rest of it stays pending, all else is untouched
      rw [if_pos hno]
      have hP : ∃ X, P = s.prevChunk ++ X := by
        rcases hinv with ⟨_, hP⟩ | ⟨_, cs, _, _, hP⟩
        · exact ⟨[], by rw [hP, List.append_nil]⟩
        · exact ⟨_, hP⟩
      obtain ⟨X, rfl⟩ := hP
      refine ⟨fun hle => ?_, fun _ => ?_⟩
      · rw [List.length_append] at hle; omega
      · rw [List.take_append_of_le_length (Nat.le_of_lt hno), List.drop_append_of_le_length (Nat.le_of_lt hno)]
        refine ⟨_, rfl, ?_⟩
        rcases hinv with ⟨he, hP⟩ | ⟨he, cs, htr, hne, hP⟩
        · exact Or.inl ⟨he, by rw [List.append_right_eq_self.mp hP, List.append_nil]⟩
        · exact Or.inr ⟨he, cs, htr, hne, by rw [List.append_cancel_left hP]⟩
    · rw [if_neg hno]
      have hfit : s.prevChunk.length ≤ cap - acc.length := Nat.le_of_not_lt hno
      cases he : s.prevErr with
      | some x =>
        -- the state holds its condition: the pending chunk is the last thing to deliver
        rcases hinv with ⟨he', hP⟩ | ⟨he', _⟩
        · rw [he] at he'
          cases he'
          subst hP
          exact ⟨fun _ => ⟨_, rfl, rfl, rfl⟩, fun hlt => absurd hfit (Nat.not_le_of_lt hlt)⟩
        · rw [he] at he'; cases he'
      | none =>
        -- the pending chunk is consumed; the next one is fetched
        obtain ⟨m, rfl, hnp, P2, rfl, hinv2⟩ := CRInv_fetch next hinv he
        simp only [if_neg hnp]
        obtain ⟨i1, i2⟩ := ih m _ (acc ++ s.prevChunk) P2 hinv2 (Nat.le_of_succ_le_succ hi)
        rw [List.length_append, Nat.sub_add_eq] at i1 i2
        rw [List.length_append]
        constructor
        · intro hle
          obtain ⟨t, ht, ht2⟩ := i1 (Nat.le_sub_of_add_le' hle)
          exact ⟨t, by rw [ht, List.append_assoc], ht2⟩
        · intro hlt
          obtain ⟨t, ht, ht2⟩ := i2 (Nat.sub_lt_left_of_lt_add hfit hlt)
          refine ⟨t, ?_, ?_⟩
          · rw [ht, List.take_append, List.take_of_length_le hfit, List.append_assoc]
          · rw [List.drop_append, List.drop_of_length_le hfit, List.nil_append]
            exact CRInv_mono next ht2 (Nat.le_succ m)

theorem crRead_call (cap : Nat) (e : RErr) (n inner : Nat) (s : CRState σ) (P : Bytes)
    (hinv : CRInv next n s P e) (hi : n + 1 ≤ inner) :
    (P.length ≤ cap →
      ∃ s', crRead next cap inner s [] = (P, some e, s') ∧ s'.prevChunk = [] ∧ s'.prevErr = some e) ∧
    (cap < P.length →
      ∃ s', crRead next cap inner s [] = (P.take cap, none, s') ∧ CRInv next n s' (P.drop cap) e) :=
  crRead_step next cap e inner n s [] P hinv hi

theorem crRead_progress (cap : Nat) (e : RErr) (n inner : Nat) (s : CRState σ) (P : Bytes)
    (hinv : CRInv next n s P e) (hi : n + 1 ≤ inner) (hcap : 0 < cap) :
    (crRead next cap inner s []).1.length ≤ cap ∧
    ((crRead next cap inner s []).1 ≠ [] ∨ (crRead next cap inner s []).2.1 ≠ none) := by
  refine ⟨crRead_length_le next cap inner s [] (by simp), ?_⟩
  obtain ⟨h1, h2⟩ := crRead_call next cap e n inner s P hinv hi
  by_cases h : P.length ≤ cap
  · obtain ⟨t, ht, _⟩ := h1 h
    rw [ht]; exact Or.inr (by simp)
  · obtain ⟨t, ht, _⟩ := h2 (by omega)
    rw [ht]; left
    intro h0
    have := congrArg List.length h0
    simp only [List.length_take, List.length_nil] at this
    omega

/-! ### stickiness -/

theorem crRead_terminal_state (cap inner : Nat) (s : CRState σ) (x : RErr)
    (hc : s.prevChunk = []) (he : s.prevErr = some x) (hi : 1 ≤ inner) :
    crRead next cap inner s [] = ([], some x, s) := by
  obtain ⟨a, b, c⟩ := s
  subst hc he
  cases inner with
  | zero => omega
  | succ f => rw [crRead_succ]; exact if_neg (Nat.not_lt_zero _)

theorem crRead_cond_state (cap : Nat) : ∀ (f : Nat) (s : CRState σ) (acc d : Bytes) (x : RErr) (s1 : CRState σ),
    crRead next cap f s acc = (d, some x, s1) → x ≠ crPanic →
    s1.prevChunk = [] ∧ s1.prevErr = some x := by
  intro f
  induction f with
  | zero => intro s acc d x s1 h; cases h
  | succ f ih =>
    intro s acc d x s1 h hx
    rw [crRead_succ] at h
    by_cases hno : cap - acc.length < s.prevChunk.length
    · rw [if_pos hno] at h; cases h
    · rw [if_neg hno] at h
      cases he : s.prevErr with
      | some e =>
        simp only [he] at h
        cases h
        exact ⟨rfl, rfl⟩
      | none =>
        simp only [he] at h
        by_cases hp : (next s.chunker).1 = [] ∧ (next s.chunker).2.1 = none
        · rw [if_pos hp] at h
          cases h
          exact absurd rfl hx
        · rw [if_neg hp] at h
          exact ih _ _ _ _ _ h hx

/-! ### reading to the end -/

theorem crReadAll_aux (caps : List Nat) (hcaps : ∀ c ∈ caps, 0 < c) (e : RErr) (n inner : Nat) (hi : n + 1 ≤ inner) :
    ∀ (fuel k : Nat) (s : CRState σ) (acc P : Bytes), CRInv next n s P e → P.length + 1 ≤ fuel →
      ∃ s', crReadAll next caps inner fuel k s acc = (acc ++ P, some e, s') ∧
        s'.prevChunk = [] ∧ s'.prevErr = some e := by
  intro fuel
  induction fuel with
  | zero => intro k s acc P _ h; omega
  | succ fuel ih =>
    intro k s acc P hinv hf
    have hcap : 0 < caps.getD (k % caps.length) 1 := capsGetD_pos caps hcaps _
    generalize hcapdef : caps.getD (k % caps.length) 1 = cap at hcap
    obtain ⟨h1, h2⟩ := crRead_call next cap e n inner s P hinv hi
    by_cases h : P.length ≤ cap
    · obtain ⟨t, ht, ht2⟩ := h1 h
      refine ⟨t, ?_, ht2⟩
      simp only [crReadAll, hcapdef, ht]
    · obtain ⟨t, ht, ht2⟩ := h2 (by omega)
      have hlen : (P.drop cap).length + 1 ≤ fuel := by
        rw [List.length_drop]; omega
      obtain ⟨u, hu, hu2⟩ := ih (k + 1) t (acc ++ P.take cap) (P.drop cap) ht2 hlen
      refine ⟨u, ?_, hu2⟩
      simp only [crReadAll, hcapdef, ht]
      rw [hu, List.append_assoc, List.take_append_drop]

theorem crReadAll_eq (σ0 : σ) (n : Nat) (cs : List Bytes) (e : RErr)
    (htr : chunkTrace next n σ0 = (cs, some e)) (hne : ∀ c ∈ cs.dropLast, c ≠ [])
    (caps : List Nat) (hcaps : ∀ c ∈ caps, 0 < c)
    (inner : Nat) (hi : n + 1 ≤ inner) (fuel : Nat) (hf : cs.flatten.length + 1 ≤ fuel) :
    (crReadAll next caps inner fuel 0 { chunker := σ0 } []).1 = cs.flatten ∧
    (crReadAll next caps inner fuel 0 { chunker := σ0 } []).2.1 = some e ∧
    (crReadAll next caps inner fuel 0 { chunker := σ0 } []).2.2.prevChunk = [] ∧
    (crReadAll next caps inner fuel 0 { chunker := σ0 } []).2.2.prevErr = some e := by
  obtain ⟨t, ht, ht2⟩ := crReadAll_aux next caps hcaps e n inner hi fuel 0 { chunker := σ0 } [] cs.flatten
    (Or.inr ⟨rfl, cs, htr, hne, by simp⟩) hf
  rw [ht]
  exact ⟨by simp, rfl, ht2⟩

/-! ### bounded buffering: one pending chunk -/

theorem crRead_one_chunk (cap : Nat) : ∀ (f : Nat) (s : CRState σ) (acc : Bytes),
    (crRead next cap f s acc).2.2.prevChunk <:+ s.prevChunk ∨
    ∃ σ1, (crRead next cap f s acc).2.2.prevChunk <:+ (next σ1).1 := by
  intro f
  induction f with
  | zero => intro s acc; exact Or.inl (List.suffix_refl _)
  | succ f ih =>
    intro s acc
    rw [crRead_succ]
    by_cases hno : cap - acc.length < s.prevChunk.length
    · rw [if_pos hno]; exact Or.inl (List.drop_suffix _ _)
    · rw [if_neg hno]
      cases s.prevErr with
      | some e => exact Or.inl List.nil_suffix
      | none =>
        by_cases hp : (next s.chunker).1 = [] ∧ (next s.chunker).2.1 = none
        · simp only [if_pos hp]; exact Or.inl List.nil_suffix
        · simp only [if_neg hp]
          right
          rcases ih ⟨(next s.chunker).2.2, (next s.chunker).1, (next s.chunker).2.1⟩ (acc ++ s.prevChunk) with h | h
          · exact ⟨s.chunker, h⟩
          · exact h

theorem crRead_pending_le (B : Nat) (hB : ∀ σ1, (next σ1).1.length ≤ B) (cap f : Nat) (s : CRState σ) (acc : Bytes)
    (hs : s.prevChunk.length ≤ B) : (crRead next cap f s acc).2.2.prevChunk.length ≤ B := by
  rcases crRead_one_chunk next cap f s acc with h | ⟨σ1, h⟩
  · exact Nat.le_trans h.length_le hs
  · exact Nat.le_trans h.length_le (hB σ1)

end

/-! ### instances on a small scripted chunker -/

/-- chunks `[1,2,3]`, `[4]`, `[5,6]`, then EOF (with an empty chunk) -/
def exSrc : Source := [([1, 2, 3], none), ([4], none), ([5, 6], none)]

example : chunkTrace scriptNext 4 exSrc = ([[1, 2, 3], [4], [5, 6], []], some .eof) := by decide +kernel

example : (crReadAll scriptNext [2] 5 7 0 { chunker := exSrc } []).1 = [1, 2, 3, 4, 5, 6] ∧
    (crReadAll scriptNext [2] 5 7 0 { chunker := exSrc } []).2.1 = some .eof := by decide +kernel

example : (crReadAll scriptNext [1, 5] 5 7 0 { chunker := exSrc } []).1 = [1, 2, 3, 4, 5, 6] ∧
    (crReadAll scriptNext [1, 5] 5 7 0 { chunker := exSrc } []).2.1 = some .eof := by decide +kernel

/-- the condition delivered together with the last chunk, and an error instead of EOF -/
example : (crReadAll scriptNext [4, 1] 3 6 0 { chunker := [([1, 2, 3], none), ([4, 5], some punctErr)] } []).1 = [1, 2, 3, 4, 5] ∧
    (crReadAll scriptNext [4, 1] 3 6 0 { chunker := [([1, 2, 3], none), ([4, 5], some punctErr)] } []).2.1 = some punctErr := by
  decide +kernel

/-- the hypothesis on empty chunks is needed: an empty chunk without a
    condition is the panic case, and the trace would continue past it -/
example : chunkTrace scriptNext 3 [([1], none), ([], none), ([2], some .eof)] = ([[1], [], [2]], some .eof) ∧
    (crReadAll scriptNext [4] 4 4 0 { chunker := [([1], none), ([], none), ([2], some .eof)] } []).1 = [1] ∧
    (crReadAll scriptNext [4] 4 4 0 { chunker := [([1], none), ([], none), ([2], some .eof)] } []).2.1 = some crPanic := by
  decide +kernel

/-- stickiness (`C13_chunk_reader_sticky`) needs `x ≠ crPanic`: the model's panic marker is not
    recorded in the state (the Go code does not return there), so a further
    call in the model would go on fetching -/
example :
    let r := crRead scriptNext 4 3 { chunker := [([], none), ([7], some .eof)] } []
    (r.1, r.2.1, r.2.2.prevErr) = ([], some crPanic, none) ∧
    (crRead scriptNext 4 3 r.2.2 []).1 = [7] ∧ (crRead scriptNext 4 3 r.2.2 []).2.1 = some .eof := by
  decide +kernel

/-- the bounds are tight together: with `inner = n` and `fuel = cs.flatten.length + 1`
    the single `Read` runs out of inner fuel before seeing the condition -/
example : chunkTrace scriptNext 1 [] = ([[]], some .eof) ∧
    (crReadAll scriptNext [1] 1 1 0 { chunker := ([] : Source) } []).2.1 = none ∧
    (crReadAll scriptNext [1] 2 1 0 { chunker := ([] : Source) } []).2.1 = some .eof := by
  decide +kernel

end Saltpack.Proofs
