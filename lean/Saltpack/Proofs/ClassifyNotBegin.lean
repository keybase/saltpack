/-
  `IsSaltpackArmoredPrefix`: stability of a "not saltpack" verdict given BEFORE
  the frame expression matches — the sub-case proved here: a text whose normal
  form does not begin like `BEGIN ` (it is neither a prefix of `BEGIN ` nor
  starts with it) is "not saltpack", and so is EVERY extension of it.
-/
import Saltpack.Proofs.ClassifyStable
import Saltpack.Proofs.ClassifyTotal

namespace Saltpack.Proofs.ClsStable
open Saltpack Saltpack.Classify Saltpack.Armor ClsAux

theorem splitSp_go_shape : ∀ (b cur : Bytes), ∃ w rest, splitSp.go b cur = (cur.reverse ++ w) :: rest ∧
    (∀ c ∈ w, c ≠ space) ∧ ((rest = [] ∧ b = w) ∨ (∃ y, b = w ++ space :: y ∧ rest = splitSp.go y [] )) := by
  intro b
  induction b with
  | nil =>
    intro cur
    exact ⟨[], [], by simp [splitSp.go], by simp, Or.inl ⟨rfl, rfl⟩⟩
  | cons c cs ih =>
    intro cur
    have hgo : splitSp.go (c :: cs) cur =
        if c == space then cur.reverse :: splitSp.go cs [] else splitSp.go cs (c :: cur) := rfl
    rw [hgo]
    by_cases hc : (c == space) = true
    · simp only [hc, if_true]
      have : c = space := by simpa using hc
      subst this
      exact ⟨[], splitSp.go cs [], by simp, by simp, Or.inr ⟨cs, rfl, rfl⟩⟩
    · simp only [hc, Bool.false_eq_true, if_false]
      obtain ⟨w, rest, h1, h2, h3⟩ := ih (c :: cur)
      refine ⟨c :: w, rest, by rw [h1]; simp, ?_, ?_⟩
      · intro d hd
        rcases List.mem_cons.mp hd with rfl | hd
        · intro h0; rw [h0] at hc; simp at hc
        · exact h2 d hd
      · rcases h3 with ⟨r0, hb⟩ | ⟨y, hb, hr⟩
        · exact Or.inl ⟨r0, by rw [hb]⟩
        · exact Or.inr ⟨y, by rw [hb]; rfl, hr⟩

theorem splitSp_shape (t : Bytes) : ∃ w rest, splitSp t = w :: rest ∧ (∀ c ∈ w, c ≠ space) ∧
    ((rest = [] ∧ t = w) ∨ (∃ y, t = w ++ space :: y ∧ rest = splitSp y)) := by
  obtain ⟨w, rest, h1, h2, h3⟩ := splitSp_go_shape t []
  exact ⟨w, rest, by simpa [splitSp] using h1, h2, h3⟩

theorem word_eq_of_prefix : ∀ (a b x y : Bytes), (∀ c ∈ a, c ≠ space) → (∀ c ∈ b, c ≠ space) →
    a ++ space :: x <+: b ++ space :: y → a = b := by
  intro a
  induction a with
  | nil =>
    intro b x y _ hb h
    cases b with
    | nil => rfl
    | cons d b' =>
      exfalso
      have h' : space :: x <+: d :: (b' ++ space :: y) := by simpa using h
      exact hb d (by simp) (List.cons_prefix_cons.mp h').1.symm
  | cons c a' ih =>
    intro b x y ha hb h
    cases b with
    | nil =>
      exfalso
      have h' : c :: (a' ++ space :: x) <+: space :: y := by simpa using h
      exact ha c (by simp) (List.cons_prefix_cons.mp h').1
    | cons d b' =>
      have h' : c :: (a' ++ space :: x) <+: d :: (b' ++ space :: y) := by simpa using h
      obtain ⟨hcd, htl⟩ := List.cons_prefix_cons.mp h'
      rw [hcd, ih b' x y (fun e he => ha e (by simp [he])) (fun e he => hb e (by simp [he])) htl]

theorem classifyNorm_not_begin (s t : Bytes) (hst : s <+: t) (hlast : t.getLast? ≠ some space)
    (h1 : ¬ s <+: beginWord) (h2 : ¬ beginWord <+: s) : classifyNorm t = .notSaltpack := by
  have hBGt : ¬ beginWord <+: t := by
    intro h
    rcases List.prefix_or_prefix_of_prefix hst h with h' | h'
    · exact h1 h'
    · exact h2 h'
  have hpre : ∀ r, ¬ t <+: Gen.c_sp_headerMarker ++ space :: r := by
    intro r h
    have hs : s <+: Gen.c_sp_headerMarker ++ space :: r := hst.trans h
    have hb : beginWord <+: Gen.c_sp_headerMarker ++ space :: r := ⟨r, by simp [beginWord]⟩
    rcases List.prefix_or_prefix_of_prefix hs hb with h' | h'
    · exact h1 h'
    · exact h2 h'
  have hw0 : ∀ y, t ≠ Gen.c_sp_headerMarker ++ space :: y := by
    intro y h
    exact hBGt ⟨y, by rw [h]; simp [beginWord]⟩
  have hmh : matchHeader t = none := by
    cases hm : matchHeader t with
    | none => rfl
    | some x =>
      obtain ⟨brand, ty, pl⟩ := x
      obtain ⟨r, hr, _⟩ := matchHeader_shape t brand ty pl hm
      exact absurd ⟨r, hr.symm⟩ hBGt
  rw [classifyNorm_none t hmh]
  split
  · rfl
  · rename_i hfw
    rcases wordsVerdict_cases t with h | h | ⟨h5, _⟩
    · exfalso
      obtain ⟨w, rest, hsp, hw, hshape⟩ := splitSp_shape t
      -- a first word followed by a space is not `BEGIN`
      have hwne : ∀ y, t = w ++ space :: y → w ≠ Gen.c_sp_headerMarker := fun y hty hwb => hw0 y (hwb ▸ hty)
      rcases wordsVerdict_short t h with ⟨hl, hp⟩ | ⟨hl, hp⟩ | ⟨hl, hl', sffx, hp⟩ <;> rw [hsp] at hl hp
      · -- one piece, the text itself, a prefix of `BEGIN`
        rcases hshape with ⟨_, htw⟩ | ⟨y, _, hry⟩
        · exact hpre [] (htw ▸ List.IsPrefix.trans hp (List.prefix_append _ _))
        · rw [List.eq_nil_of_length_eq_zero (Nat.succ.inj hl)] at hry
          exact Saltpack.Proofs.splitSp_go_ne_nil y [] hry.symm
      · rcases hshape with ⟨hr, _⟩ | ⟨y, hty, _⟩
        · rw [hr] at hl; cases hl
        · exact hwne y hty hp
      · rw [hsp] at hl'
        rcases hshape with ⟨hr, _⟩ | ⟨y, hty, _⟩
        · rw [hr] at hl; exact hl rfl
        · have frame_begins : Gen.c_sp_headerMarker ++ [space] ++ upper Gen.c_sp_FormatName ++ [space] ++ sffx =
              Gen.c_sp_headerMarker ++ space :: (upper Gen.c_sp_FormatName ++ space :: sffx) := by
            simp [List.append_assoc]
          rw [frame_begins] at hp
          rcases hp with hp | hp
          · obtain ⟨w1, w2, rest2, rfl⟩ : ∃ w1 w2 rest2, rest = w1 :: w2 :: rest2 := by
              match rest, hl, hl' with
              | [], hl, _ => exact absurd rfl hl
              | [_], _, hl' => exact absurd rfl hl'
              | w1 :: w2 :: rest2, _, _ => exact ⟨w1, w2, rest2, rfl⟩
            have hhwb : intercalateSp (w :: w2 :: rest2) = w ++ space :: intercalateSp (w2 :: rest2) := by
              simp [intercalateSp]
            rw [List.headD_cons, List.drop_succ_cons, List.drop_succ_cons, List.drop_zero, hhwb] at hp
            exact hwne y hty (word_eq_of_prefix w _ _ _ hw (by decide) hp)
          · exact hpre _ hp
    · exact h
    · exact absurd (Saltpack.Proofs.fewWords_length_le t hlast (by simpa using hfw)) (by omega)

end Saltpack.Proofs.ClsStable
