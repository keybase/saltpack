/-
  Exact forms of the key-usage facts: what a decrypting receiver asks of
  long-term keys as a function of the header it was handed (no nonce byte and no
  ciphertext other than the entries' boxes is taken from the message), the exact
  byte strings signing keys are asked to sign, and coherence of the sender logs
  (`Encrypt.senderCalls`, `Sign.signCalls`, `Signcrypt.signCalls`) with the
  values the sender models compute.
-/
import Saltpack.Proofs.Calls
import Saltpack.Proofs.DecHeader

namespace Saltpack.Proofs
open Saltpack

/-! ## receivers: exact calls -/

/-- `j` is a recipient index of the header, `n` the payload-key-box nonce of
    that *index* and `ct` the box of that entry -/
def PayloadBoxOf (h : EncHeader) (n ct : Bytes) : Prop :=
  ∃ j, j < h.receivers.length ∧ Nonce.payloadKeyBox h.version j = .ok n ∧
    ct = (h.receivers.getD j default).box

/-- `n` is one of the MAC-key nonces of header hash `hh` for recipient index `j` -/
def MacKeyNonceOf (hh : Bytes) (v : Version) (j : Nat) (n : Bytes) : Prop :=
  (v.major = 1 ∧ n = Nonce.macKeyBoxV1 hh) ∨ (v.major = 2 ∧ ∃ e : Bool, n = Nonce.macKeyBoxV2 hh e j)

/-- what a decrypting receiver that was handed header `h` (with hash `hh`) may
    ask of long-term keys — exact form.  The peer key of every unbox /
    precomputation is the header's ephemeral key as imported by the keyring. -/
def DecCallExact (kr : Keyring) (hh : Bytes) (h : EncHeader) : KeyCall → Prop
  | .unbox _ pk n ct => kr.importBoxEphemeralKey h.ephemeral = some pk ∧ PayloadBoxOf h n ct
  | .sharedUnbox sk pk n ct =>
    sk ∈ kr.getAllBoxSecretKeys ∧ kr.importBoxEphemeralKey h.ephemeral = some pk ∧ PayloadBoxOf h n ct
  | .box _ _ n m => m = zeros 32 ∧ ∃ j, j < h.receivers.length ∧ MacKeyNonceOf hh h.version j n
  | .precompute sk pk => sk ∈ kr.getAllBoxSecretKeys ∧ kr.importBoxEphemeralKey h.ephemeral = some pk
  | .sharedBox _ _ _ _ => False
  | .sign _ _ => False

theorem DecCallExact.toOK {kr : Keyring} {hh : Bytes} {h : EncHeader} {c : KeyCall}
    (hc : DecCallExact kr hh h c) : DecCallOK c := by
  cases c with
  | unbox _ _ n ct =>
    obtain ⟨_, j, _, hn, _⟩ := hc
    exact Calls.payloadKeyBox_ok hn
  | sharedUnbox _ _ n ct =>
    obtain ⟨_, _, j, _, hn, _⟩ := hc
    exact Calls.payloadKeyBox_ok hn
  | box _ _ n m => exact hc.1
  | precompute _ _ => exact True.intro
  | sharedBox _ _ _ _ => exact hc
  | sign _ _ => exact hc

/-- like `DecCallExact`, with a side condition on the recipient index of `Box`
    calls (used to tie it to the position of the matched entry) -/
def DecCallAt (kr : Keyring) (hh : Bytes) (h : EncHeader) (posOK : Nat → Prop) : KeyCall → Prop
  | .unbox _ pk n ct => kr.importBoxEphemeralKey h.ephemeral = some pk ∧ PayloadBoxOf h n ct
  | .sharedUnbox sk pk n ct =>
    sk ∈ kr.getAllBoxSecretKeys ∧ kr.importBoxEphemeralKey h.ephemeral = some pk ∧ PayloadBoxOf h n ct
  | .box _ _ n m => m = zeros 32 ∧ ∃ j, j < h.receivers.length ∧ posOK j ∧ MacKeyNonceOf hh h.version j n
  | .precompute sk pk => sk ∈ kr.getAllBoxSecretKeys ∧ kr.importBoxEphemeralKey h.ephemeral = some pk
  | .sharedBox _ _ _ _ => False
  | .sign _ _ => False

theorem DecCallAt.toExact {kr : Keyring} {hh : Bytes} {h : EncHeader} {posOK : Nat → Prop} {c : KeyCall}
    (hc : DecCallAt kr hh h posOK c) : DecCallExact kr hh h c := by
  cases c with
  | unbox _ _ n ct => exact hc
  | sharedUnbox _ _ n ct => exact hc
  | box _ _ n m =>
    obtain ⟨hm, j, hj, _, hn⟩ := hc
    exact ⟨hm, j, hj, hn⟩
  | precompute _ _ => exact hc
  | sharedBox _ _ _ _ => exact hc
  | sign _ _ => exact hc

theorem Calls.visibleIndices_lt {rs : List RecvKeys} {j : Nat} (h : j ∈ Decrypt.visibleIndices rs) :
    j < rs.length := by
  unfold Decrypt.visibleIndices at h
  obtain ⟨p, hp, rfl⟩ := List.mem_map.mp h
  obtain ⟨x, i⟩ := p
  exact (List.mem_zipIdx' (List.mem_filter.mp hp).1).1

theorem Calls.tryVisible_exact (P : Prims) (kr : Keyring) (hh : Bytes) (h : EncHeader) (posOK : Nat → Prop) (eph : Bytes)
    (heph : kr.importBoxEphemeralKey h.ephemeral = some eph) :
    Calls.All (DecCallAt kr hh h posOK) (Decrypt.tryVisible P kr h eph).1 ∧
    ∀ sk pk pos, (Decrypt.tryVisible P kr h eph).2 = .ok (some (sk, pk, pos)) → pos < h.receivers.length := by
  rcases tryVisible_cases P kr h eph with h0 | h0 | ⟨sk, i, pos, _, _, hvi, ⟨e, _, h0⟩ | ⟨nonce, hn, h0⟩⟩
  · rw [h0]
    exact ⟨Calls.All.nil, fun _ _ _ hr => by cases hr⟩
  · rw [h0]
    exact ⟨Calls.All.nil, fun _ _ _ hr => by cases hr⟩
  · rw [h0]
    exact ⟨Calls.All.nil, fun _ _ _ hr => by cases hr⟩
  · have hlt : pos < h.receivers.length := Calls.visibleIndices_lt (List.mem_of_getElem? hvi)
    rw [h0]
    refine ⟨Calls.All.cons ⟨heph, pos, hlt, hn, rfl⟩ Calls.All.nil, fun sk' pk' pos' hr => ?_⟩
    rw [(unboxed_ok hr).2.1]
    exact hlt

theorem Calls.tryHiddenOne_exact (P : Prims) (kr : Keyring) (hh : Bytes) (h : EncHeader) (posOK : Nat → Prop) (sk eph : Bytes)
    (hsk : sk ∈ kr.getAllBoxSecretKeys)
    (heph : kr.importBoxEphemeralKey h.ephemeral = some eph) (l : List (RecvKeys × Nat))
    (hl : ∀ p ∈ l, p.2 < h.receivers.length ∧ p.1 = h.receivers.getD p.2 default) :
    Calls.All (DecCallAt kr hh h posOK) (Decrypt.tryHiddenOne P h.version sk eph l).1 ∧
    ∀ pk pos, (Decrypt.tryHiddenOne P h.version sk eph l).2 = .ok (some (pk, pos)) → pos < h.receivers.length := by
  induction l with
  | nil => exact ⟨Calls.All.nil, fun _ _ hr => by cases hr⟩
  | cons p rest ih =>
    obtain ⟨r, i⟩ := p
    have ih := ih (fun p hp => hl p (List.mem_cons_of_mem _ hp))
    obtain ⟨hi, hr⟩ := hl (r, i) List.mem_cons_self
    -- the one call of this step, if it is made, is exact
    have hc : ∀ nonce, Nonce.payloadKeyBox h.version i = .ok nonce →
        DecCallAt kr hh h posOK (KeyCall.sharedUnbox sk eph nonce r.box) :=
      fun nonce hn => ⟨hsk, heph, i, hi, hn, congrArg RecvKeys.box hr⟩
    rcases tryHiddenOne_cons_cases P h.version sk eph r i rest with
      ⟨_, h0⟩ | ⟨_, ⟨e, _, h0⟩ | ⟨nonce, hn, ⟨_, h0⟩ | ⟨pk, _, ⟨_, h0⟩ | ⟨_, h0⟩⟩⟩⟩
    · rw [h0]
      exact ih
    · rw [h0]
      exact ⟨Calls.All.nil, fun _ _ hr => by cases hr⟩
    · rw [h0]
      exact ⟨Calls.All.cons (hc nonce hn) ih.1, ih.2⟩
    · rw [h0]
      exact ⟨Calls.All.cons (hc nonce hn) Calls.All.nil, fun _ _ hr => by cases hr⟩
    · rw [h0]
      refine ⟨Calls.All.cons (hc nonce hn) Calls.All.nil, fun _ _ hr => ?_⟩
      cases hr
      exact hi

theorem Calls.tryHidden_exact (P : Prims) (kr : Keyring) (hh : Bytes) (h : EncHeader) (posOK : Nat → Prop) (eph : Bytes)
    (heph : kr.importBoxEphemeralKey h.ephemeral = some eph) (sks : List Bytes)
    (hsks : ∀ sk ∈ sks, sk ∈ kr.getAllBoxSecretKeys) :
    Calls.All (DecCallAt kr hh h posOK) (Decrypt.tryHidden P h eph sks).1 ∧
    ∀ sk pk pos, (Decrypt.tryHidden P h eph sks).2 = .ok (some (sk, pk, pos)) → pos < h.receivers.length := by
  induction sks with
  | nil => exact ⟨Calls.All.nil, fun _ _ _ hr => by cases hr⟩
  | cons sk sks ih =>
    have ih := ih (fun s hs => hsks s (List.mem_cons_of_mem _ hs))
    have hsk := hsks sk List.mem_cons_self
    have zipIdx_entries : ∀ p ∈ h.receivers.zipIdx,
        p.2 < h.receivers.length ∧ p.1 = h.receivers.getD p.2 default := by
      intro p hp
      obtain ⟨x, i⟩ := p
      obtain ⟨hi, hx⟩ := List.mem_zipIdx' hp
      refine ⟨hi, ?_⟩
      simp only [List.getD_eq_getElem?_getD, List.getElem?_eq_getElem hi, Option.getD_some]
      exact hx
    have h1 := Calls.tryHiddenOne_exact P kr hh h posOK sk eph hsk heph h.receivers.zipIdx zipIdx_entries
    have hl : Calls.All (DecCallAt kr hh h posOK)
        (KeyCall.precompute sk eph :: (Decrypt.tryHiddenOne P h.version sk eph h.receivers.zipIdx).1) :=
      Calls.All.cons ⟨hsk, heph⟩ h1.1
    rcases tryHidden_cons_cases P h eph sk sks with ⟨e, _, h0⟩ | ⟨pk, i, hres, h0⟩ | ⟨_, h0⟩
    · rw [h0]
      exact ⟨hl, fun _ _ _ hr => by cases hr⟩
    · rw [h0]
      refine ⟨hl, fun _ _ _ hr => ?_⟩
      cases hr
      exact h1.2 _ _ hres
    · rw [h0]
      exact ⟨Calls.All.append hl ih.1, ih.2⟩

theorem Calls.macKeyReceiver_exact (P : Prims) (kr : Keyring) (h : EncHeader) (index : Nat)
    (hidx : index < h.receivers.length) (secret pub ePub hh : Bytes) :
    Calls.All (DecCallAt kr hh h (· = index)) (Decrypt.macKeyReceiver P h.version index secret pub ePub hh).1 := by
  unfold Decrypt.macKeyReceiver
  split
  · rename_i h1
    exact Calls.All.cons ⟨rfl, index, hidx, rfl, Or.inl ⟨h1, rfl⟩⟩ Calls.All.nil
  · split
    · rename_i h2
      exact Calls.All.cons ⟨rfl, index, hidx, rfl, Or.inr ⟨h2, false, rfl⟩⟩
        (Calls.All.cons ⟨rfl, index, hidx, rfl, Or.inr ⟨h2, true, rfl⟩⟩ Calls.All.nil)
    · exact Calls.All.nil

theorem Calls.findEntry_exact (P : Prims) (kr : Keyring) (hh : Bytes) (h : EncHeader) (posOK : Nat → Prop) (eph : Bytes)
    (heph : kr.importBoxEphemeralKey h.ephemeral = some eph) (vis : Option (Bytes × Bytes × Nat))
    (hvis : ∀ sk pk pos, vis = some (sk, pk, pos) → pos < h.receivers.length) :
    Calls.All (DecCallAt kr hh h posOK) (findEntry P kr h eph vis).1 ∧
    ∀ r, (findEntry P kr h eph vis).2 = .ok r → r.1.2.2 < h.receivers.length := by
  cases vis with
  | some r =>
    refine ⟨Calls.All.nil, fun r' hr => ?_⟩
    cases hr
    exact hvis _ _ _ rfl
  | none =>
    have h2 := Calls.tryHidden_exact P kr hh h posOK eph heph kr.getAllBoxSecretKeys (fun _ hs => hs)
    refine ⟨andThen_all h2.1 fun _ _ => Calls.All.nil, fun r hr => ?_⟩
    obtain ⟨o, _, ho, hf, _⟩ := andThen_inv (Prod.ext rfl hr : findEntry P kr h eph none = (_, .ok r))
    cases o with
    | none => cases hf
    | some r' =>
      cases hf
      exact h2.2 _ _ _ ho

theorem Calls.All.toExact {kr : Keyring} {hh : Bytes} {h : EncHeader} {posOK : Nat → Prop} {l : List KeyCall}
    (hl : Calls.All (DecCallAt kr hh h posOK) l) : Calls.All (DecCallExact kr hh h) l :=
  fun c hc => (hl c hc).toExact

/-- every step of `processHeader` makes exact calls; the index `macKeyReceiver`
    is given is the one `tryVisible` / `tryHidden` reported, below the recipient count -/
theorem Calls.processHeader_exact (P : Prims) (valid : Validator) (kr : Keyring) (hh : Bytes) (h : EncHeader) :
    Calls.All (DecCallExact kr hh h) (Decrypt.processHeader P valid kr hh h).1 := by
  rw [processHeader_eq]
  refine andThen_all Calls.All.nil fun _ _ => andThen_all Calls.All.nil fun eph heph => ?_
  have h1 := Calls.tryVisible_exact P kr hh h (fun _ => True) eph (orErr_ok heph)
  refine andThen_all h1.1.toExact fun vis hvis => ?_
  have h2 := Calls.findEntry_exact P kr hh h (fun _ => True) eph (orErr_ok heph) vis
    (fun sk pk pos hv => h1.2 sk pk pos (hv ▸ hvis))
  refine andThen_all h2.1.toExact fun r hr => ?_
  refine andThen_all Calls.All.nil fun senderKey _ => andThen_all Calls.All.nil fun _ _ =>
    andThen_all Calls.All.nil fun senderPub _ => ?_
  exact andThen_all (Calls.macKeyReceiver_exact P kr h _ (h2.2 r hr) _ _ _ _).toExact fun _ _ => Calls.All.nil

theorem processHeader_box_position (P : Prims) (valid : Validator) (kr : Keyring) (hh : Bytes) (h : EncHeader)
    (log : List KeyCall) (st : Decrypt.State)
    (hres : Decrypt.processHeader P valid kr hh h = (log, .ok st)) :
    ∀ sk pk n m, KeyCall.box sk pk n m ∈ log →
      m = zeros 32 ∧ st.position < h.receivers.length ∧ MacKeyNonceOf hh h.version st.position n := by
  obtain ⟨eph, vis, l1, r, l2, senderKey, senderPub, mk, l3, -, rfl, rfl, heph, hvis, hr, -, -, -, hmk⟩ :=
    processHeader_ok hres
  -- only `macKeyReceiver` boxes, and it is given the position of the entry
  have h1 := Calls.tryVisible_exact P kr hh h (· = r.1.2.2) eph heph
  have h2 := Calls.findEntry_exact P kr hh h (· = r.1.2.2) eph heph vis
    (fun sk pk pos hv => h1.2 sk pk pos (hv ▸ congrArg Prod.snd hvis))
  have h3 := Calls.macKeyReceiver_exact P kr h r.1.2.2 (h2.2 r (congrArg Prod.snd hr)) r.1.1 senderPub eph hh
  rw [hvis] at h1
  rw [hr] at h2
  rw [hmk] at h3
  intro sk pk n m hc
  obtain ⟨hm, j, hj, hjp, hn⟩ := Calls.All.append h1.1 (Calls.All.append h2.1 h3) _ hc
  cases hjp
  exact ⟨hm, hj, hn⟩

theorem dec_calls_exact (P : Prims) (valid : Validator) (kr : Keyring) (hb : Bytes) (h : EncHeader)
    (ps : PStream EncBlock) :
    ∀ c ∈ (Decrypt.openStream P valid kr (.ok hb h) ps).calls, DecCallExact kr (P.hash hb) h c := by
  show Calls.All _ _
  unfold Decrypt.openStream
  simp only
  have hp := Calls.processHeader_exact P valid kr (P.hash hb) h
  split
  · rename_i log e heq
    rw [heq] at hp; exact hp
  · rename_i log st heq
    rw [heq] at hp; exact hp

theorem dec_calls_no_header (P : Prims) (valid : Validator) (kr : Keyring) (hr : HeaderRead EncHeader)
    (ps : PStream EncBlock) (hno : ∀ hb h, hr ≠ .ok hb h) :
    (Decrypt.openStream P valid kr hr ps).calls = [] := by
  unfold Decrypt.openStream
  split
  · rfl
  · rfl
  · exact absurd rfl (hno _ _)

/-! ## signcryption receivers: the whole log -/

theorem Calls.sc_processHeader_exact (P : Prims) (kr : Keyring) (res : Signcrypt.Resolver) (hh : Bytes) (h : EncHeader) :
    (Signcrypt.processHeader P kr res hh h).1 = [] ∨
    ∃ eph, kr.importBoxEphemeralKey h.ephemeral = some eph ∧
      (Signcrypt.processHeader P kr res hh h).1 =
        kr.getAllBoxSecretKeys.map (fun sk => KeyCall.box sk eph Nonce.derivedSharedKey (zeros 32)) := by
  unfold Signcrypt.processHeader
  split
  · exact Or.inl rfl
  split
  · exact Or.inl rfl
  rename_i eph heph
  refine Or.inr ⟨eph, heph, ?_⟩
  simp only
  split
  · rfl
  · rfl
  · split
    · rfl
    · split
      · rfl
      · split <;> rfl

theorem sc_calls_exact (P : Prims) (kr : Keyring) (res : Signcrypt.Resolver) (hb : Bytes) (h : EncHeader)
    (ps : PStream SigncryptBlock) :
    (Signcrypt.openStream P kr res (.ok hb h) ps).calls = [] ∨
    ∃ eph, kr.importBoxEphemeralKey h.ephemeral = some eph ∧
      (Signcrypt.openStream P kr res (.ok hb h) ps).calls =
        kr.getAllBoxSecretKeys.map (fun sk => KeyCall.box sk eph Nonce.derivedSharedKey (zeros 32)) := by
  have hp := Calls.sc_processHeader_exact P kr res (P.hash hb) h
  unfold Signcrypt.openStream
  simp only
  split
  · rename_i log e heq
    rw [heq] at hp; exact hp
  · rename_i log st heq
    rw [heq] at hp; exact hp

theorem sc_calls_ok (P : Prims) (kr : Keyring) (res : Signcrypt.Resolver) (hr : HeaderRead EncHeader)
    (ps : PStream SigncryptBlock) :
    ∀ c ∈ (Signcrypt.openStream P kr res hr ps).calls,
      ∃ sk pk, c = .box sk pk Nonce.derivedSharedKey (zeros 32) := by
  intro c hc
  cases hr with
  | ok hb h =>
    rcases sc_calls_exact P kr res hb h ps with h0 | ⟨eph, _, hl⟩
    · rw [h0] at hc
      exact absurd hc List.not_mem_nil
    · rw [hl] at hc
      obtain ⟨sk, _, rfl⟩ := List.mem_map.mp hc
      exact ⟨sk, eph, rfl⟩
  | unreadable => exact absurd hc List.not_mem_nil
  | undecodable hb => exact absurd hc List.not_mem_nil

/-! ## signers: the exact signed strings -/

/-- the 64 bytes an attached signature covers (after the domain string), for
    packet number `n`, chunk `ch`, final flag `f` under header hash `hh` -/
def attachedDigest (P : Prims) (v : Version) (hh : Bytes) (n : Nat) (ch : Bytes) (f : Bool) : Bytes :=
  if v.major = 1 then P.hash (hh ++ be64 n ++ ch) else P.hash (hh ++ be64 n ++ finalByte f ++ ch)

theorem attachedSignatureInput_eq (P : Prims) (v : Version) (hh ch : Bytes) (n : Nat) (f : Bool) (inp : Bytes)
    (h : attachedSignatureInput P v hh ch n f = .ok inp) :
    (v.major = 1 ∨ v.major = 2) ∧ inp = Gen.c_sp_signatureAttachedString ++ attachedDigest P v hh n ch f := by
  unfold attachedSignatureInput at h
  unfold attachedDigest
  split at h
  · rename_i h1
    cases h
    exact ⟨Or.inl h1, by rw [if_pos h1]⟩
  · rename_i h1
    split at h
    · rename_i h2
      cases h
      exact ⟨Or.inr h2, by rw [if_neg h1]⟩
    · cases h

theorem attached_sign_inputs_exact (P : Prims) (v : Version) (signer hh : Bytes)
    (plan : List (Bytes × Bool)) (i : Nat) :
    ∀ c ∈ Sign.signCalls P v signer hh plan i,
      ∃ k ch f, plan[k]? = some (ch, f) ∧ (v.major = 1 ∨ v.major = 2) ∧
        c = .sign signer (Gen.c_sp_signatureAttachedString ++ attachedDigest P v hh (i + k) ch f) := by
  induction plan generalizing i with
  | nil => exact fun _ h => absurd h List.not_mem_nil
  | cons p rest ih =>
    obtain ⟨ch, f⟩ := p
    intro c hc
    rw [Sign.signCalls] at hc
    rcases List.mem_append.mp hc with hc | hc
    · split at hc
      · rename_i inp heq
        obtain ⟨hv, hinp⟩ := attachedSignatureInput_eq P v hh ch i f inp heq
        refine ⟨0, ch, f, rfl, hv, ?_⟩
        rw [List.mem_singleton.mp hc, hinp]
        rfl
      · exact absurd hc List.not_mem_nil
    · obtain ⟨k, ch', f', hk, hv, hc'⟩ := ih _ c hc
      refine ⟨k + 1, ch', f', by simpa using hk, hv, ?_⟩
      rw [hc', Nat.add_assoc, Nat.add_comm 1 k]

theorem attachedSignatureInput_of_major (P : Prims) (v : Version) (hv : v.major = 1 ∨ v.major = 2)
    (hh ch : Bytes) (n : Nat) (f : Bool) :
    attachedSignatureInput P v hh ch n f =
      .ok (Gen.c_sp_signatureAttachedString ++ attachedDigest P v hh n ch f) := by
  unfold attachedSignatureInput attachedDigest
  rcases hv with h1 | h2
  · rw [if_pos h1, if_pos h1]
  · have h1 : ¬ v.major = 1 := by omega
    rw [if_neg h1, if_pos h2, if_neg h1]

theorem attached_signCalls_index (P : Prims) (v : Version) (hv : v.major = 1 ∨ v.major = 2) (signer hh : Bytes)
    (plan : List (Bytes × Bool)) (i : Nat) :
    Sign.signCalls P v signer hh plan i =
      (plan.zipIdx i).map (fun p => KeyCall.sign signer
        (Gen.c_sp_signatureAttachedString ++ attachedDigest P v hh p.2 p.1.1 p.1.2)) := by
  induction plan generalizing i with
  | nil => rfl
  | cons p rest ih =>
    obtain ⟨ch, f⟩ := p
    rw [Sign.signCalls, attachedSignatureInput_of_major P v hv, ih]
    rfl

/-! ## senders: the logs list exactly the key operations the models perform -/

/-- the value a logged `Sign` call returns -/
def Calls.sigOf (P : Prims) : KeyCall → Bytes
  | .sign k inp => P.sign k inp
  | _ => []

/-- the value a logged `Box` call returns -/
def Calls.boxOf (P : Prims) : KeyCall → Bytes
  | .box sk pk n m => P.box sk pk n m
  | _ => []

/-- bytes 16..48 of a box (`computeMACKeySingle`) -/
def Calls.macKeyOfBox (b : Bytes) : Bytes := (b.drop 16).take 32

theorem sign_blockStructs_coherent (P : Prims) (v : Version) (signer hh : Bytes)
    (plan : List (Bytes × Bool)) (i : Nat) (blks : List SigBlock)
    (h : Sign.blockStructs P v signer hh plan i = .ok blks) :
    (Sign.signCalls P v signer hh plan i).length = plan.length ∧
    blks = List.zipWith (fun c p => (⟨Calls.sigOf P c, p.1, p.2⟩ : SigBlock))
      (Sign.signCalls P v signer hh plan i) plan := by
  induction plan generalizing i blks with
  | nil =>
    rw [Sign.blockStructs] at h
    cases h
    exact ⟨rfl, rfl⟩
  | cons p rest ih =>
    obtain ⟨ch, f⟩ := p
    rw [Sign.blockStructs] at h
    rw [Sign.signCalls]
    unfold Sign.blockStruct at h
    cases hin : attachedSignatureInput P v hh ch i f with
    | error e => rw [hin] at h; cases h
    | ok inp =>
      rw [hin] at h
      cases hrest : Sign.blockStructs P v signer hh rest (i + 1) with
      | error e => rw [hrest] at h; cases h
      | ok bs =>
        rw [hrest] at h
        cases h
        obtain ⟨h1, h2⟩ := ih _ _ hrest
        refine ⟨by simp [h1], ?_⟩
        simp only [List.singleton_append, List.zipWith_cons_cons]
        rw [← h2]
        rfl

theorem signcrypt_blockStructs_coherent (P : Prims) (s pk hh : Bytes)
    (plan : List (Bytes × Bool)) (i : Nat) (bs : List SigncryptBlock)
    (h : Signcrypt.blockStructs P (some s) pk hh plan i = .ok bs) :
    (Signcrypt.signCalls P (some s) hh plan i).length = plan.length ∧
    bs = List.zipWith
      (fun c p => (⟨P.sbSeal pk (Nonce.chunkSigncryption hh p.1.2 p.2) (Calls.sigOf P c ++ p.1.1), p.1.2⟩ : SigncryptBlock))
      (Signcrypt.signCalls P (some s) hh plan i) (plan.zipIdx i) := by
  induction plan generalizing i bs with
  | nil =>
    rw [Signcrypt.blockStructs] at h
    cases h
    exact ⟨rfl, rfl⟩
  | cons p rest ih =>
    obtain ⟨ch, f⟩ := p
    rw [Signcrypt.blockStructs] at h
    rw [Signcrypt.signCalls]
    unfold Signcrypt.blockStruct at h
    by_cases hbn : blockNumberOK i = true
    · simp only [hbn, Bool.not_true, Bool.false_eq_true, if_false] at h
      cases hrest : Signcrypt.blockStructs P (some s) pk hh rest (i + 1) with
      | error e => rw [hrest] at h; cases h
      | ok bs' =>
        rw [hrest] at h
        cases h
        obtain ⟨h1, h2⟩ := ih _ _ hrest
        refine ⟨by simp [h1], ?_⟩
        simp only [List.singleton_append, List.zipIdx_cons, List.zipWith_cons_cons]
        rw [← h2]
        rfl
    · simp only [hbn, Bool.not_false, if_true] at h
      cases h

theorem sealPackets_coherent (P : Prims) (bsz : Nat) (v : Version) (sender : Option Bytes)
    (rs : List Encrypt.Recipient) (eph pk pt : Bytes) (h : EncHeader) (hb : Bytes) (blks : List EncBlock)
    (hok : Encrypt.sealPackets P bsz v sender rs eph pk pt = .ok (h, hb, blks)) :
    Encrypt.header P v sender eph pk rs = .ok h ∧ hb = Msgpack.encode h.toVal ∧
    ∃ mks, Encrypt.macKeysSender P v (sender.getD eph) eph (P.hash hb) rs 0 = .ok mks ∧
      Encrypt.blockStructs P v pk (P.hash hb) mks (Encrypt.chunkPlan v bsz pt) 0 = .ok blks := by
  unfold Encrypt.sealPackets at hok
  split at hok
  · cases hok
  split at hok
  · cases hok
  split at hok
  · cases hok
  rename_i h' hh'
  simp only at hok
  split at hok
  · cases hok
  rename_i mks hm
  split at hok
  · cases hok
  rename_i blks' hbl
  cases hok
  exact ⟨hh', rfl, mks, hm, hbl⟩

theorem sealWith_packets (P : Prims) (bsz : Nat) (v : Version) (sender : Option Bytes)
    (rs : List Encrypt.Recipient) (eph pk pt m : Bytes)
    (h : Encrypt.sealWith P bsz v sender rs eph pk pt = .ok m) :
    ∃ hd hb blks body, Encrypt.sealPackets P bsz v sender rs eph pk pt = .ok (hd, hb, blks) ∧
      Encrypt.encodeBlocks v blks = .ok body ∧ m = headerPacket hb ++ body := by
  unfold Encrypt.sealWith at h
  split at h
  · cases h
  rename_i hd hb blks hp
  split at h
  · cases h
  rename_i body hbody
  cases h
  exact ⟨hd, hb, blks, body, hp, hbody, rfl⟩

end Saltpack.Proofs
