/-
  Signcryption and signatures at packet level.  Signcryption: the opener's
  keyring holds ANY list of box secret keys and MAY be accompanied by a
  symmetric-key resolver; any minor version, arbitrary header bytes (used only
  through their hash), any chunk plan the specification allows.  Attached and
  detached signatures: any minor version, arbitrary header bytes.
  Proofs/RoundTripSig has the instances for `Signcrypt.sealPackets` /
  `Sign.attachedPackets` and a single-key ring.
-/
import Saltpack.Proofs.RingEnc

namespace Saltpack.Proofs
open Saltpack Saltpack.Encrypt

/-! ## signcryption -/

/-! ### hypotheses on the ring; the header as the receiver sees it -/

/-- the derived key a ring key `s` computes against the ephemeral public key -/
abbrev scDk (P : Prims) (eph s : Bytes) : Bytes := Signcrypt.derivedKeyFromBoxKeys P (P.boxPub eph) s

/-- **No identifier collision, for a ring**: up to (and including) position `i`
    — where a genuine box-key recipient of the ring sits — a ring key's derived
    identifier equals the identifier written in a header entry only if that
    entry was made for this very key.  (`tryBoxSecretKeys` walks the entries in
    header order and, per entry, the ring keys in ring order; it stops at the
    first identifier match and fails hard if the box then does not open.  An
    explicit, satisfiable hypothesis: identifiers are 32 bytes of HMAC output.) -/
def ScRingNoCollision (P : Prims) (eph : Bytes) (rs : List Signcrypt.Recipient) (h : EncHeader)
    (sks : List Bytes) (i : Nat) : Prop :=
  ∀ s ∈ sks, ∀ j, j ≤ i → j < rs.length →
    Signcrypt.keyIdentifier P (scDk P eph s) j = Decrypt.kidOf (h.receivers.getD j default) →
    rs.getD j default = .box (P.boxPub s)

theorem ScRingNoCollision.single {P : Prims} {eph : Bytes} {rs : List Signcrypt.Recipient} {h : EncHeader}
    {i : Nat} {sk : Bytes} (hsk : rs.getD i default = .box (P.boxPub sk))
    (hnc : ∀ j, j < i → Signcrypt.keyIdentifier P (scDk P eph sk) j ≠ Decrypt.kidOf (h.receivers.getD j default)) :
    ScRingNoCollision P eph rs h [sk] i := by
  intro s hs j hji _ hid
  have hs' : s = sk := List.mem_singleton.1 hs
  subst hs'
  by_cases hlt : j < i
  · exact absurd hid (hnc j hlt)
  · have : j = i := Nat.le_antisymm hji (Nat.le_of_not_lt hlt)
    subst this
    exact hsk

/-- no key of the ring produces the identifier of any header entry -/
def ScRingForeign (P : Prims) (eph : Bytes) (h : EncHeader) (sks : List Bytes) : Prop :=
  ∀ s ∈ sks, ∀ j, j < h.receivers.length →
    Signcrypt.keyIdentifier P (scDk P eph s) j ≠ Decrypt.kidOf (h.receivers.getD j default)

theorem ScRingForeign.nil {P : Prims} {eph : Bytes} {h : EncHeader} : ScRingForeign P eph h [] := by
  intro s hs; cases hs

/-- what the receiver needs to know about the signcryption header it was
    handed: the fields `Signcrypt.header` computes, under any minor version -/
structure ScHdrOK (P : Prims) (sender : Option Bytes) (eph pk : Bytes) (rs : List Signcrypt.Recipient)
    (h : EncHeader) : Prop where
  fmt : h.formatName = Gen.c_sp_FormatName
  major : h.version.major = 2
  typ : h.typ = mtSigncryption
  ephPub : h.ephemeral = P.boxPub eph
  ssb : h.senderSecretbox = P.sbSeal pk Nonce.senderKeySecretBox
      (match sender with | none => zeros 32 | some s => P.sigPub s)
  recv : h.receivers = Signcrypt.receiverEntries P eph pk rs 0

theorem scHdrOK_withMinor (P : Prims) (sender : Option Bytes) (eph pk : Bytes) (rs : List Signcrypt.Recipient)
    (minor : Int) : ScHdrOK P sender eph pk rs (withMinor (Signcrypt.header P sender eph pk rs) minor) :=
  ⟨rfl, rfl, rfl, rfl, rfl, rfl⟩

theorem scHdrOK_header (P : Prims) (sender : Option Bytes) (eph pk : Bytes) (rs : List Signcrypt.Recipient) :
    ScHdrOK P sender eph pk rs (Signcrypt.header P sender eph pk rs) :=
  scHdrOK_withMinor P sender eph pk rs 0

theorem sc_withMinor_zero (P : Prims) (sender : Option Bytes) (eph pk : Bytes) (rs : List Signcrypt.Recipient) :
    withMinor (Signcrypt.header P sender eph pk rs) 0 = Signcrypt.header P sender eph pk rs := rfl

namespace RTSig

/-! ### the receiver list -/

theorem receiverEntries_length (P : Prims) (eph pk : Bytes) :
    ∀ (rs : List Signcrypt.Recipient) (n : Nat), (Signcrypt.receiverEntries P eph pk rs n).length = rs.length := by
  intro rs
  induction rs with
  | nil => intro n; rfl
  | cons r rt ih => intro n; simp [Signcrypt.receiverEntries, ih]

theorem receiverEntries_getElem? (P : Prims) (eph pk : Bytes) :
    ∀ (rs : List Signcrypt.Recipient) (n j : Nat),
      (Signcrypt.receiverEntries P eph pk rs n)[j]? = (rs[j]?).map (Signcrypt.receiverEntry P eph pk (n + j)) := by
  intro rs
  induction rs with
  | nil => intro n j; simp [Signcrypt.receiverEntries]
  | cons r rt ih =>
    intro n j
    cases j with
    | zero => simp [Signcrypt.receiverEntries]
    | succ j =>
      simp only [Signcrypt.receiverEntries, List.getElem?_cons_succ, ih]
      rw [show n + 1 + j = n + (j + 1) from Nat.add_right_comm n 1 j]

theorem derivedKey_comm (P : Prims) (hP : P.Lawful) (a b : Bytes) :
    Signcrypt.derivedKeyFromBoxKeys P (P.boxPub a) b = Signcrypt.derivedKeyFromBoxKeys P (P.boxPub b) a := by
  unfold Signcrypt.derivedKeyFromBoxKeys Prims.box
  rw [hP.dh_comm]

/-! ### the header, once the payload-key search is set apart -/

/-- the payload-key search of `processHeader` -/
def scFindKey (P : Prims) (kr : Keyring) (res : Signcrypt.Resolver) (h : EncHeader) (eph : Bytes) :
    Except Err (Option Bytes) :=
  match Signcrypt.tryBox P (kr.getAllBoxSecretKeys.map (fun sk => Signcrypt.derivedKeyFromBoxKeys P eph sk))
      h.receivers.zipIdx with
  | .error e => .error e
  | .ok (some pk) => .ok (some pk)
  | .ok none => Signcrypt.trySym P res h eph

/-- what `processHeader` does once the search has ended -/
def scHeaderTail (P : Prims) (kr : Keyring) (headerHash : Bytes) (h : EncHeader) (log : List KeyCall)
    (pk? : Except Err (Option Bytes)) : Decrypt.Logged Signcrypt.State :=
  match pk? with
  | .error e => (log, .error e)
  | .ok none => (log, .error .noDecryptionKey)
  | .ok (some pk) =>
    match P.sbOpen pk Nonce.senderKeySecretBox h.senderSecretbox with
    | none => (log, .error .badSenderKeySecretbox)
    | some senderKey =>
      if senderKey.all (· == 0) then (log, .ok ⟨pk, headerHash, none⟩)
      else match kr.lookupSigningPublicKey senderKey with
        | none => (log, .error .noSenderKey)
        | some spk => (log, .ok ⟨pk, headerHash, some spk⟩)

theorem sc_processHeader_eq (P : Prims) (kr : Keyring) (res : Signcrypt.Resolver) (hh : Bytes) (h : EncHeader)
    (hv : Signcrypt.validate h = .ok ()) (eph : Bytes) (hi : kr.importBoxEphemeralKey h.ephemeral = some eph) :
    Signcrypt.processHeader P kr res hh h =
      scHeaderTail P kr hh h
        (kr.getAllBoxSecretKeys.map (fun sk => KeyCall.box sk eph Nonce.derivedSharedKey (zeros 32)))
        (scFindKey P kr res h eph) := by
  unfold Signcrypt.processHeader
  rw [hv]
  simp only []
  rw [hi]
  rfl

theorem zeros_all_zero (n : Nat) : (zeros n).all (· == 0) = true :=
  List.all_eq_true.2 (fun x hx => by rw [(List.mem_replicate.1 hx).2]; rfl)


theorem sc_validates_of_hdrOK {P : Prims} {sender : Option Bytes} {eph pk : Bytes} {rs : List Signcrypt.Recipient}
    {h : EncHeader} (hh : ScHdrOK P sender eph pk rs h) : Signcrypt.validate h = .ok () := by
  simp [Signcrypt.validate, hh.fmt, hh.typ, hh.major]

theorem sc_processHeader_found_gen (P : Prims) (hP : P.Lawful) (sks : List Bytes) (res : Signcrypt.Resolver)
    (hhash : Bytes) (sender : Option Bytes) (eph pk : Bytes) (rs : List Signcrypt.Recipient)
    (hsender : ∀ s, sender = some s → ¬ ((P.sigPub s).all (· == 0)))
    (h : EncHeader) (hh : ScHdrOK P sender eph pk rs h)
    (hfind : scFindKey P (faithfulKeyring P sks) res h (P.boxPub eph) = .ok (some pk)) :
    ∃ log, Signcrypt.processHeader P (faithfulKeyring P sks) res hhash h =
      (log, .ok ⟨pk, hhash, sender.map P.sigPub⟩) := by
  refine ⟨(faithfulKeyring P sks).getAllBoxSecretKeys.map
    (fun sk => KeyCall.box sk (P.boxPub eph) Nonce.derivedSharedKey (zeros 32)), ?_⟩
  rw [sc_processHeader_eq P _ res hhash _ (sc_validates_of_hdrOK hh) (P.boxPub eph) (by rw [hh.ephPub]; rfl), hfind]
  unfold scHeaderTail
  simp only [hh.ssb, hP.sb_open_seal]
  cases sender with
  | none => simp only [zeros_all_zero, if_true, Option.map_none]
  | some s =>
    have := hsender s rfl
    simp only [this, faithfulKeyring, Option.map_some, Bool.false_eq_true, if_false]

theorem sc_processHeader_none_gen (P : Prims) (sks : List Bytes) (res : Signcrypt.Resolver)
    (hhash : Bytes) (sender : Option Bytes) (eph pk : Bytes) (rs : List Signcrypt.Recipient)
    (h : EncHeader) (hh : ScHdrOK P sender eph pk rs h)
    (hfind : scFindKey P (faithfulKeyring P sks) res h (P.boxPub eph) = .ok none) :
    ∃ log, Signcrypt.processHeader P (faithfulKeyring P sks) res hhash h = (log, .error .noDecryptionKey) := by
  refine ⟨(faithfulKeyring P sks).getAllBoxSecretKeys.map
    (fun sk => KeyCall.box sk (P.boxPub eph) Nonce.derivedSharedKey (zeros 32)), ?_⟩
  rw [sc_processHeader_eq P _ res hhash _ (sc_validates_of_hdrOK hh) (P.boxPub eph) (by rw [hh.ephPub]; rfl), hfind]
  rfl

/-! ### the search over entries × ring keys -/

theorem tryBoxOne_none (P : Prims) (r : RecvKeys) (idx : Nat) :
    ∀ (dks : List Bytes), (∀ dk ∈ dks, Signcrypt.keyIdentifier P dk idx ≠ Decrypt.kidOf r) →
      Signcrypt.tryBoxOne P dks r idx = none := by
  intro dks
  induction dks with
  | nil => intro _; rfl
  | cons dk rest ih =>
    intro hno
    have hb : (Signcrypt.keyIdentifier P dk idx == Decrypt.kidOf r) = false :=
      bytes_beq_false (hno dk List.mem_cons_self)
    simp only [Signcrypt.tryBoxOne, hb, Bool.false_eq_true, if_false]
    exact ih (fun d hd => hno d (List.mem_cons_of_mem _ hd))

theorem tryBoxOne_genuine (P : Prims) (pk : Bytes) (hpk : pk.length = 32) (r : RecvKeys) (idx : Nat) :
    ∀ (dks : List Bytes),
      (∀ dk ∈ dks, Signcrypt.keyIdentifier P dk idx = Decrypt.kidOf r →
        P.sbOpen dk (Nonce.payloadKeyBoxV2 idx) r.box = some pk) →
      (∃ dk ∈ dks, Signcrypt.keyIdentifier P dk idx = Decrypt.kidOf r) →
      Signcrypt.tryBoxOne P dks r idx = some (.ok pk) := by
  intro dks
  induction dks with
  | nil => intro _ ⟨dk, hdk, _⟩; cases hdk
  | cons dk rest ih =>
    intro hgen ⟨d, hd, hdm⟩
    by_cases hid : Signcrypt.keyIdentifier P dk idx = Decrypt.kidOf r
    · simp [Signcrypt.tryBoxOne, hid, hgen dk List.mem_cons_self hid, hpk]
    · have hb : (Signcrypt.keyIdentifier P dk idx == Decrypt.kidOf r) = false := bytes_beq_false hid
      simp only [Signcrypt.tryBoxOne, hb, Bool.false_eq_true, if_false]
      rcases List.mem_cons.1 hd with rfl | hd
      · exact absurd hdm hid
      · exact ih (fun d' hd' => hgen d' (List.mem_cons_of_mem _ hd')) ⟨d, hd, hdm⟩

theorem tryBox_genuine (P : Prims) (dks : List Bytes) (pk : Bytes) (hpk : pk.length = 32) :
    ∀ (l : List RecvKeys) (n i : Nat),
      (∀ j r, j ≤ i → l[j]? = some r → ∀ dk ∈ dks, Signcrypt.keyIdentifier P dk (n + j) = Decrypt.kidOf r →
        P.sbOpen dk (Nonce.payloadKeyBoxV2 (n + j)) r.box = some pk) →
      (∃ r, l[i]? = some r ∧ ∃ dk ∈ dks, Signcrypt.keyIdentifier P dk (n + i) = Decrypt.kidOf r) →
      Signcrypt.tryBox P dks (l.zipIdx n) = .ok (some pk) := by
  intro l
  induction l with
  | nil => intro n i _ ⟨r, hr, _⟩; simp at hr
  | cons a t ih =>
    intro n i hgen ⟨r, hr, hmatch⟩
    rw [List.zipIdx_cons]
    have hgen0 := hgen 0 a (Nat.zero_le _) rfl
    rw [Nat.add_zero] at hgen0
    by_cases hm0 : ∃ dk ∈ dks, Signcrypt.keyIdentifier P dk n = Decrypt.kidOf a
    · simp only [Signcrypt.tryBox, tryBoxOne_genuine P pk hpk a n dks hgen0 hm0]
    · have hno : ∀ dk ∈ dks, Signcrypt.keyIdentifier P dk n ≠ Decrypt.kidOf a :=
        fun dk hdk heq => hm0 ⟨dk, hdk, heq⟩
      simp only [Signcrypt.tryBox, tryBoxOne_none P a n dks hno]
      cases i with
      | zero =>
        simp only [List.getElem?_cons_zero, Option.some.injEq] at hr
        subst hr
        rw [Nat.add_zero] at hmatch
        exact absurd hmatch hm0
      | succ i =>
        apply ih (n + 1) i
        · intro j r' hj hr' dk hdk hid
          have := hgen (j + 1) r' (Nat.succ_le_succ hj) hr' dk hdk
            (by rw [show n + (j + 1) = n + 1 + j from Nat.add_right_comm n j 1]; exact hid)
          rw [show n + (j + 1) = n + 1 + j from Nat.add_right_comm n j 1] at this
          exact this
        · refine ⟨r, hr, ?_⟩
          rw [show n + 1 + i = n + (i + 1) from Nat.add_right_comm n 1 i]
          exact hmatch

theorem tryBox_foreign (P : Prims) (dks : List Bytes) :
    ∀ (l : List RecvKeys) (n : Nat),
      (∀ j r, l[j]? = some r → ∀ dk ∈ dks, Signcrypt.keyIdentifier P dk (n + j) ≠ Decrypt.kidOf r) →
      Signcrypt.tryBox P dks (l.zipIdx n) = .ok none := by
  intro l
  induction l with
  | nil => intro n _; rfl
  | cons a t ih =>
    intro n hno
    rw [List.zipIdx_cons]
    have h0 : Signcrypt.tryBoxOne P dks a n = none := by
      apply tryBoxOne_none
      have := hno 0 a rfl
      rw [Nat.add_zero] at this
      exact this
    simp only [Signcrypt.tryBox, h0]
    apply ih (n + 1)
    intro j r hr dk hdk
    have := hno (j + 1) r hr dk hdk
    rw [show n + (j + 1) = n + 1 + j from Nat.add_right_comm n j 1] at this
    exact this

theorem scFindKey_ring_box (P : Prims) (hP : P.Lawful) (sender : Option Bytes) (rs : List Signcrypt.Recipient)
    (eph pk : Bytes) (hpk : pk.length = 32) (h : EncHeader) (hh : ScHdrOK P sender eph pk rs h)
    (sks : List Bytes) (res : Signcrypt.Resolver)
    (i : Nat) (hi : i < rs.length) (sk : Bytes) (hmem : sk ∈ sks) (hsk : rs.getD i default = .box (P.boxPub sk))
    (hnc : ScRingNoCollision P eph rs h sks i) :
    scFindKey P (faithfulKeyring P sks) res h (P.boxPub eph) = .ok (some pk) := by
  have hrsi : rs[i]? = some (.box (P.boxPub sk)) := by
    rw [← hsk, List.getD_eq_getElem?_getD, List.getElem?_eq_getElem hi]; rfl
  have htb : Signcrypt.tryBox P (sks.map (fun s => scDk P eph s))
      ((Signcrypt.receiverEntries P eph pk rs 0).zipIdx 0) = .ok (some pk) := by
    apply tryBox_genuine P _ pk hpk _ 0 i
    · intro j r hj hr dk hdk hid
      rw [List.mem_map] at hdk
      obtain ⟨s, hs, rfl⟩ := hdk
      have hjl : j < rs.length := by
        by_cases hjl : j < rs.length
        · exact hjl
        · rw [List.getElem?_eq_none (by rw [receiverEntries_length]; omega)] at hr; cases hr
      rw [Nat.zero_add] at hid ⊢
      have hown := hnc s hs j hj hjl (by
        rw [hh.recv, List.getD_eq_getElem?_getD, hr]; exact hid)
      have hrj : rs[j]? = some (.box (P.boxPub s)) := by
        rw [← hown, List.getD_eq_getElem?_getD, List.getElem?_eq_getElem hjl]; rfl
      rw [receiverEntries_getElem?, hrj] at hr
      simp only [Option.map_some, Option.some.injEq, Nat.zero_add] at hr
      subst hr
      simp only [Signcrypt.receiverEntry, scDk, derivedKey_comm P hP s eph, hP.sb_open_seal]
    · refine ⟨_, by rw [receiverEntries_getElem?, hrsi]; rfl, scDk P eph sk, List.mem_map.2 ⟨sk, hmem, rfl⟩, ?_⟩
      simp only [Signcrypt.receiverEntry, scDk, derivedKey_comm P hP sk eph, Nat.zero_add, Decrypt.kidOf,
        Option.getD_some]
  unfold scFindKey
  simp only [hh.recv, fk_all]
  rw [htb]

theorem tryBox_ring_foreign (P : Prims) (eph : Bytes) (h : EncHeader) (sks : List Bytes)
    (hfor : ScRingForeign P eph h sks) :
    Signcrypt.tryBox P ((faithfulKeyring P sks).getAllBoxSecretKeys.map
      (fun sk => Signcrypt.derivedKeyFromBoxKeys P (P.boxPub eph) sk)) h.receivers.zipIdx = .ok none := by
  apply tryBox_foreign
  intro j r hr dk hdk
  rw [fk_all, List.mem_map] at hdk
  obtain ⟨s, hs, rfl⟩ := hdk
  have hjl : j < h.receivers.length := (List.getElem?_eq_some_iff.1 hr).1
  have := hfor s hs j hjl
  rw [List.getD_eq_getElem?_getD, hr] at this
  rw [Nat.zero_add]
  exact this

/-! ### the symmetric-key search -/

theorem trySym_go_found (P : Prims) (ephPub pk : Bytes) (hpk : pk.length = 32) :
    ∀ (keys : List (Option Bytes)) (l : List RecvKeys) (n : Nat),
      keys.length = l.length →
      (∃ (j : Nat) (k : Bytes), keys[j]? = some (some k)) →
      (∀ j k r, keys[j]? = some (some k) → l[j]? = some r →
        P.sbOpen (Signcrypt.symDerivedKey P ephPub k) (Nonce.payloadKeyBoxV2 (n + j)) r.box = some pk) →
      Signcrypt.trySym.go P ephPub (keys.zip (l.zipIdx n)) = .ok (some pk) := by
  intro keys
  induction keys with
  | nil => intro l n _ ⟨j, k, hjk⟩; simp at hjk
  | cons a t ih =>
    intro l n hl hex hopen
    cases l with
    | nil => simp at hl
    | cons r lt =>
      rw [List.zipIdx_cons, List.zip_cons_cons]
      cases a with
      | none =>
        simp only [Signcrypt.trySym.go]
        apply ih lt (n + 1) (Nat.succ.inj hl)
        · obtain ⟨j, k, hjk⟩ := hex
          cases j with
          | zero => simp at hjk
          | succ j => exact ⟨j, k, hjk⟩
        · intro j k r' hk hr'
          have := hopen (j + 1) k r' hk hr'
          rw [show n + 1 + j = n + (j + 1) from Nat.add_right_comm n 1 j]
          exact this
      | some k =>
        have := hopen 0 k r rfl rfl
        rw [Nat.add_zero] at this
        simp [Signcrypt.trySym.go, this, hpk]

theorem trySym_go_none (P : Prims) (ephPub : Bytes) :
    ∀ (keys : List (Option Bytes)) (l : List (RecvKeys × Nat)),
      (∀ x ∈ keys, x = none) →
      Signcrypt.trySym.go P ephPub (keys.zip l) = .ok none := by
  intro keys
  induction keys with
  | nil => intro l _; simp [Signcrypt.trySym.go]
  | cons a t ih =>
    intro l hall
    cases l with
    | nil => simp [Signcrypt.trySym.go]
    | cons x lt =>
      have ha : a = none := hall a (by simp)
      subst ha
      obtain ⟨r, i⟩ := x
      rw [List.zip_cons_cons]
      simp only [Signcrypt.trySym.go]
      exact ih lt (fun y hy => hall y (by simp [hy]))

end RTSig
open RTSig

/-! ### the general round trips -/

theorem sc_sealPacketsPlan_inv (P : Prims) (sender : Option Bytes) (rs : List Signcrypt.Recipient)
    (eph payloadKey : Bytes) (plan : List (Bytes × Bool)) (h : EncHeader) (hb : Bytes)
    (blks : List SigncryptBlock)
    (hseal : Signcrypt.sealPacketsPlan P sender rs eph payloadKey plan = .ok (h, hb, blks)) :
    Signcrypt.checkReceivers rs [] = .ok () ∧
    h = Signcrypt.header P sender eph payloadKey rs ∧ hb = Msgpack.encode h.toVal ∧
    Signcrypt.blockStructs P sender payloadKey (P.hash hb) plan 0 = .ok blks := by
  unfold Signcrypt.sealPacketsPlan at hseal
  split at hseal
  · cases hseal
  · rename_i hcr
    simp only [] at hseal
    split at hseal
    · cases hseal
    · rename_i blks' hb'
      simp only [Except.ok.injEq, Prod.mk.injEq] at hseal
      obtain ⟨h1, h2, h3⟩ := hseal
      subst h1 h2 h3
      exact ⟨hcr, rfl, rfl, hb'⟩

/-- **What a spec-following signcryption sender puts on the wire**, relationally
    (cf. `EncSent`): the header `Signcrypt.header` computes, relabelled
    `[2, minor]`; ANY header bytes `hb`; payload packets computed from the hash
    of those bytes. -/
structure ScSent (P : Prims) (minor : Int) (sender : Option Bytes) (rs : List Signcrypt.Recipient)
    (eph pk : Bytes) (plan : List (Bytes × Bool)) (h : EncHeader) (hb : Bytes) (blks : List SigncryptBlock) : Prop where
  recv : Signcrypt.checkReceivers rs [] = .ok ()
  hdr : h = withMinor (Signcrypt.header P sender eph pk rs) minor
  blocks : Signcrypt.blockStructs P sender pk (P.hash hb) plan 0 = .ok blks

theorem scSent_of_sealPacketsPlan (P : Prims) (sender : Option Bytes) (rs : List Signcrypt.Recipient)
    (eph pk : Bytes) (plan : List (Bytes × Bool)) (h : EncHeader) (hb : Bytes) (blks : List SigncryptBlock)
    (hseal : Signcrypt.sealPacketsPlan P sender rs eph pk plan = .ok (h, hb, blks)) :
    ScSent P 0 sender rs eph pk plan h hb blks := by
  obtain ⟨hcr, hh, _, hblk⟩ := sc_sealPacketsPlan_inv P sender rs eph pk plan h hb blks hseal
  exact ⟨hcr, hh, hblk⟩

theorem sc_open_found_gen (P : Prims) (hP : P.Lawful) (minor : Int)
    (sender : Option Bytes) (rs : List Signcrypt.Recipient) (eph payloadKey : Bytes)
    (plan : List (Bytes × Bool)) (hfin : PlanL.FinalLast plan) (he2 : PlanL.EmptySole plan)
    (hsender : ∀ s, sender = some s → ¬ ((P.sigPub s).all (· == 0)))
    (h : EncHeader) (hb : Bytes) (blks : List SigncryptBlock)
    (hsent : ScSent P minor sender rs eph payloadKey plan h hb blks)
    (sks : List Bytes) (res : Signcrypt.Resolver)
    (hfind : scFindKey P (faithfulKeyring P sks) res h (P.boxPub eph) = .ok (some payloadKey)) :
    Signcrypt.openAll P (faithfulKeyring P sks) res (.ok hb h) ⟨blks.map some, .eof⟩ =
      .ok (sender.map P.sigPub, (plan.map (·.1)).flatten) := by
  obtain ⟨_, rfl, hblk⟩ := hsent
  obtain ⟨log, hph⟩ := sc_processHeader_found_gen P hP sks res (P.hash hb) sender eph payloadKey rs hsender _
    (scHdrOK_withMinor P sender eph payloadKey rs minor) hfind
  have hrun := PlanL.sc_run_ok_plan P hP sender payloadKey (P.hash hb) plan hfin he2 blks hblk
  unfold Signcrypt.openAll Signcrypt.openStream
  simp only [hph, hrun]

theorem sc_roundtrip_box_ring (P : Prims) (hP : P.Lawful) (minor : Int)
    (sender : Option Bytes) (rs : List Signcrypt.Recipient) (eph payloadKey : Bytes)
    (plan : List (Bytes × Bool)) (hfin : PlanL.FinalLast plan) (he2 : PlanL.EmptySole plan)
    (hpk : payloadKey.length = 32)
    (hsender : ∀ s, sender = some s → ¬ ((P.sigPub s).all (· == 0)))
    (hblocks : plan.length < 2 ^ 64 - 1)
    (sks : List Bytes) (res : Signcrypt.Resolver)
    (i : Nat) (hi : i < rs.length) (sk : Bytes) (hmem : sk ∈ sks) (hsk : rs.getD i default = .box (P.boxPub sk))
    (h : EncHeader) (hb : Bytes) (blks : List SigncryptBlock)
    (hsent : ScSent P minor sender rs eph payloadKey plan h hb blks)
    (hnc : ScRingNoCollision P eph rs h sks i) :
    Signcrypt.openAll P (faithfulKeyring P sks) res (.ok hb h) ⟨blks.map some, .eof⟩ =
      .ok (sender.map P.sigPub, (plan.map (·.1)).flatten) := by
  have _ := hblocks
  apply sc_open_found_gen P hP minor sender rs eph payloadKey plan hfin he2 hsender h hb blks hsent
  have hh : ScHdrOK P sender eph payloadKey rs h := by
    rw [hsent.hdr]; exact scHdrOK_withMinor P sender eph payloadKey rs minor
  exact scFindKey_ring_box P hP sender rs eph payloadKey hpk h hh sks res i hi sk hmem hsk hnc

theorem sc_roundtrip_sym_ring (P : Prims) (hP : P.Lawful) (minor : Int)
    (sender : Option Bytes) (rs : List Signcrypt.Recipient) (eph payloadKey : Bytes)
    (plan : List (Bytes × Bool)) (hfin : PlanL.FinalLast plan) (he2 : PlanL.EmptySole plan)
    (hpk : payloadKey.length = 32)
    (hsender : ∀ s, sender = some s → ¬ ((P.sigPub s).all (· == 0)))
    (h : EncHeader) (hb : Bytes) (blks : List SigncryptBlock)
    (hsent : ScSent P minor sender rs eph payloadKey plan h hb blks)
    (sks : List Bytes) (hfor : ScRingForeign P eph h sks)
    (f : List Bytes → Except Err (List (Option Bytes))) (keys : List (Option Bytes))
    (hf : f (h.receivers.map Decrypt.kidOf) = .ok keys) (hlen : keys.length = rs.length)
    (htrue : ∀ (j : Nat) (k : Bytes), keys[j]? = some (some k) → ∃ ident, rs[j]? = some (Signcrypt.Recipient.sym k ident))
    (hsome : ∃ (j : Nat) (k : Bytes), keys[j]? = some (some k)) :
    Signcrypt.openAll P (faithfulKeyring P sks) (some f) (.ok hb h) ⟨blks.map some, .eof⟩ =
      .ok (sender.map P.sigPub, (plan.map (·.1)).flatten) := by
  apply sc_open_found_gen P hP minor sender rs eph payloadKey plan hfin he2 hsender h hb blks hsent
  have hh : ScHdrOK P sender eph payloadKey rs h := by
    rw [hsent.hdr]; exact scHdrOK_withMinor P sender eph payloadKey rs minor
  have hlen' : keys.length = (Signcrypt.receiverEntries P eph payloadKey rs 0).length := by
    rw [receiverEntries_length, hlen]
  have hgo : Signcrypt.trySym.go P (P.boxPub eph)
      (keys.zip ((Signcrypt.receiverEntries P eph payloadKey rs 0).zipIdx 0)) = .ok (some payloadKey) := by
    apply trySym_go_found P (P.boxPub eph) payloadKey hpk keys _ 0 hlen' hsome
    intro j k r hk hr
    obtain ⟨ident, hid⟩ := htrue j k hk
    rw [receiverEntries_getElem?, hid] at hr
    simp only [Option.map_some, Option.some.injEq] at hr
    subst hr
    simp only [Signcrypt.receiverEntry, hP.sb_open_seal]
  unfold scFindKey
  rw [tryBox_ring_foreign P eph h sks hfor]
  unfold Signcrypt.trySym
  rw [hh.recv] at hf ⊢
  simp only [hf, List.length_map, hlen']
  simpa using hgo

theorem sc_processHeader_no_key (P : Prims) (sender : Option Bytes) (rs : List Signcrypt.Recipient)
    (eph payloadKey : Bytes) (h : EncHeader) (hh : ScHdrOK P sender eph payloadKey rs h)
    (sks : List Bytes) (hfor : ScRingForeign P eph h sks)
    (res : Signcrypt.Resolver)
    (hres : ∀ f, res = some f → ∃ keys, f (h.receivers.map Decrypt.kidOf) = .ok keys ∧
      keys.length = rs.length ∧ ∀ k ∈ keys, k = none) (hhash : Bytes) :
    ∃ log, Signcrypt.processHeader P (faithfulKeyring P sks) res hhash h = (log, .error .noDecryptionKey) := by
  have hfind : scFindKey P (faithfulKeyring P sks) res h (P.boxPub eph) = .ok none := by
    unfold scFindKey
    rw [tryBox_ring_foreign P eph h sks hfor]
    cases res with
    | none => rfl
    | some f =>
      obtain ⟨keys, hf, hlen, hnone⟩ := hres f rfl
      unfold Signcrypt.trySym
      rw [hh.recv] at hf ⊢
      simp only [hf, List.length_map, receiverEntries_length, hlen]
      simp only [bne_self_eq_false, Bool.false_eq_true, if_false]
      exact trySym_go_none P (P.boxPub eph) keys _ hnone
  exact sc_processHeader_none_gen P sks res hhash sender eph payloadKey rs h hh hfind

theorem sc_no_key_ring (P : Prims) (minor : Int)
    (sender : Option Bytes) (rs : List Signcrypt.Recipient) (eph payloadKey : Bytes)
    (plan : List (Bytes × Bool))
    (h : EncHeader) (hb : Bytes) (blks : List SigncryptBlock)
    (hsent : ScSent P minor sender rs eph payloadKey plan h hb blks)
    (sks : List Bytes) (hfor : ScRingForeign P eph h sks)
    (res : Signcrypt.Resolver)
    (hres : ∀ f, res = some f → ∃ keys, f (h.receivers.map Decrypt.kidOf) = .ok keys ∧
      keys.length = rs.length ∧ ∀ k ∈ keys, k = none) :
    Signcrypt.openAll P (faithfulKeyring P sks) res (.ok hb h) ⟨blks.map some, .eof⟩ =
      .error .noDecryptionKey ∧
    (Signcrypt.openStream P (faithfulKeyring P sks) res (.ok hb h) ⟨blks.map some, .eof⟩).released = [] := by
  have hh : ScHdrOK P sender eph payloadKey rs h := by
    rw [hsent.hdr]; exact scHdrOK_withMinor P sender eph payloadKey rs minor
  obtain ⟨log, hph⟩ := sc_processHeader_no_key P sender rs eph payloadKey h hh sks hfor res hres (P.hash hb)
  constructor
  · unfold Signcrypt.openAll Signcrypt.openStream
    simp only [hph]
  · unfold Signcrypt.openStream
    simp only [hph]

/-! ### every packet of a plan can be built -/

theorem sc_blockStructs_ok (P : Prims) (sender : Option Bytes) (pk hh : Bytes)
    (plan : List (Bytes × Bool)) (k : Nat) (hk : k + plan.length ≤ 2 ^ 64 - 1) :
    ∃ blks, Signcrypt.blockStructs P sender pk hh plan k = .ok blks ∧ blks.length = plan.length := by
  rw [sc_blockStructs_eq_gblocks]
  obtain ⟨blks, h⟩ := PlanL.gblocks_ok (Signcrypt.blockStruct P sender pk hh) plan k (fun j p hp => by
    have hj : j < plan.length := (List.getElem?_eq_some_iff.1 hp).1
    have hbn : blockNumberOK (k + j) = true := by
      simp only [blockNumberOK, decide_eq_true_eq]
      omega
    simp only [Signcrypt.blockStruct, hbn, Bool.not_true, Bool.false_eq_true, if_false]
    exact ⟨_, rfl⟩)
  exact ⟨blks, h, PlanL.gblocks_length _ plan k blks h⟩

/-! ## attached and detached signatures: any minor version, any header bytes -/

theorem knownMajor_minor {v : Version} (hv : v = v1 ∨ v = v2) (minor : Int) :
    knownMajor ⟨v.major, minor⟩ = true := by
  rcases hv with rfl | rfl <;> rfl

theorem sign_header_validates (w : Version) (hw : knownMajor w = true) (pk nonce : Bytes) (typ : Int)
    (ht : typ = mtAttached ∨ typ = mtDetached) :
    Sign.validate knownMajor (Sign.header w pk typ nonce) typ = .ok () := by
  have ht' : (typ != mtAttached && typ != mtDetached) = false := by
    rcases ht with rfl | rfl <;> decide
  simp [Sign.validate, Sign.header, hw, ht']

theorem attachedPacketsPlan_inv (P : Prims) (v : Version) (minor : Int) (signer nonce : Bytes)
    (plan : List (Bytes × Bool)) (h : SigHeader) (hb : Bytes) (blks : List SigBlock)
    (hs : Sign.attachedPacketsPlan P v minor signer nonce plan = .ok (h, hb, blks)) :
    h = Sign.header ⟨v.major, minor⟩ (P.sigPub signer) mtAttached nonce ∧ hb = Msgpack.encode h.toVal ∧
    Sign.blockStructs P v signer (P.hash hb) plan 0 = .ok blks := by
  unfold Sign.attachedPacketsPlan at hs
  split at hs
  · cases hs
  · simp only [] at hs
    split at hs
    · cases hs
    · rename_i blks' hb'
      simp only [Except.ok.injEq, Prod.mk.injEq] at hs
      obtain ⟨h1, h2, h3⟩ := hs
      subst h1 h2 h3
      exact ⟨rfl, rfl, hb'⟩

/-- **What a spec-following attached-signature sender puts on the wire**,
    relationally: the header of `Sign.header` with version `[major, minor]`, ANY
    header bytes `hb`, packets signed over the hash of those bytes -/
structure SigSent (P : Prims) (v : Version) (minor : Int) (signer nonce : Bytes) (plan : List (Bytes × Bool))
    (h : SigHeader) (hb : Bytes) (blks : List SigBlock) : Prop where
  hdr : h = Sign.header ⟨v.major, minor⟩ (P.sigPub signer) mtAttached nonce
  blocks : Sign.blockStructs P v signer (P.hash hb) plan 0 = .ok blks

theorem sigSent_of_attachedPacketsPlan (P : Prims) (v : Version) (minor : Int) (signer nonce : Bytes)
    (plan : List (Bytes × Bool)) (h : SigHeader) (hb : Bytes) (blks : List SigBlock)
    (hs : Sign.attachedPacketsPlan P v minor signer nonce plan = .ok (h, hb, blks)) :
    SigSent P v minor signer nonce plan h hb blks := by
  obtain ⟨hh, _, hblk⟩ := attachedPacketsPlan_inv P v minor signer nonce plan h hb blks hs
  exact ⟨hh, hblk⟩

theorem sign_roundtrip_gen (P : Prims) (hP : P.Lawful)
    (v : Version) (hv : v = v1 ∨ v = v2) (minor : Int) (signer nonce : Bytes)
    (plan : List (Bytes × Bool)) (hfin : PlanL.FinalLast plan)
    (he1 : v = v1 → ∀ p ∈ plan, (p.1 = [] ↔ p.2 = true)) (he2 : v = v2 → PlanL.EmptySole plan)
    (kr : Keyring) (hk : kr.lookupSigningPublicKey (P.sigPub signer) = some (P.sigPub signer))
    (h : SigHeader) (hb : Bytes) (blks : List SigBlock)
    (hs : SigSent P v minor signer nonce plan h hb blks) :
    Sign.verifyAll P knownMajor kr (.ok hb h) ⟨blks.map some, .eof⟩ =
      .ok (P.sigPub signer, (plan.map (·.1)).flatten) := by
  obtain ⟨hh, hblk⟩ := hs
  have hval := sign_header_validates _ (knownMajor_minor hv minor) (P.sigPub signer) nonce mtAttached (Or.inl rfl)
  have hmaj : (v.major != 1 && v.major != 2) = false := by rcases hv with rfl | rfl <;> decide
  have hrun := PlanL.sign_run_plan P hP v hv minor signer (P.hash hb) plan hfin he1 he2 blks hblk
  subst hh
  unfold Sign.verifyAll Sign.verifyStream
  simp only [hval]
  simp only [Sign.header, hk, hmaj, hrun]
  rfl

theorem detached_roundtrip_gen (P : Prims) (hP : P.Lawful)
    (v : Version) (hv : v = v1 ∨ v = v2) (minor : Int) (signer nonce msg hb : Bytes)
    (kr : Keyring) (hk : kr.lookupSigningPublicKey (P.sigPub signer) = some (P.sigPub signer)) :
    Sign.verifyDetached P knownMajor kr
        (.ok hb (Sign.header ⟨v.major, minor⟩ (P.sigPub signer) mtDetached nonce))
        (.sig (P.sign signer (detachedSignatureInput P (P.hash hb) msg))) msg = .ok (P.sigPub signer) := by
  have hval := sign_header_validates _ (knownMajor_minor hv minor) (P.sigPub signer) nonce mtDetached (Or.inr rfl)
  unfold Sign.verifyDetached
  simp only [hval]
  simp only [Sign.header, hk, hP.verify_sign, if_true]

end Saltpack.Proofs

