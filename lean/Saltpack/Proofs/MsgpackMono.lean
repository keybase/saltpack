/-
  The generic MessagePack parser is monotone in its input and fuel: an object
  that parses from the front of `b` parses, to the same value, from the front
  of every extension `b ++ e` (the rest grows by `e`): `mono_all`, behind
  `C16_parse_extension` (Props/C16Stable); `takeN_mono` and `readLen_mono` also
  serve the typed decoders (Proofs/ClassifyCodec).
-/
import Saltpack.Model.Msgpack

namespace Saltpack.Proofs.MpMono
open Saltpack Saltpack.Msgpack

theorem takeN_mono (n : Nat) (b s r e : Bytes) (h : takeN n b = .ok (s, r)) :
    takeN n (b ++ e) = .ok (s, r ++ e) := by
  unfold takeN at h ⊢
  split at h
  · cases h
  · rename_i hl
    simp only [Except.ok.injEq, Prod.mk.injEq] at h
    obtain ⟨rfl, rfl⟩ := h
    have hl' : n ≤ b.length := by omega
    rw [if_neg (by simp only [List.length_append]; omega)]
    rw [List.take_append_of_le_length hl', List.drop_append_of_le_length hl']

theorem readLen_mono (n : Nat) (b : Bytes) (v : Nat) (r e : Bytes) (h : readLen n b = .ok (v, r)) :
    readLen n (b ++ e) = .ok (v, r ++ e) := by
  unfold readLen at h ⊢
  split at h
  · cases h
  · rename_i hd tl ht
    simp only [Except.ok.injEq, Prod.mk.injEq] at h
    obtain ⟨rfl, rfl⟩ := h
    rw [takeN_mono n b hd tl e ht]

/-- the three mutually recursive parsers at once -/
def MonoAt (fuel : Nat) : Prop :=
  (∀ b v r, parse fuel b = .ok (v, r) → ∀ e f', fuel ≤ f' → parse f' (b ++ e) = .ok (v, r ++ e)) ∧
  (∀ n b l r, parseArr fuel n b = .ok (l, r) → ∀ e f', fuel ≤ f' → parseArr f' n (b ++ e) = .ok (l, r ++ e)) ∧
  (∀ n b l r, parseMap fuel n b = .ok (l, r) → ∀ e f', fuel ≤ f' → parseMap f' n (b ++ e) = .ok (l, r ++ e))

theorem fin_takeN (n : Nat) (rest : Bytes) (mk : Bytes → Val) (v : Val) (r e : Bytes)
    (h : (match takeN n rest with | .ok (s, r) => (.ok (mk s, r) : PRes Val) | .error x => .error x) = .ok (v, r)) :
    (match takeN n (rest ++ e) with | .ok (s, r) => (.ok (mk s, r) : PRes Val) | .error x => .error x) = .ok (v, r ++ e) := by
  split at h
  · rename_i s r' ht
    simp only [Except.ok.injEq, Prod.mk.injEq] at h
    obtain ⟨rfl, rfl⟩ := h
    rw [takeN_mono n rest s r' e ht]
  · cases h

theorem fin_ok (x : Val) (rest : Bytes) (v : Val) (r e : Bytes)
    (h : (.ok (x, rest) : PRes Val) = .ok (v, r)) : (.ok (x, rest ++ e) : PRes Val) = .ok (v, r ++ e) := by
  simp only [Except.ok.injEq, Prod.mk.injEq] at h
  obtain ⟨rfl, rfl⟩ := h
  rfl

theorem fin_readLen (n : Nat) (rest : Bytes) (mk : Nat → Val) (v : Val) (r e : Bytes)
    (h : (match readLen n rest with | .ok (s, r) => (.ok (mk s, r) : PRes Val) | .error x => .error x) = .ok (v, r)) :
    (match readLen n (rest ++ e) with | .ok (s, r) => (.ok (mk s, r) : PRes Val) | .error x => .error x) = .ok (v, r ++ e) := by
  split at h
  · rename_i s r' ht
    simp only [Except.ok.injEq, Prod.mk.injEq] at h
    obtain ⟨rfl, rfl⟩ := h
    rw [readLen_mono n rest s r' e ht]
  · cases h

theorem fin_arr (pa pa' : Nat → Bytes → PRes (List Val)) (e : Bytes)
    (hpa : ∀ n b l r, pa n b = .ok (l, r) → pa' n (b ++ e) = .ok (l, r ++ e))
    (n : Nat) (rest : Bytes) (v : Val) (r : Bytes)
    (h : (match pa n rest with | .ok (l, r) => (.ok (.arr l, r) : PRes Val) | .error x => .error x) = .ok (v, r)) :
    (match pa' n (rest ++ e) with | .ok (l, r) => (.ok (.arr l, r) : PRes Val) | .error x => .error x) = .ok (v, r ++ e) := by
  split at h
  · rename_i s r' ht
    simp only [Except.ok.injEq, Prod.mk.injEq] at h
    obtain ⟨rfl, rfl⟩ := h
    rw [hpa n rest s r' ht]
  · cases h

theorem fin_map (pa pa' : Nat → Bytes → PRes (List (Val × Val))) (e : Bytes)
    (hpa : ∀ n b l r, pa n b = .ok (l, r) → pa' n (b ++ e) = .ok (l, r ++ e))
    (n : Nat) (rest : Bytes) (v : Val) (r : Bytes)
    (h : (match pa n rest with | .ok (l, r) => (.ok (.map l, r) : PRes Val) | .error x => .error x) = .ok (v, r)) :
    (match pa' n (rest ++ e) with | .ok (l, r) => (.ok (.map l, r) : PRes Val) | .error x => .error x) = .ok (v, r ++ e) := by
  split at h
  · rename_i s r' ht
    simp only [Except.ok.injEq, Prod.mk.injEq] at h
    obtain ⟨rfl, rfl⟩ := h
    rw [hpa n rest s r' ht]
  · cases h

theorem fin_len (f f' : Nat → Bytes → PRes Val) (e : Bytes) (v : Val) (r : Bytes)
    (hf : ∀ n r0, f n r0 = .ok (v, r) → f' n (r0 ++ e) = .ok (v, r ++ e)) (w : Nat) (rest : Bytes)
    (h : (match readLen w rest with | .error x => (.error x : PRes Val) | .ok (n, r) => f n r) = .ok (v, r)) :
    (match readLen w (rest ++ e) with | .error x => (.error x : PRes Val) | .ok (n, r) => f' n r) = .ok (v, r ++ e) := by
  split at h
  · cases h
  · rename_i n r0 hr
    rw [readLen_mono w rest n r0 e hr]
    exact hf n r0 h

theorem lenBin_mono (w : Nat) (mk : Bytes → Val) (b : Bytes) (v : Val) (r e : Bytes)
    (h : lenBin w mk b = .ok (v, r)) : lenBin w mk (b ++ e) = .ok (v, r ++ e) :=
  fin_len _ _ e v r (fun n r0 => fin_takeN n r0 mk v r e) w b h

theorem lenExt_mono (w : Nat) (b : Bytes) (v : Val) (r e : Bytes)
    (h : lenExt w b = .ok (v, r)) : lenExt w (b ++ e) = .ok (v, r ++ e) :=
  fin_len _ _ e v r (fun n r0 => fin_takeN (n + 1) r0 _ v r e) w b h

theorem ite_mono {α : Type} {c : Prop} [Decidable c] {x y x' y' : PRes α} {z z' : α × Bytes}
    (h1 : x = .ok z → x' = .ok z') (h2 : y = .ok z → y' = .ok z') :
    (if c then x else y) = .ok z → (if c then x' else y') = .ok z' := by
  split
  · exact h1
  · exact h2

-- `Nat.sub` sealed: matching a branch against its lemma, the unifier would evaluate `c - 0xa0` by unfolding it 160 times
seal Nat.sub in
theorem mono_parse_step (fuel : Nat) (ih : MonoAt fuel) (b : Bytes) (v : Val) (r : Bytes)
    (h : parse (fuel + 1) b = .ok (v, r)) (e : Bytes) (f' : Nat) (hf : fuel + 1 ≤ f') :
    parse f' (b ++ e) = .ok (v, r ++ e) := by
  obtain ⟨k, rfl⟩ : ∃ k, f' = k + 1 := ⟨f' - 1, by omega⟩
  have hk : fuel ≤ k := by omega
  have hA : ∀ n b l r, parseArr fuel n b = .ok (l, r) → parseArr k n (b ++ e) = .ok (l, r ++ e) :=
    fun n b l r h => ih.2.1 n b l r h e k hk
  have hM : ∀ n b l r, parseMap fuel n b = .ok (l, r) → parseMap k n (b ++ e) = .ok (l, r ++ e) :=
    fun n b l r h => ih.2.2 n b l r h e k hk
  cases b with
  | nil => cases h
  | cons t rest =>
    -- one branch of `parse` per descriptor class, in the order of its definition
    revert h
    refine ite_mono (fin_ok _ _ v r e) ?_
    refine ite_mono (fin_map _ _ e hM _ _ v r) ?_
    refine ite_mono (fin_arr _ _ e hA _ _ v r) ?_
    refine ite_mono (fin_takeN _ _ _ v r e) ?_
    refine ite_mono (fin_ok _ _ v r e) ?_
    refine ite_mono (fun h => nomatch h) ?_
    refine ite_mono (fin_ok _ _ v r e) ?_
    refine ite_mono (fin_ok _ _ v r e) ?_
    refine ite_mono (lenBin_mono _ _ _ _ _ _) ?_
    refine ite_mono (lenBin_mono _ _ _ _ _ _) ?_
    refine ite_mono (lenBin_mono _ _ _ _ _ _) ?_
    refine ite_mono (lenExt_mono _ _ _ _ _) ?_
    refine ite_mono (lenExt_mono _ _ _ _ _) ?_
    refine ite_mono (lenExt_mono _ _ _ _ _) ?_
    refine ite_mono (fin_takeN _ _ _ v r e) ?_
    refine ite_mono (fin_takeN _ _ _ v r e) ?_
    refine ite_mono (fin_readLen _ _ _ v r e) ?_
    refine ite_mono (fin_readLen _ _ _ v r e) ?_
    refine ite_mono (fin_takeN _ _ _ v r e) ?_
    refine ite_mono (lenBin_mono _ _ _ _ _ _) ?_
    refine ite_mono (lenBin_mono _ _ _ _ _ _) ?_
    refine ite_mono (lenBin_mono _ _ _ _ _ _) ?_
    refine ite_mono (fin_len _ _ e v r (fun n r0 => fin_arr _ _ e hA n r0 v r) _ _) ?_
    refine ite_mono (fin_len _ _ e v r (fun n r0 => fin_map _ _ e hM n r0 v r) _ _) ?_
    exact fin_ok _ _ v r e

theorem mono_all : ∀ fuel, MonoAt fuel := by
  intro fuel
  induction fuel with
  | zero =>
    refine ⟨?_, ?_, ?_⟩
    · intro b v r h; simp [parse] at h
    · intro n b l r h; simp [parseArr] at h
    · intro n b l r h; simp [parseMap] at h
  | succ fuel ih =>
    have hP : ∀ b v r, parse fuel b = .ok (v, r) → ∀ e f', fuel ≤ f' → parse f' (b ++ e) = .ok (v, r ++ e) := ih.1
    refine ⟨fun b v r h e f' hf => mono_parse_step fuel ih b v r h e f' hf, ?_, ?_⟩
    · intro n b l r h e f' hf
      obtain ⟨k, rfl⟩ : ∃ k, f' = k + 1 := ⟨f' - 1, by omega⟩
      have hk : fuel ≤ k := by omega
      cases n with
      | zero =>
        simp only [parseArr, Except.ok.injEq, Prod.mk.injEq] at h ⊢
        obtain ⟨rfl, rfl⟩ := h
        exact ⟨rfl, rfl⟩
      | succ n =>
        rw [parseArr] at h ⊢
        split at h
        · exact absurd h (by simp)
        · rename_i v0 r0 hv
          rw [hP b v0 r0 hv e k hk]
          simp only at h ⊢
          split at h
          · exact absurd h (by simp)
          · rename_i vs r1 hvs
            rw [ih.2.1 n r0 vs r1 hvs e k hk]
            simp only [Except.ok.injEq, Prod.mk.injEq] at h ⊢
            obtain ⟨rfl, rfl⟩ := h
            exact ⟨rfl, rfl⟩
    · intro n b l r h e f' hf
      obtain ⟨k, rfl⟩ : ∃ k, f' = k + 1 := ⟨f' - 1, by omega⟩
      have hk : fuel ≤ k := by omega
      cases n with
      | zero =>
        simp only [parseMap, Except.ok.injEq, Prod.mk.injEq] at h ⊢
        obtain ⟨rfl, rfl⟩ := h
        exact ⟨rfl, rfl⟩
      | succ n =>
        rw [parseMap] at h ⊢
        split at h
        · exact absurd h (by simp)
        · rename_i k0 r0 hk0
          rw [hP b k0 r0 hk0 e k hk]
          simp only at h ⊢
          split at h
          · exact absurd h (by simp)
          · rename_i v0 r1 hv0
            rw [hP r0 v0 r1 hv0 e k hk]
            simp only at h ⊢
            split at h
            · exact absurd h (by simp)
            · rename_i kvs r2 hkvs
              rw [ih.2.2 n r1 kvs r2 hkvs e k hk]
              simp only [Except.ok.injEq, Prod.mk.injEq] at h ⊢
              obtain ⟨rfl, rfl⟩ := h
              exact ⟨rfl, rfl⟩

end Saltpack.Proofs.MpMono
