/-
  `Front.settle` against the receivers.  `Front.settle` replaces the tail `Codec.blocks` reports
  (the condition of the TYPED read where the typed reads stop) by `.eof` in one situation.  The
  REFERENCE composition (`Settle.run*2`, `Settle.refOpen*`) is the receiver run on the decoded items
  with TWO tails: the typed read's condition where the receiver still expects a packet, the generic
  read's (`Settle.genericTail`: what `assertEndOfStream`'s `Read(&x)` finds there) once it has
  accepted a final packet.  The reference run is the receiver's own run on the tail `settle` hands
  over (`run*2_settled`), and `settle` hands over exactly that tail (`settle_spec`).
-/
import Saltpack.Proofs.CodecBytes

namespace Saltpack.Proofs
open Saltpack

/-- (the receiver's next read is then a typed one, whose outcome IS `Codec`'s tail) -/
theorem settle_of_not_lastFinal {η β : Type} (decH : Codec.Dec η) (decB : η → Option (Codec.Dec β)) (fin : η → β → Bool)
    (msg : Bytes) (hb : Bytes) (h : η) (ps : PStream β) (hl : Front.lastFinal (fin h) ps.items = false) :
    Front.settle decH decB fin msg (.ok (.ok hb h, ps)) = .ok (.ok hb h, ps) := by
  unfold Front.settle
  simp [hl]

namespace Settle

/-! ## the generic read at the place where the typed reads stop -/

/-- what a GENERIC read (`assertEndOfStream`: `Read(&x)`, `x interface{}`) finds at the position
    where `Codec.blocks dec fuel b` stops (same walk as `Codec.blocks`): the input ended there
    (typed read: `eof`) — `eof`; an object the typed decoder refuses: the generic decoder's own
    answer — `eof` if it runs into the end of the input, a decode error if it fails, and if it
    decodes an object that object is the item `none` of `Codec.blocks` (trailing garbage; nothing
    is read behind it: `eof`).  Only used in statements. -/
def genericTail {β : Type} (dec : Codec.Dec β) : Nat → Bytes → Tail
  | 0, _ => .eof
  | fuel + 1, b =>
    match dec b with
    | .ok (_, rest) => genericTail dec fuel rest
    | .error (.err _) =>
      (match Codec.generic b with
       | .error .eof => .eof
       | .error (.err _) => .err .decodeError
       | _ => .eof)
    | .error _ => .eof

/-- the same for a whole message: header packet first, as `Codec.split` reads it -/
def genericTailOf {η β : Type} (decH : Codec.Dec η) (decB : η → Option (Codec.Dec β)) (msg : Bytes) : Tail :=
  match Codec.readHeader decH msg with
  | .ok (.ok _ h, rest) =>
    (match decB h with
     | some d => genericTail d (rest.length + 1) rest
     | none => .eof)
  | _ => .eof

theorem genericTail_blocks {β : Type} (d : Codec.Dec β) : ∀ (fuel : Nat) (b : Bytes) (ps : PStream β),
    Codec.blocks d fuel b = .ok ps →
    (Front.truncatedStop d fuel b = true → ps.tail = .err .decodeError ∧ genericTail d fuel b = .eof) ∧
    (Front.truncatedStop d fuel b = false → genericTail d fuel b = ps.tail) := by
  refine blocks_ok_induction d ?_ ?_ ?_ ?_ ?_
  · intro fuel b x rest ps hd _ ih
    simpa only [Front.truncatedStop, genericTail, hd] using ih
  all_goals intros; simp [Front.truncatedStop, genericTail, *]

/-- the place where the typed reads stop: the input left when `dec` fails for the first time -/
def stopAt {β : Type} (dec : Codec.Dec β) : Nat → Bytes → Bytes
  | 0, b => b
  | fuel + 1, b =>
    match dec b with
    | .ok (_, rest) => stopAt dec fuel rest
    | .error _ => b

theorem stopAt_ok {β : Type} {d : Codec.Dec β} {fuel : Nat} {b rest : Bytes} {x : β} (h : d b = .ok (x, rest)) :
    stopAt d (fuel + 1) b = stopAt d fuel rest := by
  simp only [stopAt, h]

theorem stopAt_error {β : Type} {d : Codec.Dec β} {fuel : Nat} {b : Bytes} {e : Codec.DErr} (h : d b = .error e) :
    stopAt d (fuel + 1) b = b := by
  simp only [stopAt, h]

/-! ## `lastFinal` -/

theorem lastFinal_nil {β : Type} (fin : β → Bool) : Front.lastFinal fin [] = false := rfl

theorem lastFinal_single {β : Type} (fin : β → Bool) (x : Option β) :
    Front.lastFinal fin [x] = (match x with | some b => fin b | none => false) := by
  cases x <;> simp [Front.lastFinal]

theorem lastFinal_cons_cons {β : Type} (fin : β → Bool) (x y : Option β) (rest : List (Option β)) :
    Front.lastFinal fin (x :: y :: rest) = Front.lastFinal fin (y :: rest) := by
  simp [Front.lastFinal, List.getLast?_cons_cons]

theorem lastFinal_cons_not_final {β : Type} (fin : β → Bool) (b : β) (rest : List (Option β)) (hf : fin b = false) :
    Front.lastFinal fin (some b :: rest) = Front.lastFinal fin rest := by
  cases rest with
  | nil => rw [lastFinal_single]; exact hf
  | cons y r => exact lastFinal_cons_cons fin _ y r

theorem endOfStream_cons {β : Type} (x : Option β) (rest : List (Option β)) (t : Tail) :
    Decrypt.endOfStream (x :: rest) t = some .trailingGarbage := rfl

theorem endOfStream_final {β : Type} (fin : β → Bool) (b : β) (rest : List (Option β)) (typed generic : Tail)
    (hf : fin b = true) :
    Decrypt.endOfStream rest (if Front.lastFinal fin (some b :: rest) then generic else typed) =
      Decrypt.endOfStream rest generic := by
  cases rest with
  | nil => simp [lastFinal_single, hf]
  | cons y r => rfl

theorem settle_spec {η β : Type} (decH : Codec.Dec η) (decB : η → Option (Codec.Dec β)) (fin : η → β → Bool)
    (msg hb : Bytes) (hd : η) (ps : PStream β) (h : Codec.split decH decB msg = .ok (.ok hb hd, ps)) :
    Front.settle decH decB fin msg (.ok (.ok hb hd, ps)) =
      .ok (.ok hb hd,
        ⟨ps.items, if Front.lastFinal (fin hd) ps.items then genericTailOf decH decB msg else ps.tail⟩) := by
  cases hl : Front.lastFinal (fin hd) ps.items with
  | false => exact settle_of_not_lastFinal decH decB fin msg hb hd ps hl
  | true =>
    obtain ⟨rest, hrh, rfl | ⟨_, _, d, e, hdb, hbl⟩⟩ := codec_split_ok h
    · cases hl
    cases e
    have hg : genericTailOf decH decB msg = genericTail d (rest.length + 1) rest := by
      simp only [genericTailOf, hrh, hdb]
    have hbr := genericTail_blocks d _ _ _ hbl
    cases hts : Front.truncatedStop d (rest.length + 1) rest with
    | true =>
      obtain ⟨ht, hgt⟩ := hbr.1 hts
      simp [Front.settle, ht, hl, hrh, hdb, hts, hg, hgt]
    | false => simp [Front.settle, hl, hrh, hdb, hts, hg, hbr.2 hts]

/-! ## signcryption -/

/-- REFERENCE run of the signcryption receiver: `Signcrypt.run`, reading the `typed` tail where
    it expects a further packet and the `generic` one in `assertEndOfStream` (after a final packet) -/
def runSc2 (P : Prims) (s : Signcrypt.State) : List (Option SigncryptBlock) → (typed generic : Tail) → (seqno : Nat) → Released
  | [], typed, _, _ =>
    match typed with
    | .eof => ⟨[], some .unexpectedEOF⟩
    | .err e => ⟨[], some e⟩
  | none :: _, _, _, _ => ⟨[], some .decodeError⟩
  | some b :: rest, typed, generic, seqno =>
    match Signcrypt.processBlock P s b seqno with
    | .error e => ⟨[], some e⟩
    | .ok chunk =>
      match checkChunkState v2 chunk.length (seqno - 1) b.final with
      | .error e => ⟨[], some e⟩
      | .ok () =>
        if b.final then ⟨chunk, Decrypt.endOfStream rest generic⟩
        else
          let r := runSc2 P s rest typed generic (seqno + 1)
          ⟨chunk ++ r.bytes, r.err⟩

/-- reference composition for `NewSigncryptOpenStream` + read to the end -/
def refOpenSc (P : Prims) (kr : Keyring) (res : Signcrypt.Resolver) (hr : HeaderRead EncHeader)
    (items : List (Option SigncryptBlock)) (typed generic : Tail) : Signcrypt.Result :=
  match hr with
  | .unreadable => ⟨none, [], some .failedToReadHeaderBytes, []⟩
  | .undecodable _ => ⟨none, [], some .decodeError, []⟩
  | .ok hb h =>
    match Signcrypt.processHeader P kr res (P.hash hb) h with
    | (log, .error e) => ⟨none, [], some e, log⟩
    | (log, .ok st) =>
      let r := runSc2 P st items typed generic 1
      ⟨st.sender, r.bytes, r.err, log⟩

/-- the reference run is the receiver's own run on the tail `settle` hands over: the generic one
    where the last decoded packet is final, the typed one elsewhere.  (A final packet further left is
    followed by an item: trailing garbage, whatever the tail.) -/
theorem runSc2_settled (P : Prims) (s : Signcrypt.State) (items : List (Option SigncryptBlock)) (typed generic : Tail)
    (n : Nat) :
    runSc2 P s items typed generic n = Signcrypt.run P s items
      (if Front.lastFinal (fun b : SigncryptBlock => b.final) items then generic else typed) n := by
  induction items generalizing n with
  | nil => cases typed <;> rfl
  | cons x rest ih =>
    cases x with
    | none => rfl
    | some b =>
      simp only [runSc2, Signcrypt.run]
      cases Signcrypt.processBlock P s b n with
      | error e => rfl
      | ok chunk =>
        simp only []
        cases checkChunkState v2 chunk.length (n - 1) b.final with
        | error e => rfl
        | ok u =>
          cases hf : b.final with
          | true => simp only [if_true, endOfStream_final (fun b : SigncryptBlock => b.final) b rest typed generic hf]
          | false =>
            simp only [Bool.false_eq_true, if_false, ih, lastFinal_cons_not_final (fun b : SigncryptBlock => b.final) b rest hf]

/-! ## attached signatures -/

/-- REFERENCE run of the verifying receiver: `Sign.run` with the `typed` tail where a further
    packet is expected and the `generic` one in `assertEndOfStream` -/
def runSig2 (P : Prims) (s : Sign.State) : List (Option SigBlock) → (typed generic : Tail) → (seqno : Nat) → Released
  | [], typed, _, _ =>
    match typed with
    | .eof => ⟨[], some .unexpectedEOF⟩
    | .err e => ⟨[], some e⟩
  | none :: _, _, _, _ => ⟨[], some .decodeError⟩
  | some b :: rest, typed, generic, seqno =>
    let isFinal := Sign.blockFinal s.version b
    match Sign.processBlock P s b isFinal seqno with
    | .error e => ⟨[], some e⟩
    | .ok () =>
      match checkChunkState s.version b.chunk.length (seqno - 1) isFinal with
      | .error e => ⟨[], some e⟩
      | .ok () =>
        if isFinal then ⟨b.chunk, Decrypt.endOfStream rest generic⟩
        else
          let r := runSig2 P s rest typed generic (seqno + 1)
          ⟨b.chunk ++ r.bytes, r.err⟩

/-- reference composition for `NewVerifyStream` + read to the end -/
def refVerify (P : Prims) (valid : Validator) (kr : Keyring) (hr : HeaderRead SigHeader)
    (items : List (Option SigBlock)) (typed generic : Tail) : Sign.Result :=
  match hr with
  | .unreadable => ⟨none, [], some .failedToReadHeaderBytes⟩
  | .undecodable _ => ⟨none, [], some .decodeError⟩
  | .ok hb h =>
    match Sign.validate valid h mtAttached with
    | .error e => ⟨none, [], some e⟩
    | .ok () =>
      match kr.lookupSigningPublicKey h.senderPublic with
      | none => ⟨none, [], some .noSenderKey⟩
      | some pk =>
        if h.version.major != 1 && h.version.major != 2 then
          ⟨some pk, [], some (.panic "readSignatureBlock")⟩
        else
          let r := runSig2 P ⟨h.version, P.hash hb, pk⟩ items typed generic 1
          ⟨some pk, r.bytes, r.err⟩

theorem runSig2_settled (P : Prims) (s : Sign.State) (items : List (Option SigBlock)) (typed generic : Tail) (n : Nat) :
    runSig2 P s items typed generic n = Sign.run P s items
      (if Front.lastFinal (Sign.blockFinal s.version) items then generic else typed) n := by
  induction items generalizing n with
  | nil => cases typed <;> rfl
  | cons x rest ih =>
    cases x with
    | none => rfl
    | some b =>
      simp only [runSig2, Sign.run]
      cases Sign.processBlock P s b (Sign.blockFinal s.version b) n with
      | error e => rfl
      | ok u =>
        simp only []
        cases checkChunkState s.version b.chunk.length (n - 1) (Sign.blockFinal s.version b) with
        | error e => rfl
        | ok u =>
          cases hf : Sign.blockFinal s.version b with
          | true => simp only [if_true, endOfStream_final (Sign.blockFinal s.version) b rest typed generic hf]
          | false =>
            simp only [Bool.false_eq_true, if_false, ih, lastFinal_cons_not_final (Sign.blockFinal s.version) b rest hf]

/-! ## encryption -/

/-- REFERENCE run of the decrypting receiver: `Decrypt.run` with the `typed` tail where a further
    packet is expected and the `generic` one in `assertEndOfStream` -/
def runEnc2 (P : Prims) (s : Decrypt.State) : List (Option EncBlock) → (typed generic : Tail) → (seqno : Nat) → Released
  | [], typed, _, _ =>
    match typed with
    | .eof => ⟨[], some .unexpectedEOF⟩
    | .err e => ⟨[], some e⟩
  | none :: _, _, _, _ => ⟨[], some .decodeError⟩
  | some b :: rest, typed, generic, seqno =>
    let isFinal := Decrypt.blockFinal s.version b
    match Decrypt.processBlock P s b isFinal seqno with
    | .error e => ⟨[], some e⟩
    | .ok chunk =>
      match checkChunkState s.version chunk.length (seqno - 1) isFinal with
      | .error e => ⟨[], some e⟩
      | .ok () =>
        if isFinal then ⟨chunk, Decrypt.endOfStream rest generic⟩
        else
          let r := runEnc2 P s rest typed generic (seqno + 1)
          ⟨chunk ++ r.bytes, r.err⟩

/-- reference composition for `NewDecryptStream` + read to the end -/
def refOpenEnc (P : Prims) (valid : Validator) (kr : Keyring) (hr : HeaderRead EncHeader)
    (items : List (Option EncBlock)) (typed generic : Tail) : Decrypt.Result :=
  match hr with
  | .unreadable => ⟨none, [], some .failedToReadHeaderBytes, []⟩
  | .undecodable _ => ⟨none, [], some .decodeError, []⟩
  | .ok hb h =>
    match Decrypt.processHeader P valid kr (P.hash hb) h with
    | (log, .error e) => ⟨none, [], some e, log⟩
    | (log, .ok st) =>
      let r := runEnc2 P st items typed generic 1
      ⟨some st.mki, r.bytes, r.err, log⟩

theorem runEnc2_settled (P : Prims) (s : Decrypt.State) (items : List (Option EncBlock)) (typed generic : Tail) (n : Nat) :
    runEnc2 P s items typed generic n = Decrypt.run P s items
      (if Front.lastFinal (Decrypt.blockFinal s.version) items then generic else typed) n := by
  induction items generalizing n with
  | nil => cases typed <;> rfl
  | cons x rest ih =>
    cases x with
    | none => rfl
    | some b =>
      simp only [runEnc2, Decrypt.run]
      cases Decrypt.processBlock P s b (Decrypt.blockFinal s.version b) n with
      | error e => rfl
      | ok chunk =>
        simp only []
        cases checkChunkState s.version chunk.length (n - 1) (Decrypt.blockFinal s.version b) with
        | error e => rfl
        | ok u =>
          cases hf : Decrypt.blockFinal s.version b with
          | true => simp only [if_true, endOfStream_final (Decrypt.blockFinal s.version) b rest typed generic hf]
          | false =>
            simp only [Bool.false_eq_true, if_false, ih, lastFinal_cons_not_final (Decrypt.blockFinal s.version) b rest hf]

end Settle

end Saltpack.Proofs
