/-
  More about the armored sender streams: the detached-signature armored stream
  as the image of its run over the HISTORY of the armor stream's `Write` calls
  (the route of Proofs/ArmoredSenderWritten.lean), and the monotonicity
  statement that does hold for the armor writer — `Armor.sealText` is NOT
  monotone in its payload (last partial BaseX block, footer), but what the
  `Write` calls have put at the writer before any `Close` is a prefix of the
  armored text of EVERY extension of what was passed to `Write`.
-/
import Saltpack.Proofs.ArmoredSenderWritten

namespace Saltpack.Proofs.SenderP
open Saltpack Saltpack.Sender Saltpack.Stream

/-! ## the `Write` phase of the armor stream against every extension of the payload -/

/-- only complete words of complete BaseX blocks go out before `Close`, and those are the same in
    the armor of every longer payload -/
theorem farm_writes_prefix_ext (par : Armor.Params) (he : par.enc.WF) (hw : 0 < par.bytesPerWord) (hdr ftr : Bytes)
    (sink : Stream.Sink) (part : List Nat) (ws : List Bytes) (Y : Bytes)
    (hi : (FArm.init par hdr ftr ({ sink := sink, part := part } : Wr)).1 = true) :
    (farmRun (FArm.init par hdr ftr ({ sink := sink, part := part } : Wr)).2 ws).w.bytes <+:
      Armor.sealText par hdr ftr (ws.flatten ++ Y) := by
  obtain ⟨hs, hf, _⟩ := farm_init_sim par hdr ftr sink part hi
  obtain ⟨_, r2⟩ := run_sim ws _ _ hs (farm_encOk_init par hdr ftr _) hf
  have hsplit := armorWriter_any_split par he hw hdr ftr (ws ++ [Y])
  rw [List.foldl_append] at hsplit
  simp only [List.foldl_cons, List.foldl_nil, List.flatten_append, List.flatten_cons, List.flatten_nil,
    List.append_nil] at hsplit
  rw [← hsplit]
  exact r2.trans ((arm_write_mono _ Y).trans (arm_close_mono _))

/-! ## projection of the detached-signature stream -/

section projD
variable {ω ω' : Type} (wr : ω → Bytes → Bool × ω) (wr' : ω' → Bytes → Bool × ω') (π : ω' → ω)

/-- `π` lifted through the detached-signature stream's state -/
def mapD (st : DSt ω') : DSt ω := { codec := mapC π st.codec, msg := st.msg }

variable (hπ : ∀ w p, wr (π w) p = ((wr' w p).1, π (wr' w p).2))
include hπ

theorem proj_dinit (pieces : Bytes → List Bytes) (w0 : ω') (hbytes : Bytes) :
    DSt.init wr pieces (π w0) hbytes =
      ((DSt.init wr' pieces w0 hbytes).1, mapD π (DSt.init wr' pieces w0 hbytes).2) := by
  unfold DSt.init
  have := proj_encode wr wr' π hπ pieces ({ w := w0 } : Codec ω') (headerPacket hbytes)
  have hm : mapC π ({ w := w0 } : Codec ω') = ({ w := π w0 } : Codec ω) := rfl
  rw [hm] at this
  rw [this]
  rfl

omit hπ in
theorem proj_dwrites : ∀ (ws : List Bytes) (st : DSt ω'),
    DSt.writes (mapD π st) ws = ((DSt.writes st ws).1, mapD π (DSt.writes st ws).2) := by
  intro ws
  induction ws with
  | nil => intro st; rfl
  | cons p ps ih =>
    intro st
    unfold DSt.writes
    simp only
    have : (mapD π st).write p = ((st.write p).1, (st.write p).2.1, mapD π (st.write p).2.2) := rfl
    rw [this]
    simp only
    rw [ih]

theorem proj_dclose (pieces : Bytes → List Bytes) (sp : Bytes → Bytes) (st : DSt ω') :
    (mapD π st).close wr pieces sp = ((st.close wr' pieces sp).1, mapD π (st.close wr' pieces sp).2) := by
  unfold DSt.close
  have hc : (mapD π st).codec = mapC π st.codec := rfl
  have hm : (mapD π st).msg = st.msg := rfl
  rw [hc, hm, proj_encode wr wr' π hπ]
  cases h : Codec.encode wr' pieces st.codec (sp st.msg) with
  | mk ok c =>
    cases ok <;> rfl

end projD

abbrev histInitD (pieces : Bytes → List Bytes) (a0 : FArm) (hb : Bytes) := DSt.init (histWrite a0) pieces [] hb
abbrev histCloseD (pieces : Bytes → List Bytes) (sp : Bytes → Bytes) (a0 : FArm) (hb : Bytes) (ws : List Bytes) :=
  (DSt.writes (histInitD pieces a0 hb).2 ws).2.close (histWrite a0) pieces sp

theorem hist_run_det (pieces : Bytes → List Bytes) (sp : Bytes → Bytes) (a0 : FArm) (hb : Bytes) (ws : List Bytes) :
    (DSt.init FArm.write pieces a0 hb).1 = (histInitD pieces a0 hb).1 ∧
    (DSt.writes (DSt.init FArm.write pieces a0 hb).2 ws).1 = (DSt.writes (histInitD pieces a0 hb).2 ws).1 ∧
    (armoredCloseD pieces sp (DSt.writes (DSt.init FArm.write pieces a0 hb).2 ws).2).1 =
      (match (histCloseD pieces sp a0 hb ws).1 with
       | some e => some e
       | none => if (farmRun a0 (histCloseD pieces sp a0 hb ws).2.codec.w).close.1 then none else some .ioError) ∧
    (armoredCloseD pieces sp (DSt.writes (DSt.init FArm.write pieces a0 hb).2 ws).2).2.codec.w =
      (match (histCloseD pieces sp a0 hb ws).1 with
       | some _ => farmRun a0 (histCloseD pieces sp a0 hb ws).2.codec.w
       | none => (farmRun a0 (histCloseD pieces sp a0 hb ws).2.codec.w).close.2) := by
  have hπ := hist_proj a0
  have e1 : DSt.init FArm.write pieces a0 hb = ((histInitD pieces a0 hb).1, mapD (farmRun a0) (histInitD pieces a0 hb).2) :=
    proj_dinit FArm.write (histWrite a0) (farmRun a0) hπ pieces [] hb
  have e2 := proj_dwrites (farmRun a0) ws (histInitD pieces a0 hb).2
  have e3 := proj_dclose FArm.write (histWrite a0) (farmRun a0) hπ pieces sp (DSt.writes (histInitD pieces a0 hb).2 ws).2
  unfold armoredCloseD
  rw [e1]
  simp only
  rw [e2]
  simp only
  rw [e3]
  refine ⟨trivial, trivial, ?_, ?_⟩ <;>
  · cases (histCloseD pieces sp a0 hb ws).1 with
    | some e => rfl
    | none =>
      simp only [mapD, mapC]
      cases (farmRun a0 (histCloseD pieces sp a0 hb ws).2.codec.w).close with
      | mk ok a' => cases ok <;> rfl

/-! ## the armored packet streams while writing: history form of the prefix statement -/

/-- `H`: the history of the armor stream's `Write` calls.  When no armor write failed, `H.flatten` is the
    accepted part, so the writer holds a prefix of the armor of the all-at-once message of every continuation -/
theorem armored_writes_prefix (cfg : Cfg) (hp : ∀ b, (cfg.pieces b).flatten = b) (hb : 0 < cfg.bs) (hif : IndexFail cfg.pkt)
    (v : Version) (par : Armor.Params) (he : par.enc.WF) (hw : 0 < par.bytesPerWord)
    (hdr ftr : Bytes) (sink : Stream.Sink) (part : List Nat) (headerBytes : Bytes) (ws : List Bytes)
    (ha : (FArm.init par hdr ftr ({ sink := sink, part := part } : Wr)).1 = true) :
    ∃ H : List Bytes,
      (PSt.writes FArm.write cfg
        (PSt.init FArm.write cfg.pieces (FArm.init par hdr ftr ({ sink := sink, part := part } : Wr)).2 headerBytes).2 ws).2.codec.w =
        farmRun (FArm.init par hdr ftr ({ sink := sink, part := part } : Wr)).2 H ∧
      (∀ X B, planBytes cfg.pkt (Encrypt.chunkPlan v cfg.bs (ws.flatten ++ X)) 0 = .ok B →
        okBytes (FArm.init par hdr ftr ({ sink := sink, part := part } : Wr)).2 H <+: headerPacket headerBytes ++ B) ∧
      (∀ Y, (PSt.writes FArm.write cfg
        (PSt.init FArm.write cfg.pieces (FArm.init par hdr ftr ({ sink := sink, part := part } : Wr)).2 headerBytes).2 ws).2.codec.w.w.bytes <+:
          Armor.sealText par hdr ftr (H.flatten ++ Y)) ∧
      ((farmRun (FArm.init par hdr ftr ({ sink := sink, part := part } : Wr)).2 H).failed = false →
        okBytes (FArm.init par hdr ftr ({ sink := sink, part := part } : Wr)).2 H = H.flatten) := by
  generalize ha0 : (FArm.init par hdr ftr ({ sink := sink, part := part } : Wr)).2 = a0
  rw [(hist_run cfg a0 headerBytes ws).2.2.1]
  have hinv := writes_prefixOK (histWrite a0) (okBytes a0) (hist_obs a0) cfg hp hb hif v [] headerBytes ws
  generalize (histWrites cfg a0 headerBytes ws).2 = st at hinv ⊢
  have ha0f : a0.failed = false := by rw [← ha0]; exact (farm_init_sim par hdr ftr sink part ha).2.1
  refine ⟨st.codec.w, rfl, ?_, ?_, fun hnf => okBytes_all st.codec.w a0 ha0f hnf⟩
  · intro X B hB
    have h0 : okBytes a0 ([] : List Bytes) = [] := rfl
    have := hinv X B hB
    rw [h0, List.nil_append] at this
    exact this
  · intro Y
    rw [← ha0]
    exact farm_writes_prefix_ext par he hw hdr ftr sink part st.codec.w Y ha

end Saltpack.Proofs.SenderP
