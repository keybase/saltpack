/-
  Lemmas about the list helpers of Saltpack.Model.Bytes (`chunks`, positional
  notation, bytes), after two list principles: induction from the right, and a
  duplicate-free list of bytes has at most 256 elements (whence `base ≤ 256`).
-/
import Saltpack.Model.Bytes

namespace Saltpack.Proofs
open Saltpack

theorem snoc_ind {α : Type} {P : List α → Prop} (nil : P [])
    (snoc : ∀ l a, P l → P (l ++ [a])) : ∀ l, P l := by
  intro l
  rw [← List.reverse_reverse l]
  induction l.reverse with
  | nil => exact nil
  | cons a t ih => rw [List.reverse_cons]; exact snoc _ _ ih

theorem nodup_bounded_length : ∀ (n : Nat) (l : List Nat), l.Nodup → (∀ x ∈ l, x < n) → l.length ≤ n := by
  intro n
  induction n with
  | zero =>
    intro l _ hb
    cases l with
    | nil => simp
    | cons a t => exact absurd (hb a (by simp)) (by omega)
  | succ n ih =>
    intro l hnd hb
    have hc : List.count n l ≤ 1 := List.nodup_iff_count.mp hnd n
    have hsplit := List.length_eq_countP_add_countP (fun a => a == n) (l := l)
    have h2 : List.countP (fun a => decide ¬((a == n) = true)) l ≤ n := by
      rw [List.countP_eq_length_filter]
      apply ih
      · exact List.Nodup.sublist List.filter_sublist hnd
      · intro x hx
        rw [List.mem_filter] at hx
        have h1 := hb x hx.1
        have h2 : x ≠ n := by simpa using hx.2
        omega
    have : List.countP (fun a => a == n) l = List.count n l := rfl
    omega

theorem nodup_bytes_length (l : List UInt8) (h : l.Nodup) : l.length ≤ 256 := by
  have := nodup_bounded_length 256 (l.map UInt8.toNat) (by
      unfold List.Nodup at h ⊢
      rw [List.pairwise_map]
      exact h.imp (fun hab hc => hab (UInt8.toNat.inj hc)))
    (by
      intro x hx
      rw [List.mem_map] at hx
      obtain ⟨a, _, rfl⟩ := hx
      exact UInt8.toNat_lt a)
  simpa using this

theorem chunksAux_fuel {α : Type} (n : Nat) (hn : 0 < n) :
    ∀ (f f' : Nat) (l : List α), l.length ≤ f → l.length ≤ f' →
      chunksAux n f l = chunksAux n f' l := by
  intro f
  induction f with
  | zero =>
    intro f' l h _
    have : l = [] := List.length_eq_zero_iff.mp (by omega)
    subst this
    cases f' <;> simp [chunksAux]
  | succ f ih =>
    intro f' l h h'
    cases f' with
    | zero =>
      have : l = [] := List.length_eq_zero_iff.mp (by omega)
      subst this
      simp [chunksAux]
    | succ f' =>
      unfold chunksAux
      split
      · rfl
      · split
        · rfl
        · rename_i h1 h2
          have hlen : (l.drop n).length = l.length - n := List.length_drop
          have : ¬ l.length ≤ n := fun hh => h2 (Or.inr hh)
          rw [ih f' (l.drop n) (by omega) (by omega)]

theorem chunks_nil {α : Type} (n : Nat) : chunks n ([] : List α) = [] := by
  simp [chunks, chunksAux]

theorem chunks_short {α : Type} (n : Nat) (l : List α) (h : l ≠ []) (h' : l.length ≤ n) :
    chunks n l = [l] := by
  unfold chunks
  cases l with
  | nil => exact absurd rfl h
  | cons a t =>
    rw [List.length_cons]
    unfold chunksAux
    simp only [List.isEmpty_cons, Bool.false_eq_true, if_false]
    rw [if_pos (Or.inr h')]

theorem chunks_long {α : Type} (n : Nat) (hn : 0 < n) (l : List α) (h : n < l.length) :
    chunks n l = l.take n :: chunks n (l.drop n) := by
  unfold chunks
  cases l with
  | nil => simp at h
  | cons a t =>
    rw [List.length_cons]
    conv => lhs; unfold chunksAux
    simp only [List.isEmpty_cons, Bool.false_eq_true, if_false]
    have : ¬ (n = 0 ∨ (a :: t).length ≤ n) := by omega
    rw [if_neg this]
    have hlen : ((a :: t).drop n).length = (a :: t).length - n := List.length_drop
    rw [chunksAux_fuel n hn t.length ((a :: t).drop n).length _ (by simp at hlen h ⊢; omega) (Nat.le_refl _)]

theorem chunks_append {α : Type} (n : Nat) (hn : 0 < n) (a b : List α) (h : a.length = n) :
    chunks n (a ++ b) = a :: chunks n b := by
  by_cases hb : b = []
  · subst hb
    rw [List.append_nil, chunks_nil]
    apply chunks_short
    · intro h0; subst h0; simp at h; omega
    · omega
  · have : 0 < b.length := List.length_pos_iff.mpr hb
    rw [chunks_long n hn (a ++ b) (by rw [List.length_append]; omega),
      List.take_left' h, List.drop_left' h]

/-- induction over a list one block of `n` at a time: the empty list, a last
    block of at most `n` elements, a full block in front of a non-empty rest -/
theorem blocks_ind {α : Type} (n : Nat) (hn : 0 < n) {P : List α → Prop} (nil : P [])
    (last : ∀ l, l ≠ [] → l.length ≤ n → P l)
    (block : ∀ a b, a.length = n → b ≠ [] → P b → P (a ++ b)) : ∀ l, P l := by
  have h : ∀ (k : Nat) (l : List α), l.length ≤ k → P l := by
    intro k
    induction k with
    | zero =>
      intro l hl
      rw [List.length_eq_zero_iff.mp (Nat.le_zero.mp hl)]
      exact nil
    | succ k ih =>
      intro l hl
      by_cases h0 : l = []
      · rw [h0]; exact nil
      · by_cases hs : l.length ≤ n
        · exact last l h0 hs
        · have hd : (l.drop n).length = l.length - n := List.length_drop
          rw [← List.take_append_drop n l]
          exact block _ _ (by rw [List.length_take]; omega)
            (List.ne_nil_of_length_pos (by omega)) (ih _ (by omega))
  exact fun l => h l.length l (Nat.le_refl _)

theorem chunks_flatten {α : Type} (n : Nat) (l : List α) : (chunks n l).flatten = l := by
  rcases Nat.eq_zero_or_pos n with rfl | hn
  · cases l <;> simp [chunks, chunksAux]
  · induction l using blocks_ind n hn with
    | nil => rw [chunks_nil]; rfl
    | last l h0 hs => rw [chunks_short n l h0 hs, List.flatten_singleton]
    | block a b ha _ ih => rw [chunks_append n hn a b ha, List.flatten_cons, ih]

theorem chunks_mem_length {α : Type} (n : Nat) (hn : 0 < n) :
    ∀ (k : Nat) (l : List α), l.length ≤ k → ∀ c ∈ chunks n l, 0 < c.length ∧ c.length ≤ n := by
  intro k l hk
  clear hk
  induction l using blocks_ind n hn with
  | nil => intro c hc; rw [chunks_nil] at hc; cases hc
  | last l h0 hs =>
    intro c hc
    rw [chunks_short n l h0 hs, List.mem_singleton] at hc
    subst hc
    exact ⟨List.length_pos_iff.mpr h0, hs⟩
  | block a b ha _ ih =>
    intro c hc
    rw [chunks_append n hn a b ha] at hc
    rcases List.mem_cons.mp hc with hc | hc
    · subst hc; omega
    · exact ih c hc

theorem natOfDigits_nil (b : Nat) : natOfDigits b [] = 0 := rfl

theorem natOfDigits_snoc (b : Nat) (ds : List Nat) (d : Nat) :
    natOfDigits b (ds ++ [d]) = natOfDigits b ds * b + d := by
  simp [natOfDigits, List.foldl_append]

theorem digitsOfNat_length (b : Nat) : ∀ (len n : Nat), (digitsOfNat b len n).length = len := by
  intro len
  induction len with
  | zero => intro n; rfl
  | succ len ih => intro n; simp [digitsOfNat, ih]

theorem digitsOfNat_lt (b : Nat) (hb : 0 < b) :
    ∀ (len n : Nat), ∀ d ∈ digitsOfNat b len n, d < b := by
  intro len
  induction len with
  | zero => intro n d hd; simp [digitsOfNat] at hd
  | succ len ih =>
    intro n d hd
    simp only [digitsOfNat, List.mem_append, List.mem_singleton] at hd
    rcases hd with hd | hd
    · exact ih _ d hd
    · subst hd; exact Nat.mod_lt _ hb

theorem natOfDigits_digitsOfNat (b : Nat) :
    ∀ (len n : Nat), natOfDigits b (digitsOfNat b len n) = n % b ^ len := by
  intro len
  induction len with
  | zero => intro n; simp [digitsOfNat, natOfDigits, Nat.mod_one]
  | succ len ih =>
    intro n
    rw [digitsOfNat, natOfDigits_snoc, ih, Nat.pow_succ, Nat.mul_comm (b ^ len) b,
      Nat.mod_mul, Nat.mul_comm]
    omega

theorem natOfDigits_digitsOfNat_of_lt (b len n : Nat) (h : n < b ^ len) :
    natOfDigits b (digitsOfNat b len n) = n := by
  rw [natOfDigits_digitsOfNat, Nat.mod_eq_of_lt h]

theorem natOfDigits_lt (b : Nat) :
    ∀ (ds : List Nat), (∀ d ∈ ds, d < b) → natOfDigits b ds < b ^ ds.length := by
  apply snoc_ind
  · intro _; simp [natOfDigits]
  · intro l a ih h
    have h1 : natOfDigits b l < b ^ l.length := ih (fun d hd => h d (by simp [hd]))
    have h2 : a < b := h a (by simp)
    rw [natOfDigits_snoc, List.length_append, List.length_singleton, Nat.pow_succ]
    calc natOfDigits b l * b + a < natOfDigits b l * b + b := by omega
      _ = (natOfDigits b l + 1) * b := by rw [Nat.add_mul, Nat.one_mul]
      _ ≤ b ^ l.length * b := Nat.mul_le_mul_right b h1

theorem digitsOfNat_natOfDigits (b : Nat) :
    ∀ (ds : List Nat), (∀ d ∈ ds, d < b) → digitsOfNat b ds.length (natOfDigits b ds) = ds := by
  apply snoc_ind
  · intro _; rfl
  · intro l a ih h
    have h1 := ih (fun d hd => h d (by simp [hd]))
    have h2 : a < b := h a (by simp)
    rw [natOfDigits_snoc, List.length_append, List.length_singleton, digitsOfNat]
    have hb : 0 < b := by omega
    rw [Nat.mul_comm, Nat.mul_add_div hb, Nat.div_eq_of_lt h2, Nat.add_zero, h1,
      Nat.mul_add_mod, Nat.mod_eq_of_lt h2]

theorem natOfBytes_eq (bs : Bytes) : natOfBytes bs = natOfDigits 256 (bs.map UInt8.toNat) := by
  simp [natOfBytes, natOfDigits, List.foldl_map]

theorem natOfBytes_lt (bs : Bytes) : natOfBytes bs < 256 ^ bs.length := by
  rw [natOfBytes_eq]
  have := natOfDigits_lt 256 (bs.map UInt8.toNat) (by
    intro d hd
    rw [List.mem_map] at hd
    obtain ⟨a, _, rfl⟩ := hd
    exact UInt8.toNat_lt a)
  simpa using this

theorem bytesOfNat_length (len n : Nat) : (bytesOfNat len n).length = len := by
  simp [bytesOfNat, digitsOfNat_length]

theorem map_toNat_bytesOfNat (len n : Nat) :
    (bytesOfNat len n).map UInt8.toNat = digitsOfNat 256 len n := by
  unfold bytesOfNat
  rw [List.map_map]
  have : ∀ l : List Nat, (∀ d ∈ l, d < 256) → l.map (UInt8.toNat ∘ UInt8.ofNat) = l := by
    intro l
    induction l with
    | nil => intro _; rfl
    | cons a t ih =>
      intro h
      have ha : a < 256 := h a (by simp)
      rw [List.map_cons, ih (fun d hd => h d (by simp [hd]))]
      congr 1
      show (UInt8.ofNat a).toNat = a
      simp [UInt8.toNat_ofNat']
      omega
  exact this _ (digitsOfNat_lt 256 (by omega) len n)

theorem natOfBytes_bytesOfNat (len n : Nat) : natOfBytes (bytesOfNat len n) = n % 256 ^ len := by
  rw [natOfBytes_eq, map_toNat_bytesOfNat, natOfDigits_digitsOfNat]

theorem bytesOfNat_natOfBytes (bs : Bytes) : bytesOfNat bs.length (natOfBytes bs) = bs := by
  rw [natOfBytes_eq]
  unfold bytesOfNat
  have h := digitsOfNat_natOfDigits 256 (bs.map UInt8.toNat) (by
    intro d hd
    rw [List.mem_map] at hd
    obtain ⟨a, _, rfl⟩ := hd
    exact UInt8.toNat_lt a)
  rw [List.length_map] at h
  rw [h, List.map_map]
  have : (UInt8.ofNat ∘ UInt8.toNat) = id := by
    funext x; exact UInt8.ofNat_toNat
  rw [this, List.map_id]

end Saltpack.Proofs
