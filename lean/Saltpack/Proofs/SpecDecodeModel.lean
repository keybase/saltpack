/-
  The oracle and the CODE MODEL: the Go sender's chunk plan obeys the chunk
  rules the oracle enforces; an acceptance whose decoded values are the
  sender model's inputs pins the bytes to the model's output.
-/
import Saltpack.Proofs.SpecDecodeSc
import Saltpack.Proofs.SpecEq

namespace Saltpack.Proofs.SDW
open Saltpack Saltpack.Msgpack Saltpack.SpecDecode Saltpack.Proofs
open Saltpack.Spec hiding encode

/-- the shape `go_plan_legal` gives the Go sender's plan — `pre ++ [(c, true)]`, nothing in `pre` final,
    1 MiB chunks — obeys `PlanOK` from index `k` on, provided empty chunks stand where the layout allows:
    V1 exactly on the final packet, V2 only as the sole packet (`k = 0`, `pre = []`) -/
theorem planOK_of_final (layout : Nat) :
    ∀ (pre : List (Bytes × Bool)) (c : Bytes) (k : Nat),
    (∀ p ∈ pre ++ [(c, true)], p.1.length ≤ 1048576) → (∀ p ∈ pre, p.2 = false) →
    (layout = 1 → ∀ p ∈ pre ++ [(c, true)], (p.1 = [] ↔ p.2 = true)) →
    (layout ≠ 1 → ∀ p ∈ pre ++ [(c, true)], p.1 = [] → k = 0 ∧ pre = []) →
    PlanOK layout k (pre ++ [(c, true)]) := by
  intro pre
  induction pre with
  | nil =>
    intro c k hs _ h1 h2
    simp only [List.nil_append, PlanOK]
    refine ⟨hs (c, true) (by simp), ?_, trivial⟩
    by_cases hl : layout = 1
    · simp only [hl, if_true]
      have := h1 hl (c, true) (by simp)
      simpa using this
    · simp only [hl, if_false]
      refine ⟨by simp, ?_⟩
      intro hc
      exact ⟨(h2 hl (c, true) (by simp) hc).1, trivial⟩
  | cons x pre ih =>
    intro c k hs hf h1 h2
    obtain ⟨c0, f0⟩ := x
    have hf0 : f0 = false := hf (c0, f0) (by simp)
    subst hf0
    simp only [List.cons_append, PlanOK]
    refine ⟨hs (c0, false) (by simp), ?_, ?_⟩
    · by_cases hl : layout = 1
      · simp only [hl, if_true]
        have := h1 hl (c0, false) (by simp)
        simp only [Bool.false_eq_true, iff_false] at this
        simp [this]
      · simp only [hl, if_false]
        refine ⟨by simp, ?_⟩
        intro hc
        have := (h2 hl (c0, false) (by simp) hc).2
        simp at this
    · apply ih c (k + 1)
      · intro p hp; exact hs p (List.mem_cons_of_mem _ hp)
      · intro p hp; exact hf p (List.mem_cons_of_mem _ hp)
      · intro hl p hp; exact h1 hl p (List.mem_cons_of_mem _ hp)
      · intro hl p hp hc
        have := (h2 hl p (List.mem_cons_of_mem _ hp) hc).2
        simp at this

theorem go_plan_ok (v : Version) (hv : v = v1 ∨ v = v2) (pt : Bytes) :
    PlanOK (layoutOf v) 0 (Encrypt.chunkPlan v blockSize pt) ∧ Encrypt.chunkPlan v blockSize pt ≠ [] := by
  obtain ⟨hs, ⟨pre, c, hpc, hpre⟩, _⟩ := go_plan_legal v pt
  have hb : 0 < blockSize := by decide
  constructor
  · rw [hpc]
    apply planOK_of_final
    · rw [← hpc]; exact hs
    · exact hpre
    · intro hl
      have : v = v1 := by
        rcases hv with rfl | rfl
        · rfl
        · simp [layoutOf, v2_ne_v1] at hl
      subst this
      rw [← hpc]
      exact chunkPlan_empty_v1 blockSize hb pt
    · intro hl
      have : v = v2 := by
        rcases hv with rfl | rfl
        · simp [layoutOf] at hl
        · rfl
      subst this
      intro p hp hc
      rw [← hpc] at hp
      obtain ⟨e1, e2⟩ := chunkPlan_empty_v2 blockSize hb pt
      have := e2 (e1 p hp hc)
      rw [hpc] at this
      refine ⟨rfl, ?_⟩
      cases pre with
      | nil => rfl
      | cons _ _ =>
        have hl := congrArg List.length this
        simp at hl
  · rw [hpc]; simp

theorem flatMap_layout1_flags (g : Nat → Bytes → Bool → Bytes) (hg : ∀ i c f f', g i c f = g i c f') :
    ∀ (pl pl' : List (Bytes × Bool)) (k : Nat), pl.map (·.1) = pl'.map (·.1) →
    (pl.zipIdx k).flatMap (fun ((c, f), i) => g i c f) = (pl'.zipIdx k).flatMap (fun ((c, f), i) => g i c f) := by
  intro pl
  induction pl with
  | nil =>
    intro pl' k h
    cases pl' with
    | nil => rfl
    | cons _ _ => simp at h
  | cons x pl ih =>
    intro pl' k h
    cases pl' with
    | nil => simp at h
    | cons y pl' =>
      simp only [List.map_cons, List.cons.injEq] at h
      obtain ⟨c, f⟩ := x
      obtain ⟨c', f'⟩ := y
      simp only at h
      obtain ⟨rfl, h2⟩ := h
      simp only [List.zipIdx_cons, List.flatMap_cons]
      rw [ih pl' (k + 1) h2, hg k c f f']

/-- layout 1 carries no final flag: the reference encoding depends on the chunks only -/
theorem encodePlan_layout1_flags (P : Prims) (o : Spec.Opts) (sender : Option Bytes) (rs : List Encrypt.Recipient)
    (eph pk : Bytes) (pl pl' : List (Bytes × Bool)) (h : pl.map (·.1) = pl'.map (·.1)) :
    Spec.encodePlan P 1 o sender rs eph pk pl = Spec.encodePlan P 1 o sender rs eph pk pl' := by
  have encPacket_layout1_flag (pk hh : Bytes) (mks : List Bytes) (i : Nat) (c : Bytes) (f f' : Bool) :
      Spec.encPacket P 1 o pk hh mks i c f = Spec.encPacket P 1 o pk hh mks i c f' := by
    simp [Spec.encPacket]
  unfold Spec.encodePlan
  simp only
  congr 1
  exact flatMap_layout1_flags (fun i c f => Spec.encPacket P 1 o pk _ _ i c f)
    (fun i c f f' => encPacket_layout1_flag pk _ _ i c f f') pl pl' 0 h

/-- under the V2 chunk rules the flags are determined by the chunks: the last
    packet, and only it, is final -/
theorem planOK2_flags : ∀ (pl : List (Bytes × Bool)) (k : Nat), PlanOK 2 k pl →
    ∀ (pre : List Bytes) (c : Bytes), pl.map (·.1) = pre ++ [c] → pl = pre.map (·, false) ++ [(c, true)] := by
  intro pl
  induction pl with
  | nil => intro k _ pre c h; simp at h
  | cons x rest ih =>
    intro k hp pre c h
    obtain ⟨c0, f0⟩ := x
    simp only [PlanOK, show (2 : Nat) ≠ 1 by decide, if_false] at hp
    obtain ⟨_, ⟨hf, _⟩, hrest⟩ := hp
    cases pre with
    | nil =>
      simp only [List.map_cons, List.nil_append, List.cons.injEq, List.map_eq_nil_iff] at h
      obtain ⟨rfl, hr⟩ := h
      subst hr
      simp [hf.2 rfl]
    | cons p pre' =>
      simp only [List.map_cons, List.cons_append, List.cons.injEq] at h
      obtain ⟨rfl, hr⟩ := h
      have hne : rest ≠ [] := by
        intro e; subst e; simp at hr
      have hf0 : f0 = false := by
        cases f0 with
        | false => rfl
        | true => exact absurd (hf.1 rfl) hne
      subst hf0
      rw [ih (k + 1) hrest pre' c hr]
      rfl

theorem chunkPlan_v2_shape (bs : Nat) (pt : Bytes) :
    ∃ (pre : List Bytes) (c : Bytes), Encrypt.chunkPlan v2 bs pt = pre.map (·, false) ++ [(c, true)] := by
  unfold Encrypt.chunkPlan
  simp only [v2_ne_v1, if_false]
  split
  · exact ⟨[], [], rfl⟩
  · exact ⟨_, _, rfl⟩

theorem oracle_sound_model (P : Prims) (hL : P.Lawful) (hC : OpenCanonical P) (b : Bytes) (secrets : List Bytes)
    (s : String) (h : encryption P b secrets = .ok s)
    (bs : Nat) (v : Version) (hv : v = v1 ∨ v = v2) (sender : Option Bytes) (ephSec pk pt out : Bytes)
    (rs : List Encrypt.Recipient)
    (hseal : Encrypt.sealWith P bs v sender rs ephSec pk pt = .ok out) :
    ∃ (m : EncMsg) (o : EncOpened), EncMsg.parse b = .ok m ∧ m.check P secrets = .ok o ∧
      (m.major = layoutOf v → m.eph = P.boxPub ephSec → o.senderPub = P.boxPub (sender.getD ephSec) →
        o.payloadKey = pk → rsOf P (recipsOf secrets m.recvs) = rs →
        o.chunks = (Encrypt.chunkPlan v bs pt).map (·.1) → b = out) := by
  obtain ⟨m, o, layout, _, hm, hp, hc, _, _, hok, hch, _, hspec⟩ := oracle_sound_encryption P hL hC b secrets s h
  refine ⟨m, o, hp, hc, ?_⟩
  intro h1 h2 h3 h4 h5 h6
  have hlay : layout = layoutOf v := by
    rw [hm] at h1
    exact Int.ofNat.inj h1
  have := hspec ephSec (sender.getD ephSec) h2 h3
  rw [h4, h5, hlay] at this
  rw [this, spec_eq_encryption P bs v hv sender rs ephSec pk pt out hseal]
  have hsnd : ∀ pl, Spec.encodePlan P (layoutOf v) {} (some (sender.getD ephSec)) rs ephSec pk pl =
      Spec.encodePlan P (layoutOf v) {} sender rs ephSec pk pl := by
    intro pl; cases sender <;> rfl
  rw [hsnd]
  rcases hv with rfl | rfl
  · exact encodePlan_layout1_flags P {} sender rs ephSec pk _ _ (by rw [hch, h6])
  · obtain ⟨pre, c, hshape⟩ := chunkPlan_v2_shape bs pt
    have hl2 : layout = 2 := by rw [hlay]; simp [layoutOf, v2_ne_v1]
    rw [hl2] at hok
    have : planOf o.chunks m.pkts = pre.map (·, false) ++ [(c, true)] := by
      apply planOK2_flags _ 0 hok
      rw [hch, h6, hshape]
      simp [Function.comp_def]
    rw [this, hshape]

/-- decision procedure for "ALL the antecedents of `oracle_sound_model` hold of
    the model's own output" (used by the kernel-evaluated non-vacuity examples) -/
def modelHyps (P : Prims) (bs : Nat) (v : Version) (sender : Option Bytes) (rs : List Encrypt.Recipient)
    (ephSec pk pt : Bytes) (secrets : List Bytes) : Bool :=
  match Encrypt.sealWith P bs v sender rs ephSec pk pt with
  | .error _ => false
  | .ok out =>
    match EncMsg.parse out with
    | .error _ => false
    | .ok m =>
      match m.check P secrets with
      | .error _ => false
      | .ok o =>
        decide (m.major = layoutOf v) && decide (m.eph = P.boxPub ephSec) &&
        decide (o.senderPub = P.boxPub (sender.getD ephSec)) && decide (o.payloadKey = pk) &&
        decide (rsOf P (recipsOf secrets m.recvs) = rs) &&
        decide (o.chunks = (Encrypt.chunkPlan v bs pt).map (·.1))

theorem modelHyps_spec (P : Prims) (bs : Nat) (v : Version) (sender : Option Bytes) (rs : List Encrypt.Recipient)
    (ephSec pk pt : Bytes) (secrets : List Bytes) (h : modelHyps P bs v sender rs ephSec pk pt secrets = true) :
    ∃ (out : Bytes) (s : String) (m : EncMsg) (o : EncOpened),
      Encrypt.sealWith P bs v sender rs ephSec pk pt = .ok out ∧ encryption P out secrets = .ok s ∧
      EncMsg.parse out = .ok m ∧ m.check P secrets = .ok o ∧
      m.major = layoutOf v ∧ m.eph = P.boxPub ephSec ∧ o.senderPub = P.boxPub (sender.getD ephSec) ∧
      o.payloadKey = pk ∧ rsOf P (recipsOf secrets m.recvs) = rs ∧
      o.chunks = (Encrypt.chunkPlan v bs pt).map (·.1) := by
  unfold modelHyps at h
  split at h
  · cases h
  · rename_i out hs
    split at h
    · cases h
    · rename_i m hm
      split at h
      · cases h
      · rename_i o ho
        simp only [Bool.and_eq_true, decide_eq_true_eq] at h
        obtain ⟨⟨⟨⟨⟨a1, a2⟩, a3⟩, a4⟩, a5⟩, a6⟩ := h
        exact ⟨out, encSummary m o, m, o, hs, (encryption_ok_iff P out secrets _).2 ⟨m, o, hm, ho, rfl⟩,
          hm, ho, a1, a2, a3, a4, a5, a6⟩

end Saltpack.Proofs.SDW
