/-
  Authenticity as a reduction: whatever packets a
  receiver is given, what it releases is a prefix of one plaintext an honest
  sender put into one message with this very header hash — complete iff the run
  ends cleanly — OR a concrete primitive-level break is exhibited BY THAT VERY
  RUN.

  The break predicates (`AuthEnc.BreakIn`, `AuthSc.BreakIn`, `AuthSig.BreakIn`)
  are ANCHORED to the run: they take the receiver state `s` and the packet list
  `items` and say

    * forgery: the run over `items` reached its `i`-th packet `b` (every earlier
      item was a packet accepted at its position and not final — `Reaches`),
      ACCEPTED it as packet number `i + 1`, the MAC / signature the receiver
      checked on it is spelled out, and no honest sender ever authenticated
      that very input (under that key);
    * collision: the hash input the receiver computed for such a reached and
      accepted packet `b` of the run, and the hash input of a chunk of an honest
      message in `H`, are two DIFFERENT explicit strings with the same hash.

  Nothing about the strength of the primitives is assumed; `BreakIn` is a
  disjunct, not an axiom, so the statements hold for every `Prims`.  That the
  disjunct is not always true is machine-checked at the end of this file: for a
  concrete honest two-packet run of each mode `¬ BreakIn` is proved, and a
  tampered run of each mode is shown to fall under the first disjunct.

  Why anchored: un-anchored existentials
   `∃ b ph, b.auths[s.position]? = some (payloadAuthenticator P s.macKey ph) ∧ ¬ HonestlyMACed …`,
   `∃ inp sig, P.verify spk inp sig = true ∧ ¬ HonestlySigned …`,
   `∃ x y, x ≠ y ∧ P.hash x = P.hash y`
  are provable outright (a packet made of the authenticator of any payload hash
  no honest sender MACed; `P.sign seed inp` for any `inp` not honestly signed;
  pigeonhole on 64-byte hashes), so a disjunct of that form would be vacuous.
-/
import Saltpack.Proofs.Receiver
import Saltpack.Proofs.ChunkPlan
import Saltpack.Toy

namespace Saltpack.Proofs
open Saltpack

/-- the first `m` chunks of a plan, concatenated -/
def planPrefix (plan : List (Bytes × Bool)) (m : Nat) : Bytes := ((plan.take m).map (·.1)).flatten

/-- a plan the honest senders produce: non-empty, exactly the last entry final -/
def PlanOK (plan : List (Bytes × Bool)) : Prop :=
  ∃ pre c, plan = pre ++ [(c, true)] ∧ ∀ p ∈ pre, p.2 = false

/-! ## anchoring a packet to a run -/
section anchor
variable {β : Type}

/-- **The run over `items` reaches its `i`-th item (0-based), and that item is
    the packet `b`**: every earlier item is a packet that was accepted at its
    position (packet numbers count from 1) and was not final.  By the shape of
    the chunk-reader run this is exactly the condition under which the receiver
    applies its acceptance test to `b` with packet number `i + 1`. -/
def Reaches (acc : β → Nat → Option Bytes) (fin : β → Bool) (items : List (Option β)) (i : Nat) (b : β) : Prop :=
  items[i]? = some (some b) ∧
    ∀ j, j < i → ∃ b' c', items[j]? = some (some b') ∧ acc b' (j + 1) = some c' ∧ fin b' = false

theorem Reaches.lt {acc : β → Nat → Option Bytes} {fin : β → Bool} {items : List (Option β)} {i : Nat} {b : β}
    (h : Reaches acc fin items i b) : i < items.length :=
  (List.getElem?_eq_some_iff.1 h.1).1

theorem Reaches.mem {acc : β → Nat → Option Bytes} {fin : β → Bool} {items : List (Option β)} {i : Nat} {b : β}
    (h : Reaches acc fin items i b) : some b ∈ items :=
  List.mem_of_getElem? h.1

end anchor

/-! ## the crypto-free core: chains against a plan -/
section core
variable {β : Type} {acc : β → Nat → Option Bytes} {fin : β → Bool}

theorem Chain.get {n : Nat} {bs : List β} {out : Bytes} (hc : Chain acc fin n bs out) :
    ∀ (j : Nat) (b : β), bs[j]? = some b → (∃ c, acc b (n + j) = some c) ∧ (j + 1 < bs.length → fin b = false) := by
  induction hc with
  | nil n => intro j b h; simp at h
  | last n b c ha =>
    intro j b' h
    cases j with
    | zero =>
      simp only [List.getElem?_cons_zero, Option.some.injEq] at h
      subst h
      exact ⟨⟨c, ha⟩, fun h => by simp at h⟩
    | succ j => simp at h
  | cons n b c bs r ha hf hne _ ih =>
    intro j b' h
    cases j with
    | zero =>
      simp only [List.getElem?_cons_zero, Option.some.injEq] at h
      subst h
      exact ⟨⟨c, ha⟩, fun _ => hf⟩
    | succ j =>
      simp only [List.getElem?_cons_succ] at h
      obtain ⟨⟨c', hc'⟩, hf'⟩ := ih j b' h
      refine ⟨⟨c', ?_⟩, fun hl => hf' (by simpa using hl)⟩
      rw [show n + (j + 1) = n + 1 + j by omega]
      exact hc'

theorem reaches_of_chain {items : List (Option β)} {bs : List β} {out : Bytes}
    (hp : bs.map some <+: items) (hc : Chain acc fin 1 bs out) (j : Nat) (b : β) (hb : bs[j]? = some b) :
    Reaches acc fin items j b := by
  have hget : ∀ (k : Nat) (b' : β), bs[k]? = some b' → items[k]? = some (some b') := by
    intro k b' hk
    obtain ⟨t, rfl⟩ := hp
    have hlt : k < (bs.map some).length := by
      rw [List.length_map]; exact (List.getElem?_eq_some_iff.1 hk).1
    rw [List.getElem?_append_left hlt, List.getElem?_map, hk]
    rfl
  refine ⟨hget j b hb, fun k hk => ?_⟩
  have hjl : j < bs.length := (List.getElem?_eq_some_iff.1 hb).1
  have hkl : k < bs.length := by omega
  obtain ⟨⟨c', hc'⟩, hf⟩ := hc.get k bs[k] (List.getElem?_eq_getElem hkl)
  refine ⟨bs[k], c', hget k _ (List.getElem?_eq_getElem hkl), ?_, hf (by omega)⟩
  rw [Nat.add_comm]
  exact hc'

theorem Chain.plan_segment (plan : List (Bytes × Bool)) (Brk : Prop) (R : β → Nat → Prop)
    (hm : ∀ b n c, 1 ≤ n → R b n → acc b n = some c → Brk ∨ plan[n - 1]? = some (c, fin b))
    {n : Nat} {bs : List β} {out : Bytes} (hc : Chain acc fin n bs out)
    (hR : ∀ (j : Nat) (b : β), bs[j]? = some b → R b (n + j))
    (h1 : 1 ≤ n) :
    Brk ∨ ∃ mid : List (Bytes × Bool), mid.length = bs.length ∧ mid <+: plan.drop (n - 1) ∧
      out = (mid.map (·.1)).flatten ∧
      (∀ b, bs.getLast? = some b → ∃ p, mid.getLast? = some p ∧ p.2 = fin b) := by
  induction hc with
  | nil n => exact Or.inr ⟨[], rfl, List.nil_prefix, rfl, by simp⟩
  | last n b c ha =>
    rcases hm b n c h1 (hR 0 b rfl) ha with hb | hp
    · exact Or.inl hb
    · refine Or.inr ⟨[(c, fin b)], rfl, ?_, by simp, ?_⟩
      · obtain ⟨hlt, hget⟩ := List.getElem?_eq_some_iff.1 hp
        rw [List.drop_eq_getElem_cons hlt, hget]
        exact ⟨_, rfl⟩
      · intro b' hb'; simp at hb'; subst hb'; exact ⟨_, rfl, rfl⟩
  | cons n b c bs r ha hf hne _ ih =>
    rcases hm b n c h1 (hR 0 b rfl) ha with hb | hp
    · exact Or.inl hb
    · have hR' : ∀ (j : Nat) (b' : β), bs[j]? = some b' → R b' (n + 1 + j) := by
        intro j b' hj
        have := hR (j + 1) b' (by simpa using hj)
        rwa [show n + (j + 1) = n + 1 + j by omega] at this
      rcases ih hR' (by omega) with hb | ⟨mid, hl, hpre, hout, hlast⟩
      · exact Or.inl hb
      · refine Or.inr ⟨(c, fin b) :: mid, by simp [hl], ?_, by simp [hout], ?_⟩
        · obtain ⟨hlt, hget⟩ := List.getElem?_eq_some_iff.1 hp
          rw [List.drop_eq_getElem_cons hlt, hget]
          have : n - 1 + 1 = n + 1 - 1 := by omega
          rw [this]
          obtain ⟨t, ht⟩ := hpre
          exact ⟨t, by simpa using ht⟩
        · intro b' hb'
          rw [List.getLast?_cons_of_ne_nil hne] at hb'
          obtain ⟨p, hp1, hp2⟩ := hlast b' hb'
          have hmne : mid ≠ [] := by intro h0; rw [h0] at hp1; simp at hp1
          exact ⟨p, by rw [List.getLast?_cons_of_ne_nil hmne]; exact hp1, hp2⟩

theorem PlanOK.prefix_final {plan mid : List (Bytes × Bool)} (hp : PlanOK plan) (hpre : mid <+: plan)
    {p : Bytes × Bool} (hl : mid.getLast? = some p) (hf : p.2 = true) : mid.length = plan.length := by
  obtain ⟨pre, c, rfl, hnf⟩ := hp
  obtain ⟨t, ht⟩ := hpre
  rcases List.eq_nil_or_concat t with rfl | ⟨t', x, rfl⟩
  · simp at ht; rw [ht]
  · exfalso
    rw [List.concat_eq_append, ← List.append_assoc] at ht
    obtain ⟨e1, _⟩ := List.append_inj' ht rfl
    have hmem : p ∈ pre := by
      rw [← e1]; exact List.mem_append_left _ (List.mem_of_getLast? hl)
    rw [hnf p hmem] at hf; cases hf

theorem planPrefix_of_prefix {plan mid : List (Bytes × Bool)} (hpre : mid <+: plan) :
    planPrefix plan mid.length = (mid.map (·.1)).flatten := by
  unfold planPrefix
  rw [← List.prefix_iff_eq_take.1 hpre]

end core

/-- used for V1, where a plan marks exactly its empty chunk final and a
    receiver takes exactly an empty chunk for the final one -/
theorem isEmpty_eq_of_iff {c : Bytes} {f : Bool} (h : c = [] ↔ f = true) : c.isEmpty = f := by
  cases c with
  | nil => exact (h.1 rfl).symm
  | cons a t =>
    cases f with
    | false => rfl
    | true => exact absurd (h.2 rfl) (List.cons_ne_nil a t)

/-- the common end game of the three reductions.  `M e`: the honest event `e`
    matches the receiver (same header hash, …).  Per-packet matching is only
    asked of packets the run REACHES and accepts (`hm`), so the `Brk` a packet
    may exhibit instead can mention that anchoring. -/
theorem assemble {β E : Type} {acc : β → Nat → Option Bytes} {fin : β → Bool}
    (items : List (Option β)) (H : List E) (M : E → Prop) (planOf : E → List (Bytes × Bool)) (Brk : Prop)
    (hplan : ∀ e ∈ H, M e → PlanOK (planOf e))
    (hone : ∀ e ∈ H, ∀ e' ∈ H, M e → M e' → e = e')
    (hm : ∀ i b c, Reaches acc fin items i b → acc b (i + 1) = some c →
      Brk ∨ ∃ e ∈ H, M e ∧ (planOf e)[i]? = some (c, fin b))
    (bytes : Bytes) (err : Option Err)
    (hpre : ∃ bs, bs.map some <+: items ∧ Chain acc fin 1 bs bytes)
    (hok : err = none → ∃ bs, bs.map some <+: items ∧ Complete acc fin 1 bs bytes) :
    bytes = [] ∧ err ≠ none ∨
    (∃ e ∈ H, M e ∧ ∃ m, m ≤ (planOf e).length ∧ bytes = planPrefix (planOf e) m ∧
        (err = none → m = (planOf e).length)) ∨
    Brk := by
  -- the core: a non-empty chain pins one event and a prefix of its plan
  have core : ∀ bs : List β, bs ≠ [] → bs.map some <+: items → Chain acc fin 1 bs bytes →
      Brk ∨ ∃ e ∈ H, M e ∧ ∃ mid : List (Bytes × Bool), mid <+: planOf e ∧
        bytes = (mid.map (·.1)).flatten ∧
        (∀ b, bs.getLast? = some b → ∃ p, mid.getLast? = some p ∧ p.2 = fin b) := by
    intro bs hne hp hc
    obtain ⟨b0, t, hbs⟩ := List.exists_cons_of_ne_nil hne
    have hb0 : bs[0]? = some b0 := by rw [hbs]; rfl
    obtain ⟨⟨c0, ha0⟩, _⟩ := hc.get 0 b0 hb0
    rcases hm 0 b0 c0 (reaches_of_chain hp hc 0 b0 hb0) ha0 with hb | ⟨e, he, hMe, _⟩
    · exact Or.inl hb
    · have hm' : ∀ b n c, 1 ≤ n → Reaches acc fin items (n - 1) b → acc b n = some c →
          Brk ∨ (planOf e)[n - 1]? = some (c, fin b) := by
        intro b n c h1 hr ha
        rcases hm (n - 1) b c hr (by rw [Nat.sub_add_cancel h1]; exact ha) with hb | ⟨e', he', hMe', hp⟩
        · exact Or.inl hb
        · have : e' = e := hone e' he' e he hMe' hMe
          rw [this] at hp
          exact Or.inr hp
      have hR : ∀ (j : Nat) (b : β), bs[j]? = some b → Reaches acc fin items (1 + j - 1) b := by
        intro j b hb
        rw [Nat.add_sub_cancel_left]
        exact reaches_of_chain hp hc j b hb
      rcases Chain.plan_segment (planOf e) Brk (fun b n => Reaches acc fin items (n - 1) b) hm' hc hR
        (Nat.le_refl 1) with hb | ⟨mid, _, hpre, hout, hlast⟩
      · exact Or.inl hb
      · exact Or.inr ⟨e, he, hMe, mid, by simpa using hpre, hout, hlast⟩
  by_cases herr : err = none
  · obtain ⟨bs, hp, hc, b, hb, hfb⟩ := hok herr
    have hne : bs ≠ [] := by intro h0; rw [h0] at hb; simp at hb
    rcases core bs hne hp hc with hbk | ⟨e, he, hMe, mid, hpre, hout, hlast⟩
    · exact Or.inr (Or.inr hbk)
    · obtain ⟨p, hp1, hp2⟩ := hlast b hb
      refine Or.inr (Or.inl ⟨e, he, hMe, mid.length, hpre.length_le, ?_, fun _ => ?_⟩)
      · rw [planPrefix_of_prefix hpre]; exact hout
      · exact PlanOK.prefix_final (hplan e he hMe) hpre hp1 (by rw [hp2, hfb])
  · obtain ⟨bs, hp, hc⟩ := hpre
    by_cases hne : bs = []
    · subst hne
      exact Or.inl ⟨Chain.out_of_nil hc, herr⟩
    · rcases core bs hne hp hc with hbk | ⟨e, he, hMe, mid, hpre, hout, _⟩
      · exact Or.inr (Or.inr hbk)
      · refine Or.inr (Or.inl ⟨e, he, hMe, mid.length, hpre.length_le, ?_, fun h => absurd h herr⟩)
        rw [planPrefix_of_prefix hpre]; exact hout

/-! ## encryption (C02) -/
namespace AuthEnc

/-- an honest encrypted message, as far as the receiver's checks can tell: its
    header hash, payload key, the MAC key it used *for this recipient*, and the
    chunk plan of its plaintext -/
structure Event where
  headerHash : Bytes
  payloadKey : Bytes
  macKey : Bytes
  plan : List (Bytes × Bool)

variable (P : Prims)

/-- what the honest sender hashes (and then MACs) for chunk `k` of event `e`
    (in the receiver's version) -/
def honestInput (v : Version) (e : Event) (k : Nat) (c : Bytes) (f : Bool) : Bytes :=
  if v.major = 1 then e.headerHash ++ Nonce.chunkSecretBox k ++ P.sbSeal e.payloadKey (Nonce.chunkSecretBox k) c
  else e.headerHash ++ Nonce.chunkSecretBox k ++ finalByte f ++ P.sbSeal e.payloadKey (Nonce.chunkSecretBox k) c

/-- what the RECEIVER hashes for packet `b` taken as its `i`-th payload packet
    (0-based; packet number `i + 1`): header hash ‖ nonce(i) ‖ [final byte] ‖ ciphertext -/
def recvInput (s : Decrypt.State) (b : EncBlock) (i : Nat) : Bytes :=
  if s.version.major = 1 then s.headerHash ++ Nonce.chunkSecretBox i ++ b.ct
  else s.headerHash ++ Nonce.chunkSecretBox i ++ finalByte (Decrypt.blockFinal s.version b) ++ b.ct

theorem payloadHash_recv (s : Decrypt.State) (hv : s.version.major = 1 ∨ s.version.major = 2)
    (b : EncBlock) (i : Nat) :
    payloadHash P s.version s.headerHash (Nonce.chunkSecretBox i) b.ct (Decrypt.blockFinal s.version b)
      = .ok (P.hash (recvInput s b i)) := by
  unfold payloadHash recvInput
  rcases hv with hv | hv
  · simp only [hv, if_true]
  · have h21 : ¬ ((2 : Int) = 1) := by decide
    simp only [hv, h21, if_false, if_true]

theorem recvInput_eq (s : Decrypt.State) (b : EncBlock) (i : Nat) :
    recvInput s b i = s.headerHash ++ Nonce.chunkSecretBox i ++
      optFinal s.version (Decrypt.blockFinal s.version b) ++ b.ct := by
  unfold recvInput optFinal
  split
  · rw [List.append_nil]
  · rfl

theorem honestInput_eq (v : Version) (e : Event) (k : Nat) (c : Bytes) (f : Bool) :
    honestInput P v e k c f = e.headerHash ++ Nonce.chunkSecretBox k ++ optFinal v f ++
      P.sbSeal e.payloadKey (Nonce.chunkSecretBox k) c := by
  unfold honestInput optFinal
  split
  · rw [List.append_nil]
  · rfl

/-- all payload hashes the honest senders authenticated under MAC key `mk` -/
def HonestlyMACed (v : Version) (H : List Event) (mk ph : Bytes) : Prop :=
  ∃ e ∈ H, e.macKey = mk ∧ ∃ k c f, e.plan[k]? = some (c, f) ∧ ph = P.hash (honestInput P v e k c f)

/-- **MAC forgery exhibited by the run over `items`.**  The run reaches its
    `i`-th packet `b` and ACCEPTS it as packet number `i + 1` (releasing `c`);
    in particular `b` carries, at the receiver's position, the authenticator
    under the receiver's MAC key of the hash of `recvInput s b i` — yet no honest
    sender ever authenticated that payload hash under that MAC key. -/
def MacForgeryIn (s : Decrypt.State) (H : List Event) (items : List (Option EncBlock)) : Prop :=
  ∃ (i : Nat) (b : EncBlock) (c : Bytes),
    Reaches (Dec.accept P s) (Decrypt.blockFinal s.version) items i b ∧
    Dec.accept P s b (i + 1) = some c ∧
    b.auths[s.position]? = some (payloadAuthenticator P s.macKey (P.hash (recvInput s b i))) ∧
    ¬ HonestlyMACed P s.version H s.macKey (P.hash (recvInput s b i))

/-- **Hash collision exhibited by the run over `items`.**  The string the
    receiver hashed for a packet `b` the run reached and accepted, and the string
    an honest sender hashed for a chunk of a message MACed under the receiver's
    MAC key, are DIFFERENT strings with the same hash. -/
def CollisionIn (s : Decrypt.State) (H : List Event) (items : List (Option EncBlock)) : Prop :=
  ∃ (i : Nat) (b : EncBlock) (c : Bytes),
    Reaches (Dec.accept P s) (Decrypt.blockFinal s.version) items i b ∧
    Dec.accept P s b (i + 1) = some c ∧
    ∃ e ∈ H, e.macKey = s.macKey ∧ ∃ k c' f', e.plan[k]? = some (c', f') ∧
      recvInput s b i ≠ honestInput P s.version e k c' f' ∧
      P.hash (recvInput s b i) = P.hash (honestInput P s.version e k c' f')

/-- the third disjunct of the reduction: anchored to `s` and `items` -/
def BreakIn (s : Decrypt.State) (H : List Event) (items : List (Option EncBlock)) : Prop :=
  MacForgeryIn P s H items ∨ CollisionIn P s H items

theorem block_match (hP : P.Lawful) (s : Decrypt.State)
    (hv : s.version.major = 1 ∨ s.version.major = 2) (hhl : s.headerHash.length = 64)
    (H : List Event)
    (hlen : ∀ e ∈ H, e.headerHash.length = 64)
    (hplan : ∀ e ∈ H, e.headerHash = s.headerHash → PlanOK e.plan ∧ e.plan.length < 2 ^ 64 - 1)
    (hv1 : s.version.major = 1 → ∀ e ∈ H, e.headerHash = s.headerHash → ∀ p ∈ e.plan, (p.1 = [] ↔ p.2 = true))
    (hkey : ∀ e ∈ H, e.headerHash = s.headerHash → e.payloadKey = s.payloadKey)
    (items : List (Option EncBlock)) (i : Nat) (b : EncBlock) (c : Bytes)
    (hr : Reaches (Dec.accept P s) (Decrypt.blockFinal s.version) items i b)
    (h : Dec.accept P s b (i + 1) = some c) :
    BreakIn P s H items ∨ ∃ e ∈ H, (e.headerHash = s.headerHash ∧ e.macKey = s.macKey) ∧
      e.plan[i]? = some (c, Decrypt.blockFinal s.version b) := by
  obtain ⟨ph, hph, hauth, hopen, hbn⟩ := Dec.accept_binds P s b (i + 1) c h
  simp only [Nat.add_sub_cancel] at hph hopen hbn
  rw [payloadHash_recv P s hv b i] at hph
  cases hph
  have hnlt : i < 2 ^ 64 := by
    unfold blockNumberOK at hbn
    simp only [decide_eq_true_eq] at hbn
    omega
  by_cases hm : HonestlyMACed P s.version H s.macKey (P.hash (recvInput s b i))
  · obtain ⟨e, he, hmk, k, c', f', hk, hpheq⟩ := hm
    have ehl := hlen e he
    by_cases heq : recvInput s b i = honestInput P s.version e k c' f'
    · -- the two hashed strings coincide: compare them field by field
      -- once the fields agree, the chunk is the honest one
      have hchunk : e.headerHash = s.headerHash → k = i →
          b.ct = P.sbSeal e.payloadKey (Nonce.chunkSecretBox k) c' → c = c' := by
        intro e1 e2 e3
        rw [e3, hkey e he e1, e2, hP.sb_open_seal] at hopen
        exact (Option.some.inj hopen).symm
      have hklt : e.headerHash = s.headerHash → k < 2 ^ 64 := by
        intro e1
        have := (List.getElem?_eq_some_iff.1 hk).1
        have := (hplan e he e1).2
        omega
      rw [recvInput_eq, honestInput_eq] at heq
      obtain ⟨e1, e2, e3, e4⟩ := append4_inj (hhl.trans ehl.symm)
        ((chunkSecretBox_length _).trans (chunkSecretBox_length _).symm) (optFinal_length _ _ _) heq
      have e2' := chunkSecretBox_inj _ _ hnlt (hklt e1.symm) e2
      have hcc := hchunk e1.symm e2'.symm e4
      -- the final flag: V2 hashes it; a V1 receiver reads it off the ciphertext length
      have hfin : Decrypt.blockFinal s.version b = f' := by
        rcases hv with hv | hv
        · have hiff : c' = [] ↔ f' = true := hv1 hv e he e1.symm (c', f') (List.mem_of_getElem? hk)
          simp only [Decrypt.blockFinal, hv, if_true]
          rw [e4, hP.sb_len, ← isEmpty_eq_of_iff hiff]
          cases c' with
          | nil => rfl
          | cons a t => exact beq_eq_false_iff_ne.2 (by simp only [List.length_cons]; omega)
        · exact optFinal_inj (by omega) e3
      exact Or.inr ⟨e, he, ⟨e1.symm, hmk⟩, by rw [e2', hk, hcc, hfin]⟩
    · exact Or.inl (Or.inr ⟨i, b, c, hr, h, e, he, hmk, k, c', f', hk, heq, hpheq⟩)
  · exact Or.inl (Or.inl ⟨i, b, c, hr, h, hauth, hm⟩)

/-- **C02, reduction.**  `H` is any history of honest messages (each with the
    MAC key it used for this recipient).

    Hypotheses on the receiver state: a supported major and a 64-byte header
    hash (true of every state `processHeader` returns, with `Prims.Lawful`).

    Hypotheses on the history: header hashes are 64 bytes long (`hlen`); the
    honest messages WITH THIS HEADER HASH have well-formed plans short of the
    packet-number overflow guard (`hplan`) and, for a V1 receiver, V1-shaped
    plans (`hv1`) — nothing is asked of the other messages of the history, which
    may mix versions.

    ASSUMPTIONS (explicit hypotheses, not proved here):
    * `hkey` — an honest message with this header hash was encrypted under the
      payload key the receiver derived.  For the honest header itself this is
      `hkey_of_honest_header` (Proofs/Attribution.lean); that equal header hashes
      mean equal headers is collision resistance of the header hash.
    * `hone` — at most one honest message has this header hash: freshness of the
      sender's randomness (ephemeral key, payload key are in the header) plus
      collision resistance of the header hash. -/
theorem authentic_or_break (hP : P.Lawful) (s : Decrypt.State)
    (hv : s.version.major = 1 ∨ s.version.major = 2) (hhl : s.headerHash.length = 64)
    (H : List Event)
    (hlen : ∀ e ∈ H, e.headerHash.length = 64)
    (hplan : ∀ e ∈ H, e.headerHash = s.headerHash → PlanOK e.plan ∧ e.plan.length < 2 ^ 64 - 1)
    (hv1 : s.version.major = 1 → ∀ e ∈ H, e.headerHash = s.headerHash → ∀ p ∈ e.plan, (p.1 = [] ↔ p.2 = true))
    (hkey : ∀ e ∈ H, e.headerHash = s.headerHash → e.payloadKey = s.payloadKey)
    (hone : ∀ e ∈ H, ∀ e' ∈ H, e.headerHash = s.headerHash → e'.headerHash = s.headerHash → e = e')
    (items : List (Option EncBlock)) (tail : Tail) :
    let r := Decrypt.run P s items tail 1
    r.bytes = [] ∧ r.err ≠ none ∨
    (∃ e ∈ H, (e.headerHash = s.headerHash ∧ e.macKey = s.macKey) ∧
      ∃ m, m ≤ e.plan.length ∧ r.bytes = planPrefix e.plan m ∧ (r.err = none → m = e.plan.length)) ∨
    BreakIn P s H items := by
  intro r
  refine assemble (acc := Dec.accept P s) (fin := Decrypt.blockFinal s.version) items
    H (fun e => e.headerHash = s.headerHash ∧ e.macKey = s.macKey) (·.plan) (BreakIn P s H items)
    (fun e he hM => (hplan e he hM.1).1) (fun e he e' he' hM hM' => hone e he e' he' hM.1 hM'.1)
    ?_ r.bytes r.err ?_ ?_
  · intro i b c hr ha
    exact block_match P hP s hv hhl H hlen hplan hv1 hkey items i b c hr ha
  · exact Dec.run_prefix P s items tail 1
  · intro herr
    obtain ⟨bs, hi, _, hc⟩ := (Dec.run_ok_iff P s items tail 1).1 herr
    exact ⟨bs, by rw [hi]; exact List.prefix_refl _, hc⟩

end AuthEnc

/-! ## attached signatures (C06) -/
namespace AuthSig

/-- an honest attached-signature message: its header hash and the chunk plan of
    what was signed -/
structure Event where
  headerHash : Bytes
  plan : List (Bytes × Bool)

variable (P : Prims)

/-- what the honest signer hashes for chunk `k` -/
def honestHashed (v : Version) (e : Event) (k : Nat) (c : Bytes) (f : Bool) : Bytes :=
  if v.major = 1 then e.headerHash ++ be64 k ++ c else e.headerHash ++ be64 k ++ finalByte f ++ c

/-- what the VERIFIER hashes for packet `b` taken as its `i`-th payload packet
    (0-based): header hash ‖ be64 i ‖ [final byte] ‖ chunk -/
def recvHashed (s : Sign.State) (b : SigBlock) (i : Nat) : Bytes :=
  if s.version.major = 1 then s.headerHash ++ be64 i ++ b.chunk
  else s.headerHash ++ be64 i ++ finalByte (Sign.blockFinal s.version b) ++ b.chunk

theorem recvHashed_eq (s : Sign.State) (b : SigBlock) (i : Nat) :
    recvHashed s b i = s.headerHash ++ be64 i ++ optFinal s.version (Sign.blockFinal s.version b) ++ b.chunk := by
  unfold recvHashed optFinal
  split
  · rw [List.append_nil]
  · rfl

theorem honestHashed_eq (v : Version) (e : Event) (k : Nat) (c : Bytes) (f : Bool) :
    honestHashed v e k c f = e.headerHash ++ be64 k ++ optFinal v f ++ c := by
  unfold honestHashed optFinal
  split
  · rw [List.append_nil]
  · rfl

/-- the signature input the verifier checks `b.sig` on -/
def recvSigInput (s : Sign.State) (b : SigBlock) (i : Nat) : Bytes :=
  Gen.c_sp_signatureAttachedString ++ P.hash (recvHashed s b i)

theorem attachedInput_recv (s : Sign.State) (hv : s.version.major = 1 ∨ s.version.major = 2)
    (b : SigBlock) (i : Nat) :
    attachedSignatureInput P s.version s.headerHash b.chunk i (Sign.blockFinal s.version b)
      = .ok (recvSigInput P s b i) := by
  unfold attachedSignatureInput recvSigInput recvHashed
  rcases hv with hv | hv
  · simp only [hv, if_true]
  · have h21 : ¬ ((2 : Int) = 1) := by decide
    simp only [hv, h21, if_false, if_true]

/-- every input the honest owner of the key signed in attached mode -/
def HonestlySigned (v : Version) (H : List Event) (inp : Bytes) : Prop :=
  ∃ e ∈ H, ∃ k c f, e.plan[k]? = some (c, f) ∧
    inp = Gen.c_sp_signatureAttachedString ++ P.hash (honestHashed v e k c f)

/-- **Signature forgery exhibited by the run over `items`.**  The run reaches
    its `i`-th packet `b` and ACCEPTS it as packet number `i + 1`; in particular
    `b.sig` verifies, under the looked-up key, on `recvSigInput P s b i` — an
    input the owner of that key never signed. -/
def SigForgeryIn (s : Sign.State) (H : List Event) (items : List (Option SigBlock)) : Prop :=
  ∃ (i : Nat) (b : SigBlock),
    Reaches (Ver.accept P s) (Sign.blockFinal s.version) items i b ∧
    Ver.accept P s b (i + 1) = some b.chunk ∧
    P.verify s.publicKey (recvSigInput P s b i) b.sig = true ∧
    ¬ HonestlySigned P s.version H (recvSigInput P s b i)

/-- **Hash collision exhibited by the run over `items`**: between what the
    verifier hashed for a reached and accepted packet of the run and what the
    honest signer hashed for one of its chunks — two different explicit strings. -/
def CollisionIn (s : Sign.State) (H : List Event) (items : List (Option SigBlock)) : Prop :=
  ∃ (i : Nat) (b : SigBlock),
    Reaches (Ver.accept P s) (Sign.blockFinal s.version) items i b ∧
    Ver.accept P s b (i + 1) = some b.chunk ∧
    ∃ e ∈ H, ∃ k c' f', e.plan[k]? = some (c', f') ∧
      recvHashed s b i ≠ honestHashed s.version e k c' f' ∧
      P.hash (recvHashed s b i) = P.hash (honestHashed s.version e k c' f')

/-- the third disjunct of the reduction: anchored to `s` and `items` -/
def BreakIn (s : Sign.State) (H : List Event) (items : List (Option SigBlock)) : Prop :=
  SigForgeryIn P s H items ∨ CollisionIn P s H items

theorem block_match (s : Sign.State)
    (hv : s.version.major = 1 ∨ s.version.major = 2) (hhl : s.headerHash.length = 64)
    (H : List Event)
    (hlen : ∀ e ∈ H, e.headerHash.length = 64)
    (hplan : ∀ e ∈ H, e.headerHash = s.headerHash → PlanOK e.plan ∧ e.plan.length < 2 ^ 64)
    (hv1 : s.version.major = 1 → ∀ e ∈ H, e.headerHash = s.headerHash → ∀ p ∈ e.plan, (p.1 = [] ↔ p.2 = true))
    (items : List (Option SigBlock)) (hitems : items.length < 2 ^ 64)
    (i : Nat) (b : SigBlock) (c : Bytes)
    (hr : Reaches (Ver.accept P s) (Sign.blockFinal s.version) items i b)
    (h : Ver.accept P s b (i + 1) = some c) :
    BreakIn P s H items ∨ ∃ e ∈ H, e.headerHash = s.headerHash ∧
      e.plan[i]? = some (c, Sign.blockFinal s.version b) := by
  obtain ⟨hc, inp, hinp, hver⟩ := Ver.accept_binds P s b (i + 1) c h
  subst hc
  simp only [Nat.add_sub_cancel] at hinp
  rw [attachedInput_recv P s hv b i] at hinp
  cases hinp
  have hn : i < 2 ^ 64 := by have := hr.lt; omega
  by_cases hs : HonestlySigned P s.version H (recvSigInput P s b i)
  · obtain ⟨e, he, k, c', f', hk, hinpeq⟩ := hs
    have ehl := hlen e he
    have hh : P.hash (recvHashed s b i) = P.hash (honestHashed s.version e k c' f') :=
      List.append_cancel_left hinpeq
    by_cases heq : recvHashed s b i = honestHashed s.version e k c' f'
    · have hklt : e.headerHash = s.headerHash → k < 2 ^ 64 := by
        intro e1
        have := (List.getElem?_eq_some_iff.1 hk).1
        have := (hplan e he e1).2
        omega
      rw [recvHashed_eq, honestHashed_eq] at heq
      obtain ⟨e1, e2, e3, e4⟩ := append4_inj (hhl.trans ehl.symm)
        ((be64_length _).trans (be64_length _).symm) (optFinal_length _ _ _) heq
      have e2' := be64_inj _ _ hn (hklt e1.symm) e2
      -- the final flag: V2 hashes it; a V1 verifier reads it off the chunk
      have hfin : Sign.blockFinal s.version b = f' := by
        rcases hv with hv | hv
        · have hiff : c' = [] ↔ f' = true := hv1 hv e he e1.symm (c', f') (List.mem_of_getElem? hk)
          simp only [Sign.blockFinal, hv, if_true]
          rw [e4]
          exact isEmpty_eq_of_iff hiff
        · exact optFinal_inj (by omega) e3
      exact Or.inr ⟨e, he, e1.symm, by rw [e2', hk, e4, hfin]⟩
    · exact Or.inl (Or.inr ⟨i, b, hr, h, e, he, k, c', f', hk, heq, hh⟩)
  · exact Or.inl (Or.inl ⟨i, b, hr, h, hver, hs⟩)

/-- **C06, reduction.** `H`: all attached messages the owner of `s.publicKey`
    ever signed.  `hplan`, `hv1` are asked only of the messages with THIS header
    hash.  ASSUMPTION `hone`: at most one of them has this header hash
    (freshness of the 16-byte random header nonce + collision resistance of the
    header hash).  Packet numbers must fit the 8-byte counter for `be64` to tell
    them apart: the decrypting and the signcryption receiver refuse larger ones
    themselves (`blockNumberOK`, whence `2 ^ 64 - 1` in C02), the verifier does
    not — hence `hitems`. -/
theorem authentic_or_break (hP : P.Lawful) (s : Sign.State)
    (hv : s.version.major = 1 ∨ s.version.major = 2) (hhl : s.headerHash.length = 64)
    (H : List Event)
    (hlen : ∀ e ∈ H, e.headerHash.length = 64)
    (hplan : ∀ e ∈ H, e.headerHash = s.headerHash → PlanOK e.plan ∧ e.plan.length < 2 ^ 64)
    (hv1 : s.version.major = 1 → ∀ e ∈ H, e.headerHash = s.headerHash → ∀ p ∈ e.plan, (p.1 = [] ↔ p.2 = true))
    (hone : ∀ e ∈ H, ∀ e' ∈ H, e.headerHash = s.headerHash → e'.headerHash = s.headerHash → e = e')
    (items : List (Option SigBlock)) (hitems : items.length < 2 ^ 64) (tail : Tail) :
    let r := Sign.run P s items tail 1
    r.bytes = [] ∧ r.err ≠ none ∨
    (∃ e ∈ H, e.headerHash = s.headerHash ∧ ∃ m, m ≤ e.plan.length ∧ r.bytes = planPrefix e.plan m ∧
        (r.err = none → m = e.plan.length)) ∨
    BreakIn P s H items := by
  have _ := hP
  intro r
  refine assemble (acc := Ver.accept P s) (fin := Sign.blockFinal s.version) items
    H (fun e => e.headerHash = s.headerHash) (·.plan) (BreakIn P s H items)
    (fun e he hM => (hplan e he hM).1) hone ?_ r.bytes r.err ?_ ?_
  · intro i b c hr ha
    exact block_match P s hv hhl H hlen hplan hv1 items hitems i b c hr ha
  · exact Ver.run_prefix P s items tail 1
  · intro herr
    obtain ⟨bs, hi, _, hc⟩ := (Ver.run_ok_iff P s items tail 1).1 herr
    exact ⟨bs, by rw [hi]; exact List.prefix_refl _, hc⟩

end AuthSig

/-! ## signcryption (C04) -/
namespace AuthSc

/-- an honest signcrypted message: its header hash and the chunk plan of its
    plaintext -/
structure Event where
  headerHash : Bytes
  plan : List (Bytes × Bool)

variable (P : Prims)

/-- every input the honest owner of the signing key signed in signcryption mode -/
def HonestlySigned (H : List Event) (inp : Bytes) : Prop :=
  ∃ e ∈ H, ∃ k c f, e.plan[k]? = some (c, f) ∧
    inp = signcryptionSignatureInput P e.headerHash (Nonce.chunkSigncryption e.headerHash f k) f c

/-- the signature input the receiver checks for packet `b` taken as its `i`-th
    payload packet (0-based), `c` being the chunk it opened -/
def recvSigInput (s : Signcrypt.State) (b : SigncryptBlock) (i : Nat) (c : Bytes) : Bytes :=
  signcryptionSignatureInput P s.headerHash (Nonce.chunkSigncryption s.headerHash b.final i) b.final c

/-- **Signature forgery exhibited by the run over `items`** (named sender
    `spk`).  The run reaches its `i`-th packet `b` and ACCEPTS it as packet
    number `i + 1`, releasing `c`: the packet's ciphertext opens, under the
    receiver's payload key and the nonce of (header hash, final flag, `i`), to
    `sig ‖ c`, and `sig` verifies under `spk` on `recvSigInput P s b i c` — an
    input the owner of `spk` never signed. -/
def SigForgeryIn (s : Signcrypt.State) (spk : Bytes) (H : List Event)
    (items : List (Option SigncryptBlock)) : Prop :=
  ∃ (i : Nat) (b : SigncryptBlock) (c sig : Bytes),
    s.sender = some spk ∧
    Reaches (Sc.accept P s) (·.final) items i b ∧
    Sc.accept P s b (i + 1) = some c ∧
    sig.length = 64 ∧
    P.sbOpen s.payloadKey (Nonce.chunkSigncryption s.headerHash b.final i) b.ct = some (sig ++ c) ∧
    P.verify spk (recvSigInput P s b i c) sig = true ∧
    ¬ HonestlySigned P H (recvSigInput P s b i c)

/-- **Hash collision exhibited by the run over `items`**: the chunk `c` the
    receiver released for a reached and accepted packet (position `i`, final flag
    `b.final`) and the chunk `c'` the honest sender signed at that very position
    with that very flag in the message with this header hash are different
    chunks with the same hash. -/
def CollisionIn (s : Signcrypt.State) (H : List Event) (items : List (Option SigncryptBlock)) : Prop :=
  ∃ (i : Nat) (b : SigncryptBlock) (c : Bytes),
    Reaches (Sc.accept P s) (·.final) items i b ∧
    Sc.accept P s b (i + 1) = some c ∧
    ∃ e ∈ H, e.headerHash = s.headerHash ∧ ∃ c', e.plan[i]? = some (c', b.final) ∧
      c ≠ c' ∧ P.hash c = P.hash c'

/-- the third disjunct of the reduction: anchored to `s`, the named sender `spk`
    and `items` -/
def BreakIn (s : Signcrypt.State) (spk : Bytes) (H : List Event)
    (items : List (Option SigncryptBlock)) : Prop :=
  SigForgeryIn P s spk H items ∨ CollisionIn P s H items

theorem block_match (s : Signcrypt.State) (spk : Bytes) (hs : s.sender = some spk)
    (hhl : s.headerHash.length = 64)
    (H : List Event)
    (hlen : ∀ e ∈ H, e.headerHash.length = 64)
    (hplan : ∀ e ∈ H, e.headerHash = s.headerHash → PlanOK e.plan ∧ e.plan.length < 2 ^ 64)
    (items : List (Option SigncryptBlock)) (i : Nat) (b : SigncryptBlock) (c : Bytes)
    (hr : Reaches (Sc.accept P s) (·.final) items i b)
    (h : Sc.accept P s b (i + 1) = some c) :
    BreakIn P s spk H items ∨ ∃ e ∈ H, e.headerHash = s.headerHash ∧ e.plan[i]? = some (c, b.final) := by
  obtain ⟨sig, hsl, hopen, hver, hbn⟩ := Sc.accept_binds P s spk hs b (i + 1) c h
  simp only [Nat.add_sub_cancel] at hopen hver hbn
  have hnlt : i < 2 ^ 64 := by
    unfold blockNumberOK at hbn
    simp only [decide_eq_true_eq] at hbn
    omega
  by_cases hsg : HonestlySigned P H (recvSigInput P s b i c)
  · obtain ⟨e, he, k, c', f', hk, hinpeq⟩ := hsg
    have ehl := hlen e he
    obtain ⟨e1, e2, e3, e4⟩ := signcryptInput_inj P _ _ _ _ _ _ _ _ hhl ehl
      (chunkSigncryption_length _ hhl _ _) (chunkSigncryption_length _ ehl _ _) hinpeq
    have hklt : k < 2 ^ 64 := by
      have := (List.getElem?_eq_some_iff.1 hk).1
      have := (hplan e he e1.symm).2
      omega
    rw [← e1] at e2
    obtain ⟨_, e5⟩ := chunkSigncryption_inj _ _ _ _ _ hnlt hklt e2
    by_cases heq : c = c'
    · exact Or.inr ⟨e, he, e1.symm, by rw [e5, hk, heq, e3]⟩
    · exact Or.inl (Or.inr ⟨i, b, c, hr, h, e, he, e1.symm, c', by rw [e5, hk, e3], heq, e4⟩)
  · exact Or.inl (Or.inl ⟨i, b, c, sig, hs, hr, h, hsl, hopen, hver, hsg⟩)

/-- **C04, reduction, named sender** — holds even against an adversary who
    knows the payload key (nothing is assumed about `s.payloadKey`).  `H`: all
    messages the owner of `spk` ever signcrypted.  `hplan` is asked only of the
    messages with THIS header hash.  ASSUMPTION `hone`: at most one of them has
    this header hash (freshness of the sender's ephemeral key / payload key,
    which the header covers, + collision resistance of the header hash). -/
theorem authentic_or_break (hP : P.Lawful) (s : Signcrypt.State) (spk : Bytes) (hs : s.sender = some spk)
    (hhl : s.headerHash.length = 64)
    (H : List Event)
    (hlen : ∀ e ∈ H, e.headerHash.length = 64)
    (hplan : ∀ e ∈ H, e.headerHash = s.headerHash → PlanOK e.plan ∧ e.plan.length < 2 ^ 64)
    (hone : ∀ e ∈ H, ∀ e' ∈ H, e.headerHash = s.headerHash → e'.headerHash = s.headerHash → e = e')
    (items : List (Option SigncryptBlock)) (tail : Tail) :
    let r := Signcrypt.run P s items tail 1
    r.bytes = [] ∧ r.err ≠ none ∨
    (∃ e ∈ H, e.headerHash = s.headerHash ∧ ∃ m, m ≤ e.plan.length ∧ r.bytes = planPrefix e.plan m ∧
        (r.err = none → m = e.plan.length)) ∨
    BreakIn P s spk H items := by
  have _ := hP
  intro r
  refine assemble (acc := Sc.accept P s) (fin := (·.final)) items
    H (fun e => e.headerHash = s.headerHash) (·.plan) (BreakIn P s spk H items)
    (fun e he hM => (hplan e he hM).1) hone ?_ r.bytes r.err ?_ ?_
  · intro i b c hr ha
    exact block_match P s spk hs hhl H hlen hplan items i b c hr ha
  · exact Sc.run_prefix P s items tail 1
  · intro herr
    obtain ⟨bs, hi, _, hc⟩ := (Sc.run_ok_iff P s items tail 1).1 herr
    exact ⟨bs, by rw [hi]; exact List.prefix_refl _, hc⟩

end AuthSc

/-! ## the third disjunct is not always true (machine-checked)

  For each mode: a concrete HONEST two-packet run for which `¬ BreakIn` is
  proved, TAMPERED runs (packets swapped; a byte changed) that fall under the
  first disjunct (nothing released, the run fails), and a TRUNCATED run that
  falls under the second one with `m = 1 < 2` and an error. -/
namespace Demo

/-! A small `Prims` for the demonstrations.  `Toy.prims` will not do: its hash
   keeps only the first 64 bytes of its input (all packets of one message
   collide), its HMAC ignores the message, its secretbox tag ignores the chunk
   counter and its signatures ignore all but the first 32 bytes of the input —
   with `Toy.prims` a reordered message IS accepted and `BreakIn` HOLDS for it,
   as the reduction says it must.  Here every primitive is a position-wise sum
   of the fixed-width blocks of ALL of its input: still no security whatsoever,
   but lawful, kernel-evaluable, and good enough that on the tiny instances
   below the honest strings are told apart. -/

/-- position-wise sum of the `w`-byte blocks of `m` (zero-padded) -/
def mix (w : Nat) : Nat → Bytes → Bytes
  | 0, _ => zeros w
  | fuel + 1, m => (Toy.pad w m).zipWith (· + ·) (mix w fuel (m.drop w))

def sum (w : Nat) (m : Bytes) : Bytes := mix w (m.length / w + 1) m

theorem mix_length (w fuel : Nat) (m : Bytes) : (mix w fuel m).length = w := by
  induction fuel generalizing m with
  | zero => simp [mix, zeros]
  | succ f ih => simp [mix, ih, Toy.pad_length]

theorem sum_length (w : Nat) (m : Bytes) : (sum w m).length = w := mix_length _ _ _

def tag (k n : Bytes) : Bytes := sum 16 (k ++ n)

theorem tag_length (k n : Bytes) : (tag k n).length = 16 := sum_length _ _

def prims : Prims where
  hash m := sum 64 m
  hmac k m := sum 32 (k ++ m) ++ sum 32 (k ++ m)
  sbSeal k n m := tag k n ++ m
  sbOpen k n c := if c.length ≥ 16 ∧ c.take 16 = tag k n then some (c.drop 16) else none
  boxPub := Toy.prims.boxPub
  precompute := Toy.prims.precompute
  sigPub s := Toy.pad 32 s
  sign s m := sum 64 (Toy.pad 32 s ++ m)
  verify p m sg := sg == sum 64 (p ++ m)

theorem lawful : prims.Lawful where
  sb_open_seal k n m := by
    simp only [prims]
    have h := tag_length k n
    rw [if_pos]
    · simp [h]
    · constructor
      · simp; omega
      · rw [List.take_append_of_le_length (by omega), List.take_of_length_le (by omega)]
  sb_len k n m := by simp [prims, tag_length]; omega
  sb_open_len k n c m h := by
    simp only [prims] at h
    split at h
    · rename_i hc
      injection h with h
      subst h
      simp; omega
    · cases h
  dh_comm := Toy.lawful.dh_comm
  verify_sign s m := by simp [prims]
  hash_len _ := sum_length _ _
  hmac_len _ _ := by simp [prims, sum_length]
  pub_len := Toy.lawful.pub_len
  sigPub_len s := Toy.pad_length _ _
  sig_len _ _ := sum_length _ _
  shared_len := Toy.lawful.shared_len

def hh : Bytes := List.replicate 64 7
def pk : Bytes := List.replicate 32 1
def mk : Bytes := List.replicate 32 2
def seed : Bytes := List.replicate 32 3
def plan : List (Bytes × Bool) := [([65], false), ([66], true)]

theorem getElem?_pair {α : Type} {x y z : α} {i : Nat} (h : [x, y][i]? = some z) :
    i = 0 ∧ x = z ∨ i = 1 ∧ y = z := by
  match i, h with
  | 0, h => exact Or.inl ⟨rfl, Option.some.inj h⟩
  | 1, h => exact Or.inr ⟨rfl, Option.some.inj h⟩

namespace Enc
open AuthEnc

def s : Decrypt.State :=
  { version := v2, payloadKey := pk, headerHash := hh, macKey := mk, position := 0, mki := default }

def e0 : Event := ⟨hh, pk, mk, [([65], false), ([66], true)]⟩

/-- the packet the honest sender makes for chunk `k` -/
def pkt (k : Nat) (c : Bytes) (f : Bool) : EncBlock :=
  ⟨[payloadAuthenticator prims mk (prims.hash (honestInput prims v2 e0 k c f))],
   prims.sbSeal pk (Nonce.chunkSecretBox k) c, f⟩

def b0 : EncBlock := pkt 0 [65] false
def b1 : EncBlock := pkt 1 [66] true

def items : List (Option EncBlock) := [some b0, some b1]

theorem step_b0 : Dec.step prims s b0 1 = .ok [65] := by decide +kernel

theorem step_b1 : Dec.step prims s b1 2 = .ok [66] := by decide +kernel

theorem honest_run : Decrypt.run prims s items .eof 1 = ⟨[65, 66], none⟩ := by
  rw [Dec.run_eq]
  show grun _ _ (some b0 :: [some b1]) .eof 1 = _
  rw [grun_more _ _ b0 _ .eof 1 [65] step_b0 rfl, grun_final _ _ b1 [] .eof 2 [66] step_b1 rfl]
  rfl

/-- **Non-triviality (C02).** For this honest run the anchored `BreakIn` is
    FALSE: the third disjunct of the reduction is not always true.  What the
    receiver hashes for packet `i` IS what the sender hashed for chunk `i`
    (`r0`, `r1`), and the two chunks' hashes differ (`x01`). -/
theorem honest_not_break : ¬ BreakIn prims s [e0] items := by
  have r0 : recvInput s b0 0 = honestInput prims v2 e0 0 [65] false := rfl
  have r1 : recvInput s b1 1 = honestInput prims v2 e0 1 [66] true := rfl
  have x01 : prims.hash (honestInput prims v2 e0 0 [65] false) ≠
      prims.hash (honestInput prims v2 e0 1 [66] true) := by decide +kernel
  rintro (⟨i, b, c, ⟨hi, -⟩, -, -, hnot⟩ | ⟨i, b, c, ⟨hi, -⟩, -, e, he, -, k, c', f', hk, hne, heq⟩)
  · -- a forgery would need a packet of the run whose payload hash is not honest
    refine hnot ⟨e0, List.mem_singleton.2 rfl, rfl, i, ?_⟩
    rcases getElem?_pair hi with ⟨rfl, hb⟩ | ⟨rfl, hb⟩
    · cases hb
      exact ⟨[65], false, rfl, congrArg _ r0⟩
    · cases hb
      exact ⟨[66], true, rfl, congrArg _ r1⟩
  · -- a collision would need two different hashed strings with equal hashes
    cases List.mem_singleton.1 he
    rcases getElem?_pair hi with ⟨rfl, hb⟩ | ⟨rfl, hb⟩
    · cases hb
      rcases getElem?_pair hk with ⟨rfl, hp⟩ | ⟨rfl, hp⟩
      · cases hp
        exact hne r0
      · cases hp
        exact x01 (r0 ▸ heq)
    · cases hb
      rcases getElem?_pair hk with ⟨rfl, hp⟩ | ⟨rfl, hp⟩
      · cases hp
        exact x01 (r1 ▸ heq).symm
      · cases hp
        exact hne r1

theorem swapped_run : Decrypt.run prims s [some b1, some b0] .eof 1 = ⟨[], some .badTag⟩ := by
  decide +kernel

theorem flipped_run :
    Decrypt.run prims s [some { b0 with ct := b0.ct.set 16 66 }, some b1] .eof 1 = ⟨[], some .badTag⟩ := by
  decide +kernel

theorem truncated_run : Decrypt.run prims s [some b0] .eof 1 = ⟨[65], some .unexpectedEOF⟩ := by
  rw [Dec.run_eq, grun_more _ _ b0 [] .eof 1 [65] step_b0 rfl]
  rfl

end Enc

namespace Sig
open AuthSig

def s : Sign.State := ⟨v2, hh, prims.sigPub seed⟩

def e0 : Event := ⟨hh, plan⟩

/-- the packet the honest signer makes for chunk `k` -/
def pkt (k : Nat) (c : Bytes) (f : Bool) : SigBlock :=
  ⟨prims.sign seed (Gen.c_sp_signatureAttachedString ++ prims.hash (honestHashed v2 e0 k c f)), c, f⟩

def b0 : SigBlock := pkt 0 [65] false
def b1 : SigBlock := pkt 1 [66] true
def items : List (Option SigBlock) := [some b0, some b1]

theorem step_b0 : Ver.step prims s b0 1 = .ok [65] := by decide +kernel

theorem step_b1 : Ver.step prims s b1 2 = .ok [66] := by decide +kernel

theorem honest_run : Sign.run prims s items .eof 1 = ⟨[65, 66], none⟩ := by
  rw [Ver.run_eq]
  show grun _ _ (some b0 :: [some b1]) .eof 1 = _
  rw [grun_more _ _ b0 _ .eof 1 [65] step_b0 rfl, grun_final _ _ b1 [] .eof 2 [66] step_b1 rfl]
  rfl

theorem honest_not_break : ¬ BreakIn prims s [e0] items := by
  have r0 : recvHashed s b0 0 = honestHashed v2 e0 0 [65] false := rfl
  have r1 : recvHashed s b1 1 = honestHashed v2 e0 1 [66] true := rfl
  have x01 : prims.hash (honestHashed v2 e0 0 [65] false) ≠
      prims.hash (honestHashed v2 e0 1 [66] true) := by decide +kernel
  rintro (⟨i, b, ⟨hi, -⟩, -, -, hnot⟩ | ⟨i, b, ⟨hi, -⟩, -, e, he, k, c', f', hk, hne, heq⟩)
  · refine hnot ⟨e0, List.mem_singleton.2 rfl, i, ?_⟩
    rcases getElem?_pair hi with ⟨rfl, hb⟩ | ⟨rfl, hb⟩
    · obtain rfl := Option.some.inj hb
      exact ⟨[65], false, rfl, congrArg (_ ++ prims.hash ·) r0⟩
    · obtain rfl := Option.some.inj hb
      exact ⟨[66], true, rfl, congrArg (_ ++ prims.hash ·) r1⟩
  · cases List.mem_singleton.1 he
    rcases getElem?_pair hi with ⟨rfl, hb⟩ | ⟨rfl, hb⟩
    · obtain rfl := Option.some.inj hb
      rcases getElem?_pair hk with ⟨rfl, hp⟩ | ⟨rfl, hp⟩
      · cases hp
        exact hne r0
      · cases hp
        exact x01 (r0 ▸ heq)
    · obtain rfl := Option.some.inj hb
      rcases getElem?_pair hk with ⟨rfl, hp⟩ | ⟨rfl, hp⟩
      · cases hp
        exact x01 (r1 ▸ heq).symm
      · cases hp
        exact hne r1

theorem swapped_run : Sign.run prims s [some b1, some b0] .eof 1 = ⟨[], some .badSignature⟩ := by
  decide +kernel

theorem altered_run :
    Sign.run prims s [some { b0 with chunk := [67] }, some b1] .eof 1 = ⟨[], some .badSignature⟩ := by
  decide +kernel

theorem truncated_run : Sign.run prims s [some b0] .eof 1 = ⟨[65], some .unexpectedEOF⟩ := by
  rw [Ver.run_eq, grun_more _ _ b0 [] .eof 1 [65] step_b0 rfl]
  rfl

end Sig

namespace Sc
open AuthSc

def spk : Bytes := prims.sigPub seed

def s : Signcrypt.State := ⟨pk, hh, some spk⟩

def e0 : Event := ⟨hh, plan⟩

/-- the packet the honest sender makes for chunk `k` -/
def pkt (k : Nat) (c : Bytes) (f : Bool) : SigncryptBlock :=
  ⟨prims.sbSeal pk (Nonce.chunkSigncryption hh f k)
     (prims.sign seed (signcryptionSignatureInput prims hh (Nonce.chunkSigncryption hh f k) f c) ++ c), f⟩

def b0 : SigncryptBlock := pkt 0 [65] false
def b1 : SigncryptBlock := pkt 1 [66] true
def items : List (Option SigncryptBlock) := [some b0, some b1]

theorem accepts_b0 : Sc.accept prims s b0 1 = some [65] := by decide +kernel

theorem accepts_b1 : Sc.accept prims s b1 2 = some [66] := by decide +kernel

theorem step_b0 : Sc.step prims s b0 1 = .ok [65] := by
  have h := accepts_b0
  rw [Sc.accept_eq] at h
  exact gacc_some h

theorem step_b1 : Sc.step prims s b1 2 = .ok [66] := by
  have h := accepts_b1
  rw [Sc.accept_eq] at h
  exact gacc_some h

theorem honest_run : Signcrypt.run prims s items .eof 1 = ⟨[65, 66], none⟩ := by
  rw [Sc.run_eq]
  show grun _ _ (some b0 :: [some b1]) .eof 1 = _
  rw [grun_more _ _ b0 _ .eof 1 [65] step_b0 rfl, grun_final _ _ b1 [] .eof 2 [66] step_b1 rfl]
  rfl

/-- **Non-triviality (C04).**  The receiver releases the honest chunk for each
    packet, so what it checks the signature on is what was signed, and a
    collision would need a released chunk that differs from the plan's. -/
theorem honest_not_break : ¬ BreakIn prims s spk [e0] items := by
  have a0 := accepts_b0
  have a1 := accepts_b1
  rintro (⟨i, b, c, sig, -, ⟨hi, -⟩, hacc, -, -, -, hnot⟩ | ⟨i, b, c, ⟨hi, -⟩, hacc, e, he, -, c', hk, hne, -⟩)
  · refine hnot ⟨e0, List.mem_singleton.2 rfl, i, ?_⟩
    rcases getElem?_pair hi with ⟨rfl, hb⟩ | ⟨rfl, hb⟩
    · obtain rfl := Option.some.inj hb
      cases a0.symm.trans hacc
      exact ⟨[65], false, rfl, rfl⟩
    · obtain rfl := Option.some.inj hb
      cases a1.symm.trans hacc
      exact ⟨[66], true, rfl, rfl⟩
  · cases List.mem_singleton.1 he
    rcases getElem?_pair hi with ⟨rfl, hb⟩ | ⟨rfl, hb⟩
    · obtain rfl := Option.some.inj hb
      cases a0.symm.trans hacc
      exact hne (congrArg Prod.fst (Option.some.inj hk))
    · obtain rfl := Option.some.inj hb
      cases a1.symm.trans hacc
      exact hne (congrArg Prod.fst (Option.some.inj hk))

theorem swapped_run : (Signcrypt.run prims s [some b1, some b0] .eof 1).bytes = [] ∧
    (Signcrypt.run prims s [some b1, some b0] .eof 1).err ≠ none := by decide +kernel

theorem altered_run :
    Signcrypt.run prims s [some { b0 with ct := b0.ct.set 80 67 }, some b1] .eof 1 = ⟨[], some .badSignature⟩ := by
  decide +kernel

theorem truncated_run : Signcrypt.run prims s [some b0] .eof 1 = ⟨[65], some .unexpectedEOF⟩ := by
  rw [Sc.run_eq, grun_more _ _ b0 [] .eof 1 [65] step_b0 rfl]
  rfl

end Sc

/-! ### … and not always false: a run for which the break is the only true disjunct

  With `Toy.prims` (whose HMAC ignores the message and whose secretbox tag
  ignores the chunk counter) the swapped message is accepted.  The reduction,
  applied to that run, yields `BreakIn` — the first two disjuncts are refuted
  by evaluation. -/
namespace ToyEnc
open AuthEnc

def s : Decrypt.State :=
  { version := v2, payloadKey := pk, headerHash := hh, macKey := mk, position := 0, mki := default }

def e0 : Event := ⟨hh, pk, mk, plan⟩

def pkt (k : Nat) (c : Bytes) (f : Bool) : EncBlock :=
  ⟨[payloadAuthenticator Toy.prims mk (Toy.prims.hash (honestInput Toy.prims v2 e0 k c f))],
   Toy.prims.sbSeal pk (Nonce.chunkSecretBox k) c, f⟩

def b0 : EncBlock := pkt 0 [65] false
def b1 : EncBlock := pkt 1 [66] true

theorem swapped_run : Decrypt.run Toy.prims s [some b1, some b0] .eof 1 = ⟨[66], some .trailingGarbage⟩ := by
  decide +kernel

theorem swapped_break : BreakIn Toy.prims s [e0] [some b1, some b0] := by
  have h := authentic_or_break Toy.prims Toy.lawful s (Or.inr rfl) (by decide) [e0]
    (by intro e he; rw [List.mem_singleton.1 he]; decide)
    (by intro e he _; rw [List.mem_singleton.1 he]; exact ⟨⟨[([65], false)], [66], rfl, by simp⟩, by decide⟩)
    (by intro h1; exact absurd h1 (by decide))
    (by intro e he _; rw [List.mem_singleton.1 he]; rfl)
    (by intro e he e' he' _ _; rw [List.mem_singleton.1 he, List.mem_singleton.1 he'])
    [some b1, some b0] .eof
  simp only [swapped_run] at h
  rcases h with ⟨h, -⟩ | ⟨e, he, -, m, hm, hb, -⟩ | h
  · cases h
  · rw [List.mem_singleton.1 he] at hm hb
    have : m = 0 ∨ m = 1 ∨ m = 2 := by
      have : e0.plan.length = 2 := rfl
      omega
    rcases this with rfl | rfl | rfl <;> exact absurd hb (by decide)
  · exact h

end ToyEnc

end Demo

end Saltpack.Proofs
