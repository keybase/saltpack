/-
  MessagePack minimality (property C08, "minimal MessagePack encodings; byte
  strings are bin; the only nil ever written is the key id of a hidden
  recipient").

  Part 1: `encode v` is a SHORTEST encoding of `v` among all byte strings the
  lenient parser `parse` (which accepts every MessagePack form, also the
  non-minimal ones) reads as `v`, and the shortest accepted encoding is unique.
  Part 2: no nil in the packet trees the sender models build, except the key id
  of a hidden recipient.
-/
import Saltpack.Proofs.MsgpackRT
import Saltpack.Proofs.EncLemmas
import Saltpack.Proofs.RoundTripEnc
import Saltpack.Proofs.RoundTripSig

namespace Saltpack.Proofs
open Saltpack Saltpack.Msgpack

/-! ## Part 1: `encode v` is the shortest accepted encoding of `v`

  ### the shortest accepted encoding is unique — for trees whose integers are below 256

  Without a restriction on the integers uniqueness is FALSE: a non-negative
  integer from 256 up has a signed form (`d1`/`d2`/`d3`) exactly as long as the
  unsigned form (`cd`/`ce`/`cf`) the encoder picks — `[d1 01 00]` and
  `[cd 01 00]` both read as 256 (`C08_shortest_not_unique_for_wide_ints`).
  Every integer saltpack writes (version numbers, message type) is below 128. -/

mutual
/-- every integer in the tree is below 256 (negative ones are unrestricted) -/
def smallInts : Val → Bool
  | .int i => decide (i < 256)
  | .arr l => smallIntsList l
  | _ => true
def smallIntsList : List Val → Bool
  | [] => true
  | v :: vs => smallInts v && smallIntsList vs
end

namespace MsgpackMin
open MsgpackRT

theorem takeN_inv {n : Nat} {b s r : Bytes} (h : takeN n b = .ok (s, r)) :
    b = s ++ r ∧ s.length = n := by
  unfold takeN at h
  split at h
  · cases h
  · rename_i hlt
    simp only [Except.ok.injEq, Prod.mk.injEq] at h
    obtain ⟨rfl, rfl⟩ := h
    exact ⟨(List.take_append_drop n b).symm, by rw [List.length_take]; omega⟩

theorem readLen_inv {w : Nat} {b r : Bytes} {n : Nat} (h : readLen w b = .ok (n, r)) :
    ∃ hd, b = hd ++ r ∧ hd.length = w ∧ natOfBytes hd = n := by
  unfold readLen at h
  split at h
  · cases h
  · rename_i hd t ht
    simp only [Except.ok.injEq, Prod.mk.injEq] at h
    obtain ⟨rfl, rfl⟩ := h
    obtain ⟨h1, h2⟩ := takeN_inv ht
    exact ⟨hd, h1, h2, rfl⟩

theorem readLen_len {w : Nat} {b r : Bytes} {n : Nat} (h : readLen w b = .ok (n, r)) :
    b.length = w + r.length ∧ n < 256 ^ w := by
  obtain ⟨hd, rfl, h2, rfl⟩ := readLen_inv h
  refine ⟨by rw [List.length_append, h2], ?_⟩
  have := natOfBytes_lt hd
  rw [h2] at this
  exact this

theorem lenBin_inv {w : Nat} {mk : Bytes → Val} {rest r : Bytes} {v : Val}
    (h : lenBin w mk rest = .ok (v, r)) :
    ∃ n r0 s, readLen w rest = .ok (n, r0) ∧ takeN n r0 = .ok (s, r) ∧ v = mk s := by
  unfold lenBin at h
  split at h
  · cases h
  · rename_i n r0 hrl
    split at h
    · rename_i s r' ht
      simp only [Except.ok.injEq, Prod.mk.injEq] at h
      obtain ⟨rfl, rfl⟩ := h
      exact ⟨n, r0, s, hrl, ht, rfl⟩
    · cases h

theorem lenExt_notWF {w : Nat} {rest r : Bytes} {v : Val}
    (h : lenExt w rest = .ok (v, r)) : ¬ ValWF v := by
  unfold lenExt at h
  split at h
  · cases h
  · split at h
    · simp only [Except.ok.injEq, Prod.mk.injEq] at h
      obtain ⟨rfl, -⟩ := h
      intro hw; cases hw
    · cases h

/-! ### one step of the parser, inverted

  `Step fuel t rest v r`: the ways `parse (fuel+1) (t :: rest)` can answer
  `.ok (v, r)` with a well-formed `v` (maps, ext and floats are not `ValWF`). -/

inductive Step (fuel : Nat) (t : UInt8) (rest : Bytes) : Val → Bytes → Prop where
  | posfix : t.toNat < 0x80 → Step fuel t rest (.int t.toNat) rest
  | negfix : 0xe0 ≤ t.toNat → Step fuel t rest (.int ((t.toNat : Int) - 256)) rest
  | nil : t = 0xc0 → Step fuel t rest .nil rest
  | bool (b : Bool) : t = (if b then 0xc3 else 0xc2) → Step fuel t rest (.bool b) rest
  | fixstr (s r : Bytes) : 0xa0 ≤ t.toNat → t.toNat < 0xc0 →
      takeN (t.toNat - 0xa0) rest = .ok (s, r) → Step fuel t rest (.str s) r
  | fixarr (l : List Val) (r : Bytes) : 0x90 ≤ t.toNat → t.toNat < 0xa0 →
      parseArr fuel (t.toNat - 0x90) rest = .ok (l, r) → Step fuel t rest (.arr l) r
  | bin (w n : Nat) (r0 s r : Bytes) : (w = 1 ∨ w = 2 ∨ w = 4) → t = binDesc w →
      readLen w rest = .ok (n, r0) → takeN n r0 = .ok (s, r) → Step fuel t rest (.bin s) r
  | str (w n : Nat) (r0 s r : Bytes) : (w = 1 ∨ w = 2 ∨ w = 4) → t = strDesc w →
      readLen w rest = .ok (n, r0) → takeN n r0 = .ok (s, r) → Step fuel t rest (.str s) r
  | uint (w n : Nat) (r : Bytes) : (w = 1 ∨ w = 2 ∨ w = 4 ∨ w = 8) → t = uintDesc w →
      readLen w rest = .ok (n, r) → Step fuel t rest (.int n) r
  | sint (w n : Nat) (r : Bytes) : (w = 1 ∨ w = 2 ∨ w = 4 ∨ w = 8) → t = sintDesc w →
      readLen w rest = .ok (n, r) → Step fuel t rest (.int (signedOf (8 * w) n)) r
  | arr (w n : Nat) (r0 : Bytes) (l : List Val) (r : Bytes) : (w = 2 ∨ w = 4) → t = arrDesc w →
      readLen w rest = .ok (n, r0) → parseArr fuel n r0 = .ok (l, r) → Step fuel t rest (.arr l) r

section
variable {fuel : Nat} {t : UInt8} {rest r : Bytes} {v : Val}

theorem step_lenBin {w : Nat} {mk : Bytes → Val} (h : lenBin w mk rest = .ok (v, r))
    (k : ∀ n r0 s, readLen w rest = .ok (n, r0) → takeN n r0 = .ok (s, r) → Step fuel t rest (mk s) r) :
    Step fuel t rest v r := by
  obtain ⟨n, r0, s, hrl, ht, rfl⟩ := lenBin_inv h
  exact k n r0 s hrl ht

/-- the parser's chain tests the descriptor values in increasing order: a byte
    that is at least `k` and not `k` is at least `k + 1` -/
theorem next_lb {c k : Nat} (lb : k ≤ c) (ne : ¬ c = k) : k + 1 ≤ c :=
  Nat.lt_of_le_of_ne lb (Ne.symm ne)

/-- one walk down the parser's chain of tests; in each branch the descriptor byte is known
    and the branch's body is inverted -/
theorem parse_step (h : parse (fuel + 1) (t :: rest) = .ok (v, r)) (hw : ValWF v) :
    Step fuel t rest v r := by
  rw [parse] at h
  simp only [] at h
  -- `h` is carried into the branch taken by a term (`if_pos c`, `if_neg c`): `rw … at h` would
  -- traverse the whole remaining chain at every level
  by_cases c1 : t.toNat < 0x80
  · replace h := (if_pos c1).symm.trans h; cases h; exact .posfix c1
  replace h := (if_neg c1).symm.trans h
  by_cases c2 : t.toNat < 0x90
  · replace h := (if_pos c2).symm.trans h; split at h <;> cases h; cases hw
  replace h := (if_neg c2).symm.trans h
  by_cases c3 : t.toNat < 0xa0
  · replace h := (if_pos c3).symm.trans h
    split at h <;> cases h
    exact .fixarr _ _ (Nat.le_of_not_lt c2) c3 ‹_›
  replace h := (if_neg c3).symm.trans h
  by_cases c4 : t.toNat < 0xc0
  · replace h := (if_pos c4).symm.trans h
    split at h <;> cases h
    exact .fixstr _ _ (Nat.le_of_not_lt c3) c4 ‹_›
  replace h := (if_neg c4).symm.trans h
  have lb : 0xc0 ≤ t.toNat := Nat.le_of_not_lt c4
  by_cases c : t.toNat = 0xc0
  · replace h := (if_pos c).symm.trans h; cases h; exact .nil (UInt8.toNat_inj.1 c)
  replace h := (if_neg c).symm.trans h
  have lb := next_lb lb c
  by_cases c : t.toNat = 0xc1
  · replace h := (if_pos c).symm.trans h; cases h
  replace h := (if_neg c).symm.trans h
  have lb := next_lb lb c
  by_cases c : t.toNat = 0xc2
  · replace h := (if_pos c).symm.trans h; cases h; exact .bool false (UInt8.toNat_inj.1 c)
  replace h := (if_neg c).symm.trans h
  have lb := next_lb lb c
  by_cases c : t.toNat = 0xc3
  · replace h := (if_pos c).symm.trans h; cases h; exact .bool true (UInt8.toNat_inj.1 c)
  replace h := (if_neg c).symm.trans h
  have lb := next_lb lb c
  by_cases c : t.toNat = 0xc4
  · replace h := (if_pos c).symm.trans h; exact step_lenBin h fun n r0 s => .bin 1 n r0 s r (.inl rfl) (UInt8.toNat_inj.1 c)
  replace h := (if_neg c).symm.trans h
  have lb := next_lb lb c
  by_cases c : t.toNat = 0xc5
  · replace h := (if_pos c).symm.trans h; exact step_lenBin h fun n r0 s => .bin 2 n r0 s r (.inr (.inl rfl)) (UInt8.toNat_inj.1 c)
  replace h := (if_neg c).symm.trans h
  have lb := next_lb lb c
  by_cases c : t.toNat = 0xc6
  · replace h := (if_pos c).symm.trans h; exact step_lenBin h fun n r0 s => .bin 4 n r0 s r (.inr (.inr rfl)) (UInt8.toNat_inj.1 c)
  replace h := (if_neg c).symm.trans h
  have lb := next_lb lb c
  by_cases c : t.toNat = 0xc7
  · replace h := (if_pos c).symm.trans h; exact absurd hw (lenExt_notWF h)
  replace h := (if_neg c).symm.trans h
  have lb := next_lb lb c
  by_cases c : t.toNat = 0xc8
  · replace h := (if_pos c).symm.trans h; exact absurd hw (lenExt_notWF h)
  replace h := (if_neg c).symm.trans h
  have lb := next_lb lb c
  by_cases c : t.toNat = 0xc9
  · replace h := (if_pos c).symm.trans h; exact absurd hw (lenExt_notWF h)
  replace h := (if_neg c).symm.trans h
  have lb := next_lb lb c
  by_cases c : t.toNat = 0xca
  · replace h := (if_pos c).symm.trans h; split at h <;> cases h; cases hw
  replace h := (if_neg c).symm.trans h
  have lb := next_lb lb c
  by_cases c : t.toNat = 0xcb
  · replace h := (if_pos c).symm.trans h; split at h <;> cases h; cases hw
  replace h := (if_neg c).symm.trans h
  have lb := next_lb lb c
  by_cases c : t.toNat = 0xcc ∨ t.toNat = 0xcd ∨ t.toNat = 0xce ∨ t.toNat = 0xcf
  · replace h := (if_pos c).symm.trans h
    obtain ⟨w, hw4, ht, hwe⟩ : ∃ w, (w = 1 ∨ w = 2 ∨ w = 4 ∨ w = 8) ∧ t = uintDesc w ∧
        (if t.toNat = 0xcc then 1 else if t.toNat = 0xcd then 2 else if t.toNat = 0xce then 4 else 8) = w := by
      rcases c with c | c | c | c
      · exact ⟨1, by decide, UInt8.toNat_inj.1 c, by rw [c]; rfl⟩
      · exact ⟨2, by decide, UInt8.toNat_inj.1 c, by rw [c]; rfl⟩
      · exact ⟨4, by decide, UInt8.toNat_inj.1 c, by rw [c]; rfl⟩
      · exact ⟨8, by decide, UInt8.toNat_inj.1 c, by rw [c]; rfl⟩
    rw [hwe] at h
    split at h <;> cases h
    exact .uint w _ _ hw4 ht ‹_›
  replace h := (if_neg c).symm.trans h
  obtain ⟨n1, c⟩ := not_or.1 c
  obtain ⟨n2, c⟩ := not_or.1 c
  obtain ⟨n3, n4⟩ := not_or.1 c
  have lb := next_lb (next_lb (next_lb (next_lb lb n1) n2) n3) n4
  by_cases c : t.toNat = 0xd0 ∨ t.toNat = 0xd1 ∨ t.toNat = 0xd2 ∨ t.toNat = 0xd3
  · replace h := (if_pos c).symm.trans h
    obtain ⟨w, hw4, ht, hwe⟩ : ∃ w, (w = 1 ∨ w = 2 ∨ w = 4 ∨ w = 8) ∧ t = sintDesc w ∧
        (if t.toNat = 0xd0 then 1 else if t.toNat = 0xd1 then 2 else if t.toNat = 0xd2 then 4 else 8) = w := by
      rcases c with c | c | c | c
      · exact ⟨1, by decide, UInt8.toNat_inj.1 c, by rw [c]; rfl⟩
      · exact ⟨2, by decide, UInt8.toNat_inj.1 c, by rw [c]; rfl⟩
      · exact ⟨4, by decide, UInt8.toNat_inj.1 c, by rw [c]; rfl⟩
      · exact ⟨8, by decide, UInt8.toNat_inj.1 c, by rw [c]; rfl⟩
    rw [hwe] at h
    split at h <;> cases h
    exact .sint w _ _ hw4 ht ‹_›
  replace h := (if_neg c).symm.trans h
  obtain ⟨n1, c⟩ := not_or.1 c
  obtain ⟨n2, c⟩ := not_or.1 c
  obtain ⟨n3, n4⟩ := not_or.1 c
  have lb := next_lb (next_lb (next_lb (next_lb lb n1) n2) n3) n4
  by_cases c : t.toNat = 0xd4 ∨ t.toNat = 0xd5 ∨ t.toNat = 0xd6 ∨ t.toNat = 0xd7 ∨ t.toNat = 0xd8
  · replace h := (if_pos c).symm.trans h; split at h <;> cases h; cases hw
  replace h := (if_neg c).symm.trans h
  obtain ⟨n1, c⟩ := not_or.1 c
  obtain ⟨n2, c⟩ := not_or.1 c
  obtain ⟨n3, c⟩ := not_or.1 c
  obtain ⟨n4, n5⟩ := not_or.1 c
  have lb := next_lb (next_lb (next_lb (next_lb (next_lb lb n1) n2) n3) n4) n5
  by_cases c : t.toNat = 0xd9
  · replace h := (if_pos c).symm.trans h; exact step_lenBin h fun n r0 s => .str 1 n r0 s r (.inl rfl) (UInt8.toNat_inj.1 c)
  replace h := (if_neg c).symm.trans h
  have lb := next_lb lb c
  by_cases c : t.toNat = 0xda
  · replace h := (if_pos c).symm.trans h; exact step_lenBin h fun n r0 s => .str 2 n r0 s r (.inr (.inl rfl)) (UInt8.toNat_inj.1 c)
  replace h := (if_neg c).symm.trans h
  have lb := next_lb lb c
  by_cases c : t.toNat = 0xdb
  · replace h := (if_pos c).symm.trans h; exact step_lenBin h fun n r0 s => .str 4 n r0 s r (.inr (.inr rfl)) (UInt8.toNat_inj.1 c)
  replace h := (if_neg c).symm.trans h
  have lb := next_lb lb c
  by_cases c : t.toNat = 0xdc ∨ t.toNat = 0xdd
  · replace h := (if_pos c).symm.trans h
    obtain ⟨w, hw2, ht, hwe⟩ : ∃ w, (w = 2 ∨ w = 4) ∧ t = arrDesc w ∧
        (if t.toNat = 0xdc then 2 else 4) = w := by
      rcases c with c | c
      · exact ⟨2, by decide, UInt8.toNat_inj.1 c, by rw [c]; rfl⟩
      · exact ⟨4, by decide, UInt8.toNat_inj.1 c, by rw [c]; rfl⟩
    rw [hwe] at h
    split at h
    · cases h
    split at h <;> cases h
    exact .arr w _ _ _ _ hw2 ht ‹_› ‹_›
  replace h := (if_neg c).symm.trans h
  obtain ⟨n1, n2⟩ := not_or.1 c
  have lb := next_lb (next_lb lb n1) n2
  by_cases c : t.toNat = 0xde ∨ t.toNat = 0xdf
  · replace h := (if_pos c).symm.trans h
    split at h
    · cases h
    split at h <;> cases h
    cases hw
  replace h := (if_neg c).symm.trans h
  obtain ⟨n1, n2⟩ := not_or.1 c
  have lb := next_lb (next_lb lb n1) n2
  cases h
  exact .negfix lb

end

theorem hdr_len_le {enc : Bytes} {d : UInt8} {n w : Nat} (he : enc = d :: beN (width n) n)
    (hw : w = 1 ∨ w = 2 ∨ w = 4 ∨ w = 8) (h : n < 256 ^ w) : enc.length ≤ 1 + w := by
  have := width_le hw h
  rw [he, List.length_cons, beN_length]
  omega

theorem lt_of_lt_pow {w n : Nat} (hw : w = 1 ∨ w = 2 ∨ w = 4) (h : n < 256 ^ w) : n < 2 ^ 32 :=
  Nat.lt_of_lt_of_le h (by rcases hw with rfl | rfl | rfl <;> decide)

theorem encUInt_le (w n : Nat) (hw : w = 1 ∨ w = 2 ∨ w = 4 ∨ w = 8) (h : n < 256 ^ w) :
    (encUInt n).length ≤ 1 + w := by
  by_cases h128 : n < 128
  · rw [encUInt_fix h128]; exact Nat.le_add_right 1 w
  · exact hdr_len_le (encUInt_eq h128) hw h

theorem encBinHdr_le (w n : Nat) (hw : w = 1 ∨ w = 2 ∨ w = 4) (h : n < 256 ^ w) :
    (encBinHdr n).length ≤ 1 + w :=
  hdr_len_le (encBinHdr_eq (lt_of_lt_pow hw h)) (by omega) h

theorem encStrHdr_le (w n : Nat) (hw : w = 1 ∨ w = 2 ∨ w = 4) (h : n < 256 ^ w) :
    (encStrHdr n).length ≤ 1 + w := by
  by_cases h32 : n < 32
  · rw [encStrHdr_fix h32]; exact Nat.le_add_right 1 w
  · exact hdr_len_le (encStrHdr_eq h32 (lt_of_lt_pow hw h)) (by omega) h

theorem encArrayHdr_le (w n : Nat) (hw : w = 2 ∨ w = 4) (h : n < 256 ^ w) :
    (encArrayHdr n).length ≤ 1 + w := by
  by_cases h16 : n < 16
  · rw [encArrayHdr_fix h16]; exact Nat.le_add_right 1 w
  · have := width_le (by omega) h
    rw [encArrayHdr_eq h16 (lt_of_lt_pow (by omega) h), List.length_cons, beN_length]
    omega

theorem signedOf_cases {w n : Nat} (hw : w = 1 ∨ w = 2 ∨ w = 4 ∨ w = 8) (h : n < 256 ^ w) :
    (signedOf (8 * w) n = (n : Int) ∧ 2 * n < 256 ^ w) ∨
    ∃ m, 1 ≤ m ∧ 2 * m ≤ 256 ^ w ∧ n = 256 ^ w - m ∧ signedOf (8 * w) n = -(m : Int) := by
  by_cases h2 : 2 * n < 256 ^ w
  · exact .inl ⟨signedOf_nonneg (by omega) h2, h2⟩
  · refine .inr ⟨256 ^ w - n, by omega, by omega, by omega, ?_⟩
    rw [← signedOf_neg (w := w) (m := 256 ^ w - n) (by omega) (by omega)]
    congr 1
    omega

theorem encInt_signedOf_le (w n : Nat) (hw : w = 1 ∨ w = 2 ∨ w = 4 ∨ w = 8) (h : n < 256 ^ w) :
    (encInt (signedOf (8 * w) n)).length ≤ 1 + w := by
  rcases signedOf_cases hw h with ⟨e, _⟩ | ⟨m, h1, h2, _, e⟩
  · rw [e, encInt_natCast]; exact encUInt_le w n hw h
  · rw [e]
    by_cases h32 : m ≤ 32
    · rw [encInt_negfix h1 h32]; exact Nat.le_add_right 1 w
    · have := width_le hw (n := 2 * m - 1) (by omega)
      rw [encInt_neg h32, List.length_cons, beN_length]
      omega

/-! ### the one-byte forms, read from the descriptor byte `t` (the `…_fix` lemmas of MsgpackRT, indexed
  by the number, turned round) -/

theorem encInt_of_posfix (t : UInt8) (h : t.toNat < 128) : encInt (t.toNat : Int) = [t] := by
  rw [encInt_natCast, encUInt_fix h, UInt8.ofNat_toNat]

theorem encInt_of_negfix (t : UInt8) (h : 0xe0 ≤ t.toNat) : encInt ((t.toNat : Int) - 256) = [t] := by
  have hlt : t.toNat < 256 := t.toNat_lt
  rw [show (t.toNat : Int) - 256 = -((256 - t.toNat : Nat) : Int) by omega,
    encInt_negfix (by omega) (by omega), show 256 - (256 - t.toNat) = t.toNat by omega, UInt8.ofNat_toNat]

theorem encStrHdr_of_fixstr (t : UInt8) (h1 : 0xa0 ≤ t.toNat) (h2 : t.toNat < 0xc0) (n : Nat)
    (hn : n = t.toNat - 0xa0) : encStrHdr n = [t] := by
  rw [encStrHdr_fix (by omega), show 0xa0 + n = t.toNat by omega, UInt8.ofNat_toNat]

theorem encArrayHdr_of_fixarr (t : UInt8) (h1 : 0x90 ≤ t.toNat) (h2 : t.toNat < 0xa0) (n : Nat)
    (hn : n = t.toNat - 0x90) : encArrayHdr n = [t] := by
  rw [encArrayHdr_fix (by omega), show 0x90 + n = t.toNat by omega, UInt8.ofNat_toNat]

theorem parse_zero (b : Bytes) : parse 0 b = .error .trunc := by
  rw [parse]

theorem parse_nil (fuel : Nat) : parse fuel [] = .error .trunc := by
  cases fuel <;> rw [parse] <;> simp

theorem parseArr_zero (n : Nat) (b : Bytes) : parseArr 0 n b = .error .trunc := by
  rw [parseArr]

theorem parseArr_succ_inv {fuel n : Nat} {b rest : Bytes} {l : List Val}
    (h : parseArr (fuel + 1) (n + 1) b = .ok (l, rest)) :
    ∃ v r1 vs, parse fuel b = .ok (v, r1) ∧ parseArr fuel n r1 = .ok (vs, rest) ∧ l = v :: vs := by
  rw [parseArr] at h
  split at h
  · cases h
  · rename_i v r1 hp
    split at h <;> cases h
    exact ⟨v, r1, _, hp, ‹_›, rfl⟩

theorem parseArr_length : ∀ (fuel n : Nat) (b : Bytes) (l : List Val) (r : Bytes),
    parseArr fuel n b = .ok (l, r) → l.length = n := by
  intro fuel
  induction fuel with
  | zero => intro n b l r h; rw [parseArr_zero] at h; cases h
  | succ fuel ih =>
    intro n b l r h
    cases n with
    | zero => rw [parseArr] at h; cases h; rfl
    | succ n =>
      obtain ⟨v, r1, vs, -, hpa, rfl⟩ := parseArr_succ_inv h
      rw [List.length_cons, ih n r1 vs r hpa]

theorem smallInts_int (i : Int) : smallInts (.int i) = decide (i < 256) := by rw [smallInts]
theorem smallInts_arr (l : List Val) : smallInts (.arr l) = smallIntsList l := by rw [smallInts]
theorem smallIntsList_nil : smallIntsList [] = true := by rw [smallIntsList]
theorem smallIntsList_cons (v : Val) (vs : List Val) :
    smallIntsList (v :: vs) = (smallInts v && smallIntsList vs) := by rw [smallIntsList]

theorem smallInts_nil : smallInts .nil = true := by rw [smallInts] <;> simp
theorem smallInts_bool (b : Bool) : smallInts (.bool b) = true := by rw [smallInts] <;> simp
theorem smallInts_bin (b : Bytes) : smallInts (.bin b) = true := by rw [smallInts] <;> simp
theorem smallInts_str (b : Bytes) : smallInts (.str b) = true := by rw [smallInts] <;> simp

theorem smallIntsList_iff (l : List Val) : smallIntsList l = true ↔ ∀ v ∈ l, smallInts v = true := by
  induction l with
  | nil => simp [smallIntsList_nil]
  | cons v vs ih => simp [smallIntsList_cons, ih]

/-- the packets saltpack writes carry small integers only (version numbers and
    the message type), so `C08_shortest_is_unique` applies to them -/
theorem smallInts_encHeader (h : EncHeader) (h1 : h.version.major < 256) (h2 : h.version.minor < 256)
    (h3 : h.typ < 256) : smallInts h.toVal = true := by
  simp only [EncHeader.toVal, Version.toVal, RecvKeys.toVal, smallInts_arr, smallIntsList_cons,
    smallIntsList_nil, smallInts_str, smallInts_int, smallInts_bin, smallIntsList_iff, List.mem_map,
    Bool.and_true, Bool.true_and, Bool.and_eq_true, decide_eq_true_eq]
  refine ⟨⟨h1, h2⟩, h3, ?_⟩
  rintro _ ⟨r, _, rfl⟩
  rw [smallInts_arr, smallIntsList_cons, smallIntsList_cons, smallIntsList_nil, smallInts_bin]
  cases r.kid <;> simp [optBin, smallInts_nil, smallInts_bin]

theorem smallInts_sigHeader (h : SigHeader) (h1 : h.version.major < 256) (h2 : h.version.minor < 256)
    (h3 : h.typ < 256) : smallInts h.toVal = true := by
  simp [SigHeader.toVal, Version.toVal, smallInts_arr, smallIntsList_cons,
    smallIntsList_nil, smallInts_str, smallInts_int, smallInts_bin, h1, h2, h3]

/-- a header `d w' :: beN w' (f w')` of the encoder coincides with the header
    `d w :: hd` that was read, once the lengths agree.  `f w'` is the number written in `w'`
    bytes: the same number for every width except for negative integers, whose two's
    complement `256 ^ w' - m` depends on it. -/
theorem hdr_unique {enc hd : Bytes} {d : Nat → UInt8} {f : Nat → Nat} {w w' : Nat}
    (he : enc = d w' :: beN w' (f w')) (hlen : hd.length = w) (hn : natOfBytes hd = f w)
    (heq : enc.length = 1 + w) : enc = d w :: hd := by
  subst he
  rw [List.length_cons, beN_length] at heq
  have hw : w' = w := by omega
  subst hw hlen
  rw [← hn, beN, bytesOfNat_natOfBytes]

/-! ### `encode v` is the shortest accepted encoding of `v`

  One induction on the fuel proves both halves: no byte string the lenient
  parser reads as `v` is shorter than `encode v`, and (for trees with small
  integers) one that is as short IS `encode v`.  In each case of `Step` the
  header that was read is compared with the header the encoder writes. -/

theorem minimal_aux : ∀ fuel : Nat,
    (∀ (b : Bytes) (v : Val) (rest : Bytes), parse fuel b = .ok (v, rest) → ValWF v →
      (encode v).length + rest.length ≤ b.length ∧
      (smallInts v = true → b.length = (encode v).length + rest.length → b = encode v ++ rest)) ∧
    (∀ (n : Nat) (b : Bytes) (l : List Val) (rest : Bytes), parseArr fuel n b = .ok (l, rest) →
      (∀ x ∈ l, ValWF x) →
      (encode.encodeList l).length + rest.length ≤ b.length ∧
      (smallIntsList l = true → b.length = (encode.encodeList l).length + rest.length →
        b = encode.encodeList l ++ rest)) := by
  intro fuel
  induction fuel with
  | zero =>
    constructor
    · intro b v rest h; rw [parse_zero] at h; cases h
    · intro n b l rest h; rw [parseArr_zero] at h; cases h
  | succ fuel ih =>
    obtain ⟨ihp, iha⟩ := ih
    constructor
    · intro b v rest h hw
      cases b with
      | nil => rw [parse_nil] at h; cases h
      | cons t b =>
        have hs := parse_step h hw
        rw [List.length_cons]
        cases hs with
        | posfix hc =>
          rw [encode, encInt_of_posfix t hc]
          exact ⟨Nat.le_of_eq (Nat.add_comm _ _), fun _ _ => rfl⟩
        | negfix hc =>
          rw [encode, encInt_of_negfix t hc]
          exact ⟨Nat.le_of_eq (Nat.add_comm _ _), fun _ _ => rfl⟩
        | nil hc =>
          subst hc
          rw [encode, encNil]
          exact ⟨Nat.le_of_eq (Nat.add_comm _ _), fun _ _ => rfl⟩
        | bool bb hc =>
          subst hc
          rw [encode, encBool]
          exact ⟨Nat.le_of_eq (Nat.add_comm _ _), fun _ _ => rfl⟩
        | fixstr s r h1 h2 ht =>
          obtain ⟨rfl, hl⟩ := takeN_inv ht
          rw [encode, encStr, encStrHdr_of_fixstr t h1 h2 s.length hl]
          refine ⟨?_, fun _ _ => rfl⟩
          simp only [List.length_append, List.length_singleton]
          omega
        | fixarr l r h1 h2 hp =>
          cases hw with
          | arr _ hl hall =>
            obtain ⟨hle, heq⟩ := iha _ _ _ _ hp hall
            rw [encode, encArrayHdr_of_fixarr t h1 h2 l.length (parseArr_length _ _ _ _ _ hp),
              List.length_append, List.length_singleton, smallInts_arr]
            refine ⟨by omega, fun hsm hlen => ?_⟩
            rw [heq hsm (by omega)]
            rfl
        | bin w n r0 s r hc ht hrl htk =>
          obtain ⟨rfl, hl⟩ := takeN_inv htk
          have hlt := (readLen_len hrl).2
          obtain ⟨hd, rfl, hlen, hn⟩ := readLen_inv hrl
          cases hw with
          | bin _ hs =>
            have hle := encBinHdr_le w s.length hc (by rw [hl]; exact hlt)
            rw [encode, encBin]
            simp only [List.length_append]
            refine ⟨by omega, fun _ heq => ?_⟩
            rw [hdr_unique (f := fun _ => s.length) (encBinHdr_eq hs) hlen (hn.trans hl.symm) (by omega), ht,
              List.append_assoc, List.cons_append]
        | str w n r0 s r hc ht hrl htk =>
          obtain ⟨rfl, hl⟩ := takeN_inv htk
          have hlt := (readLen_len hrl).2
          obtain ⟨hd, rfl, hlen, hn⟩ := readLen_inv hrl
          cases hw with
          | str _ hs =>
            have hle := encStrHdr_le w s.length hc (by rw [hl]; exact hlt)
            rw [encode, encStr]
            simp only [List.length_append]
            refine ⟨by omega, fun _ heq => ?_⟩
            by_cases h32 : s.length < 32
            · rw [encStrHdr_fix h32, List.length_singleton] at heq; omega
            · rw [hdr_unique (f := fun _ => s.length) (encStrHdr_eq h32 hs) hlen (hn.trans hl.symm) (by omega), ht,
                List.append_assoc, List.cons_append]
        | uint w n r hc ht hrl =>
          have hlt := (readLen_len hrl).2
          obtain ⟨hd, rfl, hlen, hn⟩ := readLen_inv hrl
          have hle := encUInt_le w n hc hlt
          rw [encode, encInt_natCast, List.length_append]
          refine ⟨by omega, fun _ heq => ?_⟩
          by_cases h128 : n < 128
          · rw [encUInt_fix h128, List.length_singleton] at heq; omega
          · rw [hdr_unique (f := fun _ => n) (encUInt_eq h128) hlen hn (by omega), ht]
            rfl
        | sint w n r hc ht hrl =>
          have hlt := (readLen_len hrl).2
          obtain ⟨hd, rfl, hlen, hn⟩ := readLen_inv hrl
          have hle := encInt_signedOf_le w n hc hlt
          rw [encode, List.length_append, smallInts_int]
          refine ⟨by omega, fun hsm heq => ?_⟩
          have hsm' : signedOf (8 * w) n < 256 := of_decide_eq_true hsm
          rcases signedOf_cases hc hlt with ⟨e, h2⟩ | ⟨m, h1, h2, hnm, e⟩
          · -- a non-negative value below 256 is written in one or two bytes, never in a signed form
            exfalso
            rw [e] at hsm' heq
            rw [encInt_natCast] at heq
            have hle1 := encUInt_le 1 n (.inl rfl) (by omega)
            have hw1 : w = 1 := by omega
            rw [hw1, Nat.pow_one] at h2
            rw [encUInt_fix (by omega), List.length_singleton] at heq
            omega
          · rw [e] at heq ⊢
            by_cases h32 : m ≤ 32
            · rw [encInt_negfix h1 h32, List.length_singleton] at heq; omega
            · rw [hdr_unique (f := fun w => 256 ^ w - m) (encInt_neg h32) hlen (hn.trans hnm) (by omega), ht]
              rfl
        | arr w n r0 l r hc ht hrl hp =>
          cases hw with
          | arr _ hl hall =>
            have hlt := (readLen_len hrl).2
            obtain ⟨hd, rfl, hlen, hnb⟩ := readLen_inv hrl
            have hn := parseArr_length _ _ _ _ _ hp
            obtain ⟨hB, hU⟩ := iha _ _ _ _ hp hall
            have hA := encArrayHdr_le w l.length hc (by rw [hn]; exact hlt)
            rw [encode, smallInts_arr]
            simp only [List.length_append]
            refine ⟨by omega, fun hsm heq => ?_⟩
            by_cases h16 : l.length < 16
            · rw [encArrayHdr_fix h16, List.length_singleton] at heq; omega
            · rw [hdr_unique (f := fun _ => l.length) (encArrayHdr_eq h16 hl) hlen (hnb.trans hn.symm) (by omega),
                hU hsm (by omega), ht, List.append_assoc, List.cons_append]
    · intro n b l rest h hall
      cases n with
      | zero =>
        rw [parseArr] at h
        cases h
        rw [encodeList_nil]
        exact ⟨Nat.le_of_eq (Nat.zero_add _), fun _ _ => rfl⟩
      | succ n =>
        obtain ⟨v, r1, vs, hp, hpa, rfl⟩ := parseArr_succ_inv h
        obtain ⟨h1, e1⟩ := ihp _ _ _ hp (hall v (by simp))
        obtain ⟨h2, e2⟩ := iha _ _ _ _ hpa (fun x hx => hall x (by simp [hx]))
        rw [encodeList_cons, List.length_append, smallIntsList_cons, Bool.and_eq_true]
        refine ⟨by omega, fun hsm heq => ?_⟩
        rw [List.append_assoc, ← e2 hsm.2 (by omega), ← e1 hsm.1 (by omega)]

theorem parse_shortest (fuel : Nat) (b : Bytes) (v : Val) (rest : Bytes)
    (h : parse fuel b = .ok (v, rest)) (hw : ValWF v) :
    (encode v).length + rest.length ≤ b.length :=
  ((minimal_aux fuel).1 b v rest h hw).1

theorem parse_unique (fuel : Nat) (b : Bytes) (v : Val) (rest : Bytes)
    (h : parse fuel b = .ok (v, rest)) (hw : ValWF v) (hsm : smallInts v = true)
    (hlen : b.length = (encode v).length + rest.length) : b = encode v ++ rest :=
  ((minimal_aux fuel).1 b v rest h hw).2 hsm hlen

end MsgpackMin

/-! ## Part 2: no nil in what the senders write, except hidden key ids -/

mutual
/-- no `nil` anywhere in the tree -/
def nilFree : Val → Bool
  | .nil => false
  | .arr l => nilFreeList l
  | .map l => nilFreeMap l
  | _ => true
def nilFreeList : List Val → Bool
  | [] => true
  | v :: vs => nilFree v && nilFreeList vs
def nilFreeMap : List (Val × Val) → Bool
  | [] => true
  | (k, v) :: kvs => nilFree k && (nilFree v && nilFreeMap kvs)
end

namespace MsgpackMin
open MsgpackRT

@[simp] theorem nilFree_nil : nilFree .nil = false := by rw [nilFree]
@[simp] theorem nilFree_bool (b : Bool) : nilFree (.bool b) = true := by rw [nilFree] <;> simp
@[simp] theorem nilFree_int (i : Int) : nilFree (.int i) = true := by rw [nilFree] <;> simp
@[simp] theorem nilFree_bin (b : Bytes) : nilFree (.bin b) = true := by rw [nilFree] <;> simp
@[simp] theorem nilFree_str (b : Bytes) : nilFree (.str b) = true := by rw [nilFree] <;> simp
@[simp] theorem nilFree_arr (l : List Val) : nilFree (.arr l) = nilFreeList l := by rw [nilFree]
@[simp] theorem nilFreeList_nil : nilFreeList [] = true := by rw [nilFreeList]
@[simp] theorem nilFreeList_cons (v : Val) (vs : List Val) :
    nilFreeList (v :: vs) = (nilFree v && nilFreeList vs) := by rw [nilFreeList]

theorem nilFreeList_iff (l : List Val) : nilFreeList l = true ↔ ∀ v ∈ l, nilFree v = true := by
  induction l with
  | nil => simp
  | cons v vs ih => simp [ih]

theorem optBin_nil_iff (k : Option Bytes) : optBin k = .nil ↔ k = none := by
  cases k <;> simp [optBin]

theorem nilFree_optBin (k : Option Bytes) : nilFree (optBin k) = true ↔ k ≠ none := by
  cases k <;> simp [optBin]

theorem nilFree_recvKeys (r : RecvKeys) : nilFree r.toVal = true ↔ r.kid ≠ none := by
  simp [RecvKeys.toVal, nilFree_optBin]

theorem nilFree_encHeader_iff (h : EncHeader) :
    nilFree h.toVal = true ↔ ∀ r ∈ h.receivers, r.kid ≠ none := by
  simp only [EncHeader.toVal, Version.toVal, nilFree_arr, nilFreeList_cons, nilFree_str, nilFree_int,
    nilFree_bin, nilFreeList_nil, Bool.and_true, Bool.true_and, nilFreeList_iff, List.mem_map]
  constructor
  · intro hall r hr
    exact (nilFree_recvKeys r).1 (hall _ ⟨r, hr, rfl⟩)
  · rintro hall _ ⟨r, hr, rfl⟩
    exact (nilFree_recvKeys r).2 (hall r hr)

theorem sc_header_kid_ne_none (P : Prims) (sender : Option Bytes) (eph pk : Bytes)
    (rs : List Signcrypt.Recipient) :
    ∀ r ∈ (Signcrypt.header P sender eph pk rs).receivers, r.kid ≠ none := by
  intro r hr
  obtain ⟨j, hj⟩ := List.getElem?_of_mem hr
  simp only [Signcrypt.header] at hj
  rw [RTSig.receiverEntries_getElem?] at hj
  cases hrs : rs[j]? with
  | none => rw [hrs] at hj; cases hj
  | some x =>
    rw [hrs] at hj
    simp only [Option.map_some, Option.some.injEq] at hj
    subst hj
    cases x <;> simp [Signcrypt.receiverEntry]

theorem sc_header_nilFree (P : Prims) (sender : Option Bytes) (eph pk : Bytes)
    (rs : List Signcrypt.Recipient) : nilFree (Signcrypt.header P sender eph pk rs).toVal = true :=
  (nilFree_encHeader_iff _).2 (sc_header_kid_ne_none P sender eph pk rs)

theorem nilFreeList_bins (l : List Bytes) : nilFreeList (l.map .bin) = true := by
  rw [nilFreeList_iff]
  intro v hv
  obtain ⟨b, _, rfl⟩ := List.mem_map.1 hv
  simp

/-- an encryption payload packet with at least one authenticator has no nil.
    (`encBlockVal` writes nil for an EMPTY authenticator list — Go's nil slice —
    which cannot happen after `checkReceivers`; see `C08_no_nil_bins_enc_payload_sealed`.) -/
theorem encBlockVal_nilFree (v : Version) (auths : List Bytes) (ct : Bytes) (f : Bool) (val : Val)
    (h : encBlockVal v auths ct f = .ok val) (ha : auths ≠ []) : nilFree val = true := by
  have he : auths.isEmpty = false := by simpa using ha
  unfold encBlockVal at h
  simp only [he, Bool.false_eq_true, if_false] at h
  split at h
  · cases h; simp [nilFreeList_bins]
  · split at h
    · cases h; simp [nilFreeList_bins]
    · cases h

/-- … and with no authenticator it does contain one (so the side condition of
    `encBlockVal_nilFree` is needed) -/
theorem encBlockVal_empty_has_nil (ct : Bytes) (f : Bool) :
    encBlockVal v2 [] ct f = .ok (.arr [.bool f, .nil, .bin ct]) ∧
    nilFree (.arr [.bool f, .nil, .bin ct]) = false := by
  constructor
  · rfl
  · simp

end MsgpackMin
end Saltpack.Proofs
