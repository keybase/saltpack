/-
  Saltpack.Proofs.CodecTotalGen — `Sp` (see CodecTotal.lean) for the generic reader and `swallow`:
  the fuel lemmas.  Core Lean only.
-/
import Saltpack.Proofs.CodecTotal

namespace Saltpack.Proofs.CodecP
open Saltpack Saltpack.Msgpack Saltpack.Codec

theorem nakedScalar_sp {N : Nat} (c : Nat) : Sp 0 N (nakedScalar c) :=
  .ite (.pure _) <| .ite (.pure _) <| .ite (.pure _) <| .ite (readKey_sp _ 4) <| .ite (readKey_sp _ 8) <|
  .ite (readKey_sp _ 1) <| .ite (readKey_sp _ 2) <| .ite (readKey_sp _ 4) <| .ite (readKey_sp _ 8) <|
  .ite (readKey_sp _ 1) <| .ite (readKey_sp _ 2) <| .ite (readKey_sp _ 4) <| .ite (readKey_sp _ 8) <|
  .ite (.pure _) <| .ite (.pure _) (.pure _)

theorem nakedExt_sp {N : Nat} (c : Nat) : Sp 1 N (nakedExt c) :=
  .andThen (extLen_sp c) fun _ => .andThen readn1_sp fun _ =>
    .ite (.ite (.andThen (readx_sp _) fun _ => .pure _) (.bad _)) (.andThen (readx_sp _) fun _ => .pure _)

/-- A value needs fuel `2·N + 1` on inputs of `N` bytes, an element loop `2·N + 2`: a loop step spends one unit
    and calls `gen` with the rest, which reads a byte before it enters the next loop one unit lower. -/
theorem gen_all : ∀ fuel : Nat,
    (∀ N rem, 2 * N + 1 ≤ fuel → Sp 1 N (gen fuel rem)) ∧
    (∀ N rem n, 2 * N + 2 ≤ fuel → Sp 0 N (genArr fuel rem n)) ∧
    (∀ N rem n keys, 2 * N + 2 ≤ fuel → Sp 0 N (genMap fuel rem n keys))
  | 0 => ⟨fun _ _ h => by omega, fun _ _ _ h => by omega, fun _ _ _ _ h => by omega⟩
  | fuel + 1 => by
    obtain ⟨ihG, ihA, ihM⟩ := gen_all fuel
    refine ⟨fun N rem h => ?_, fun N rem n h => ?_, fun N rem n keys h => ?_⟩
    · unfold gen
      refine .ite (.bad _) (.bind readn1_sp fun bd N₁ h₁ => ?_)
      -- after the descriptor byte the element loops have the fuel they need
      have hf : 2 * N₁ + 2 ≤ fuel := by omega
      refine .andThen (nakedScalar_sp _) fun o => ?_
      split
      · exact .pure _
      · split
        · exact .andThen (lenBytes_sp _) fun _ => .andThen (readx_sp _) fun _ => .pure _
        · exact .ite (.bad _) (.andThen (lenArr_sp _) fun _ => .andThen (ihA N₁ _ _ hf) fun _ => .pure _)
        · exact .ite (.bad _) (.andThen (lenMap_sp _) fun _ => .andThen (ihM N₁ _ _ _ hf) fun _ => .pure _)
        · refine .ite (.andThen (nakedExt_sp _) fun p => ?_) (.bad _)
          obtain ⟨further, k⟩ := p
          exact .ite (.andThen (.discard (ihG N₁ _ (Nat.le_of_succ_le hf))) fun _ => .pure _) (.pure _)
    · cases n with
      | zero => unfold genArr; exact .pure _
      | succ n =>
        unfold genArr
        have hA : ∀ N', N' + 1 ≤ N → Sp 0 N' (genArr fuel rem n) := fun N' h' => ihA N' _ _ (by omega)
        exact .tryNil hA (.bind (ihG N rem (Nat.le_of_succ_le_succ h)) fun _ => hA)
    · cases n with
      | zero => unfold genMap; exact .pure _
      | succ n =>
        unfold genMap
        have hG := ihG N rem (Nat.le_of_succ_le_succ h)
        refine .bind hG fun k N₁ h₁ => ?_
        -- the key read, every branch ends with the rest of the pairs on an input at least one byte shorter
        have hM : ∀ keys, Sp 0 N₁ (genMap fuel rem n keys) := fun _ => ihM N₁ _ _ _ (by omega)
        refine .andThen tryNil_sp fun isNil => .ite (.bad _) <| .ite (.fail_doc .twoTimes) <| .ite (hM _) ?_
        lift_lets
        intro prev
        clear_value prev
        split
        · exact .andThen (hG.anti (Nat.le_of_succ_le h₁)) fun _ => hM _
        · exact .fail_doc .repeatedKey
        · refine .ite (.bad _) ?_
          split
          · exact .andThen decodeInt64_sp fun _ => hM _
          · exact .andThen decodeUint64_sp fun _ => hM _
          · exact .andThen decodeBool_sp fun _ => hM _
          · exact .andThen decodeFloat64_sp fun _ => hM _

theorem gen_sp (fuel N rem : Nat) (h : 2 * N + 1 ≤ fuel) : Sp 1 N (gen fuel rem) := (gen_all fuel).1 N rem h

/-- the same bounds for `swallow` / `swallowN` (the generic value inside an extension goes through `gen_sp`) -/
theorem swallow_all : ∀ fuel : Nat,
    (∀ N rem, 2 * N + 1 ≤ fuel → Sp 1 N (swallow fuel rem)) ∧
    (∀ N rem n, 2 * N + 2 ≤ fuel → Sp 0 N (swallowN fuel rem n))
  | 0 => ⟨fun _ _ h => by omega, fun _ _ _ h => by omega⟩
  | fuel + 1 => by
    obtain ⟨ihS, ihN⟩ := swallow_all fuel
    refine ⟨fun N rem h => ?_, fun N rem n h => ?_⟩
    · unfold swallow
      refine .ite (.bad _) (.nilOr (.pure _) (.andThen peek1_sp fun bd => ?_))
      have hN : ∀ n N', N' + 1 ≤ N → Sp 0 N' (swallowN fuel (rem - 1) n) := fun _ N' h' => ihN N' _ _ (by omega)
      dsimp only
      split
      · exact .bind readMapStart_sp fun _ => hN _
      · exact .bind readArrayStart_sp fun _ => hN _
      · exact .andThen decodeBytes_sp fun _ => .pure _
      · refine .bind readn1_sp fun _ N₁ h₁ => .andThen (nakedScalar_sp _) fun o => ?_
        split
        · exact .pure _
        · refine .ite (.andThen (nakedExt_sp _) fun p => ?_) (.bad _)
          obtain ⟨further, k⟩ := p
          exact .ite (.andThen (.discard (gen_sp fuel N₁ _ (by omega))) fun _ => .pure _) (.pure _)
    · cases n with
      | zero => unfold swallowN; exact .pure _
      | succ n =>
        unfold swallowN
        exact .bind (ihS N _ (Nat.le_of_succ_le_succ h)) fun _ N' _ => ihN N' _ _ (by omega)

theorem swallow_sp (fuel N rem : Nat) (h : 2 * N + 1 ≤ fuel) : Sp 1 N (swallow fuel rem) := (swallow_all fuel).1 N rem h
theorem swallowN_sp (fuel N rem n : Nat) (h : 2 * N + 2 ≤ fuel) : Sp 0 N (swallowN fuel rem n) :=
  (swallow_all fuel).2 N rem n h

end Saltpack.Proofs.CodecP
