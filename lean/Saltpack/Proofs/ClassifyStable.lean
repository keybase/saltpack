/-
  Prefix stability of the classifiers.

  * a mode/version verdict of `IsSaltpackBinarySlice` on a slice is its verdict on
    every extension of the slice.
  * the armored classifier: once the frame with its period and one full base62
    block are shown, the verdict on every extension is the verdict of the binary
    classifier on "first decoded block ++ whatever the rest decodes to"; it is
    the same verdict as soon as the first block alone decides the binary header.
-/
import Saltpack.Proofs.ClassifyLemmas
import Saltpack.Proofs.ClassifyTotal

namespace Saltpack.Proofs.ClsStable
open Saltpack Saltpack.Classify Saltpack.Msgpack Saltpack.Armor ClsAux CodecMono

/-! ## binary -/

theorem bin_ok_stable (b e : Bytes) (t : Int) (v : Version) (h : binarySlice b = .ok (t, v)) :
    binarySlice (b ++ e) = .ok (t, v) := by
  obtain ⟨hlen, skip, askip, hs, ha, hb⟩ := (binarySlice_ok_iff b t v).mp h
  have hsk := binSkip_some hs
  have hask := arrSkip_some ha
  rw [bin_reduce (b ++ e) skip askip (by rw [List.length_append]; omega)
      (by rw [getD_append_lt b e 0 (by omega)]; exact hs) (by rw [getD_append_lt b e skip (by omega)]; exact ha),
    List.drop_append_of_le_length (by omega)]
  exact binBody_ok_stable _ e t v hb


/-! ## extending the text -/

theorem afterDot_append (r1 rest x : Bytes) (h : afterDot r1 = some rest) :
    afterDot (r1 ++ x) = some (rest ++ x) := by
  rcases (afterDot_iff r1 rest).mp h with rfl | rfl
  · exact (afterDot_iff _ _).mpr (Or.inl rfl)
  · exact (afterDot_iff _ _).mpr (Or.inr rfl)

theorem matchTail_append (b t pl x : Bytes) (h : matchTail b = some (t, pl)) :
    ∃ rest, pl = rest.takeWhile okc ∧ matchTail (b ++ x) = some (t, (rest ++ x).takeWhile okc) := by
  obtain ⟨t', r1, rest, ht, rfl, ha, hx⟩ := (matchTail_iff b (t, pl)).mp h
  simp only [Prod.mk.injEq] at hx
  obtain ⟨rfl, rfl⟩ := hx
  refine ⟨rest, rfl, (matchTail_iff _ _).mpr ⟨t, r1 ++ x, rest ++ x, ht, by simp, afterDot_append _ _ _ ha, rfl⟩⟩

theorem matchHeader_append (s brand t pl x : Bytes) (h : matchHeader s = some (brand, t, pl)) :
    ∃ rest, pl = rest.takeWhile okc ∧ matchHeader (s ++ x) = some (brand, t, (rest ++ x).takeWhile okc) := by
  obtain ⟨r, rfl, hcase⟩ := matchHeader_shape s brand t pl h
  rcases hcase with ⟨hne, hb, cs, rfl, hm⟩ | ⟨rfl, hm⟩
  · obtain ⟨rest, hpl, hm'⟩ := matchTail_append cs t pl x hm
    refine ⟨rest, hpl, ?_⟩
    have := matchHeader_branded brand (cs ++ x) t _ hne hb hm'
    simpa using this
  · obtain ⟨rest, hpl, hm'⟩ := matchTail_append r t pl x hm
    refine ⟨rest, hpl, ?_⟩
    have := matchHeader_plain (r ++ x) t _ hm'
    simpa using this

theorem takeWhile_append_ext {α : Type} (p : α → Bool) (l x : List α) :
    ∃ m, (l ++ x).takeWhile p = l.takeWhile p ++ m := by
  induction l with
  | nil => exact ⟨_, rfl⟩
  | cons a l ih =>
    obtain ⟨m, hm⟩ := ih
    by_cases ha : p a = true
    · exact ⟨m, by simp [ha, hm]⟩
    · exact ⟨[], by simp [ha]⟩

theorem decodePrefix_first (cs : List UInt8) (fuel : Nat) (h : 43 ≤ cs.length) :
    (Basex.decodePrefix Gen.base62Std (fuel + 1) cs).1 =
      match Basex.decode Gen.base62Std.strict (cs.take 43) with
      | .error _ => []
      | .ok b => b ++ (Basex.decodePrefix Gen.base62Std fuel (cs.drop 43)).1 := by
  rw [Basex.decodePrefix]
  have hne : cs.isEmpty = false := by
    cases cs with
    | nil => simp at h
    | cons _ _ => rfl
  have h2 : Gen.base62Std.charBlockLen = 43 := rfl
  simp only [hne, h2, Bool.false_eq_true, if_false]
  cases Basex.decode Gen.base62Std.strict (cs.take 43) with
  | error e => rfl
  | ok b => rfl

theorem dec_first_block (cs m : List UInt8)
    (h : 32 ≤ (Basex.decodePrefix Gen.base62Std (cs.length + 1) cs).1.length) :
    ∃ b more more', Basex.decode Gen.base62Std.strict (cs.take 43) = .ok b ∧ 32 ≤ b.length ∧
      (Basex.decodePrefix Gen.base62Std (cs.length + 1) cs).1 = b ++ more ∧
      (Basex.decodePrefix Gen.base62Std ((cs ++ m).length + 1) (cs ++ m)).1 = b ++ more' := by
  have hl : 43 ≤ cs.length := by
    apply Classical.byContradiction
    intro hn
    have := decodePrefix_short cs (by omega)
    omega
  rw [decodePrefix_first cs _ hl] at h ⊢
  rw [decodePrefix_first (cs ++ m) _ (by simp only [List.length_append]; omega)]
  rw [List.take_append_of_le_length hl]
  cases hd : Basex.decode Gen.base62Std.strict (cs.take 43) with
  | error e => rw [hd] at h; simp at h
  | ok b =>
    have hbl := decode_block_len (cs.take 43) b (by rw [List.length_take]; omega) hd
    exact ⟨b, _, _, rfl, hbl, rfl, rfl⟩


/-! ## the normalised classifier once a block is shown -/

/-- the first decoded block of the shown payload characters (at least 32 bytes,
    `decode_block_len`); empty if there is none -/
def firstBlockOf (payload : Bytes) : Bytes :=
  match Basex.decode Gen.base62Std.strict ((charsOf payload).take 43) with
  | .ok b => b
  | .error _ => []

/-- the bytes `b` alone decide the binary verdict: nothing appended to them changes it -/
def Decides (b : Bytes) : Prop := ∀ e, binarySlice (b ++ e) = binarySlice b

theorem norm_block_stable (s brand typStr payload x : Bytes)
    (h : matchHeader s = some (brand, typStr, payload)) (h32 : 32 ≤ (decOf payload).length)
    (hset : Decides (firstBlockOf payload)) :
    classifyNorm (s ++ x) = classifyNorm s := by
  obtain ⟨rest, hpl, hm'⟩ := matchHeader_append s brand typStr payload x h
  have charsOf_ext : ∃ m, charsOf ((rest ++ x).takeWhile okc) = charsOf (rest.takeWhile okc) ++ m := by
    obtain ⟨m, hm⟩ := takeWhile_append_ext okc rest x
    exact ⟨charsOf m, by unfold charsOf; rw [hm, List.filter_append]⟩
  obtain ⟨m, hm⟩ := charsOf_ext
  rw [← hpl] at hm
  obtain ⟨b, more, more', hd, hbl, h1, h2⟩ := dec_first_block (charsOf payload) m h32
  have hfb : firstBlockOf payload = b := by unfold firstBlockOf; rw [hd]
  rw [classifyNorm_header _ _ _ _ h, classifyNorm_header _ _ _ _ hm']
  have e1 : decOf payload = b ++ more := h1
  have e2 : decOf ((rest ++ x).takeWhile okc) = b ++ more' := by unfold decOf; rw [hm]; exact h2
  rw [e1, e2, if_neg (by simp only [List.length_append]; omega), if_neg (by simp only [List.length_append]; omega)]
  rw [← hfb, hset more, hset more']


/-! ## the normalised text grows with the text -/

section
variable {s2 : UInt8 → UInt8 → Bool} {s3 : UInt8 → UInt8 → UInt8 → Bool}

theorem trimRunes_stop (H : HighOnly s2 s3) (k : UInt8) (w' : Bytes) (hk : isTrimSpace k = false) (hk128 : k < 128)
    (u : Bytes) : ∃ x', trimRunes s2 s3 (u ++ k :: w') = x' ++ k :: w' := by
  fun_induction trimRunes s2 s3 u with
  -- cases 2, 4, 6: a white-space rune of 1, 2, 3 bytes is dropped; 3, 5: one or two bytes are left, no rune;
  -- 7: the first three bytes are no white-space rune, trimming stops
  | case1 => exact ⟨[], by rw [List.nil_append, trimRunes_keep H k w' hk hk128]⟩
  | case2 c r hc ih =>
    rw [List.cons_append, trimRunes_cons_space _ _ hc]; exact ih
  | case3 c hc =>
    have hc' : isTrimSpace c = false := by simpa using hc
    refine ⟨[c], ?_⟩
    cases w' with
    | nil => simp [trimRunes, hc', H.h2b c k hk128]
    | cons e q'' => simp [trimRunes, hc', H.h2b c k hk128, H.h3b c k e hk128]
  | case4 c hc d r' h2 ih =>
    have hc' : isTrimSpace c = false := by simpa using hc
    rw [List.cons_append, List.cons_append, trimRunes_cons2 _ _ _ hc' h2]
    exact ih
  | case5 c hc d h2 =>
    have hc' : isTrimSpace c = false := by simpa using hc
    have h2' : s2 c d = false := by simpa using h2
    exact ⟨[c, d], by simp [trimRunes, hc', h2', H.h3c c d k hk128]⟩
  | case6 c hc d h2 e r'' h3 ih =>
    have hc' : isTrimSpace c = false := by simpa using hc
    have h2' : s2 c d = false := by simpa using h2
    rw [List.cons_append, List.cons_append, List.cons_append, trimRunes_cons3 _ _ _ _ hc' h2' h3]
    exact ih
  | case7 c hc d h2 e r'' h3 =>
    have hc' : isTrimSpace c = false := by simpa using hc
    have h2' : s2 c d = false := by simpa using h2
    have h3' : s3 c d e = false := by simpa using h3
    exact ⟨c :: d :: e :: r'', by simp [trimRunes, hc', h2', h3']⟩
end

theorem dropWhile_decomp (y : Bytes) :
    ∃ ws, y = ws ++ y.dropWhile isTrimSpace ∧ ∀ c ∈ ws, isTrimSpace c = true :=
  ⟨y.takeWhile isTrimSpace, List.takeWhile_append_dropWhile.symm, mem_takeWhile_pos isTrimSpace y⟩

theorem dropWhile_head (y : Bytes) : ∀ a ∈ (y.dropWhile isTrimSpace).head?, isTrimSpace a = false := by
  induction y with
  | nil => simp
  | cons a l ih =>
    by_cases ha : isTrimSpace a = true
    · simp only [List.dropWhile_cons, ha, if_true]; exact ih
    · simp [ha]

theorem trimSpace_append_ascii (y y' : Bytes) (hy : ∀ c ∈ y, c < 128) (hne : trimSpace y ≠ []) :
    ∃ x, trimSpace (y ++ y') = trimSpace y ++ x := by
  rw [trimSpace_eq_ascii y hy] at hne ⊢
  unfold trimSpaceAscii at hne ⊢
  obtain ⟨ws, hws, hwsp⟩ := dropWhile_decomp y
  generalize hz : y.dropWhile isTrimSpace = z at hws hne ⊢
  have hzy : ∀ c ∈ z, c < 128 := fun c hc => hy c (by rw [hws]; simp [hc])
  cases z with
  | nil => simp at hne
  | cons a z' =>
    have ha : isTrimSpace a = false := by
      have := dropWhile_head y a (by rw [hz]; rfl)
      exact this
    have ha128 : a < 128 := hzy a (by simp)
    -- left trimming of the extension
    have hL : trimLeft (y ++ y') = (a :: z') ++ y' := by
      unfold trimLeft
      rw [hws, List.append_assoc, trimRunes_pre _ _ hwsp, List.cons_append, trimRunes_keep highOnly_left a _ ha ha128]
    -- the reversed text: trailing white space, then the last kept byte
    obtain ⟨sp, hsp, hspp⟩ := dropWhile_decomp (a :: z').reverse
    generalize hw : (a :: z').reverse.dropWhile isTrimSpace = w at hsp hne ⊢
    cases w with
    | nil => simp at hne
    | cons k w' =>
      have hk : isTrimSpace k = false := dropWhile_head (a :: z').reverse k (by rw [hw]; rfl)
      have hk128 : k < 128 := by
        apply hzy
        have : k ∈ (a :: z').reverse := by rw [hsp]; simp
        exact List.mem_reverse.mp this
      obtain ⟨x', hx'⟩ := trimRunes_stop highOnly_right k w' hk hk128 (y'.reverse ++ sp)
      refine ⟨x'.reverse, ?_⟩
      unfold trimSpace trimRightRev
      rw [hL, List.reverse_append, hsp, ← List.append_assoc, hx']
      simp

theorem norm_append (p q : Bytes) (hp : ∀ c ∈ p, c < 128) (hne : trimSpace (collapse p) ≠ []) :
    ∃ x, trimSpace (collapse (p ++ q)) = trimSpace (collapse p) ++ x := by
  unfold collapse at hne ⊢
  rw [collapseAux_append]
  apply trimSpace_append_ascii _ _ _ hne
  intro c hc
  rcases collapseAux_mem p false c hc with h | h
  · exact hp c h
  · subst h; decide


/-! ## the armored classifier once a block is shown -/

theorem arm_block_stable (p q : Bytes) (hp : ∀ c ∈ p, c < 128) (brand typStr payload : Bytes)
    (h : matchHeader (trimSpace (collapse p)) = some (brand, typStr, payload))
    (h32 : 32 ≤ (decOf payload).length)
    (hset : Decides (firstBlockOf payload)) :
    armoredPrefix (p ++ q) = armoredPrefix p := by
  have hne : trimSpace (collapse p) ≠ [] := by
    intro h0; rw [h0, show matchHeader [] = none by decide] at h; cases h
  obtain ⟨x, hx⟩ := norm_append p q hp hne
  rw [armoredPrefix_norm, armoredPrefix_norm, hx]
  exact norm_block_stable _ brand typStr payload x h h32 hset

theorem arm_block_verdict (p : Bytes) (brand typStr payload : Bytes)
    (h : matchHeader (trimSpace (collapse p)) = some (brand, typStr, payload))
    (h32 : 32 ≤ (decOf payload).length) :
    armoredPrefix p = conclude brand typStr (binarySlice (decOf payload)) := by
  rw [armoredPrefix_norm, classifyNorm_header _ _ _ _ h, if_neg (by omega)]

theorem decides_of_ok (b : Bytes) (r : Int × Version) (h : binarySlice b = .ok r) : Decides b := by
  intro e
  rw [h]
  exact bin_ok_stable b e r.1 r.2 h

theorem arm_ok_stable (p q : Bytes) (hp : ∀ c ∈ p, c < 128) (brand typStr payload : Bytes)
    (h : matchHeader (trimSpace (collapse p)) = some (brand, typStr, payload))
    (h32 : 32 ≤ (decOf payload).length)
    (r : Int × Version) (hok : binarySlice (firstBlockOf payload) = .ok r) :
    armoredPrefix (p ++ q) = conclude brand typStr (.ok r) ∧ armoredPrefix p = conclude brand typStr (.ok r) := by
  have hset := decides_of_ok _ r hok
  have hst := arm_block_stable p q hp brand typStr payload h h32 hset
  have hv := arm_block_verdict p brand typStr payload h h32
  obtain ⟨b, more, _, hd, _, h1, _⟩ := dec_first_block (charsOf payload) [] h32
  have hfb : firstBlockOf payload = b := by unfold firstBlockOf; rw [hd]
  have e1 : decOf payload = firstBlockOf payload ++ more := by rw [hfb]; exact h1
  rw [e1, hset more, hok] at hv
  exact ⟨by rw [hst, hv], hv⟩

end Saltpack.Proofs.ClsStable
