/-
  Proofs about the bounded draw `u32nStep` / `u32n` / `drawsFrom`
  (Lemire multiply-shift with rejection): acceptance with result `r` is a window
  of width `⌊2^32/n⌋·n` on the product `v*n`, hence `⌊2^32/n⌋` consecutive values
  of `v`.  `(A + (n - 1)) / n` is `⌈A/n⌉`.
-/
import Saltpack.Model.Rand

namespace Saltpack.Proofs.RandDraw
open Saltpack Saltpack.Rand

theorem ceil_le_iff (n A v : Nat) (hn : 0 < n) : (A + (n - 1)) / n ≤ v ↔ A ≤ v * n := by
  rw [← Nat.lt_succ_iff, Nat.div_lt_iff_lt_mul hn, Nat.succ_mul]
  omega

theorem ceil_add_mul (n A q : Nat) (hn : 0 < n) :
    (A + q * n + (n - 1)) / n = (A + (n - 1)) / n + q := by
  rw [Nat.add_right_comm, Nat.add_mul_div_right _ _ hn]

theorem window_iff (n A q v : Nat) (hn : 0 < n) :
    (A ≤ v * n ∧ v * n < A + q * n) ↔ (A + (n - 1)) / n ≤ v ∧ v < (A + (n - 1)) / n + q := by
  rw [← ceil_le_iff n A v hn, ← Nat.not_le, ← ceil_le_iff n _ v hn, ceil_add_mul n A q hn, Nat.not_le]

/-- the threshold computed by the code, `uint32(-n) % n`, is `2^32 % n` -/
theorem thresh_eq (n : Nat) (hn' : n < 2 ^ 32) : (2 ^ 32 - n) % n = 2 ^ 32 % n :=
  (Nat.mod_eq_sub_mod (Nat.le_of_lt hn')).symm

theorem step_eq (n v : Nat) (hn : 0 < n) (hn' : n < 2 ^ 32) :
    u32nStep n v =
      if (v * n) % 2 ^ 32 < 2 ^ 32 % n then none else some (v * n / 2 ^ 32) := by
  have ht : 2 ^ 32 % n < n := Nat.mod_lt _ hn
  simp only [u32nStep, thresh_eq n hn']
  split
  · rfl
  · rw [if_neg (by omega)]

theorem step_some (n v r : Nat) (h : u32nStep n v = some r) : r = v * n / 2 ^ 32 := by
  simp only [u32nStep] at h
  split at h
  · split at h
    · cases h
    · exact (Option.some.inj h).symm
  · exact (Option.some.inj h).symm

theorem step_range (n v r : Nat) (hn : 0 < n) (hv : v < 2 ^ 32) :
    u32nStep n v = some r → r < n := by
  intro h
  rw [step_some n v r h, Nat.div_lt_iff_lt_mul (by decide : 0 < 2 ^ 32), Nat.mul_comm n]
  exact Nat.mul_lt_mul_of_pos_right hv hn

theorem high_word_window (x t q r : Nat) (hW : q + t = 2 ^ 32) :
    (¬ x % 2 ^ 32 < t ∧ x / 2 ^ 32 = r) ↔ (r * 2 ^ 32 + t ≤ x ∧ x < r * 2 ^ 32 + t + q) := by
  omega

theorem step_some_iff (n v r : Nat) (hn : 0 < n) (hn' : n < 2 ^ 32) :
    u32nStep n v = some r ↔
      r * 2 ^ 32 + 2 ^ 32 % n ≤ v * n ∧ v * n < r * 2 ^ 32 + 2 ^ 32 % n + 2 ^ 32 / n * n := by
  rw [step_eq n v hn hn', Option.ite_none_left_eq_some, Option.some.injEq]
  exact high_word_window _ _ _ r (Nat.div_add_mod' _ _)

/-- `range N` splits into the part before the interval, the interval, the part after -/
theorem length_filter_range_interval (p : Nat → Bool) (N lo q : Nat) (h : lo + q ≤ N)
    (hp : ∀ v, v < N → (p v = true ↔ lo ≤ v ∧ v < lo + q)) :
    ((List.range N).filter p).length = q := by
  obtain ⟨m, rfl⟩ := Nat.exists_eq_add_of_le h
  have h1 : (List.range' 0 lo).filter p = [] :=
    List.filter_eq_nil_iff.2 fun v hv => by
      rw [List.mem_range'_1] at hv
      rw [hp v (by omega)]
      omega
  have h2 : (List.range' lo q).filter p = List.range' lo q :=
    List.filter_eq_self.2 fun v hv => by
      rw [List.mem_range'_1] at hv
      exact (hp v (by omega)).2 hv
  have h3 : (List.range' (lo + q) m).filter p = [] :=
    List.filter_eq_nil_iff.2 fun v hv => by
      rw [List.mem_range'_1] at hv
      rw [hp v (by omega)]
      omega
  rw [List.range_eq_range', ← List.range'_append_1, ← List.range'_append_1, List.filter_append,
    List.filter_append, Nat.zero_add, Nat.zero_add, h1, h2, h3, List.nil_append, List.append_nil,
    List.length_range']

/-! ### draws from a source -/

theorem u32n_spec (n : Nat) (hn : 0 < n) (vs : List Nat) (hv : ∀ v ∈ vs, v < 2 ^ 32)
    (j : Nat) (rest : List Nat) :
    u32n n vs = some (j, rest) → j < n ∧ ∀ v ∈ rest, v < 2 ^ 32 := by
  induction vs with
  | nil => intro h; cases h
  | cons v vs ih =>
    intro h
    have hvs : ∀ w ∈ vs, w < 2 ^ 32 := fun w hw => hv w (List.mem_cons_of_mem _ hw)
    rw [u32n] at h
    split at h
    · next r hs =>
      cases h
      exact ⟨step_range n v j hn (hv v List.mem_cons_self) hs, hvs⟩
    · exact ih hvs h

/-- no bound on `k` is needed: every draw for bound `k + 2` is below it -/
theorem drawsFrom_valid (k : Nat) (vs js rest : List Nat) (hv : ∀ v ∈ vs, v < 2 ^ 32) :
    drawsFrom k vs = some (js, rest) → ValidDraws k js := by
  induction k generalizing vs js rest with
  | zero =>
    intro h
    cases h
    rfl
  | succ k ih =>
    intro h
    rw [drawsFrom] at h
    split at h
    · cases h
    · next j vs' hu =>
      obtain ⟨hj, hvs'⟩ := u32n_spec (k + 2) (Nat.succ_pos _) vs hv j vs' hu
      split at h
      · cases h
      · next js1 rest1 hd =>
        cases h
        exact ⟨Nat.le_of_lt_succ hj, ih vs' js1 rest hvs' hd⟩

end Saltpack.Proofs.RandDraw
