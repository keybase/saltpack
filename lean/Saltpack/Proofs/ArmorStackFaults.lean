/-
  The armor reader stack on FAILING inputs and FAULTING sources.

  (A) Whatever the stack releases for a text `T` — any fragmentation, any positive buffer sizes, clean end or
      error — is a prefix of `maxRelease par expect T`, a function of the text alone, and all of it when the read
      ends cleanly (`released_prefix_maxRelease`, `maxRelease_ok`, `released_prefix_comparable`).
  (B) If the script's first condition is a non-EOF error of the underlying reader, the read ends with an error,
      never with a clean end-of-message, whatever the script does afterwards (`fault_never_clean`).  The fault
      must not be saltpack's own `ErrPunctuated` sentinel: a source that reports it is indistinguishable from a
      period in the text (counterexample at the end).

  Both rest on the layer theorems of Proofs/Stack*.lean, which hold for an arbitrary terminal condition.
-/
import Saltpack.Proofs.ArmorStack

namespace Saltpack.Proofs
open Saltpack Saltpack.Stream

/-! ## the bound, as a function of the text alone -/

/-- the most that can be released for a body text `body`: keep its longest
    prefix of valid bytes, drop the skip characters, decode strictly block by
    block up to the first block that fails (`Basex.decodePrefix`) — all blocks,
    a short final one included, when the message can be `complete` and every
    body byte is valid; the whole blocks only otherwise -/
def relBody (par : Armor.Params) (complete : Bool) (body : Bytes) : Bytes :=
  decMaxOf par.enc (complete && body.all (Armor.validByte par))
    (Basex.filterSkip par.enc (body.takeWhile (Armor.validByte par)))

/-- the most the stack can release for the text `T` (`clean`: the source ends
    with a clean EOF after `T`; otherwise with a fault):
    * nothing unless `T` has a first period, and the header sentence before it
      is shorter than the frame limit and passes the header check;
    * then the body is the text up to the second period (or all the rest);
    * the body can be complete when that second period exists, the footer
      sentence and the trailing text are acceptable (`tailSem`), and the source
      ends cleanly. -/
def releaseOf (par : Armor.Params) (expect : Armor.Expect) (clean : Bool) (T : Bytes) : Bytes :=
  match Armor.splitAt1 Armor.period T with
  | none => []
  | some (h, r1) =>
    if h.length < Armor.frameLim ∧ (hdrCheck par expect [] h).isSome = true then
      match Armor.splitAt1 Armor.period r1 with
      | none => relBody par false r1
      | some (body, r2) => relBody par (clean && (tailSem par expect h r2).isSome) body
    else []

/-- **the most the stack can ever release for the text `T`** followed by a clean EOF -/
def maxRelease (par : Armor.Params) (expect : Armor.Expect) (T : Bytes) : Bytes := releaseOf par expect true T

/-- the most the stack can release when the source faults after delivering `T` -/
def faultRelease (par : Armor.Params) (expect : Armor.Expect) (T : Bytes) : Bytes := releaseOf par expect false T

/-! ## the initial state -/

theorem relBody_eq (par : Armor.Params) (body : Bytes) (oi : Option FInfo) :
    decMaxOf par.enc (filOfMax par (body, oi)).2.isSome (filOfMax par (body, oi)).1 = relBody par oi.isSome body := by
  unfold relBody filOfMax
  cases hv : body.all (Armor.validByte par) with
  | true => simp only [if_true, Bool.and_true]
  | false => simp only [Bool.false_eq_true, if_false, Option.isSome_none, Bool.and_false]

theorem dMax_init (par : Armor.Params) (expect : Armor.Expect) (src : Source) (T : Bytes) (c : RErr)
    (hsrc : srcText src = (T, c)) : (dMax par expect (newDecoder src)).1 = releaseOf par expect (c == .eof) T := by
  have ht : ({ src := src } : PState).text = (T, c) := by rw [ptext_init, hsrc]
  have hnil : decMaxOf par.enc (filOfMax par ([], none)).2.isSome (filOfMax par ([], none)).1 = [] := by
    rw [relBody_eq]; exact decMaxOf_nil _ _
  simp only [dMax, newDecoder, filMax, fMax, ht, List.nil_append]
  unfold hdrMax releaseOf
  cases Armor.splitAt1 Armor.period T with
  | none => exact hnil
  | some q =>
    obtain ⟨h, r1⟩ := q
    simp only
    by_cases hl : h.length < Armor.frameLim
    · cases hdrCheck par expect [] h with
      | none => simp only [hl, true_and, Option.isSome_none, Bool.false_eq_true, if_false, if_true]; exact hnil
      | some b =>
        simp only [hl, true_and, Option.isSome_some, if_true]
        unfold bodyMax
        cases Armor.splitAt1 Armor.period r1 with
        | none => exact relBody_eq par r1 none
        | some q2 =>
          obtain ⟨body, r2⟩ := q2
          simp only
          rw [relBody_eq]
          by_cases hc : c = .eof
          · subst hc
            cases tailSem par expect h r2 <;> rfl
          · have hb : (c == RErr.eof) = false := beq_eq_false_iff_ne.mpr hc
            rw [if_neg hc, hb]
            rfl
    · simp only [hl, false_and, if_false]; exact hnil

/-- the general statement: a script whose first condition is `c` (the clean EOF
    or a fault other than `ErrPunctuated`) -/
theorem readAll_release (par : Armor.Params) (hpar : par.enc.WF) (expect : Armor.Expect)
    (src : Source) (T : Bytes) (c : RErr) (hsrc : srcText src = (T, c)) (hc : c ≠ punctErr)
    (hpre : SrcPre src) (hok : c = .eof → SrcOK src) (caps : List Nat) (hcaps : ∀ k ∈ caps, 0 < k) :
    ∃ released oe d,
      (∀ fuel, T.length < fuel → readAll par expect caps fuel 0 (newDecoder src) [] = (released, oe, d)) ∧
      released <+: releaseOf par expect (c == .eof) T ∧
      (oe = none → c = .eof ∧ released = releaseOf par expect (c == .eof) T) := by
  have hi := dInv_init par src c T hsrc hc hpre hok
  obtain ⟨r, oe, d, f1, f2, f3, f4⟩ := readAll_spec par hpar expect caps hcaps (newDecoder src) hi 0 []
  rw [dSize_init src T c hsrc] at f1
  rw [dMax_init par expect src T c hsrc] at f2
  refine ⟨r, oe, d, by simpa using f1, f2, fun h => ?_⟩
  cases hm : (dMax par expect (newDecoder src)).2 with
  | none =>
    obtain ⟨z, hz⟩ := f3 hm
    rw [h] at hz
    cases hz
  | some i =>
    obtain ⟨_, g2, _⟩ := f4 i hm
    rw [dMax_init par expect src T c hsrc] at g2
    refine ⟨?_, g2⟩
    -- a clean end is possible only over a text that ends cleanly
    have := dMax_clean par expect (newDecoder src) hi.fil i hm
    simpa [newDecoder, ptext_init, hsrc] using this

/-! ## (A) what is released is a prefix of a function of the text alone -/

/-- **(A)** For every well-behaved script `src` that delivers the text `T` and
    then a clean EOF (any fragmentation), every schedule `caps` of positive
    buffer sizes and every sufficient fuel: the bytes released — whether the
    read ends cleanly or with an error — are a prefix of `maxRelease par expect
    T`; and when the read ends cleanly they are all of it. -/
theorem released_prefix_maxRelease (par : Armor.Params) (hpar : par.enc.WF) (expect : Armor.Expect)
    (src : Source) (T : Bytes) (hok : SrcOK src) (hsrc : srcText src = (T, .eof))
    (caps : List Nat) (hcaps : ∀ c ∈ caps, 0 < c) (fuel : Nat) (hfuel : T.length + 1 ≤ fuel) :
    (readAll par expect caps fuel 0 (newDecoder src) []).1 <+: maxRelease par expect T ∧
    ((readAll par expect caps fuel 0 (newDecoder src) []).2.1 = none →
      (readAll par expect caps fuel 0 (newDecoder src) []).1 = maxRelease par expect T) := by
  obtain ⟨r, oe, d, f1, f2, f3⟩ := readAll_release par hpar expect src T .eof hsrc eof_ne_punct
    (srcPre_of_srcOK src hok) (fun _ => hok) caps hcaps
  rw [f1 fuel (by omega)]
  exact ⟨f2, fun h => (f3 h).2⟩

theorem maxRelease_ok (par : Armor.Params) (hpar : par.enc.WF) (expect : Armor.Expect) (T : Bytes)
    (o : Armor.Opened) (ho : Armor.openPure par expect T = .ok o) : maxRelease par expect T = o.payload := by
  -- two readings of the meaning of the initial state over a clean script of `T`
  have hsrc : srcText [(T, some RErr.eof)] = (T, .eof) := rfl
  have h1 : (dMax par expect (newDecoder [(T, some RErr.eof)])).1 = maxRelease par expect T :=
    dMax_init par expect _ T .eof hsrc
  have h2 := dMax_init_clean par hpar.cblock_pos expect _ T hsrc
  have hrel := openPure_rel par expect T
  rw [ho] at hrel
  obtain ⟨h, ft, r1, hs, _⟩ := hrel
  rw [hs] at h2
  rw [← h1, semOf_eq_some h2]

/-- **(A), corollary**: two reads of the same text — two well-behaved scripts,
    two schedules of positive buffer sizes — release byte strings one of which
    is a prefix of the other, whatever the outcomes. -/
theorem released_prefix_comparable (par : Armor.Params) (hpar : par.enc.WF) (expect : Armor.Expect)
    (src src' : Source) (T : Bytes) (hok : SrcOK src) (hok' : SrcOK src')
    (hsrc : srcText src = (T, .eof)) (hsrc' : srcText src' = (T, .eof))
    (caps caps' : List Nat) (hcaps : ∀ c ∈ caps, 0 < c) (hcaps' : ∀ c ∈ caps', 0 < c)
    (fuel fuel' : Nat) (hfuel : T.length + 1 ≤ fuel) (hfuel' : T.length + 1 ≤ fuel') :
    (readAll par expect caps fuel 0 (newDecoder src) []).1 <+: (readAll par expect caps' fuel' 0 (newDecoder src') []).1 ∨
    (readAll par expect caps' fuel' 0 (newDecoder src') []).1 <+: (readAll par expect caps fuel 0 (newDecoder src) []).1 :=
  List.prefix_or_prefix_of_prefix
    (released_prefix_maxRelease par hpar expect src T hok hsrc caps hcaps fuel hfuel).1
    (released_prefix_maxRelease par hpar expect src' T hok' hsrc' caps' hcaps' fuel' hfuel').1

/-! ## monotonicity of the bound -/

theorem takeWhile_prefix_mono {α : Type} (p : α → Bool) (a b : List α) (h : a <+: b) :
    a.takeWhile p <+: b.takeWhile p := by
  obtain ⟨t, rfl⟩ := h
  by_cases ha : a.all p = true
  · rw [takeWhile_append_all p a t ha, takeWhile_eq_of_all p a ha]
    exact List.prefix_append _ _
  · have ha' : a.all p = false := by simpa using ha
    rw [takeWhile_append_bad p a t ha']
    exact List.prefix_refl _

theorem fullBlocks_length (e : Basex.Enc) (s : Bytes) :
    (fullBlocks e s).length = s.length / e.charBlockLen * e.charBlockLen := by
  unfold fullBlocks
  rw [List.length_take]
  have := Nat.div_mul_le_self s.length e.charBlockLen
  omega

theorem decMaxOf_mono (e : Basex.Enc) (hN : 0 < e.charBlockLen) (s s' : Bytes) (fl : Bool) (h : s <+: s') :
    decMaxOf e false s <+: decMaxOf e fl s' := by
  obtain ⟨w, rfl⟩ := h
  have hsplit : s = fullBlocks e s ++ s.drop (s.length / e.charBlockLen * e.charBlockLen) := by
    unfold fullBlocks; rw [List.take_append_drop]
  have hlhs : decMaxOf e false s = (dP e (fullBlocks e s)).1 := by simp [decMaxOf]
  rw [hlhs]
  conv => rhs; rw [hsplit, List.append_assoc]
  rw [decMaxOf_blocks e hN _ _ _ fl (fullBlocks_length e s)]
  rcases dP e (fullBlocks e s) with ⟨p, _ | x⟩
  · exact List.prefix_append _ _
  · exact List.prefix_refl _

theorem relBody_mono (par : Armor.Params) (hN : 0 < par.enc.charBlockLen) (body body' : Bytes) (fl : Bool)
    (h : body <+: body') : relBody par false body <+: relBody par fl body' := by
  unfold relBody
  simp only [Bool.false_and]
  exact decMaxOf_mono par.enc hN _ _ _ (filterSkip_prefix par.enc _ _ (takeWhile_prefix_mono _ _ _ h))

/-- **monotonicity**: what can be released before a fault is a prefix of what
    ANY continuation of the text can release at most -/
theorem releaseOf_mono (par : Armor.Params) (hN : 0 < par.enc.charBlockLen) (expect : Armor.Expect) (T X : Bytes)
    (fl : Bool) : releaseOf par expect false T <+: releaseOf par expect fl (T ++ X) := by
  unfold releaseOf
  cases hs : Armor.splitAt1 Armor.period T with
  | none => exact List.nil_prefix
  | some q =>
    obtain ⟨h, r1⟩ := q
    obtain ⟨e1, e2⟩ := splitAt1_sound _ _ h r1 hs
    have hs' : Armor.splitAt1 Armor.period (T ++ X) = some (h, r1 ++ X) := by
      rw [e1, List.append_assoc, List.cons_append]
      exact splitAt1_of_split _ h (r1 ++ X) e2
    rw [hs']
    simp only
    by_cases hc : h.length < Armor.frameLim ∧ (hdrCheck par expect [] h).isSome = true
    · rw [if_pos hc, if_pos hc]
      cases hs1 : Armor.splitAt1 Armor.period r1 with
      | none =>
        have hnp := splitAt1_none _ _ hs1
        rw [splitAt1_prefix _ r1 X hnp]
        cases Armor.splitAt1 Armor.period X with
        | none => exact relBody_mono par hN _ _ _ (List.prefix_append _ _)
        | some q2 => exact relBody_mono par hN _ _ _ (List.prefix_append _ _)
      | some q1 =>
        obtain ⟨body, r2⟩ := q1
        obtain ⟨g1, g2⟩ := splitAt1_sound _ _ body r2 hs1
        have hs1' : Armor.splitAt1 Armor.period (r1 ++ X) = some (body, r2 ++ X) := by
          rw [g1, List.append_assoc, List.cons_append]
          exact splitAt1_of_split _ body (r2 ++ X) g2
        rw [hs1']
        simp only [Bool.false_and]
        exact relBody_mono par hN _ _ _ (List.prefix_refl _)
    · rw [if_neg hc]
      exact List.nil_prefix

/-! ## (B) a fault of the underlying reader is never turned into a clean end -/

/-- **(B)** `src` is ANY script whose first condition is the non-EOF error `z`
    (`srcText src = (T, .err z)`: `T` = the data delivered up to and with that
    condition), with non-empty data deliveries before it (`SrcPre`).  NOTHING is
    assumed about the script after the faulting delivery — the error may
    persist (sticky), the script may continue normally (transient), or do
    anything else.  For every schedule of positive buffer sizes the read ends
    with an ERROR — never with a clean end-of-message — the same for every fuel
    above `T.length` (so it is not the fuel running out); what was released is a
    prefix of `faultRelease par expect T`, hence of `maxRelease par expect (T ++
    X)` for every continuation `X` of the text. -/
theorem fault_never_clean (par : Armor.Params) (hpar : par.enc.WF) (expect : Armor.Expect)
    (src : Source) (T : Bytes) (z : Err) (hpre : SrcPre src) (hsrc : srcText src = (T, .err z))
    (hz : z ≠ .punctuated) (caps : List Nat) (hcaps : ∀ c ∈ caps, 0 < c) :
    ∃ released e d,
      (∀ fuel, T.length < fuel → readAll par expect caps fuel 0 (newDecoder src) [] = (released, some e, d)) ∧
      released <+: faultRelease par expect T ∧
      ∀ X, released <+: maxRelease par expect (T ++ X) := by
  have err_ne_punct : RErr.err z ≠ punctErr := by
    intro h
    unfold punctErr at h
    injection h with h'
    exact hz h'
  obtain ⟨r, oe, d, f1, f2, f3⟩ := readAll_release par hpar expect src T (.err z) hsrc err_ne_punct
    hpre (fun h => by cases h) caps hcaps
  have hb : ((RErr.err z) == RErr.eof) = false := by
    rw [beq_eq_false_iff_ne]; intro h; cases h
  rw [hb] at f2
  cases oe with
  | none => exact absurd (f3 rfl).1 (by intro h; cases h)
  | some e =>
    exact ⟨r, e, d, f1, f2, fun X => f2.trans (releaseOf_mono par hpar.cblock_pos expect T X true)⟩

/-- a read that is cut short by a fault and a read of ANY clean continuation
    `T ++ X` of the text release byte strings one of which is a prefix of the other -/
theorem released_prefix_comparable_fault (par : Armor.Params) (hpar : par.enc.WF) (expect : Armor.Expect)
    (src src' : Source) (T X : Bytes) (z : Err) (hpre : SrcPre src) (hsrc : srcText src = (T, .err z))
    (hz : z ≠ .punctuated) (hok' : SrcOK src') (hsrc' : srcText src' = (T ++ X, .eof))
    (caps caps' : List Nat) (hcaps : ∀ c ∈ caps, 0 < c) (hcaps' : ∀ c ∈ caps', 0 < c)
    (fuel fuel' : Nat) (hfuel : T.length + 1 ≤ fuel) (hfuel' : (T ++ X).length + 1 ≤ fuel') :
    (readAll par expect caps fuel 0 (newDecoder src) []).1 <+: (readAll par expect caps' fuel' 0 (newDecoder src') []).1 ∨
    (readAll par expect caps' fuel' 0 (newDecoder src') []).1 <+: (readAll par expect caps fuel 0 (newDecoder src) []).1 := by
  obtain ⟨r, e, d, f1, _, f3⟩ := fault_never_clean par hpar expect src T z hpre hsrc hz caps hcaps
  have h1 : (readAll par expect caps fuel 0 (newDecoder src) []).1 <+: maxRelease par expect (T ++ X) := by
    rw [f1 fuel (by omega)]; exact f3 X
  exact List.prefix_or_prefix_of_prefix h1
    (released_prefix_maxRelease par hpar expect src' (T ++ X) hok' hsrc' caps' hcaps' fuel' hfuel').1

/-! ### the shapes of faulting scripts -/

/-- deliveries of data only, each non-empty -/
def DataOnly (pre : Source) : Prop := ∀ x ∈ pre, x.2 = none ∧ x.1 ≠ []

instance (pre : Source) : Decidable (DataOnly pre) := by unfold DataOnly; exact inferInstance

/-- the data of a list of deliveries -/
def dataOf : Source → Bytes
  | [] => []
  | (d, _) :: rest => d ++ dataOf rest

theorem srcText_dataOnly : ∀ (pre : Source), DataOnly pre → ∀ (rest : Source),
    srcText (pre ++ rest) = (dataOf pre ++ (srcText rest).1, (srcText rest).2) := by
  intro pre
  induction pre with
  | nil => intro _ rest; simp [dataOf]
  | cons hd tl ih =>
    intro h rest
    obtain ⟨d, e⟩ := hd
    have h1 := (h (d, e) (by simp)).1
    simp only at h1
    subst h1
    have := ih (fun x hx => h x (by simp [hx])) rest
    simp only [List.cons_append, srcText, this, dataOf, List.append_assoc]

theorem srcPre_dataOnly : ∀ (pre : Source), DataOnly pre → ∀ (rest : Source), SrcPre rest → SrcPre (pre ++ rest) := by
  intro pre
  induction pre with
  | nil => intro _ rest hr; exact hr
  | cons hd tl ih =>
    intro h rest hr
    obtain ⟨d, e⟩ := hd
    have h1 := h (d, e) (by simp)
    simp only at h1
    obtain ⟨rfl, h2⟩ := h1
    exact ⟨h2, ih (fun x hx => h x (by simp [hx])) rest hr⟩

/-- **(B) for scripts given by their shape**: non-empty data deliveries `pre`,
    then a delivery `(dd, z)` carrying the fault together with the data `dd`
    (possibly none), then ANY further script `post` —
    STICKY: `post = List.replicate n ([], some (.err z))`;
    TRANSIENT: `dd = []` and `post` = the rest of the message, delivered normally.
    The read ends with an error. -/
theorem fault_never_clean_shape (par : Armor.Params) (hpar : par.enc.WF) (expect : Armor.Expect)
    (pre post : Source) (dd : Bytes) (z : Err) (hpre : DataOnly pre) (hz : z ≠ .punctuated)
    (caps : List Nat) (hcaps : ∀ c ∈ caps, 0 < c) (fuel : Nat) (hfuel : (dataOf pre ++ dd).length + 1 ≤ fuel) :
    ∃ released e d,
      readAll par expect caps fuel 0 (newDecoder (pre ++ (dd, some (.err z)) :: post)) [] = (released, some e, d) ∧
      released <+: faultRelease par expect (dataOf pre ++ dd) :=
  let ⟨r, e, d, f1, f2, _⟩ := fault_never_clean par hpar expect _ (dataOf pre ++ dd) z
    (srcPre_dataOnly pre hpre ((dd, some (.err z)) :: post) (by unfold SrcPre; trivial))
    (by rw [srcText_dataOnly pre hpre]; rfl) hz caps hcaps
  ⟨r, e, d, f1 fuel hfuel, f2⟩

/-! ## concrete checks -/

/-- 43 alphabet characters: one whole block (it decodes to 32 bytes) -/
def exBlk : Bytes := [48, 49, 50, 51, 52, 53, 54, 55, 56, 57, 65, 66, 67, 68, 69, 70, 71, 72, 73, 74, 75, 76, 77, 78, 79, 80,
  81, 82, 83, 84, 85, 86, 87, 88, 89, 90, 97, 98, 99, 100, 101, 102, 103]
/-- the 32 bytes of that block -/
def exBlkBytes : Bytes := [0, 17, 252, 240, 169, 177, 146, 76, 165, 16, 49, 23, 31, 236, 255, 24, 30, 201, 239, 112, 255, 51,
  112, 195, 65, 204, 90, 49, 101, 192, 215, 192]

/-- "h." ++ block ++ "0!0.f." : a bad byte `!` in the body, behind a whole block -/
def exBadByte : Bytes := [104, 46] ++ exBlk ++ [48, 33, 48, 46, 102, 46]
/-- "h." ++ block ++ "0.f." : a final block of one character (an impossible length) -/
def exBadLen : Bytes := [104, 46] ++ exBlk ++ [48, 46, 102, 46]
/-- "h." ++ block ++ ".f" : the footer's period is missing -/
def exNoFooter : Bytes := [104, 46] ++ exBlk ++ [46, 102]
/-- "h." ++ block ++ ".f.!" : garbage behind the footer -/
def exGarbage : Bytes := [104, 46] ++ exBlk ++ [46, 102, 46, 33]
/-- "h." ++ block ++ ".f." : a good message -/
def exGood : Bytes := [104, 46] ++ exBlk ++ [46, 102, 46]

def oneDelivery (T : Bytes) : Source := [(T, none)]
def byteWise (T : Bytes) : Source := T.map (fun b => ([b], none))

/-- released bytes and terminal condition -/
def runStack (caps : List Nat) (src : Source) : Bytes × Option Err :=
  let r := readAll Armor.params62 none caps 200 0 (newDecoder src) []
  (r.1, r.2.1)

-- the bounds of the five texts
example : maxRelease Armor.params62 none exBadByte = exBlkBytes ∧ maxRelease Armor.params62 none exBadLen = exBlkBytes ∧
    maxRelease Armor.params62 none exNoFooter = exBlkBytes ∧ maxRelease Armor.params62 none exGarbage = exBlkBytes ∧
    maxRelease Armor.params62 none exGood = exBlkBytes := by decide +kernel

-- a bad byte in the body: in ONE delivery read with 64-byte buffers the whole chunk that contains the
-- bad byte is dropped and nothing is released; byte by byte with one-byte buffers the first block is
-- released before the error.  [] <+: the 32 bytes <+: maxRelease.
example : runStack [64] (oneDelivery exBadByte) = ([], some .basexCorrupt) ∧
    runStack [1] (byteWise exBadByte) = (exBlkBytes, some .basexCorrupt) ∧
    runStack [1] (oneDelivery exBadByte) = (exBlkBytes, some .basexCorrupt) := by decide +kernel

-- a bad final block length: the whole block is released under every fragmentation
example : runStack [64] (oneDelivery exBadLen) = (exBlkBytes, some .basexBadLen) ∧
    runStack [1] (byteWise exBadLen) = (exBlkBytes, some .basexBadLen) := by decide +kernel

-- a missing footer: in one delivery the last body bytes come with the footer check and are dropped
example : runStack [64] (oneDelivery exNoFooter) = ([], some .unexpectedEOF) ∧
    runStack [1] (byteWise exNoFooter) = (exBlkBytes, some .unexpectedEOF) := by decide +kernel

-- garbage behind the footer
example : runStack [64] (oneDelivery exGarbage) = ([], some .trailingGarbage) ∧
    runStack [1] (byteWise exGarbage) = (exBlkBytes, some .trailingGarbage) := by decide +kernel

-- (B) a fault that arrives only AFTER the footer's closing period, alone and persisting: byte by byte
-- all the payload has been released by then — the read still ends with the fault
example : runStack [1] (byteWise exGood ++ List.replicate 3 ([], some (.err .ioError))) = (exBlkBytes, some .ioError) ∧
    runStack [64] (oneDelivery exGood ++ List.replicate 3 ([], some (.err .ioError))) = ([], some .ioError) := by decide +kernel

-- … together with the last data (the closing period), persisting
example : runStack [1] (byteWise (exGood.take 47) ++ [([46], some (.err .ioError))] ++
      List.replicate 3 ([], some (.err .ioError))) = (exBlkBytes, some .ioError) := by decide +kernel

-- … transient: one faulting read after the footer, then the script ends normally
example : runStack [1] (byteWise exGood ++ [([], some (.err .ioError)), ([], some .eof)]) = (exBlkBytes, some .ioError) ∧
    runStack [1] (byteWise exGood ++ [([], some .eof)]) = (exBlkBytes, none) := by decide +kernel

-- a transient fault inside the body, then the rest of the message delivered normally
example : runStack [7] (byteWise (exGood.take 20) ++ [([], some (.err .ioError))] ++ byteWise (exGood.drop 20)) =
    ([], some .ioError) := by decide +kernel

-- WHY `SrcPre` (no empty data-only delivery before the fault): `consumeUntilEOF` takes a `(0, nil)` read
-- behind the message for the end of the input and stops reading — the fault scripted behind it is never
-- asked for, and the read ends cleanly.  (Inside the body such an empty read is harmless.)
example : runStack [1] (byteWise exGood ++ [([], none), ([], some (.err .ioError))]) = (exBlkBytes, none) ∧
    runStack [1] (byteWise (exGood.take 20) ++ [([], none), ([], some (.err .ioError))]) = ([], some .ioError) := by
  decide +kernel

-- the theorem instantiated: sticky fault behind the whole message
example : ∃ released e d, readAll Armor.params62 none [3, 1] 60 0
    (newDecoder (byteWise exGood ++ ([], some (.err .ioError)) :: List.replicate 5 ([], some (.err .ioError)))) [] =
      (released, some e, d) ∧ released <+: faultRelease Armor.params62 none (dataOf (byteWise exGood) ++ []) :=
  fault_never_clean_shape Armor.params62 params62_wf none (byteWise exGood) _ [] .ioError (by decide) (by decide)
    [3, 1] (by decide) 60 (by decide)

-- WHY `z ≠ .punctuated`: a source that itself reports saltpack's `ErrPunctuated` (transiently, without
-- data) where the body's closing period should be is taken for that period — "h." "00" <ErrPunctuated>
-- "f." EOF reads as the message "h.00.f." and ends cleanly …
example : (readAll Armor.params62 none [1] 30 0
    (newDecoder [([104, 46], none), ([48, 48], none), ([], some punctErr), ([102, 46], some .eof)]) []).1 = [0] ∧
  (readAll Armor.params62 none [1] 30 0
    (newDecoder [([104, 46], none), ([48, 48], none), ([], some punctErr), ([102, 46], some .eof)]) []).2.1 = none := by
  decide +kernel
-- … whereas a PERSISTING `ErrPunctuated` still ends with an error
example : (readAll Armor.params62 none [1] 30 0
    (newDecoder ([([104, 46], none), ([48, 48], none)] ++ List.replicate 9 ([], some punctErr))) []).2.1 =
      some .punctuated := by decide +kernel

end Saltpack.Proofs
