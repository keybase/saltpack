/-
  The BARE armor encoder stream (`NewArmor62EncoderStream`, armor.go
  `armorEncoderStream.Write` / `spaceAndOutputBuffer` / `Close` after fix
  5ad1caa) over a faulting writer: `Sender.FArm` over the scripted writer `Wr`.

  Once `failed`, every call is refused and the state is untouched.  As long as
  no underlying write failed, `FArm` and the never-failing machine
  `Stream.ArmState` (Model/ArmorWriter.lean) agree (`Sim`); hence `Close`
  returns success only if no underlying write ever failed and the writer holds
  exactly `Armor.sealText` of everything written (`armorWriter_any_split`), and
  after a failure it holds a prefix of it.
-/
import Saltpack.Proofs.SenderStreamArmor
import Saltpack.Proofs.ArmorWriter

namespace Saltpack.Proofs.SenderP
open Saltpack Saltpack.Sender Saltpack.Stream

/-! ## sticky -/

theorem farm_calls_failed : ∀ (ops : List (Option Bytes)) (a : FArm), a.failed = true →
    FArm.calls a ops = (ops.map (fun _ => (0, false)), a) := by
  intro ops
  induction ops with
  | nil => intro a _; rfl
  | cons o ops ih =>
    intro a hf
    cases o with
    | none =>
      unfold FArm.calls
      simp only [farm_close_failed a hf, ih a hf, List.map_cons]
    | some b =>
      unfold FArm.calls
      simp only [farm_writeN_failed a b hf, ih a hf, List.map_cons]

theorem farm_write_flag (a : FArm) (b : Bytes) (hf : a.failed = false) :
    (a.write b).2.failed = !(a.write b).1 := by
  cases he : (a.enc.write b).2.1 with
  | false => rw [farm_write_encFail a b hf he]; rfl
  | true =>
    obtain ⟨_, _, h, -⟩ := farm_write_live a b hf he
    rw [h]

theorem farm_close_flag (a : FArm) (hf : a.failed = false) : a.close.2.failed = !a.close.1 := by
  cases he : a.enc.close.1 with
  | false => rw [farm_close_encFail a hf he]; rfl
  | true =>
    obtain ⟨_, _, h⟩ := farm_close_live a hf he
    rw [h]

theorem farm_write_fault_sets_flag (a : FArm) (b : Bytes) (h : (a.write b).2.w.faults ≠ a.w.faults) :
    (a.write b).2.failed = true := by
  cases hf : a.failed with
  | true => rw [farm_write_failed a b hf] at h; exact absurd rfl h
  | false =>
    rw [farm_write_flag a b hf]
    cases hok : (a.write b).1 with
    | false => rfl
    | true =>
      -- a successful `Write` saw no fault
      have h1 := farm_write_faults a b
      rw [hok, Bool.true_or, Bool.true_or, if_pos rfl, Nat.add_zero] at h1
      exact absurd h1 h

theorem farm_close_fault_sets_flag (a : FArm) (h : a.close.2.w.faults ≠ a.w.faults) : a.close.2.failed = true := by
  cases hf : a.failed with
  | true => rw [farm_close_failed a hf] at h; exact absurd rfl h
  | false =>
    rw [farm_close_flag a hf]
    cases hok : a.close.1 with
    | false => rfl
    | true =>
      have h1 := farm_close_faults a
      rw [hok, Bool.true_or, Bool.true_or, if_pos rfl, Nat.add_zero] at h1
      exact absurd h1 h

/-! ## the encoder's bookkeeping field `written` does not influence what it does -/

/-- the same encoder state with `W` in front of its record of writes -/
def prependWritten (W : List Bytes) (e : EncState) : EncState := { e with written := W ++ e.written }

theorem prependWritten_under (W : List Bytes) (e : EncState) (d : Bytes) :
    (prependWritten W e).under d = ((e.under d).1, prependWritten W (e.under d).2) := by
  unfold EncState.under prependWritten
  cases hs : e.sink with
  | nil => simp [List.append_assoc]
  | cons f rest => cases f <;> simp [List.append_assoc]

theorem prependWritten_interior (W : List Bytes) : ∀ (fuel : Nat) (e : EncState) (p : Bytes) (n : Nat),
    EncState.interior fuel (prependWritten W e) p n =
      ((EncState.interior fuel e p n).1, prependWritten W (EncState.interior fuel e p n).2.1,
       (EncState.interior fuel e p n).2.2.1, (EncState.interior fuel e p n).2.2.2) := by
  intro fuel
  induction fuel with
  | zero => intro e p n; rfl
  | succ fuel ih =>
    intro e p n
    unfold EncState.interior
    have henc : (prependWritten W e).enc = e.enc := rfl
    rw [henc]
    by_cases hge : p.length ≥ e.enc.blockLen
    · simp only [if_pos hge]
      generalize (if 128 * e.enc.blockLen > p.length then p.length - p.length % e.enc.blockLen else 128 * e.enc.blockLen) = nn
      rw [prependWritten_under]
      cases hu : e.under (Basex.encode e.enc (p.take nn)) with
      | mk ok s1 =>
        cases ok with
        | false => rfl
        | true =>
          simp only [Bool.not_true, Bool.false_eq_true, if_false]
          exact ih _ _ _
    · simp only [if_neg hge]

theorem prependWritten_encRest (W : List Bytes) (e : EncState) (p : Bytes) (n : Nat) :
    encRest (prependWritten W e) p n = ((encRest e p n).1, (encRest e p n).2.1, prependWritten W (encRest e p n).2.2) := by
  unfold encRest
  rw [prependWritten_interior]
  simp only
  cases (EncState.interior (p.length + 1) e p n).1 <;> rfl

theorem prependWritten_write (W : List Bytes) (e : EncState) (p : Bytes) :
    (prependWritten W e).write p = ((e.write p).1, (e.write p).2.1, prependWritten W (e.write p).2.2) := by
  rw [write_eq, write_eq]
  have h1 : (prependWritten W e).failed = e.failed := rfl
  have h2 : (prependWritten W e).buf = e.buf := rfl
  have h3 : (prependWritten W e).enc = e.enc := rfl
  have h4 : encFringe (prependWritten W e) p = encFringe e p := rfl
  have h5 : encTl (prependWritten W e) p = encTl e p := rfl
  have h6 : encFringeU (prependWritten W e) p = ((encFringeU e p).1, prependWritten W (encFringeU e p).2) := by
    unfold encFringeU
    rw [h3, h4]
    exact prependWritten_under W { e with buf := [] } _
  rw [h1, h2, h3, h4, h5, h6]
  cases hF : e.failed with
  | true => simp only [if_true]
  | false =>
    simp only [Bool.false_eq_true, if_false]
    cases hB : (!e.buf.isEmpty) with
    | false =>
      simp only [Bool.false_eq_true, if_false]
      exact prependWritten_encRest W e p 0
    | true =>
      simp only [if_true]
      by_cases hl : (encFringe e p).length < e.enc.blockLen
      · simp only [hl, if_true]; rfl
      · simp only [hl, if_false]
        cases hU : (!(encFringeU e p).1) with
        | true => simp only [if_true]
        | false =>
          simp only [Bool.false_eq_true, if_false]
          exact prependWritten_encRest W _ _ _

theorem prependWritten_close (W : List Bytes) (e : EncState) : (prependWritten W e).close = (e.close.1, prependWritten W e.close.2) := by
  unfold EncState.close
  have h1 : (prependWritten W e).failed = e.failed := rfl
  have h2 : (prependWritten W e).buf = e.buf := rfl
  have h3 : (prependWritten W e).enc = e.enc := rfl
  rw [h1, h2, h3]
  by_cases hc : (!e.failed ∧ !e.buf.isEmpty)
  · rw [if_pos hc, if_pos hc, prependWritten_under]
    rfl
  · rw [if_neg hc, if_neg hc]

/-! ## what the scripted writer holds -/

theorem wr_writePieces_bytes (ps : List Bytes) (w : Wr) :
    (writePieces Wr.write ps w).2.bytes <+: w.bytes ++ ps.flatten ∧
    ((writePieces Wr.write ps w).1 = true → (writePieces Wr.write ps w).2.bytes = w.bytes ++ ps.flatten) := by
  obtain ⟨q, hq, ho, hall⟩ := writePieces_obs Wr.write Wr.bytes wr_obs ps w
  rw [ho]
  exact ⟨(List.prefix_append_right_inj _).2 hq, fun h => by rw [hall h]⟩

/-! ## `ArmState` in terms of the slices; its output only grows -/

theorem arm_spaceOut_eq : ∀ (fuel : Nat) (s : ArmState),
    s.spaceOut fuel = { s with buf := (spacePieces s.par fuel s.buf s.nWords).2.1,
                               nWords := (spacePieces s.par fuel s.buf s.nWords).2.2,
                               out := s.out ++ (spacePieces s.par fuel s.buf s.nWords).1.flatten } := by
  intro fuel
  induction fuel with
  | zero => intro s; simp [ArmState.spaceOut, spacePieces]
  | succ fuel ih =>
    intro s
    unfold ArmState.spaceOut spacePieces
    by_cases hgt : s.buf.length > s.par.bytesPerWord
    · simp only [hgt, if_true]
      rw [ih]
      simp [List.append_assoc]
    · simp [hgt]

theorem arm_write_out (s : ArmState) (b : Bytes) :
    (s.write b).out = s.out ++
      (spaced s.par (s.feed (s.enc.write b).2.2).buf s.nWords).1.flatten := by
  unfold ArmState.write
  simp only
  rw [arm_spaceOut_eq]
  rfl

theorem arm_close_out (s : ArmState) :
    s.close.out = s.out ++ (closePieces s.par s.ftr (s.feed s.enc.close.2).buf s.nWords).flatten := by
  unfold ArmState.close
  simp only
  rw [arm_spaceOut_eq]
  simp [closePieces, spaced, ArmState.feed, List.append_assoc]

theorem arm_write_mono (s : ArmState) (b : Bytes) : s.out <+: (s.write b).out := by
  rw [arm_write_out]; exact List.prefix_append _ _

theorem arm_fold_mono : ∀ (ws : List Bytes) (s : ArmState), s.out <+: (ws.foldl ArmState.write s).out := by
  intro ws
  induction ws with
  | nil => intro s; exact List.prefix_rfl
  | cons w ws ih => intro s; rw [List.foldl_cons]; exact (arm_write_mono s w).trans (ih _)

theorem arm_close_mono (s : ArmState) : s.out <+: s.close.out := by
  rw [arm_close_out]; exact List.prefix_append _ _

/-! ## the simulation: while no underlying write has failed, `FArm` over the
     scripted writer and the never-failing `ArmState` are the same machine -/

/-- the faulting armor stream `a` and the never-failing machine `s` are in step: same parameters,
    buffer and word count, the writer holds `s.out`, and the encoders agree up to the ghost field `written`
    (`a`'s is reset after every call, `s`'s is cumulative) -/
structure Sim (a : FArm) (s : ArmState) : Prop where
  par : a.par = s.par
  ftr : a.ftr = s.ftr
  buf : a.buf = s.buf
  nw : a.nWords = s.nWords
  out : a.w.bytes = s.out
  wnil : a.enc.written = []
  enc : s.enc = prependWritten s.enc.written a.enc

theorem sim_feed (a : FArm) (s : ArmState) (h : Sim a s) (e' : EncState) :
    Sim (a.feed e') (s.feed (prependWritten s.enc.written e')) := by
  obtain ⟨h1, h2, h3, h4, h5, h6, h7⟩ := h
  refine ⟨h1, h2, ?_, h4, h5, rfl, ?_⟩
  · show a.buf ++ e'.written.flatten = s.buf ++ (s.enc.written ++ e'.written).flatten.drop s.enc.written.flatten.length
    rw [List.flatten_append, List.drop_left' rfl, h3]
  · show prependWritten s.enc.written e' = prependWritten (s.enc.written ++ e'.written) { e' with written := [] }
    simp [prependWritten]

theorem sim_write (a : FArm) (s : ArmState) (h : Sim a s) (hok : a.EncOk) (hf : a.failed = false) (b : Bytes) :
    ((a.write b).1 = true → Sim (a.write b).2 (s.write b)) ∧ (a.write b).2.w.bytes <+: (s.write b).out := by
  have he := (farm_encOk_write a b hok).1
  have hE : (s.enc.write b).2.2 = prependWritten s.enc.written (a.enc.write b).2.2 := by
    rw [h.enc, prependWritten_write]
    have : (prependWritten s.enc.written a.enc).written = s.enc.written := by rw [← h.enc]
    rw [this]
  have hfe := sim_feed a s h (a.enc.write b).2.2
  rw [← hE] at hfe
  obtain ⟨buf, n, hw, hbn⟩ := farm_write_live a b hf he
  obtain ⟨p1, p2⟩ := wr_writePieces_bytes (spaced a.par (a.feed (a.enc.write b).2.2).buf a.nWords).1 a.w
  have hs : s.write b = (s.feed (s.enc.write b).2.2).spaceOut ((s.feed (s.enc.write b).2.2).buf.length + 1) := rfl
  rw [hw, hs, arm_spaceOut_eq, ← hfe.par, ← hfe.buf, ← hfe.nw, ← hfe.out]
  refine ⟨fun hr => ?_, p1⟩
  obtain ⟨rfl, rfl⟩ := Prod.mk.inj (hbn hr)
  exact ⟨rfl, hfe.ftr, rfl, rfl, p2 hr, rfl, hfe.enc⟩

theorem sim_close (a : FArm) (s : ArmState) (h : Sim a s) (hok : a.EncOk) (hf : a.failed = false) :
    (a.close.1 = true → a.close.2.w.bytes = s.close.out) ∧ a.close.2.w.bytes <+: s.close.out := by
  have he := (farm_encOk_close a hok).1
  have hE : s.enc.close.2 = prependWritten s.enc.written a.enc.close.2 := by
    rw [h.enc, prependWritten_close]
    have : (prependWritten s.enc.written a.enc).written = s.enc.written := by rw [← h.enc]
    rw [this]
  have hfe := sim_feed a s h a.enc.close.2
  rw [← hE] at hfe
  obtain ⟨buf, n, hw⟩ := farm_close_live a hf he
  obtain ⟨p1, p2⟩ := wr_writePieces_bytes (closePieces a.par a.ftr (a.feed a.enc.close.2).buf a.nWords) a.w
  rw [hw, arm_close_out, ← h.par, ← h.ftr, ← hfe.buf, ← h.nw, ← h.out]
  exact ⟨p2, p1⟩

/-! ## whole runs: constructor, any `Write`s (the caller carrying on whatever they return), `Close` -/

/-- the state after the `Write`s of `ws`, whatever they returned -/
def farmRun (a : FArm) (ws : List Bytes) : FArm := ws.foldl (fun a b => (a.write b).2) a

theorem farm_calls_writes : ∀ (ws : List Bytes) (a : FArm), (FArm.calls a (ws.map some)).2 = farmRun a ws := by
  intro ws
  induction ws with
  | nil => intro a; rfl
  | cons b ws ih =>
    intro a
    rw [List.map_cons]
    unfold FArm.calls
    simp only
    rw [ih]
    rfl

theorem farmRun_failed : ∀ (ws : List Bytes) (a : FArm), a.failed = true → farmRun a ws = a := by
  intro ws
  induction ws with
  | nil => intro a _; rfl
  | cons b ws ih =>
    intro a hf
    unfold farmRun
    rw [List.foldl_cons, farm_write_failed a b hf]
    exact ih a hf

/-- once the stream has failed every later `Write` is refused: the writer keeps the prefix it held,
    while the never-failing machine's output only grows -/
theorem run_sim : ∀ (ws : List Bytes) (a : FArm) (s : ArmState), Sim a s → a.EncOk → a.failed = false →
    ((farmRun a ws).failed = false →
      Sim (farmRun a ws) (ws.foldl ArmState.write s) ∧ (farmRun a ws).EncOk ∧ (farmRun a ws).w.faults = a.w.faults) ∧
    (farmRun a ws).w.bytes <+: (ws.foldl ArmState.write s).out := by
  intro ws
  induction ws with
  | nil =>
    intro a s h hok hf
    refine ⟨fun _ => ⟨h, hok, rfl⟩, ?_⟩
    show a.w.bytes <+: s.out
    rw [h.out]; exact List.prefix_rfl
  | cons b ws ih =>
    intro a s h hok hf
    have hstep : farmRun a (b :: ws) = farmRun (a.write b).2 ws := rfl
    rw [hstep, List.foldl_cons]
    obtain ⟨w1, w2⟩ := sim_write a s h hok hf b
    have hflag := farm_write_flag a b hf
    have hfl := farm_write_faults a b
    cases hr : (a.write b).1 with
    | true =>
      rw [hr] at hflag hfl
      simp only [Bool.not_true, Bool.true_or, if_true, Nat.add_zero] at hflag hfl
      obtain ⟨i1, i2⟩ := ih (a.write b).2 (s.write b) (w1 hr) (farm_encOk_write a b hok).2 hflag
      refine ⟨fun hh => ?_, i2⟩
      obtain ⟨j1, j2, j3⟩ := i1 hh
      exact ⟨j1, j2, by rw [j3, hfl]⟩
    | false =>
      rw [hr] at hflag
      simp only [Bool.not_false] at hflag
      rw [farmRun_failed ws _ hflag]
      refine ⟨fun hh => ?_, w2.trans (arm_fold_mono ws _)⟩
      rw [hflag] at hh; cases hh

theorem farm_init_sim (par : Armor.Params) (hdr ftr : Bytes) (sink : Stream.Sink) (part : List Nat)
    (hi : (FArm.init par hdr ftr ({ sink := sink, part := part } : Wr)).1 = true) :
    Sim (FArm.init par hdr ftr ({ sink := sink, part := part } : Wr)).2 (ArmState.init par hdr ftr) ∧
    (FArm.init par hdr ftr ({ sink := sink, part := part } : Wr)).2.failed = false ∧
    (FArm.init par hdr ftr ({ sink := sink, part := part } : Wr)).2.w.faults = 0 := by
  have hf := wr_write_faults ({ sink := sink, part := part } : Wr) (hdr ++ [Armor.period, Armor.space])
  unfold FArm.init at hi ⊢
  cases hw : ({ sink := sink, part := part } : Wr).write (hdr ++ [Armor.period, Armor.space]) with
  | mk ok w' =>
    rw [hw] at hf hi
    simp only at hi
    subst hi
    exact ⟨⟨rfl, rfl, rfl, rfl, wr_obs.ok _ _ _ hw, rfl, rfl⟩, rfl, hf⟩

theorem farm_run_close (par : Armor.Params) (he : par.enc.WF) (hw : 0 < par.bytesPerWord) (hdr ftr : Bytes)
    (sink : Stream.Sink) (part : List Nat) (ws : List Bytes) (hi : (FArm.init par hdr ftr ({ sink := sink, part := part } : Wr)).1 = true) :
    ((farmRun (FArm.init par hdr ftr ({ sink := sink, part := part } : Wr)).2 ws).close.1 = true →
      (farmRun (FArm.init par hdr ftr ({ sink := sink, part := part } : Wr)).2 ws).close.2.w.faults = 0 ∧
      (farmRun (FArm.init par hdr ftr ({ sink := sink, part := part } : Wr)).2 ws).close.2.w.bytes =
        Armor.sealText par hdr ftr ws.flatten) ∧
    (farmRun (FArm.init par hdr ftr ({ sink := sink, part := part } : Wr)).2 ws).close.2.w.bytes <+:
      Armor.sealText par hdr ftr ws.flatten := by
  obtain ⟨hs, hf, h0⟩ := farm_init_sim par hdr ftr sink part hi
  obtain ⟨r1, r2⟩ := run_sim ws _ _ hs (farm_encOk_init par hdr ftr _) hf
  rw [← armorWriter_any_split par he hw hdr ftr ws]
  generalize farmRun (FArm.init par hdr ftr ({ sink := sink, part := part } : Wr)).2 ws = a at r1 r2 ⊢
  generalize ws.foldl ArmState.write (ArmState.init par hdr ftr) = s at r1 r2 ⊢
  cases hfa : a.failed with
  | true =>
    rw [farm_close_failed a hfa]
    exact ⟨fun hh => (by cases hh), r2.trans (arm_close_mono s)⟩
  | false =>
    obtain ⟨j1, j2, j3⟩ := r1 hfa
    obtain ⟨c1, c2⟩ := sim_close a s j1 j2 hfa
    refine ⟨fun hh => ⟨?_, c1 hh⟩, c2⟩
    have := farm_close_faults a
    rw [hh] at this
    simpa [j3, h0] using this

/-! ## the byte count a `Write` returns -/

theorem interior_count : ∀ (fuel : Nat) (s : EncState) (p : Bytes) (n : Nat),
    (EncState.interior fuel s p n).1 = true →
    (EncState.interior fuel s p n).2.2.2 + (EncState.interior fuel s p n).2.2.1.length = n + p.length := by
  intro fuel
  induction fuel with
  | zero => intro s p n _; rfl
  | succ fuel ih =>
    intro s p n
    unfold EncState.interior
    by_cases hge : p.length ≥ s.enc.blockLen
    · simp only [if_pos hge]
      -- a batch (at most 128 blocks) is never longer than the input
      have hnn : (if 128 * s.enc.blockLen > p.length then p.length - p.length % s.enc.blockLen else 128 * s.enc.blockLen) ≤ p.length := by
        by_cases h : 128 * s.enc.blockLen > p.length
        · rw [if_pos h]; exact Nat.sub_le _ _
        · rw [if_neg h]; exact Nat.le_of_not_lt h
      generalize (if 128 * s.enc.blockLen > p.length then p.length - p.length % s.enc.blockLen else 128 * s.enc.blockLen) = nn at hnn
      cases hu : s.under (Basex.encode s.enc (p.take nn)) with
      | mk ok s1 =>
        cases ok with
        | false => intro h; cases h
        | true =>
          simp only [Bool.not_true, Bool.false_eq_true, if_false]
          intro h
          rw [ih s1 (p.drop nn) (n + nn) h, List.length_drop, Nat.add_assoc, Nat.add_sub_cancel' hnn]
    · simp only [if_neg hge]
      intro _; trivial

theorem encRest_count (s : EncState) (p : Bytes) (n : Nat) (h : (encRest s p n).2.1 = true) :
    (encRest s p n).1 = n + p.length := by
  have hc := interior_count (p.length + 1) s p n
  unfold encRest at h ⊢
  simp only at h ⊢
  cases hi : (EncState.interior (p.length + 1) s p n).1 with
  | false => rw [hi] at h; simp at h
  | true =>
    simp only [Bool.not_true, Bool.false_eq_true, if_false]
    exact hc hi

/-- the leading fringe of `EncState.write`: `k` bytes buffered, `min (bl - k) len` taken from the input
    (`encTl`); if buffer and fringe together stay below a block, the fringe was the whole input -/
theorem fringe_takes_all (k bl len : Nat) (h : k + min (bl - k) len < bl) : min (bl - k) len = len := by
  omega

theorem enc_write_count (s : EncState) (p : Bytes) (h : (s.write p).2.1 = true) : (s.write p).1 = p.length := by
  rw [write_eq] at h ⊢
  cases hF : s.failed with
  | true => rw [hF] at h; simp at h
  | false =>
    rw [hF] at h
    simp only [Bool.false_eq_true, if_false] at h ⊢
    cases hB : (!s.buf.isEmpty) with
    | false =>
      rw [hB] at h
      simp only [Bool.false_eq_true, if_false] at h ⊢
      simpa using encRest_count s p 0 h
    | true =>
      rw [hB] at h
      simp only [if_true] at h ⊢
      have htl : encTl s p = min (s.enc.blockLen - s.buf.length) p.length := by
        unfold encTl; rw [List.length_take]
      by_cases hl : (encFringe s p).length < s.enc.blockLen
      · simp only [hl, if_true]
        unfold encFringe at hl
        rw [List.length_append, List.length_take] at hl
        rw [htl]; exact fringe_takes_all _ _ _ hl
      · simp only [hl, if_false] at h ⊢
        cases hU : (!(encFringeU s p).1) with
        | true => rw [hU] at h; simp at h
        | false =>
          rw [hU] at h
          simp only [Bool.false_eq_true, if_false] at h ⊢
          rw [encRest_count _ _ _ h, List.length_drop, htl]
          exact Nat.add_sub_cancel' (Nat.min_le_right _ _)

/-- `Write` of a stream that has not failed returns `len(b)` — also when
    `spaceAndOutputBuffer` fails in it (`return n, err`) -/
theorem farm_writeN_count (a : FArm) (b : Bytes) (hok : a.EncOk) (hf : a.failed = false) :
    (a.writeN b).1 = b.length := by
  have he := (farm_encOk_write a b hok).1
  have hn := enc_write_count a.enc b he
  unfold FArm.writeN
  simp only [hf, Bool.false_eq_true, if_false]
  rcases hw : a.enc.write b with ⟨n, ok, e'⟩
  rw [hw] at he hn
  simp only at he hn
  subst he hn
  simp only
  cases FArm.spaceOut ((a.feed e').buf.length + 1) (a.feed e') with
  | mk ok2 s2 => cases ok2 <;> rfl

/-! ## sticky along whole runs of calls -/

theorem farm_calls_fault_flag (f0 : Nat) : ∀ (ops : List (Option Bytes)) (a : FArm),
    (a.w.faults ≠ f0 → a.failed = true) →
    ((FArm.calls a ops).2.w.faults ≠ f0 → (FArm.calls a ops).2.failed = true) := by
  intro ops
  induction ops with
  | nil => intro a h; exact h
  | cons o ops ih =>
    intro a h
    cases o with
    | none =>
      unfold FArm.calls
      simp only
      apply ih
      intro hne
      by_cases hc : a.close.2.w.faults = a.w.faults
      · have hf := h (by rw [← hc]; exact hne)
        rw [farm_close_failed a hf]; exact hf
      · exact farm_close_fault_sets_flag a hc
    | some b =>
      unfold FArm.calls
      simp only
      apply ih
      show (a.write b).2.w.faults ≠ f0 → (a.write b).2.failed = true
      intro hne
      by_cases hc : (a.write b).2.w.faults = a.w.faults
      · have hf := h (by rw [← hc]; exact hne)
        rw [farm_write_failed a b hf]; exact hf
      · exact farm_write_fault_sets_flag a b hc

theorem farm_run_prefix (par : Armor.Params) (he : par.enc.WF) (hw : 0 < par.bytesPerWord) (hdr ftr : Bytes)
    (sink : Stream.Sink) (part : List Nat) (ws : List Bytes) (hi : (FArm.init par hdr ftr ({ sink := sink, part := part } : Wr)).1 = true) :
    (farmRun (FArm.init par hdr ftr ({ sink := sink, part := part } : Wr)).2 ws).w.bytes <+: Armor.sealText par hdr ftr ws.flatten := by
  obtain ⟨hs, hf, _⟩ := farm_init_sim par hdr ftr sink part hi
  obtain ⟨_, r2⟩ := run_sim ws _ _ hs (farm_encOk_init par hdr ftr _) hf
  rw [← armorWriter_any_split par he hw hdr ftr ws]
  exact r2.trans (arm_close_mono _)

end Saltpack.Proofs.SenderP
