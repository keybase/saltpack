/-
  The three receivers (decrypt.go, signcrypt_open.go, verify_stream.go) read
  through `chunkReader` (chunk_reader.go).  The model's `Decrypt.run`,
  `Signcrypt.run` and `Sign.run` are written directly as "read to the end".
  Here each receiver's `getNextChunk` is written as a per-call chunker
  (`rxNext`), `crReadAll_eq` (ChunkReaderAll.lean) is instantiated with it, and
  the result is stated about the model's own read-to-end functions: reading
  the receiver through `crRead` with ANY schedule of positive buffer sizes
  releases exactly the bytes of the read-to-end function and then the same
  condition.
-/
import Saltpack.Proofs.ChunkReaderAll
import Saltpack.Model.Decrypt
import Saltpack.Model.Signcrypt
import Saltpack.Model.Sign

namespace Saltpack.Proofs
open Saltpack Saltpack.Stream

/-! ### the generic receiver chunker -/

/-- the state of a receiver's `getNextChunk`: remaining decoded objects, what
    the decoder reports after them, the packet sequence number, and the
    condition already returned (Go: `chunkReader` never calls `getNextChunk`
    again after a condition; the model chunker just repeats it) -/
structure RxState (β : Type) where
  items : List (Option β)
  tail : Tail
  seqno : Nat
  done : Option RErr := none

/-- the condition a reader reports for the read-to-end outcome: `none` (clean
    end of message) is `io.EOF` -/
def toRErr : Option Err → RErr
  | none => .eof
  | some e => .err e

/-- reading one more block when the decoder has no more objects:
    `io.EOF` becomes `io.ErrUnexpectedEOF`, any other error is passed on -/
def tailErr : Tail → Err
  | .eof => .unexpectedEOF
  | .err e => e

/-- `step b seqno` = `processBlock` + `checkDecodedChunkState` for one packet:
    the plaintext chunk and whether it is final, or the error -/
abbrev RxStep (β : Type) := β → Nat → Except Err (Bytes × Bool)

/-- `getNextChunk`: `(nil, err)` on a read / process / chunk-state error,
    `(chunk, assertEndOfStream)` on the final block, `(chunk, nil)` otherwise -/
def rxNext {β : Type} (step : RxStep β) (s : RxState β) : Bytes × Option RErr × RxState β :=
  match s.done with
  | some c => ([], some c, s)
  | none =>
    match s.items with
    | [] => ([], some (.err (tailErr s.tail)), { s with done := some (.err (tailErr s.tail)) })
    | none :: _ => ([], some (.err .decodeError), { s with done := some (.err .decodeError) })
    | some b :: rest =>
      match step b s.seqno with
      | .error e => ([], some (.err e), { s with done := some (.err e) })
      | .ok (chunk, true) =>
        (chunk, some (toRErr (Decrypt.endOfStream rest s.tail)),
          { s with items := rest, done := some (toRErr (Decrypt.endOfStream rest s.tail)) })
      | .ok (chunk, false) => (chunk, none, { s with items := rest, seqno := s.seqno + 1 })

/-- the generic read-to-end (same recursion as `Decrypt.run`, `Signcrypt.run`, `Sign.run`) -/
def rxRun {β : Type} (step : RxStep β) : List (Option β) → Tail → (seqno : Nat) → Released
  | [], tail, _ => ⟨[], some (tailErr tail)⟩
  | none :: _, _, _ => ⟨[], some .decodeError⟩
  | some b :: rest, tail, seqno =>
    match step b seqno with
    | .error e => ⟨[], some e⟩
    | .ok (chunk, true) => ⟨chunk, Decrypt.endOfStream rest tail⟩
    | .ok (chunk, false) =>
      let r := rxRun step rest tail (seqno + 1)
      ⟨chunk ++ r.bytes, r.err⟩

def rxInit {β : Type} (items : List (Option β)) (tail : Tail) (seqno : Nat) : RxState β :=
  ⟨items, tail, seqno, none⟩

section
variable {β : Type} (step : RxStep β)

/-! #### one call -/

theorem rxNext_done (s : RxState β) (c : RErr) (h : s.done = some c) : rxNext step s = ([], some c, s) := by
  simp only [rxNext, h]

theorem rxNext_nil (tail : Tail) (n : Nat) :
    rxNext step ⟨[], tail, n, none⟩ =
      ([], some (.err (tailErr tail)), ⟨[], tail, n, some (.err (tailErr tail))⟩) := rfl

theorem rxNext_undecodable (rest : List (Option β)) (tail : Tail) (n : Nat) :
    rxNext step ⟨none :: rest, tail, n, none⟩ =
      ([], some (.err .decodeError), ⟨none :: rest, tail, n, some (.err .decodeError)⟩) := rfl

theorem rxNext_error {b : β} {n : Nat} {e : Err} (rest : List (Option β)) (tail : Tail)
    (h : step b n = .error e) :
    rxNext step ⟨some b :: rest, tail, n, none⟩ =
      ([], some (.err e), ⟨some b :: rest, tail, n, some (.err e)⟩) := by
  simp only [rxNext, h]

theorem rxNext_final {b : β} {n : Nat} {c : Bytes} (rest : List (Option β)) (tail : Tail)
    (h : step b n = .ok (c, true)) :
    rxNext step ⟨some b :: rest, tail, n, none⟩ =
      (c, some (toRErr (Decrypt.endOfStream rest tail)),
        ⟨rest, tail, n, some (toRErr (Decrypt.endOfStream rest tail))⟩) := by
  simp only [rxNext, h]

theorem rxNext_more {b : β} {n : Nat} {c : Bytes} (rest : List (Option β)) (tail : Tail)
    (h : step b n = .ok (c, false)) :
    rxNext step ⟨some b :: rest, tail, n, none⟩ = (c, none, ⟨rest, tail, n + 1, none⟩) := by
  simp only [rxNext, h]

theorem rxNext_no_panic (hstep : ∀ b n c, step b n = .ok (c, false) → c ≠ []) (s : RxState β) :
    (rxNext step s).1 ≠ [] ∨ (rxNext step s).2.1 ≠ none := by
  obtain ⟨items, tail, n, done⟩ := s
  cases done with
  | some c => right; rw [rxNext_done step _ c rfl]; simp
  | none =>
    cases items with
    | nil => right; rw [rxNext_nil]; simp
    | cons it rest =>
      cases it with
      | none => right; rw [rxNext_undecodable]; simp
      | some b =>
        obtain ⟨r, hr⟩ : ∃ r, step b n = r := ⟨_, rfl⟩
        rcases r with e | ⟨c, f⟩
        · right; rw [rxNext_error step rest tail hr]; simp
        · cases f with
          | true => right; rw [rxNext_final step rest tail hr]; simp
          | false => left; rw [rxNext_more step rest tail hr]; exact hstep b n c hr

/-! #### the trace of a whole stream -/

theorem rxRun_error {b : β} {n : Nat} {e : Err} (rest : List (Option β)) (tail : Tail)
    (h : step b n = .error e) : rxRun step (some b :: rest) tail n = ⟨[], some e⟩ := by
  simp only [rxRun, h]

theorem rxRun_final {b : β} {n : Nat} {c : Bytes} (rest : List (Option β)) (tail : Tail)
    (h : step b n = .ok (c, true)) :
    rxRun step (some b :: rest) tail n = ⟨c, Decrypt.endOfStream rest tail⟩ := by
  simp only [rxRun, h]

theorem rxRun_more {b : β} {n : Nat} {c : Bytes} (rest : List (Option β)) (tail : Tail)
    (h : step b n = .ok (c, false)) :
    rxRun step (some b :: rest) tail n =
      ⟨c ++ (rxRun step rest tail (n + 1)).bytes, (rxRun step rest tail (n + 1)).err⟩ := by
  simp only [rxRun, h]

/-- a read-to-end function that obeys the equations of `rxRun` is `rxRun` -/
theorem rxRun_unique (run : List (Option β) → Tail → Nat → Released)
    (hnil : ∀ tail n, run [] tail n = ⟨[], some (tailErr tail)⟩)
    (hnone : ∀ rest tail n, run (none :: rest) tail n = ⟨[], some .decodeError⟩)
    (hsome : ∀ b rest tail n, run (some b :: rest) tail n =
      match step b n with
      | .error e => ⟨[], some e⟩
      | .ok (chunk, true) => ⟨chunk, Decrypt.endOfStream rest tail⟩
      | .ok (chunk, false) => ⟨chunk ++ (run rest tail (n + 1)).bytes, (run rest tail (n + 1)).err⟩) :
    ∀ (items : List (Option β)) (tail : Tail) (n : Nat), run items tail n = rxRun step items tail n := by
  intro items
  induction items with
  | nil => exact hnil
  | cons it rest ih =>
    intro tail n
    cases it with
    | none => exact hnone rest tail n
    | some b => rw [hsome, ih]; rfl

/-- one call of `getNextChunk` per decoded object and one more reach the condition -/
theorem rx_chunkTrace (hstep : ∀ b n c, step b n = .ok (c, false) → c ≠ []) :
    ∀ (items : List (Option β)) (tail : Tail) (seqno : Nat), ∃ cs,
      chunkTrace (rxNext step) (items.length + 1) (rxInit items tail seqno) =
        (cs, some (toRErr (rxRun step items tail seqno).err)) ∧
      cs.flatten = (rxRun step items tail seqno).bytes ∧ ∀ c ∈ cs.dropLast, c ≠ [] := by
  intro items
  induction items with
  | nil => intro tail seqno; exact ⟨[[]], rfl, rfl, fun _ h => nomatch h⟩
  | cons it rest ih =>
    intro tail seqno
    cases it with
    | none => exact ⟨[[]], rfl, rfl, fun _ h => nomatch h⟩
    | some b =>
      rw [rxInit, List.length_cons]
      cases hr : step b seqno with
      | error e =>
        rw [chunkTrace_succ_some _ _ (rxNext_error step rest tail hr), rxRun_error step rest tail hr]
        exact ⟨[[]], rfl, rfl, fun _ h => nomatch h⟩
      | ok cf =>
        obtain ⟨c, f⟩ := cf
        cases f with
        | true =>
          rw [chunkTrace_succ_some _ _ (rxNext_final step rest tail hr), rxRun_final step rest tail hr]
          exact ⟨[c], rfl, List.flatten_singleton, fun _ h => nomatch h⟩
        | false =>
          obtain ⟨cs, htr, hfl, hne⟩ := ih tail (seqno + 1)
          rw [chunkTrace_succ_none _ _ (rxNext_more step rest tail hr), rxRun_more step rest tail hr]
          rw [rxInit] at htr
          refine ⟨c :: cs, by rw [htr], by rw [List.flatten_cons, hfl], ?_⟩
          rw [List.dropLast_cons_of_ne_nil (chunkTrace_ne_nil _ _ _ _ _ htr)]
          intro c' hc'
          rcases List.mem_cons.mp hc' with rfl | hc'
          · exact hstep b seqno _ hr
          · exact hne c' hc'

theorem rx_reads_any_size (hstep : ∀ b n c, step b n = .ok (c, false) → c ≠ [])
    (items : List (Option β)) (tail : Tail) (seqno : Nat)
    (caps : List Nat) (hcaps : ∀ c ∈ caps, 0 < c) (inner : Nat) (hi : items.length + 2 ≤ inner)
    (fuel : Nat) (hf : (rxRun step items tail seqno).bytes.length + 1 ≤ fuel) :
    let r := crReadAll (rxNext step) caps inner fuel 0 { chunker := rxInit items tail seqno } []
    r.1 = (rxRun step items tail seqno).bytes ∧
    r.2.1 = some (toRErr (rxRun step items tail seqno).err) ∧
    r.2.2.prevChunk = [] ∧
    r.2.2.prevErr = some (toRErr (rxRun step items tail seqno).err) := by
  obtain ⟨cs, htr, hfl, hne⟩ := rx_chunkTrace step hstep items tail seqno
  rw [← hfl] at hf ⊢
  exact crReadAll_eq (rxNext step) (rxInit items tail seqno) (items.length + 1) cs _ htr hne caps hcaps inner hi fuel hf

theorem rx_reads_caps_independent (hstep : ∀ b n c, step b n = .ok (c, false) → c ≠ [])
    (items : List (Option β)) (tail : Tail) (seqno : Nat)
    (caps caps' : List Nat) (hcaps : ∀ c ∈ caps, 0 < c) (hcaps' : ∀ c ∈ caps', 0 < c)
    (inner inner' : Nat) (hi : items.length + 2 ≤ inner) (hi' : items.length + 2 ≤ inner')
    (fuel fuel' : Nat) (hf : (rxRun step items tail seqno).bytes.length + 1 ≤ fuel)
    (hf' : (rxRun step items tail seqno).bytes.length + 1 ≤ fuel') :
    (crReadAll (rxNext step) caps inner fuel 0 { chunker := rxInit items tail seqno } []).1 =
      (crReadAll (rxNext step) caps' inner' fuel' 0 { chunker := rxInit items tail seqno } []).1 ∧
    (crReadAll (rxNext step) caps inner fuel 0 { chunker := rxInit items tail seqno } []).2.1 =
      (crReadAll (rxNext step) caps' inner' fuel' 0 { chunker := rxInit items tail seqno } []).2.1 := by
  obtain ⟨a1, a2, _⟩ := rx_reads_any_size step hstep items tail seqno caps hcaps inner hi fuel hf
  obtain ⟨b1, b2, _⟩ := rx_reads_any_size step hstep items tail seqno caps' hcaps' inner' hi' fuel' hf'
  exact ⟨by rw [a1, b1], by rw [a2, b2]⟩

end

/-! ### `checkChunkState` rules out an empty non-final chunk, for every version

  V1: `(len == 0) != isFinal` must be false; V2: `len == 0 && (idx != 0 || !isFinal)`
  must be false; any other major version is an error.  No lawfulness of the
  primitives is needed: an error (also the model's panic marker) is returned
  by `getNextChunk` as `(nil, err)`, which is not `chunkReader`'s panic case. -/

theorem checkChunkState_nonfinal_ne_zero (v : Version) (len idx : Nat)
    (h : checkChunkState v len idx false = .ok ()) : len ≠ 0 := by
  rintro rfl
  unfold checkChunkState at h
  by_cases h1 : v.major = 1
  · rw [if_pos h1] at h; cases h
  · rw [if_neg h1] at h
    by_cases h2 : v.major = 2
    · rw [if_pos h2] at h; simp at h
    · rw [if_neg h2] at h; cases h

/-! ### the three receivers -/

/-- decrypt.go: `processBlock` + `checkDecodedChunkState`.  `n` is the packet's sequence number, counted
    from 1 (the header is packet 0); `checkChunkState` wants the chunk index `n - 1`. -/
def decStep (P : Prims) (s : Decrypt.State) : RxStep EncBlock := fun b n =>
  match Decrypt.processBlock P s b (Decrypt.blockFinal s.version b) n with
  | .error e => .error e
  | .ok chunk =>
    match checkChunkState s.version chunk.length (n - 1) (Decrypt.blockFinal s.version b) with
    | .error e => .error e
    | .ok () => .ok (chunk, Decrypt.blockFinal s.version b)

/-- signcrypt_open.go -/
def scStep (P : Prims) (s : Signcrypt.State) : RxStep SigncryptBlock := fun b n =>
  match Signcrypt.processBlock P s b n with
  | .error e => .error e
  | .ok chunk =>
    match checkChunkState v2 chunk.length (n - 1) b.final with
    | .error e => .error e
    | .ok () => .ok (chunk, b.final)

/-- verify_stream.go -/
def verStep (P : Prims) (s : Sign.State) : RxStep SigBlock := fun b n =>
  match Sign.processBlock P s b (Sign.blockFinal s.version b) n with
  | .error e => .error e
  | .ok () =>
    match checkChunkState s.version b.chunk.length (n - 1) (Sign.blockFinal s.version b) with
    | .error e => .error e
    | .ok () => .ok (b.chunk, Sign.blockFinal s.version b)

/-- `decryptStream.getNextChunk` -/
def decNext (P : Prims) (s : Decrypt.State) := rxNext (decStep P s)
/-- `signcryptOpenStream.getNextChunk` -/
def scNext (P : Prims) (s : Signcrypt.State) := rxNext (scStep P s)
/-- `verifyStream.getNextChunk` -/
def verNext (P : Prims) (s : Sign.State) := rxNext (verStep P s)

theorem decStep_nonfinal (P : Prims) (s : Decrypt.State) :
    ∀ b n c, decStep P s b n = .ok (c, false) → c ≠ [] := by
  intro b n c h
  unfold decStep at h
  split at h
  · simp at h
  · split at h
    · simp at h
    · rename_i chunk _ hc
      simp only [Except.ok.injEq, Prod.mk.injEq] at h
      obtain ⟨rfl, hf⟩ := h
      rw [hf] at hc
      intro h0
      exact checkChunkState_nonfinal_ne_zero _ _ _ hc (by rw [h0]; rfl)

theorem scStep_nonfinal (P : Prims) (s : Signcrypt.State) :
    ∀ b n c, scStep P s b n = .ok (c, false) → c ≠ [] := by
  intro b n c h
  unfold scStep at h
  split at h
  · simp at h
  · split at h
    · simp at h
    · rename_i chunk _ hc
      simp only [Except.ok.injEq, Prod.mk.injEq] at h
      obtain ⟨rfl, hf⟩ := h
      rw [hf] at hc
      intro h0
      exact checkChunkState_nonfinal_ne_zero _ _ _ hc (by rw [h0]; rfl)

theorem verStep_nonfinal (P : Prims) (s : Sign.State) :
    ∀ b n c, verStep P s b n = .ok (c, false) → c ≠ [] := by
  intro b n c h
  unfold verStep at h
  split at h
  · simp at h
  · split at h
    · simp at h
    · rename_i _ hc
      simp only [Except.ok.injEq, Prod.mk.injEq] at h
      obtain ⟨rfl, hf⟩ := h
      rw [hf] at hc
      intro h0
      exact checkChunkState_nonfinal_ne_zero _ _ _ hc (by rw [h0]; rfl)

theorem decrypt_run_eq (P : Prims) (s : Decrypt.State) :
    ∀ (items : List (Option EncBlock)) (tail : Tail) (seqno : Nat),
      Decrypt.run P s items tail seqno = rxRun (decStep P s) items tail seqno :=
  rxRun_unique (decStep P s) (Decrypt.run P s) (fun tail _ => by cases tail <;> rfl) (fun _ _ _ => rfl)
    (fun b rest tail n => by
      rw [Decrypt.run, decStep]
      cases Decrypt.processBlock P s b (Decrypt.blockFinal s.version b) n with
      | error e => rfl
      | ok chunk =>
        simp only []
        cases checkChunkState s.version chunk.length (n - 1) (Decrypt.blockFinal s.version b) with
        | error e => rfl
        | ok u => cases Decrypt.blockFinal s.version b <;> rfl)

theorem signcrypt_run_eq (P : Prims) (s : Signcrypt.State) :
    ∀ (items : List (Option SigncryptBlock)) (tail : Tail) (seqno : Nat),
      Signcrypt.run P s items tail seqno = rxRun (scStep P s) items tail seqno :=
  rxRun_unique (scStep P s) (Signcrypt.run P s) (fun tail _ => by cases tail <;> rfl) (fun _ _ _ => rfl)
    (fun b rest tail n => by
      rw [Signcrypt.run, scStep]
      cases Signcrypt.processBlock P s b n with
      | error e => rfl
      | ok chunk =>
        simp only []
        cases checkChunkState v2 chunk.length (n - 1) b.final with
        | error e => rfl
        | ok u => cases b.final <;> rfl)

theorem verify_run_eq (P : Prims) (s : Sign.State) :
    ∀ (items : List (Option SigBlock)) (tail : Tail) (seqno : Nat),
      Sign.run P s items tail seqno = rxRun (verStep P s) items tail seqno :=
  rxRun_unique (verStep P s) (Sign.run P s) (fun tail _ => by cases tail <;> rfl) (fun _ _ _ => rfl)
    (fun b rest tail n => by
      rw [Sign.run, verStep]
      cases Sign.processBlock P s b (Sign.blockFinal s.version b) n with
      | error e => rfl
      | ok u =>
        simp only []
        cases checkChunkState s.version b.chunk.length (n - 1) (Sign.blockFinal s.version b) with
        | error e => rfl
        | ok u => cases Sign.blockFinal s.version b <;> rfl)

theorem decrypt_reads_any_size (P : Prims) (s : Decrypt.State) (items : List (Option EncBlock)) (tail : Tail)
    (seqno : Nat) (caps : List Nat) (hcaps : ∀ c ∈ caps, 0 < c) (inner : Nat) (hi : items.length + 2 ≤ inner)
    (fuel : Nat) (hf : (Decrypt.run P s items tail seqno).bytes.length + 1 ≤ fuel) :
    let r := crReadAll (decNext P s) caps inner fuel 0 { chunker := ⟨items, tail, seqno, none⟩ } []
    r.1 = (Decrypt.run P s items tail seqno).bytes ∧
    r.2.1 = some (toRErr (Decrypt.run P s items tail seqno).err) ∧
    r.2.2.prevChunk = [] ∧
    r.2.2.prevErr = some (toRErr (Decrypt.run P s items tail seqno).err) := by
  rw [decrypt_run_eq] at hf ⊢
  exact rx_reads_any_size (decStep P s) (decStep_nonfinal P s) items tail seqno caps hcaps inner hi fuel hf

theorem signcrypt_reads_any_size (P : Prims) (s : Signcrypt.State) (items : List (Option SigncryptBlock))
    (tail : Tail) (seqno : Nat) (caps : List Nat) (hcaps : ∀ c ∈ caps, 0 < c) (inner : Nat)
    (hi : items.length + 2 ≤ inner)
    (fuel : Nat) (hf : (Signcrypt.run P s items tail seqno).bytes.length + 1 ≤ fuel) :
    let r := crReadAll (scNext P s) caps inner fuel 0 { chunker := ⟨items, tail, seqno, none⟩ } []
    r.1 = (Signcrypt.run P s items tail seqno).bytes ∧
    r.2.1 = some (toRErr (Signcrypt.run P s items tail seqno).err) ∧
    r.2.2.prevChunk = [] ∧
    r.2.2.prevErr = some (toRErr (Signcrypt.run P s items tail seqno).err) := by
  rw [signcrypt_run_eq] at hf ⊢
  exact rx_reads_any_size (scStep P s) (scStep_nonfinal P s) items tail seqno caps hcaps inner hi fuel hf

theorem verify_reads_any_size (P : Prims) (s : Sign.State) (items : List (Option SigBlock)) (tail : Tail)
    (seqno : Nat) (caps : List Nat) (hcaps : ∀ c ∈ caps, 0 < c) (inner : Nat) (hi : items.length + 2 ≤ inner)
    (fuel : Nat) (hf : (Sign.run P s items tail seqno).bytes.length + 1 ≤ fuel) :
    let r := crReadAll (verNext P s) caps inner fuel 0 { chunker := ⟨items, tail, seqno, none⟩ } []
    r.1 = (Sign.run P s items tail seqno).bytes ∧
    r.2.1 = some (toRErr (Sign.run P s items tail seqno).err) ∧
    r.2.2.prevChunk = [] ∧
    r.2.2.prevErr = some (toRErr (Sign.run P s items tail seqno).err) := by
  rw [verify_run_eq] at hf ⊢
  exact rx_reads_any_size (verStep P s) (verStep_nonfinal P s) items tail seqno caps hcaps inner hi fuel hf

theorem decrypt_reads_caps_independent (P : Prims) (s : Decrypt.State) (items : List (Option EncBlock)) (tail : Tail)
    (seqno : Nat) (caps caps' : List Nat) (hcaps : ∀ c ∈ caps, 0 < c) (hcaps' : ∀ c ∈ caps', 0 < c)
    (inner inner' : Nat) (hi : items.length + 2 ≤ inner) (hi' : items.length + 2 ≤ inner')
    (fuel fuel' : Nat) (hf : (Decrypt.run P s items tail seqno).bytes.length + 1 ≤ fuel)
    (hf' : (Decrypt.run P s items tail seqno).bytes.length + 1 ≤ fuel') :
    (crReadAll (decNext P s) caps inner fuel 0 { chunker := ⟨items, tail, seqno, none⟩ } []).1 =
      (crReadAll (decNext P s) caps' inner' fuel' 0 { chunker := ⟨items, tail, seqno, none⟩ } []).1 ∧
    (crReadAll (decNext P s) caps inner fuel 0 { chunker := ⟨items, tail, seqno, none⟩ } []).2.1 =
      (crReadAll (decNext P s) caps' inner' fuel' 0 { chunker := ⟨items, tail, seqno, none⟩ } []).2.1 := by
  obtain ⟨a1, a2, _⟩ := decrypt_reads_any_size P s items tail seqno caps hcaps inner hi fuel hf
  obtain ⟨b1, b2, _⟩ := decrypt_reads_any_size P s items tail seqno caps' hcaps' inner' hi' fuel' hf'
  exact ⟨by rw [a1, b1], by rw [a2, b2]⟩

theorem signcrypt_reads_caps_independent (P : Prims) (s : Signcrypt.State) (items : List (Option SigncryptBlock))
    (tail : Tail) (seqno : Nat) (caps caps' : List Nat) (hcaps : ∀ c ∈ caps, 0 < c) (hcaps' : ∀ c ∈ caps', 0 < c)
    (inner inner' : Nat) (hi : items.length + 2 ≤ inner) (hi' : items.length + 2 ≤ inner')
    (fuel fuel' : Nat) (hf : (Signcrypt.run P s items tail seqno).bytes.length + 1 ≤ fuel)
    (hf' : (Signcrypt.run P s items tail seqno).bytes.length + 1 ≤ fuel') :
    (crReadAll (scNext P s) caps inner fuel 0 { chunker := ⟨items, tail, seqno, none⟩ } []).1 =
      (crReadAll (scNext P s) caps' inner' fuel' 0 { chunker := ⟨items, tail, seqno, none⟩ } []).1 ∧
    (crReadAll (scNext P s) caps inner fuel 0 { chunker := ⟨items, tail, seqno, none⟩ } []).2.1 =
      (crReadAll (scNext P s) caps' inner' fuel' 0 { chunker := ⟨items, tail, seqno, none⟩ } []).2.1 := by
  obtain ⟨a1, a2, _⟩ := signcrypt_reads_any_size P s items tail seqno caps hcaps inner hi fuel hf
  obtain ⟨b1, b2, _⟩ := signcrypt_reads_any_size P s items tail seqno caps' hcaps' inner' hi' fuel' hf'
  exact ⟨by rw [a1, b1], by rw [a2, b2]⟩

theorem verify_reads_caps_independent (P : Prims) (s : Sign.State) (items : List (Option SigBlock)) (tail : Tail)
    (seqno : Nat) (caps caps' : List Nat) (hcaps : ∀ c ∈ caps, 0 < c) (hcaps' : ∀ c ∈ caps', 0 < c)
    (inner inner' : Nat) (hi : items.length + 2 ≤ inner) (hi' : items.length + 2 ≤ inner')
    (fuel fuel' : Nat) (hf : (Sign.run P s items tail seqno).bytes.length + 1 ≤ fuel)
    (hf' : (Sign.run P s items tail seqno).bytes.length + 1 ≤ fuel') :
    (crReadAll (verNext P s) caps inner fuel 0 { chunker := ⟨items, tail, seqno, none⟩ } []).1 =
      (crReadAll (verNext P s) caps' inner' fuel' 0 { chunker := ⟨items, tail, seqno, none⟩ } []).1 ∧
    (crReadAll (verNext P s) caps inner fuel 0 { chunker := ⟨items, tail, seqno, none⟩ } []).2.1 =
      (crReadAll (verNext P s) caps' inner' fuel' 0 { chunker := ⟨items, tail, seqno, none⟩ } []).2.1 := by
  obtain ⟨a1, a2, _⟩ := verify_reads_any_size P s items tail seqno caps hcaps inner hi fuel hf
  obtain ⟨b1, b2, _⟩ := verify_reads_any_size P s items tail seqno caps' hcaps' inner' hi' fuel' hf'
  exact ⟨by rw [a1, b1], by rw [a2, b2]⟩

/-! ### instances on a toy receiver (`β := Bytes`; a packet is its own chunk, the empty packet is final) -/

/-- a toy `step`: a packet carries its chunk in clear; the chunk `[0]` is
    refused; an empty chunk marks the final block -/
def toyStep : RxStep Bytes := fun b _ =>
  if b == [0] then .error .badCiphertext else .ok (b, b.isEmpty)

/-- three chunks then the (empty) final block, clean end -/
example : rxRun toyStep [some [1, 2, 3], some [4], some [5, 6], some []] .eof 1 = ⟨[1, 2, 3, 4, 5, 6], none⟩ ∧
    chunkTrace (rxNext toyStep) 5 (rxInit [some [1, 2, 3], some [4], some [5, 6], some []] .eof 1) =
      ([[1, 2, 3], [4], [5, 6], []], some .eof) ∧
    (crReadAll (rxNext toyStep) [2] 6 7 0 { chunker := rxInit [some [1, 2, 3], some [4], some [5, 6], some []] .eof 1 } []).1 =
      [1, 2, 3, 4, 5, 6] ∧
    (crReadAll (rxNext toyStep) [2] 6 7 0 { chunker := rxInit [some [1, 2, 3], some [4], some [5, 6], some []] .eof 1 } []).2.1 =
      some .eof := by
  decide +kernel

/-- a failing block in the middle: the chunks before it are released, then the error -/
example : rxRun toyStep [some [1, 2, 3], some [0], some []] .eof 1 = ⟨[1, 2, 3], some .badCiphertext⟩ ∧
    (crReadAll (rxNext toyStep) [1, 4] 5 4 0 { chunker := rxInit [some [1, 2, 3], some [0], some []] .eof 1 } []).1 = [1, 2, 3] ∧
    (crReadAll (rxNext toyStep) [1, 4] 5 4 0 { chunker := rxInit [some [1, 2, 3], some [0], some []] .eof 1 } []).2.1 =
      some (.err .badCiphertext) := by
  decide +kernel

/-- truncation (no final block) and trailing garbage after the final block -/
example : (crReadAll (rxNext toyStep) [3] 3 3 0 { chunker := rxInit [some [7, 8]] .eof 1 } []).1 = [7, 8] ∧
    (crReadAll (rxNext toyStep) [3] 3 3 0 { chunker := rxInit [some [7, 8]] .eof 1 } []).2.1 = some (.err .unexpectedEOF) ∧
    (crReadAll (rxNext toyStep) [3] 5 3 0 { chunker := rxInit [some [7, 8], some [], some [9]] .eof 1 } []).1 = [7, 8] ∧
    (crReadAll (rxNext toyStep) [3] 5 3 0 { chunker := rxInit [some [7, 8], some [], some [9]] .eof 1 } []).2.1 =
      some (.err .trailingGarbage) := by
  decide +kernel

end Saltpack.Proofs
