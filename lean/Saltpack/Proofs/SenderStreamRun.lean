/-
  The sender streams over a faulting writer, whole runs: the invariant of the
  healthy states (`AliveE`: what has reached the writer is the header packet and
  the non-final packets of the full blocks taken so far, the rest is buffered),
  its preservation by `Write`, what `Close` does from it, and what is left at
  the writer after a fault (`FailedFor`: a prefix of the all-at-once output; if
  the encoder is still healthy a packet number was refused, and the bytes are
  exactly the packets before it).  `run_cases` puts a whole run together.
-/
import Saltpack.Proofs.SenderStream

namespace Saltpack.Proofs.SenderP
open Saltpack Saltpack.Sender

section alive
variable {ω : Type} (wr : ω → Bytes → Bool × ω) (obs : ω → Bytes)

/-- the healthy states: `E` = the full blocks emitted so far (a ghost), `T` = the
    plaintext accepted so far, `hdr` = what the constructor left at the writer -/
structure AliveE (cfg : Cfg) (hdr T : Bytes) (E : List Bytes) (st : PSt ω) : Prop where
  cons : E.flatten ++ st.buf = T
  full : ∀ e ∈ E, e.length = cfg.bs
  n : st.n = E.length
  healthy : st.codec.failed = false
  noerr : st.err = none
  body : ∃ body, planBytes cfg.pkt (E.map (·, false)) 0 = .ok body ∧ obs st.codec.w = hdr ++ body

/-- a healthy state is settled between calls: at most one block is buffered, and
    the buffer is empty only if nothing was emitted yet (a full last block stays
    buffered until `Close` knows it is the last) -/
abbrev Settled (cfg : Cfg) (E : List Bytes) (st : PSt ω) : Prop :=
  st.buf.length ≤ cfg.bs ∧ (st.buf = [] → E = [])

/-- `W` is a prefix of the all-at-once output for every continuation of `T` -/
def PrefixOK (cfg : Cfg) (v : Version) (hdr W T : Bytes) : Prop :=
  ∀ X B, planBytes cfg.pkt (Encrypt.chunkPlan v cfg.bs (T ++ X)) 0 = .ok B → W <+: hdr ++ B

/-- what a failed call leaves at the writer, relative to the plan of the whole
    plaintext: a prefix of the all-at-once bytes — and, unless it is the encoder
    that failed, a packet number was refused: the bytes are those of the packets
    before it, and the all-at-once form does not exist -/
def FailedFor (cfg : Cfg) (hdr : Bytes) (st : PSt ω) (plan : List (Bytes × Bool)) : Prop :=
  (∀ B, planBytes cfg.pkt plan 0 = .ok B → obs st.codec.w <+: hdr ++ B) ∧
  (st.codec.failed = false →
    obs st.codec.w = hdr ++ planOkBytes cfg.pkt plan 0 ∧ ∀ B, planBytes cfg.pkt plan 0 ≠ .ok B)

/-- the stream is dead and `FailedFor` holds for every continuation of `T` -/
def Failed (cfg : Cfg) (v : Version) (hdr T : Bytes) (st : PSt ω) : Prop :=
  Dead cfg st ∧ ∀ X, FailedFor obs cfg hdr st (Encrypt.chunkPlan v cfg.bs (T ++ X))

/-- a full non-final block with more behind it passes both checks -/
theorem readPanics_full (v1s : Bool) (x bs k n : Nat) (hb : 0 < bs) :
    readPanics v1s false bs bs k = false ∧ assertPanics v1s x false bs n = false := by
  have h2 : bs ≠ 0 := Nat.pos_iff_ne_zero.mp hb
  cases v1s <;> simp [readPanics, assertPanics, h2]

/-- how a block `(c, f)` can go after the plan `pl` with bytes `body`: a complete
    packet — or an error that is the writer's or the packet function's, the
    stream is dead, and `FailedFor` every plan that continues with this block -/
def BlockOutcome (cfg : Cfg) (hdr : Bytes) (pl : List (Bytes × Bool)) (body c : Bytes) (f : Bool)
    (r : Option Err × PSt ω) : Prop :=
  (∃ b, r.1 = none ∧ planBytes cfg.pkt (pl ++ [(c, f)]) 0 = .ok (body ++ b) ∧
      obs r.2.codec.w = hdr ++ (body ++ b) ∧ r.2.n = pl.length + 1 ∧ r.2.codec.failed = false) ∨
  (∃ e, r.1 = some e ∧ (e = .ioError ∨ ∃ i c f, cfg.pkt i c f = .error e) ∧ Dead cfg r.2 ∧
      ∀ plan, pl ++ [(c, f)] <+: plan → FailedFor obs cfg hdr r.2 plan)

theorem healthy_emit (hw : ObsWriter wr obs) (cfg : Cfg) (hp : ∀ b, (cfg.pieces b).flatten = b)
    (hif : IndexFail cfg.pkt) (hdr : Bytes) (pl : List (Bytes × Bool)) (body : Bytes) (st : PSt ω) (f : Bool)
    (hn : st.n = pl.length) (hbody : planBytes cfg.pkt pl 0 = .ok body) (hobs : obs st.codec.w = hdr ++ body)
    (hnr : readPanics cfg.v1shape f cfg.bs (st.buf.take cfg.bs).length (st.buf.drop cfg.bs).length = false)
    (hna : assertPanics cfg.v1shape cfg.assertExtra f (st.buf.take cfg.bs).length st.n = false) :
    BlockOutcome obs cfg hdr pl body (st.buf.take cfg.bs) f (emitBlock wr cfg f st) := by
  rcases emitBlock_eq wr cfg f st with ⟨e, h, hr | hpk | hap⟩ | ⟨b, hpk, _, _, h⟩
  · rw [hnr] at hr; cases hr
  · -- the packet number is refused: nothing is written, no plan through this block has bytes
    rw [h]
    refine .inr ⟨e, rfl, .inr ⟨_, _, _, hpk⟩, .inr fun c f' => hif _ _ _ _ hpk c f', fun plan hpre => ?_⟩
    obtain ⟨hok, hno⟩ := stuck_of_refused cfg.pkt pl plan body _ f e hbody (hn ▸ hpk) hpre
    exact ⟨fun B hB => absurd hB (hno B), fun _ => ⟨by rw [hok]; exact hobs, hno⟩⟩
  · rw [hna] at hap; cases hap
  · rw [hn] at hpk
    have hplan := planBytes_snoc cfg.pkt pl _ f body b hbody hpk
    obtain ⟨q, hq, ho, hall⟩ := encode_obs wr obs hw cfg.pieces hp st.codec b
    rw [h]
    cases hok : (Codec.encode wr cfg.pieces st.codec b).1 with
    | true =>
      refine .inl ⟨b, rfl, hplan, ?_, by simp [hn], (encode_true_healthy wr cfg.pieces st.codec b hok).2⟩
      rw [ho, hall hok, hobs, List.append_assoc]
    | false =>
      have hf := encode_false_failed wr cfg.pieces st.codec b hok
      refine .inr ⟨.ioError, rfl, .inl rfl, .inl hf, fun plan hpre => ⟨fun B hB => ?_, fun h0 => ?_⟩⟩
      · obtain ⟨A, hA, hAB⟩ := planBytes_prefix cfg.pkt _ _ B hpre hB
        rw [hplan] at hA
        cases hA
        show obs (Codec.encode wr cfg.pieces st.codec b).2.w <+: _
        rw [ho, hobs, List.append_assoc]
        exact (List.prefix_append_right_inj hdr).2
          (((List.prefix_append_right_inj body).2 hq).trans hAB)
      · rw [show (Codec.encode wr cfg.pieces st.codec b).2.failed = true from hf] at h0
        cases h0

theorem alive_block (hw : ObsWriter wr obs) (cfg : Cfg) (hp : ∀ b, (cfg.pieces b).flatten = b)
    (hb : 0 < cfg.bs) (hif : IndexFail cfg.pkt) (v : Version) (hdr T : Bytes) (E : List Bytes) (st : PSt ω)
    (ha : AliveE obs cfg hdr T E st) (hgt : cfg.bs < st.buf.length) :
    ((emitBlock wr cfg false st).1 = none ∧
      AliveE obs cfg hdr T (E ++ [st.buf.take cfg.bs]) (emitBlock wr cfg false st).2) ∨
    (∃ e, (emitBlock wr cfg false st).1 = some e ∧ Failed obs cfg v hdr T (emitBlock wr cfg false st).2) := by
  have hclen : (st.buf.take cfg.bs).length = cfg.bs := by
    rw [List.length_take]; exact Nat.min_eq_left (Nat.le_of_lt hgt)
  have hfull : ∀ e ∈ E ++ [st.buf.take cfg.bs], e.length = cfg.bs := by
    intro e he
    rcases List.mem_append.mp he with he | he
    · exact ha.full e he
    · rw [List.mem_singleton.mp he, hclen]
  have hT : (E ++ [st.buf.take cfg.bs]).flatten ++ st.buf.drop cfg.bs = T := by
    rw [← ha.cons, List.flatten_append, List.flatten_singleton, List.append_assoc, List.take_append_drop]
  obtain ⟨body, hbody, hobs⟩ := ha.body
  have hnp := readPanics_full cfg.v1shape cfg.assertExtra cfg.bs (st.buf.drop cfg.bs).length st.n hb
  rcases healthy_emit wr obs hw cfg hp hif hdr (E.map (·, false)) body st false (by rw [ha.n, List.length_map])
      hbody hobs (by rw [hclen]; exact hnp.1) (by rw [hclen]; exact hnp.2) with
    ⟨b, h1, hpl, ho, hn1, hf1⟩ | ⟨e, h1, _, hd, hF⟩
  · refine .inl ⟨h1, ?_, hfull, by rw [hn1]; simp, hf1, by rw [emit_err, ha.noerr], body ++ b, ?_, ho⟩
    · rw [emit_buf]; exact hT
    · rw [List.map_append]; exact hpl
  · refine .inr ⟨e, h1, hd, fun X => hF _ ?_⟩
    -- the block taken is full and more is buffered: non-final in the plan of every continuation
    have := nonfinal_prefix v cfg.bs hb (E ++ [st.buf.take cfg.bs]) (st.buf.drop cfg.bs ++ X) hfull
      (fun h0 => Nat.not_le.mpr hgt (List.drop_eq_nil_iff.mp (List.append_eq_nil_iff.mp h0).1))
    rwa [← List.append_assoc, hT, List.map_append] at this

/-- how a `Write` of `len` bytes can go from a healthy state: it returns `len`
    and leaves the state healthy with at most one block buffered — or it returns
    `(0, e)`, then `Failed`, and `e` is stored if the stream has `err` -/
def WriteOutcome (cfg : Cfg) (v : Version) (hdr T : Bytes) (len : Nat) (r : Nat × Option Err × PSt ω) : Prop :=
  (r.1 = len ∧ r.2.1 = none ∧
    ∃ E', AliveE obs cfg hdr T E' r.2.2 ∧ Settled cfg E' r.2.2) ∨
  (r.1 = 0 ∧ ∃ e, r.2.1 = some e ∧ Failed obs cfg v hdr T r.2.2 ∧ (cfg.hasErr = true → r.2.2.err = some e))

theorem alive_writeLoop (hw : ObsWriter wr obs) (cfg : Cfg) (hp : ∀ b, (cfg.pieces b).flatten = b)
    (hb : 0 < cfg.bs) (hif : IndexFail cfg.pkt) (v : Version) (hdr T : Bytes) (len fuel : Nat)
    (E : List Bytes) (st : PSt ω) (ha : AliveE obs cfg hdr T E st) (hf : st.buf.length < fuel)
    (hne : st.buf = [] → E = []) : WriteOutcome obs cfg v hdr T len (writeLoop wr cfg len fuel st) := by
  fun_induction writeLoop wr cfg len fuel st generalizing E with
  | case1 st => exact absurd hf (Nat.not_lt_zero _)
  | case2 fuel st hgt e st' he =>
    rcases alive_block wr obs hw cfg hp hb hif v hdr T E st ha hgt with ⟨h1, _⟩ | ⟨e', h1, hF⟩
    · rw [he] at h1; cases h1
    · rw [he] at h1 hF
      cases h1
      refine .inr ⟨rfl, e, rfl, ?_, fun hh => by simp [hh]⟩
      split <;> exact hF
  | case3 fuel st hgt st' he ih =>
    rcases alive_block wr obs hw cfg hp hb hif v hdr T E st ha hgt with ⟨_, ha'⟩ | ⟨e', h1, _⟩
    · have hbuf := emit_buf wr cfg false st
      rw [he] at ha' hbuf
      refine ih _ ha' ?_ (fun h0 => absurd (List.drop_eq_nil_iff.mp (hbuf ▸ h0)) (Nat.not_le.mpr hgt))
      rw [hbuf, List.length_drop]
      exact Nat.lt_of_lt_of_le (Nat.sub_lt (Nat.lt_of_le_of_lt (Nat.zero_le _) hgt) hb) (Nat.le_of_lt_succ hf)
    · rw [he] at h1; cases h1
  | case4 fuel st hgt => exact .inl ⟨rfl, rfl, E, ha, Nat.le_of_not_gt hgt, hne⟩

theorem alive_write (hw : ObsWriter wr obs) (cfg : Cfg) (hp : ∀ b, (cfg.pieces b).flatten = b)
    (hb : 0 < cfg.bs) (hif : IndexFail cfg.pkt) (v : Version) (hdr T : Bytes) (E : List Bytes) (st : PSt ω) (p : Bytes)
    (ha : AliveE obs cfg hdr T E st) (hne : st.buf = [] → E = []) :
    WriteOutcome obs cfg v hdr (T ++ p) p.length (st.write wr cfg p) := by
  unfold PSt.write
  have h0 : (if cfg.hasErr then st.err else none) = none := by rw [ha.noerr]; simp
  rw [h0]
  have ha1 : AliveE obs cfg hdr (T ++ p) E ({ st with buf := st.buf ++ p } : PSt ω) :=
    ⟨by rw [← ha.cons]; simp, ha.full, ha.n, ha.healthy, ha.noerr, ha.body⟩
  exact alive_writeLoop wr obs hw cfg hp hb hif v hdr (T ++ p) p.length _ E _ ha1 (Nat.lt_succ_self _)
    (fun h => hne (List.append_eq_nil_iff.mp h).1)

/-- the three blocks `Close` emits from a settled state pass both checks: the
    Version1 flush of a non-empty buffer, the Version1 empty final block, the
    Version2 final block (empty only as block number 0, which `Settled` gives) -/
theorem readPanics_last (v1s : Bool) (x bs len n : Nat) (hlen : len ≤ bs) :
    (v1s = true → 0 < len → readPanics v1s false bs len 0 = false ∧ assertPanics v1s x false len n = false) ∧
    (v1s = true → ∀ m, readPanics v1s true bs 0 0 = false ∧ assertPanics v1s x true 0 m = false) ∧
    (v1s = false → (len = 0 → n = 0) → readPanics v1s true bs len 0 = false ∧ assertPanics v1s x true len n = false) := by
  have h1 : ¬ len > bs := Nat.not_lt.mpr hlen
  refine ⟨fun h hl => ?_, fun h m => ?_, fun h hn => ?_⟩ <;> subst h
  · simp [readPanics, assertPanics, h1, Nat.pos_iff_ne_zero.mp hl]
  · simp [readPanics, assertPanics]
  · simp only [readPanics, assertPanics, h1]
    simp
    exact fun h0 _ => hn h0

theorem last_emit (hw : ObsWriter wr obs) (cfg : Cfg) (hp : ∀ b, (cfg.pieces b).flatten = b)
    (hif : IndexFail cfg.pkt) (hdr : Bytes) (pl : List (Bytes × Bool)) (body : Bytes) (st : PSt ω) (f : Bool)
    (hn : st.n = pl.length) (hbody : planBytes cfg.pkt pl 0 = .ok body) (hobs : obs st.codec.w = hdr ++ body)
    (hbound : st.buf.length ≤ cfg.bs)
    (hnp : readPanics cfg.v1shape f cfg.bs st.buf.length 0 = false ∧
      assertPanics cfg.v1shape cfg.assertExtra f st.buf.length st.n = false) :
    BlockOutcome obs cfg hdr pl body st.buf f (emitBlock wr cfg f st) ∧ (emitBlock wr cfg f st).2.buf = [] := by
  have htake : st.buf.take cfg.bs = st.buf := List.take_of_length_le hbound
  have hdrop : st.buf.drop cfg.bs = [] := List.drop_of_length_le hbound
  have h := healthy_emit wr obs hw cfg hp hif hdr pl body st f hn hbody hobs
    (by rw [htake, hdrop]; exact hnp.1) (by rw [htake]; exact hnp.2)
  rw [htake] at h
  exact ⟨h, by rw [emit_buf, hdrop]⟩

/-- how `Close` can go from a healthy, settled state: success with exactly the
    all-at-once output at the writer — or an error (the writer's, or the packet
    function's), the stream dead and `FailedFor` the all-at-once plan.  Never one
    of the stream's own panics. -/
def CloseOutcome (cfg : Cfg) (v : Version) (hdr T : Bytes) (r : Option Err × PSt ω) : Prop :=
  (r.1 = none ∧ ∃ B, planBytes cfg.pkt (Encrypt.chunkPlan v cfg.bs T) 0 = .ok B ∧ obs r.2.codec.w = hdr ++ B) ∨
  (∃ e, r.1 = some e ∧ (e = .ioError ∨ ∃ i c f, cfg.pkt i c f = .error e) ∧ Dead cfg r.2 ∧
      FailedFor obs cfg hdr r.2 (Encrypt.chunkPlan v cfg.bs T))

theorem BlockOutcome.close {cfg : Cfg} {v : Version} {hdr T : Bytes} {pl : List (Bytes × Bool)} {body c : Bytes}
    {f : Bool} {r : Option Err × PSt ω} (h : BlockOutcome obs cfg hdr pl body c f r)
    (hpl : Encrypt.chunkPlan v cfg.bs T = pl ++ [(c, f)]) : CloseOutcome obs cfg v hdr T r := by
  rcases h with ⟨b, h1, h2, h3, _⟩ | ⟨e, h1, hwho, hd, hF⟩
  · exact .inl ⟨h1, body ++ b, by rw [hpl]; exact h2, h3⟩
  · exact .inr ⟨e, h1, hwho, hd, hF _ (by rw [hpl]; exact List.prefix_rfl)⟩

theorem alive_close (hw : ObsWriter wr obs) (cfg : Cfg) (hp : ∀ b, (cfg.pieces b).flatten = b)
    (hb : 0 < cfg.bs) (hif : IndexFail cfg.pkt) (v : Version) (hv : cfg.v1shape = (v == v1))
    (hdr T : Bytes) (E : List Bytes) (st : PSt ω)
    (ha : AliveE obs cfg hdr T E st) (hst : Settled cfg E st) : CloseOutcome obs cfg v hdr T (st.close wr cfg) := by
  obtain ⟨hbound, hne⟩ := hst
  have hplan := settled_plan v cfg.bs hb E st.buf ha.full hbound hne
  rw [ha.cons] at hplan
  obtain ⟨body, hbody, hobs⟩ := ha.body
  have hn0 : st.n = (E.map (fun x => (x, false))).length := by rw [ha.n, List.length_map]
  obtain ⟨hp1, hp2, hp3⟩ := readPanics_last cfg.v1shape cfg.assertExtra cfg.bs st.buf.length st.n hbound
  by_cases hv1 : v = v1
  · have hs : cfg.v1shape = true := by rw [hv]; simp [hv1]
    rw [if_pos hv1] at hplan
    rcases close_cases wr cfg st with ⟨hA, h⟩ | ⟨_, hbne, hcase⟩
    · -- nothing buffered: the empty final block at once
      have hb0 : st.buf = [] := hA.resolve_left (by rw [hs]; nofun)
      rw [if_pos hb0, List.nil_append] at hplan
      rw [h]
      have hlast := last_emit wr obs hw cfg hp hif hdr _ body st true hn0 hbody hobs hbound
        (by rw [hb0]; exact hp2 hs st.n)
      rw [hb0] at hlast
      exact hlast.1.close obs hplan
    · -- the flush, then the empty final block
      rw [if_neg hbne, ← List.append_assoc] at hplan
      obtain ⟨h1, hb1⟩ := last_emit wr obs hw cfg hp hif hdr _ body st false hn0 hbody hobs hbound
        (hp1 hs (List.length_pos_iff.mpr hbne))
      rcases h1 with ⟨b, h1, h2, h3, h4, _⟩ | ⟨e, h1, hwho, hd, hF⟩
      · rcases hcase with ⟨e, he, _⟩ | ⟨_, hne1, _⟩ | ⟨_, _, h⟩
        · rw [h1] at he; cases he
        · exact absurd hb1 hne1
        · -- the flush went through and emptied the buffer: the empty final block
          rw [h]
          have hlast := last_emit wr obs hw cfg hp hif hdr _ (body ++ b) _ true (by rw [h4]; simp) h2 h3
            (by rw [hb1]; exact Nat.zero_le _) (by rw [hb1]; exact hp2 hs _)
          rw [hb1] at hlast
          exact hlast.1.close obs hplan
      · rcases hcase with ⟨_, _, h⟩ | ⟨hn1, _⟩ | ⟨hn1, _⟩
        · rw [h]
          exact .inr ⟨e, h1, hwho, hd, hF _ (by rw [hplan]; exact List.prefix_append _ _)⟩
        · rw [h1] at hn1; cases hn1
        · rw [h1] at hn1; cases hn1
  · have hs : cfg.v1shape = false := by rw [hv]; simp [hv1]
    rw [if_neg hv1] at hplan
    rcases close_cases wr cfg st with ⟨_, h⟩ | ⟨hs', _⟩
    · rw [h]
      have hn : st.buf.length = 0 → st.n = 0 := fun h0 => by
        rw [ha.n, hne (List.length_eq_zero_iff.mp h0)]; rfl
      exact (last_emit wr obs hw cfg hp hif hdr _ body st true hn0 hbody hobs hbound (hp3 hs hn)).1.close obs hplan
    · rw [hs] at hs'; cases hs'

/-! ## whole runs -/

theorem failed_after_write (cfg : Cfg) (v : Version) (hdr T : Bytes) (st : PSt ω) (p : Bytes)
    (h : Failed obs cfg v hdr T st) : Failed obs cfg v hdr (T ++ p) (st.write wr cfg p).2.2 := by
  obtain ⟨hc, hd⟩ := dead_write_codec wr cfg st p h.1
  refine ⟨hd, fun X => ?_⟩
  have := h.2 (p ++ X)
  rw [← List.append_assoc] at this
  unfold FailedFor at this ⊢
  rwa [hc]

theorem failed_after_writes (cfg : Cfg) (v : Version) (hdr : Bytes) (ps : List Bytes) : ∀ (T : Bytes) (st : PSt ω),
    Failed obs cfg v hdr T st → Failed obs cfg v hdr (T ++ ps.flatten) (PSt.writes wr cfg st ps).2 := by
  induction ps with
  | nil => intro T st h; rwa [List.flatten_nil, List.append_nil]
  | cons p ps ih =>
    intro T st h
    rw [List.flatten_cons, ← List.append_assoc]
    exact ih (T ++ p) _ (failed_after_write wr obs cfg v hdr T st p h)

theorem alive_writes (hw : ObsWriter wr obs) (cfg : Cfg) (hp : ∀ b, (cfg.pieces b).flatten = b)
    (hb : 0 < cfg.bs) (hif : IndexFail cfg.pkt) (v : Version) (hdr : Bytes) (ps : List Bytes) :
    ∀ (T : Bytes) (E : List Bytes) (st : PSt ω), AliveE obs cfg hdr T E st → Settled cfg E st →
      ((PSt.writes wr cfg st ps).1 = ps.map (fun p => (p.length, none)) ∧
        ∃ E', AliveE obs cfg hdr (T ++ ps.flatten) E' (PSt.writes wr cfg st ps).2 ∧
          Settled cfg E' (PSt.writes wr cfg st ps).2) ∨
      ((∃ x ∈ (PSt.writes wr cfg st ps).1, x.2 ≠ none) ∧
        Failed obs cfg v hdr (T ++ ps.flatten) (PSt.writes wr cfg st ps).2) := by
  induction ps with
  | nil =>
    intro T E st ha hst
    rw [List.flatten_nil, List.append_nil]
    exact .inl ⟨rfl, E, ha, hst⟩
  | cons p ps ih =>
    intro T E st ha hst
    rw [List.flatten_cons, ← List.append_assoc]
    rcases alive_write wr obs hw cfg hp hb hif v hdr T E st p ha hst.2 with
      ⟨h1, h2, E', ha', hst'⟩ | ⟨_, e, h2, hF, _⟩
    · rcases ih (T ++ p) E' _ ha' hst' with ⟨hr, hA⟩ | ⟨⟨x, hx, hxn⟩, hF⟩
      · refine .inl ⟨?_, hA⟩
        show (_, _) :: _ = _
        rw [hr, h1, h2]
        rfl
      · exact .inr ⟨⟨x, List.mem_cons_of_mem _ hx, hxn⟩, hF⟩
    · exact .inr ⟨⟨_, List.mem_cons_self, by rw [h2]; nofun⟩, failed_after_writes wr obs cfg v hdr ps (T ++ p) _ hF⟩

theorem init_inv (hw : ObsWriter wr obs) (cfg : Cfg) (hp : ∀ b, (cfg.pieces b).flatten = b) (v : Version)
    (w0 : ω) (hbytes : Bytes) :
    ((PSt.init wr cfg.pieces w0 hbytes).1 = true ∧
      AliveE obs cfg (obs w0 ++ headerPacket hbytes) [] [] (PSt.init wr cfg.pieces w0 hbytes).2 ∧
      (PSt.init wr cfg.pieces w0 hbytes).2.buf = []) ∨
    ((PSt.init wr cfg.pieces w0 hbytes).1 = false ∧ Dead cfg (PSt.init wr cfg.pieces w0 hbytes).2 ∧
      PrefixOK cfg v (obs w0 ++ headerPacket hbytes) (obs (PSt.init wr cfg.pieces w0 hbytes).2.codec.w) []) := by
  obtain ⟨q, hq, ho, hall⟩ := encode_obs wr obs hw cfg.pieces hp ({ w := w0 } : Codec ω) (headerPacket hbytes)
  have hf := encode_flag wr cfg.pieces ({ w := w0 } : Codec ω) (headerPacket hbytes) rfl
  cases hok : (Codec.encode wr cfg.pieces ({ w := w0 } : Codec ω) (headerPacket hbytes)).1 with
  | true =>
    rw [hok] at hf
    refine .inl ⟨hok, ⟨rfl, nofun, rfl, hf, rfl, [], rfl, ?_⟩, rfl⟩
    rw [List.append_nil, ← hall hok]
    exact ho
  | false =>
    rw [hok] at hf
    refine .inr ⟨hok, .inl hf, fun X B _ => ?_⟩
    show obs (Codec.encode wr cfg.pieces ({ w := w0 } : Codec ω) (headerPacket hbytes)).2.w <+: _
    rw [ho, List.append_assoc]
    exact (List.prefix_append_right_inj (obs w0)).2 (hq.trans (List.prefix_append _ _))

theorem PrefixOK.append {cfg : Cfg} {v : Version} {hdr W T : Bytes} (h : PrefixOK cfg v hdr W T) (p : Bytes) :
    PrefixOK cfg v hdr W (T ++ p) :=
  fun X B hB => h (p ++ X) B (by rwa [← List.append_assoc])

theorem alive_prefixOK (cfg : Cfg) (hb : 0 < cfg.bs) (v : Version) (hdr T : Bytes) (E : List Bytes) (st : PSt ω)
    (ha : AliveE obs cfg hdr T E st) (hne : st.buf = [] → E = []) : PrefixOK cfg v hdr (obs st.codec.w) T := by
  intro X B hB
  obtain ⟨body, hbody, hobs⟩ := ha.body
  have hpl : E.map (·, false) <+: Encrypt.chunkPlan v cfg.bs (T ++ X) := by
    by_cases hX : st.buf ++ X = []
    · rw [hne (List.append_eq_nil_iff.mp hX).1]
      exact List.nil_prefix
    · rw [← ha.cons, List.append_assoc]
      exact nonfinal_prefix v cfg.bs hb E _ ha.full hX
  obtain ⟨A, hA, hAB⟩ := planBytes_prefix cfg.pkt _ _ B hpl hB
  rw [hbody] at hA
  cases hA
  rw [hobs]
  exact (List.prefix_append_right_inj hdr).2 hAB

theorem writes_inv (hw : ObsWriter wr obs) (cfg : Cfg) (hp : ∀ b, (cfg.pieces b).flatten = b)
    (hb : 0 < cfg.bs) (hif : IndexFail cfg.pkt) (v : Version) (w0 : ω) (hbytes : Bytes) (ws : List Bytes) :
    (∃ E, AliveE obs cfg (obs w0 ++ headerPacket hbytes) ws.flatten E (PSt.writes wr cfg (PSt.init wr cfg.pieces w0 hbytes).2 ws).2 ∧
      Settled cfg E (PSt.writes wr cfg (PSt.init wr cfg.pieces w0 hbytes).2 ws).2) ∨
    (Dead cfg (PSt.writes wr cfg (PSt.init wr cfg.pieces w0 hbytes).2 ws).2 ∧
      PrefixOK cfg v (obs w0 ++ headerPacket hbytes)
        (obs (PSt.writes wr cfg (PSt.init wr cfg.pieces w0 hbytes).2 ws).2.codec.w) ws.flatten) := by
  rcases init_inv wr obs hw cfg hp v w0 hbytes with ⟨_, ha, hb0⟩ | ⟨_, hd, hok⟩
  · rcases alive_writes wr obs hw cfg hp hb hif v _ ws [] [] _ ha ⟨by rw [hb0]; exact Nat.zero_le _, fun _ => rfl⟩ with
      ⟨_, h⟩ | ⟨_, hF⟩
    · exact .inl h
    · exact .inr ⟨hF.1, fun X B hB => (hF.2 X).1 B hB⟩
  · obtain ⟨hc, hd'⟩ := dead_writes_codec wr cfg ws _ hd
    exact .inr ⟨hd', by rw [hc]; exact hok.append ws.flatten⟩

theorem writes_prefixOK (hw : ObsWriter wr obs) (cfg : Cfg) (hp : ∀ b, (cfg.pieces b).flatten = b)
    (hb : 0 < cfg.bs) (hif : IndexFail cfg.pkt) (v : Version) (w0 : ω) (hbytes : Bytes) (ws : List Bytes) :
    PrefixOK cfg v (obs w0 ++ headerPacket hbytes)
      (obs (PSt.writes wr cfg (PSt.init wr cfg.pieces w0 hbytes).2 ws).2.codec.w) ws.flatten := by
  rcases writes_inv wr obs hw cfg hp hb hif v w0 hbytes ws with ⟨E, ha, hst⟩ | ⟨_, hok⟩
  · exact alive_prefixOK obs cfg hb v _ _ E _ ha hst.2
  · exact hok

theorem run_prefix (hw : ObsWriter wr obs) (cfg : Cfg) (hp : ∀ b, (cfg.pieces b).flatten = b)
    (hb : 0 < cfg.bs) (hif : IndexFail cfg.pkt) (v : Version) (hv : cfg.v1shape = (v == v1))
    (w0 : ω) (hbytes : Bytes) (ws : List Bytes) (B : Bytes)
    (hB : planBytes cfg.pkt (Encrypt.chunkPlan v cfg.bs ws.flatten) 0 = .ok B) :
    obs ((PSt.writes wr cfg (PSt.init wr cfg.pieces w0 hbytes).2 ws).2.close wr cfg).2.codec.w <+:
      obs w0 ++ headerPacket hbytes ++ B := by
  rcases writes_inv wr obs hw cfg hp hb hif v w0 hbytes ws with ⟨E, ha, hst⟩ | ⟨hd, hok⟩
  · rcases alive_close wr obs hw cfg hp hb hif v hv _ _ E _ ha hst with ⟨_, B', hB', ho⟩ | ⟨e, _, _, _, hF⟩
    · rw [hB] at hB'
      cases hB'
      rw [ho]
      exact List.prefix_rfl
    · exact hF.1 B hB
  · rw [(dead_close_codec wr cfg _ hd).2.1]
    exact hok [] B (by rwa [List.append_nil])

theorem run_cases (hw : ObsWriter wr obs) (cfg : Cfg) (hp : ∀ b, (cfg.pieces b).flatten = b)
    (hb : 0 < cfg.bs) (hif : IndexFail cfg.pkt) (v : Version) (hv : cfg.v1shape = (v == v1))
    (w0 : ω) (hbytes : Bytes) (ws : List Bytes) (hi : (PSt.init wr cfg.pieces w0 hbytes).1 = true) :
    ((PSt.writes wr cfg (PSt.init wr cfg.pieces w0 hbytes).2 ws).1 = ws.map (fun p => (p.length, none)) ∧
      ((PSt.writes wr cfg (PSt.init wr cfg.pieces w0 hbytes).2 ws).2.close wr cfg).1 = none ∧
      ∃ B, planBytes cfg.pkt (Encrypt.chunkPlan v cfg.bs ws.flatten) 0 = .ok B ∧
        obs ((PSt.writes wr cfg (PSt.init wr cfg.pieces w0 hbytes).2 ws).2.close wr cfg).2.codec.w =
          obs w0 ++ headerPacket hbytes ++ B) ∨
    (((PSt.writes wr cfg (PSt.init wr cfg.pieces w0 hbytes).2 ws).2.close wr cfg).1 ≠ none ∧
      FailedFor obs cfg (obs w0 ++ headerPacket hbytes)
        ((PSt.writes wr cfg (PSt.init wr cfg.pieces w0 hbytes).2 ws).2.close wr cfg).2
        (Encrypt.chunkPlan v cfg.bs ws.flatten)) := by
  rcases init_inv wr obs hw cfg hp v w0 hbytes with ⟨_, ha, hb0⟩ | ⟨hf, _, _⟩
  · rcases alive_writes wr obs hw cfg hp hb hif v _ ws [] [] _ ha ⟨by rw [hb0]; exact Nat.zero_le _, fun _ => rfl⟩ with
      ⟨hr, E', ha', hst'⟩ | ⟨_, hF⟩
    · rw [List.nil_append] at ha'
      rcases alive_close wr obs hw cfg hp hb hif v hv _ _ E' _ ha' hst' with ⟨hc, B, hB, ho⟩ | ⟨e, he, _, _, hF⟩
      · exact .inl ⟨hr, hc, B, hB, ho⟩
      · exact .inr ⟨by rw [he]; nofun, hF⟩
    · -- a `Write` failed: `Close` reports an error and changes nothing
      obtain ⟨hne, hc, _⟩ := dead_close_codec wr cfg _ hF.1
      have := hF.2 []
      rw [List.nil_append, List.append_nil] at this
      unfold FailedFor at this ⊢
      rw [hc]
      exact .inr ⟨hne, this⟩
  · rw [hi] at hf; cases hf

theorem run_success (hw : ObsWriter wr obs) (cfg : Cfg) (hp : ∀ b, (cfg.pieces b).flatten = b)
    (hb : 0 < cfg.bs) (hif : IndexFail cfg.pkt) (v : Version) (hv : cfg.v1shape = (v == v1))
    (w0 : ω) (hbytes : Bytes) (ws : List Bytes)
    (hi : (PSt.init wr cfg.pieces w0 hbytes).1 = true)
    (_hws : ∀ x ∈ (PSt.writes wr cfg (PSt.init wr cfg.pieces w0 hbytes).2 ws).1, x.2 = none)
    (hc : ((PSt.writes wr cfg (PSt.init wr cfg.pieces w0 hbytes).2 ws).2.close wr cfg).1 = none) :
    ∃ B, planBytes cfg.pkt (Encrypt.chunkPlan v cfg.bs ws.flatten) 0 = .ok B ∧
      obs ((PSt.writes wr cfg (PSt.init wr cfg.pieces w0 hbytes).2 ws).2.close wr cfg).2.codec.w =
        obs w0 ++ headerPacket hbytes ++ B ∧
      (PSt.writes wr cfg (PSt.init wr cfg.pieces w0 hbytes).2 ws).1 = ws.map (fun p => (p.length, none)) := by
  rcases run_cases wr obs hw cfg hp hb hif v hv w0 hbytes ws hi with ⟨hr, _, B, hB, ho⟩ | ⟨hne, _⟩
  · exact ⟨B, hB, ho, hr⟩
  · exact absurd hc hne

end alive

end Saltpack.Proofs.SenderP
