/-
  The sender streams over a faulting writer: the instantiations.  `cutBy`, the
  cut behind go-codec's segmentation `codecPieces`, is a segmentation into
  non-empty pieces; the packet functions of the three modes refuse by packet
  number only; the all-at-once output `oneShot` of the stream configurations is
  `Encrypt.sealWith` / `Sign.attachedWith` / `Signcrypt.sealWith` (`Mode`
  packages, per mode, what the run theorems need); the detached-signature stream.
-/
import Saltpack.Proofs.SenderStreamFaults

namespace Saltpack.Proofs.SenderP
open Saltpack Saltpack.Sender Msgpack

/-! ## the segmentation -/

theorem cutBy_flatten : ∀ (ns : List Nat) (b : Bytes), (cutBy ns b).flatten = b := by
  intro ns
  induction ns with
  | nil => intro b; unfold cutBy; by_cases h : b.isEmpty = true <;> simp_all
  | cons n ns ih =>
    intro b
    unfold cutBy
    by_cases h : b.isEmpty = true
    · simp_all
    · simp only [h, Bool.false_eq_true, if_false]
      by_cases hn : n = 0
      · simp only [hn, if_true]; exact ih b
      · simp only [hn, if_false, List.flatten_cons, ih, List.take_append_drop]

theorem cutBy_nonempty : ∀ (ns : List Nat) (b : Bytes), ∀ p ∈ cutBy ns b, p ≠ [] := by
  intro ns
  induction ns with
  | nil =>
    intro b p hp
    unfold cutBy at hp
    by_cases h : b.isEmpty = true
    · simp [h] at hp
    · simp only [h, Bool.false_eq_true, if_false, List.mem_singleton] at hp
      subst hp
      intro h0; simp [h0] at h
  | cons n ns ih =>
    intro b p hp
    unfold cutBy at hp
    by_cases h : b.isEmpty = true
    · simp [h] at hp
    · simp only [h, Bool.false_eq_true, if_false] at hp
      by_cases hn : n = 0
      · simp only [hn, if_true] at hp; exact ih b p hp
      · simp only [hn, if_false, List.mem_cons] at hp
        rcases hp with rfl | hp
        · intro h0
          have hb : b ≠ [] := by intro hb; simp [hb] at h
          rcases List.take_eq_nil_iff.mp h0 with h1 | h1
          · exact hn h1
          · exact hb h1
        · exact ih _ p hp

/-! ## the packet functions refuse by packet number only -/

section
variable (P : Prims)

theorem indexFail_of_ok_iff {pkt : Nat → Bytes → Bool → Except Err Bytes} (ok : Nat → Prop)
    (h : ∀ i c f, (∃ b, pkt i c f = .ok b) ↔ ok i) : IndexFail pkt := by
  intro i c f e he c' f'
  cases hp : pkt i c' f' with
  | error e' => exact ⟨e', rfl⟩
  | ok b =>
    obtain ⟨b', hb'⟩ := (h i c f).2 ((h i c' f').1 ⟨b, hp⟩)
    rw [he] at hb'
    cases hb'

/-- the version switches of the packet layer: two accepted cases, else a panic -/
theorem ite_ok_iff {α : Type} (p q : Prop) [Decidable p] [Decidable q] (a b : α) (e : Err) :
    (∃ x, (if p then .ok a else if q then .ok b else .error e : Except Err α) = .ok x) ↔ p ∨ q := by
  by_cases hp : p <;> by_cases hq : q <;> simp [hp, hq]

theorem payloadHash_ok_iff (v : Version) (hh n ct : Bytes) (f : Bool) :
    (∃ h, payloadHash P v hh n ct f = .ok h) ↔ v.major = 1 ∨ v.major = 2 :=
  ite_ok_iff _ _ _ _ _

theorem encBlockVal_ok_iff (v : Version) (a : List Bytes) (ct : Bytes) (f : Bool) :
    (∃ x, encBlockVal v a ct f = .ok x) ↔ v = v1 ∨ v = v2 :=
  ite_ok_iff _ _ _ _ _

theorem attachedSignatureInput_ok_iff (v : Version) (hh c : Bytes) (i : Nat) (f : Bool) :
    (∃ x, attachedSignatureInput P v hh c i f = .ok x) ↔ v.major = 1 ∨ v.major = 2 :=
  ite_ok_iff _ _ _ _ _

theorem sigBlockVal_ok_iff (v : Version) (sig c : Bytes) (f : Bool) :
    (∃ x, sigBlockVal v sig c f = .ok x) ↔ v = v1 ∨ v = v2 :=
  ite_ok_iff _ _ _ _ _

theorem encPkt_ok_iff (v : Version) (pk hh : Bytes) (mks : List Bytes) (i : Nat) (c : Bytes) (f : Bool) :
    (∃ b, encPkt P v pk hh mks i c f = .ok b) ↔
      blockNumberOK i = true ∧ (v.major = 1 ∨ v.major = 2) ∧ (v = v1 ∨ v = v2) := by
  rw [← payloadHash_ok_iff P v hh (Nonce.chunkSecretBox i) (P.sbSeal pk (Nonce.chunkSecretBox i) c) f]
  unfold encPkt Encrypt.blockStruct
  cases blockNumberOK i with
  | false => simp
  | true =>
    simp only [Bool.not_true, Bool.false_eq_true, if_false, true_and]
    cases payloadHash P v hh (Nonce.chunkSecretBox i) (P.sbSeal pk (Nonce.chunkSecretBox i) c) f with
    | error e => simp
    | ok h =>
      simp only
      rw [← encBlockVal_ok_iff v (mks.map fun k => payloadAuthenticator P k h)
        (P.sbSeal pk (Nonce.chunkSecretBox i) c) f]
      cases encBlockVal v (mks.map fun k => payloadAuthenticator P k h)
        (P.sbSeal pk (Nonce.chunkSecretBox i) c) f <;> simp

theorem sigPkt_ok_iff (v : Version) (signer hh : Bytes) (i : Nat) (c : Bytes) (f : Bool) :
    (∃ b, sigPkt P v signer hh i c f = .ok b) ↔ (v.major = 1 ∨ v.major = 2) ∧ (v = v1 ∨ v = v2) := by
  rw [← attachedSignatureInput_ok_iff P v hh c i f]
  unfold sigPkt Sign.blockStruct
  cases attachedSignatureInput P v hh c i f with
  | error e => simp
  | ok inp =>
    simp only
    rw [← sigBlockVal_ok_iff v (P.sign signer inp) c f]
    cases sigBlockVal v (P.sign signer inp) c f <;> simp

theorem scPkt_ok_iff (sender : Option Bytes) (pk hh : Bytes) (i : Nat) (c : Bytes) (f : Bool) :
    (∃ b, scPkt P sender pk hh i c f = .ok b) ↔ blockNumberOK i = true := by
  unfold scPkt Signcrypt.blockStruct
  cases blockNumberOK i <;> simp

theorem encPkt_indexFail (v : Version) (pk hh : Bytes) (mks : List Bytes) : IndexFail (encPkt P v pk hh mks) :=
  indexFail_of_ok_iff _ (encPkt_ok_iff P v pk hh mks)

theorem sigPkt_indexFail (v : Version) (signer hh : Bytes) : IndexFail (sigPkt P v signer hh) :=
  indexFail_of_ok_iff (fun _ => _) (sigPkt_ok_iff P v signer hh)

theorem scPkt_indexFail (sender : Option Bytes) (pk hh : Bytes) : IndexFail (scPkt P sender pk hh) :=
  indexFail_of_ok_iff _ (scPkt_ok_iff P sender pk hh)

/-! ## the all-at-once output -/

/- The next three lemmas say the same thing for the three packet functions:
   encoding packet by packet and concatenating (`planBytes`) succeeds with `B`
   exactly when making all blocks first (`blockStructs`) and then encoding them
   (`encodeBlocks`) does.  Errors cannot be matched (the two sides meet them in a
   different order), hence the iff on `.ok`; the length of the proofs is the
   case analysis on which of block / rest / encoding fails. -/

theorem enc_planBytes_ok (v : Version) (pk hh : Bytes) (mks : List Bytes) :
    ∀ (plan : List (Bytes × Bool)) (i : Nat) (B : Bytes),
      planBytes (encPkt P v pk hh mks) plan i = .ok B ↔
        ∃ blks, Encrypt.blockStructs P v pk hh mks plan i = .ok blks ∧ Encrypt.encodeBlocks v blks = .ok B := by
  intro plan
  induction plan with
  | nil => intro i B; simp [planBytes, Encrypt.blockStructs, Encrypt.encodeBlocks, eq_comm]
  | cons x plan ih =>
    intro i B
    obtain ⟨c, f⟩ := x
    simp only [planBytes, Encrypt.blockStructs, encPkt]
    cases hb : Encrypt.blockStruct P v pk hh mks i c f with
    | error e => simp
    | ok b =>
      simp only
      cases hr : planBytes (encPkt P v pk hh mks) plan (i + 1) with
      | error e =>
        have hno : ∀ blks R, Encrypt.blockStructs P v pk hh mks plan (i + 1) = .ok blks →
            Encrypt.encodeBlocks v blks = .ok R → False := by
          intro blks R h1 h2
          have := (ih (i + 1) R).2 ⟨blks, h1, h2⟩
          rw [hr] at this; cases this
        cases hv : encBlockVal v b.auths b.ct b.final with
        | error e' =>
          simp only
          constructor
          · intro h; cases h
          · rintro ⟨blks, h1, h2⟩
            cases hbs : Encrypt.blockStructs P v pk hh mks plan (i + 1) with
            | error e'' => simp [hbs] at h1
            | ok rest =>
              simp only [hbs] at h1
              injection h1 with h1
              subst h1
              simp [Encrypt.encodeBlocks, hv] at h2
        | ok val =>
          simp only
          constructor
          · intro h; cases h
          · rintro ⟨blks, h1, h2⟩
            cases hbs : Encrypt.blockStructs P v pk hh mks plan (i + 1) with
            | error e'' => simp [hbs] at h1
            | ok rest =>
              simp only [hbs] at h1
              injection h1 with h1
              subst h1
              simp only [Encrypt.encodeBlocks, hv] at h2
              cases her : Encrypt.encodeBlocks v rest with
              | error e3 => simp [her] at h2
              | ok R => exact (hno rest R hbs her).elim
      | ok R =>
        obtain ⟨rest, hrest, henc⟩ := (ih (i + 1) R).1 hr
        simp only [hrest]
        cases hv : encBlockVal v b.auths b.ct b.final with
        | error e' =>
          simp only
          constructor
          · intro h; cases h
          · rintro ⟨blks, h1, h2⟩
            injection h1 with h1
            subst h1
            simp [Encrypt.encodeBlocks, hv] at h2
        | ok val =>
          simp only
          constructor
          · intro h
            injection h with h
            exact ⟨b :: rest, rfl, by simp [Encrypt.encodeBlocks, hv, henc, h]⟩
          · rintro ⟨blks, h1, h2⟩
            injection h1 with h1
            subst h1
            simp only [Encrypt.encodeBlocks, hv, henc] at h2
            injection h2 with h2
            rw [h2]

theorem sealWith_iff_oneShot (bs : Nat) (pieces : Bytes → List Bytes) (v : Version) (sender : Option Bytes)
    (rs : List Encrypt.Recipient) (eph pk pt M : Bytes) :
    Encrypt.sealWith P bs v sender rs eph pk pt = .ok M ↔
      ∃ hb cfg, encryptSetup P bs pieces v sender rs eph pk = .ok (hb, cfg) ∧ oneShot cfg v hb pt = .ok M := by
  unfold Encrypt.sealWith Encrypt.sealPackets encryptSetup oneShot
  by_cases hk : knownVersion v = true
  · simp only [hk, Bool.not_true, Bool.false_eq_true, if_false]
    cases hc : Encrypt.checkReceivers rs with
    | error e => simp
    | ok u =>
      simp only
      cases hh : Encrypt.header P v sender eph pk rs with
      | error e => simp
      | ok h =>
        simp only
        cases hm : Encrypt.macKeysSender P v (sender.getD eph) eph (P.hash (encode h.toVal)) rs 0 with
        | error e => simp
        | ok mks =>
          simp only
          constructor
          · intro hM
            refine ⟨_, _, rfl, ?_⟩
            simp only
            cases hbs : Encrypt.blockStructs P v pk (P.hash (encode h.toVal)) mks (Encrypt.chunkPlan v bs pt) 0 with
            | error e => simp [hbs] at hM
            | ok blks =>
              simp only [hbs] at hM
              cases henc : Encrypt.encodeBlocks v blks with
              | error e => simp [henc] at hM
              | ok body =>
                simp only [henc] at hM
                rw [(enc_planBytes_ok P v pk _ mks _ 0 body).2 ⟨blks, hbs, henc⟩]
                exact hM
          · rintro ⟨hb, cfg, hcfg, hone⟩
            injection hcfg with hcfg
            obtain ⟨rfl, rfl⟩ := Prod.mk.inj hcfg
            simp only at hone
            cases hpb : planBytes (encPkt P v pk (P.hash (encode h.toVal)) mks) (Encrypt.chunkPlan v bs pt) 0 with
            | error e => simp [hpb] at hone
            | ok body =>
              simp only [hpb] at hone
              obtain ⟨blks, hbs, henc⟩ := (enc_planBytes_ok P v pk _ mks _ 0 body).1 hpb
              simp only [hbs, henc]
              exact hone
  · simp [hk]

theorem sig_planBytes_ok (v : Version) (signer hh : Bytes) :
    ∀ (plan : List (Bytes × Bool)) (i : Nat) (B : Bytes),
      planBytes (sigPkt P v signer hh) plan i = .ok B ↔
        ∃ blks, Sign.blockStructs P v signer hh plan i = .ok blks ∧ Sign.encodeBlocks v blks = .ok B := by
  intro plan
  induction plan with
  | nil => intro i B; simp [planBytes, Sign.blockStructs, Sign.encodeBlocks, eq_comm]
  | cons x plan ih =>
    intro i B
    obtain ⟨c, f⟩ := x
    simp only [planBytes, Sign.blockStructs, sigPkt]
    cases hb : Sign.blockStruct P v signer hh i c f with
    | error e => simp
    | ok b =>
      simp only
      cases hr : planBytes (sigPkt P v signer hh) plan (i + 1) with
      | error e =>
        have hno : ∀ blks R, Sign.blockStructs P v signer hh plan (i + 1) = .ok blks →
            Sign.encodeBlocks v blks = .ok R → False := by
          intro blks R h1 h2
          have := (ih (i + 1) R).2 ⟨blks, h1, h2⟩
          rw [hr] at this; cases this
        cases hv : sigBlockVal v b.sig b.chunk b.final with
        | error e' =>
          simp only
          constructor
          · intro h; cases h
          · rintro ⟨blks, h1, h2⟩
            cases hbs : Sign.blockStructs P v signer hh plan (i + 1) with
            | error e'' => simp [hbs] at h1
            | ok rest =>
              simp only [hbs] at h1
              injection h1 with h1
              subst h1
              simp [Sign.encodeBlocks, hv] at h2
        | ok val =>
          simp only
          constructor
          · intro h; cases h
          · rintro ⟨blks, h1, h2⟩
            cases hbs : Sign.blockStructs P v signer hh plan (i + 1) with
            | error e'' => simp [hbs] at h1
            | ok rest =>
              simp only [hbs] at h1
              injection h1 with h1
              subst h1
              simp only [Sign.encodeBlocks, hv] at h2
              cases her : Sign.encodeBlocks v rest with
              | error e3 => simp [her] at h2
              | ok R => exact (hno rest R hbs her).elim
      | ok R =>
        obtain ⟨rest, hrest, henc⟩ := (ih (i + 1) R).1 hr
        simp only [hrest]
        cases hv : sigBlockVal v b.sig b.chunk b.final with
        | error e' =>
          simp only
          constructor
          · intro h; cases h
          · rintro ⟨blks, h1, h2⟩
            injection h1 with h1
            subst h1
            simp [Sign.encodeBlocks, hv] at h2
        | ok val =>
          simp only
          constructor
          · intro h
            injection h with h
            exact ⟨b :: rest, rfl, by simp [Sign.encodeBlocks, hv, henc, h]⟩
          · rintro ⟨blks, h1, h2⟩
            injection h1 with h1
            subst h1
            simp only [Sign.encodeBlocks, hv, henc] at h2
            injection h2 with h2
            rw [h2]


theorem sc_planBytes_ok (sender : Option Bytes) (pk hh : Bytes) :
    ∀ (plan : List (Bytes × Bool)) (i : Nat) (B : Bytes),
      planBytes (scPkt P sender pk hh) plan i = .ok B ↔
        ∃ blks, Signcrypt.blockStructs P sender pk hh plan i = .ok blks ∧ Signcrypt.encodeBlocks blks = B := by
  intro plan
  induction plan with
  | nil => intro i B; simp [planBytes, Signcrypt.blockStructs, Signcrypt.encodeBlocks, eq_comm]
  | cons x plan ih =>
    intro i B
    obtain ⟨c, f⟩ := x
    simp only [planBytes, Signcrypt.blockStructs, scPkt]
    cases hb : Signcrypt.blockStruct P sender pk hh i c f with
    | error e => simp
    | ok b =>
      simp only
      cases hr : planBytes (scPkt P sender pk hh) plan (i + 1) with
      | error e =>
        simp only
        constructor
        · intro h; cases h
        · rintro ⟨blks, h1, h2⟩
          cases hbs : Signcrypt.blockStructs P sender pk hh plan (i + 1) with
          | error e'' => simp [hbs] at h1
          | ok rest =>
            have := (ih (i + 1) (Signcrypt.encodeBlocks rest)).2 ⟨rest, hbs, rfl⟩
            rw [hr] at this; cases this
      | ok R =>
        obtain ⟨rest, hrest, henc⟩ := (ih (i + 1) R).1 hr
        simp only [hrest]
        constructor
        · intro h
          injection h with h
          refine ⟨b :: rest, rfl, ?_⟩
          rw [← h, ← henc]
          simp [Signcrypt.encodeBlocks]
        · rintro ⟨blks, h1, h2⟩
          injection h1 with h1
          subst h1
          rw [← h2, ← henc]
          simp [Signcrypt.encodeBlocks]

theorem attachedWith_iff_oneShot (bs : Nat) (pieces : Bytes → List Bytes) (v : Version) (signer nonce msg M : Bytes) :
    Sign.attachedWith P bs v signer nonce msg = .ok M ↔
      ∃ hb cfg, signSetup P bs pieces v signer nonce = .ok (hb, cfg) ∧ oneShot cfg v hb msg = .ok M := by
  unfold Sign.attachedWith Sign.attachedPackets signSetup oneShot
  by_cases hk : knownVersion v = true
  · simp only [hk, Bool.not_true, Bool.false_eq_true, if_false]
    constructor
    · intro hM
      refine ⟨_, _, rfl, ?_⟩
      simp only
      cases hbs : Sign.blockStructs P v signer (P.hash (encode (Sign.header v (P.sigPub signer) mtAttached nonce).toVal))
          (Encrypt.chunkPlan v bs msg) 0 with
      | error e => simp [hbs] at hM
      | ok blks =>
        simp only [hbs] at hM
        cases henc : Sign.encodeBlocks v blks with
        | error e => simp [henc] at hM
        | ok body =>
          simp only [henc] at hM
          rw [(sig_planBytes_ok P v signer _ _ 0 body).2 ⟨blks, hbs, henc⟩]
          exact hM
    · rintro ⟨hb, cfg, hcfg, hone⟩
      injection hcfg with hcfg
      obtain ⟨rfl, rfl⟩ := Prod.mk.inj hcfg
      simp only at hone
      cases hpb : planBytes (sigPkt P v signer (P.hash (encode (Sign.header v (P.sigPub signer) mtAttached nonce).toVal)))
          (Encrypt.chunkPlan v bs msg) 0 with
      | error e => simp [hpb] at hone
      | ok body =>
        simp only [hpb] at hone
        obtain ⟨blks, hbs, henc⟩ := (sig_planBytes_ok P v signer _ _ 0 body).1 hpb
        simp only [hbs, henc]
        exact hone
  · simp [hk]

theorem scSealWith_iff_oneShot (bs : Nat) (pieces : Bytes → List Bytes) (sender : Option Bytes)
    (rs : List Signcrypt.Recipient) (eph pk pt M : Bytes) :
    Signcrypt.sealWith P bs sender rs eph pk pt = .ok M ↔
      ∃ hb cfg, signcryptSetup P bs pieces sender rs eph pk = .ok (hb, cfg) ∧ oneShot cfg v2 hb pt = .ok M := by
  unfold Signcrypt.sealWith Signcrypt.sealPackets signcryptSetup oneShot
  cases hc : Signcrypt.checkReceivers rs [] with
  | error e => simp
  | ok u =>
    simp only
    constructor
    · intro hM
      refine ⟨_, _, rfl, ?_⟩
      simp only
      cases hbs : Signcrypt.blockStructs P sender pk (P.hash (encode (Signcrypt.header P sender eph pk rs).toVal))
          (Encrypt.chunkPlan v2 bs pt) 0 with
      | error e => simp [hbs] at hM
      | ok blks =>
        simp only [hbs] at hM
        rw [(sc_planBytes_ok P sender pk _ _ 0 _).2 ⟨blks, hbs, rfl⟩]
        exact hM
    · rintro ⟨hb, cfg, hcfg, hone⟩
      injection hcfg with hcfg
      obtain ⟨rfl, rfl⟩ := Prod.mk.inj hcfg
      simp only at hone
      cases hpb : planBytes (scPkt P sender pk (P.hash (encode (Signcrypt.header P sender eph pk rs).toVal)))
          (Encrypt.chunkPlan v2 bs pt) 0 with
      | error e => simp [hpb] at hone
      | ok body =>
        simp only [hpb] at hone
        obtain ⟨blks, hbs, henc⟩ := (sc_planBytes_ok P sender pk _ _ 0 body).1 hpb
        simp only [hbs, henc]
        exact hone

end

/-! ## the detached-signature stream -/

section detached
variable {ω : Type} (wr : ω → Bytes → Bool × ω) (obs : ω → Bytes) (flt : ω → Nat)

theorem det_writes (ps : List Bytes) : ∀ (st : DSt ω),
    (DSt.writes st ps).2 = { st with msg := st.msg ++ ps.flatten } ∧
    (DSt.writes st ps).1 = ps.map (fun p => (p.length, none)) := by
  induction ps with
  | nil => intro st; simp [DSt.writes]
  | cons p ps ih =>
    intro st
    obtain ⟨h1, h2⟩ := ih (st.write p).2.2
    simp only [DSt.writes, h1, h2]
    simp [DSt.write, List.append_assoc]

theorem det_run (hw : ObsWriter wr obs) (pieces : Bytes → List Bytes) (hp : ∀ b, (pieces b).flatten = b)
    (sigPkt : Bytes → Bytes) (w0 : ω) (hbytes : Bytes) (ws : List Bytes) :
    obs (((DSt.writes (DSt.init wr pieces w0 hbytes).2 ws).2).close wr pieces sigPkt).2.codec.w <+:
      obs w0 ++ headerPacket hbytes ++ sigPkt ws.flatten ∧
    ((DSt.init wr pieces w0 hbytes).1 = true →
      (((DSt.writes (DSt.init wr pieces w0 hbytes).2 ws).2).close wr pieces sigPkt).1 = none →
      obs (((DSt.writes (DSt.init wr pieces w0 hbytes).2 ws).2).close wr pieces sigPkt).2.codec.w =
        obs w0 ++ headerPacket hbytes ++ sigPkt ws.flatten) := by
  rw [(det_writes ws _).1]
  obtain ⟨q, hq, ho, hall⟩ := encode_obs wr obs hw pieces hp ({ w := w0 } : Codec ω) (headerPacket hbytes)
  have hf := encode_flag wr pieces ({ w := w0 } : Codec ω) (headerPacket hbytes) rfl
  unfold DSt.init
  cases he : Codec.encode wr pieces ({ w := w0 } : Codec ω) (headerPacket hbytes) with
  | mk ok c =>
    rw [he] at ho hall hf
    simp only at ho hall hf ⊢
    unfold DSt.close
    simp only [List.nil_append]
    cases ok with
    | false =>
      have hcf : c.failed = true := by simpa using hf
      rw [encode_failed wr pieces c _ hcf]
      simp only
      refine ⟨?_, fun h => by cases h⟩
      rw [ho, List.append_assoc]
      exact (List.prefix_append_right_inj (obs w0)).2 (List.IsPrefix.trans hq (List.prefix_append _ _))
    | true =>
      have hcf : c.failed = false := by simpa using hf
      obtain ⟨q2, hq2, ho2, hall2⟩ := encode_obs wr obs hw pieces hp c (sigPkt ws.flatten)
      cases he2 : Codec.encode wr pieces c (sigPkt ws.flatten) with
      | mk ok2 c2 =>
        rw [he2] at ho2 hall2
        simp only at ho2 hall2
        cases ok2 with
        | true =>
          simp only
          rw [ho2, ho, hall rfl, hall2 rfl]
          exact ⟨List.prefix_rfl, fun _ _ => rfl⟩
        | false =>
          simp only
          refine ⟨?_, fun _ h => by cases h⟩
          rw [ho2, ho, hall rfl]
          exact (List.prefix_append_right_inj _).2 hq2

theorem det_close_flt (hw : FltWriter wr flt) (pieces : Bytes → List Bytes) (sigPkt : Bytes → Bytes) (st : DSt ω) :
    ((st.close wr pieces sigPkt).1 = none → flt (st.close wr pieces sigPkt).2.codec.w = flt st.codec.w) ∧
    (st.codec.failed = true → (st.close wr pieces sigPkt).1 = some .ioError ∧ (st.close wr pieces sigPkt).2.codec = st.codec) ∧
    (flt (st.close wr pieces sigPkt).2.codec.w ≠ flt st.codec.w → (st.close wr pieces sigPkt).2.codec.failed = true) := by
  have hfl := encode_flt wr flt hw pieces st.codec (sigPkt st.msg)
  unfold DSt.close
  cases he : Codec.encode wr pieces st.codec (sigPkt st.msg) with
  | mk ok c =>
    rw [he] at hfl
    cases ok with
    | true =>
      have hh := encode_true_healthy wr pieces st.codec (sigPkt st.msg) (by rw [he])
      have hfl := hfl.1 rfl
      simp only
      refine ⟨fun _ => hfl, fun h => ?_, fun h => absurd hfl h⟩
      rw [hh.1] at h; cases h
    | false =>
      have hf := encode_false_failed wr pieces st.codec (sigPkt st.msg) (by rw [he])
      rw [he] at hf
      simp only
      refine ⟨(fun h => by cases h), fun h => ?_, fun _ => hf⟩
      rw [encode_failed wr pieces st.codec _ h] at he
      obtain ⟨_, rfl⟩ := Prod.mk.inj he
      exact ⟨by simp, rfl⟩

end detached

theorem detachedWith_iff (P : Prims) (v : Version) (signer nonce msg M : Bytes) :
    Sign.detachedWith P v signer nonce msg = .ok M ↔
      ∃ hb sp, detachedSetup P v signer nonce = .ok (hb, sp) ∧ M = headerPacket hb ++ sp msg := by
  unfold Sign.detachedWith detachedSetup
  by_cases hk : knownVersion v = true
  · simp only [hk, Bool.not_true, Bool.false_eq_true, if_false]
    constructor
    · intro h; injection h with h; exact ⟨_, _, rfl, h.symm⟩
    · rintro ⟨hb, sp, h, rfl⟩
      injection h with h
      obtain ⟨rfl, rfl⟩ := Prod.mk.inj h
      rfl
  · simp [hk]

/-! ## what a successful setup says about the configuration -/

theorem encryptSetup_cfg (P : Prims) (bs : Nat) (pieces : Bytes → List Bytes) (v : Version) (sender : Option Bytes)
    (rs : List Encrypt.Recipient) (eph pk hbytes : Bytes) (cfg : Cfg)
    (hs : encryptSetup P bs pieces v sender rs eph pk = .ok (hbytes, cfg)) :
    cfg.bs = bs ∧ cfg.pieces = pieces ∧ cfg.v1shape = (v == v1) ∧ IndexFail cfg.pkt := by
  unfold encryptSetup at hs
  by_cases hk : knownVersion v = true
  · simp only [hk, Bool.not_true, Bool.false_eq_true, if_false] at hs
    cases hc : Encrypt.checkReceivers rs with
    | error e => simp [hc] at hs
    | ok u =>
      simp only [hc] at hs
      cases hh : Encrypt.header P v sender eph pk rs with
      | error e => simp [hh] at hs
      | ok h =>
        simp only [hh] at hs
        cases hm : Encrypt.macKeysSender P v (sender.getD eph) eph (P.hash (encode h.toVal)) rs 0 with
        | error e => simp [hm] at hs
        | ok mks =>
          simp only [hm] at hs
          injection hs with hs
          obtain ⟨_, rfl⟩ := Prod.mk.inj hs
          exact ⟨rfl, rfl, rfl, encPkt_indexFail P v pk _ mks⟩
  · simp [hk] at hs

theorem signSetup_cfg (P : Prims) (bs : Nat) (pieces : Bytes → List Bytes) (v : Version) (signer nonce hbytes : Bytes)
    (cfg : Cfg) (hs : signSetup P bs pieces v signer nonce = .ok (hbytes, cfg)) :
    cfg.bs = bs ∧ cfg.pieces = pieces ∧ cfg.v1shape = (v == v1) ∧ IndexFail cfg.pkt := by
  unfold signSetup at hs
  by_cases hk : knownVersion v = true
  · simp only [hk, Bool.not_true, Bool.false_eq_true, if_false] at hs
    injection hs with hs
    obtain ⟨_, rfl⟩ := Prod.mk.inj hs
    exact ⟨rfl, rfl, rfl, sigPkt_indexFail P v signer _⟩
  · simp [hk] at hs

theorem signcryptSetup_cfg (P : Prims) (bs : Nat) (pieces : Bytes → List Bytes) (sender : Option Bytes)
    (rs : List Signcrypt.Recipient) (eph pk hbytes : Bytes) (cfg : Cfg)
    (hs : signcryptSetup P bs pieces sender rs eph pk = .ok (hbytes, cfg)) :
    cfg.bs = bs ∧ cfg.pieces = pieces ∧ cfg.v1shape = (v2 == v1) ∧ IndexFail cfg.pkt := by
  unfold signcryptSetup at hs
  cases hc : Signcrypt.checkReceivers rs [] with
  | error e => simp [hc] at hs
  | ok u =>
    simp only [hc] at hs
    injection hs with hs
    obtain ⟨_, rfl⟩ := Prod.mk.inj hs
    exact ⟨rfl, rfl, (by decide : false = (v2 == v1)), scPkt_indexFail P sender pk _⟩

theorem oneShot_ok (cfg : Cfg) (v : Version) (hbytes pt M : Bytes) (h : oneShot cfg v hbytes pt = .ok M) :
    ∃ B, planBytes cfg.pkt (Encrypt.chunkPlan v cfg.bs pt) 0 = .ok B ∧ M = headerPacket hbytes ++ B := by
  unfold oneShot at h
  cases hB : planBytes cfg.pkt (Encrypt.chunkPlan v cfg.bs pt) 0 with
  | error e => simp [hB] at h
  | ok B =>
    simp only [hB] at h
    injection h with h
    exact ⟨B, rfl, h.symm⟩

/-! ## the three modes -/

/-- what the run theorems need of a packet stream's mode: the configuration
    meets their side conditions, and the mode's all-at-once sender `whole` is
    `oneShot` of the configuration -/
structure Mode (cfg : Cfg) (v : Version) (hbytes : Bytes) (whole : Bytes → Except Err Bytes) : Prop where
  pieces : ∀ b, (cfg.pieces b).flatten = b
  bs_pos : 0 < cfg.bs
  refuse : IndexFail cfg.pkt
  shape : cfg.v1shape = (v == v1)
  whole_iff : ∀ pt M, whole pt = .ok M ↔ oneShot cfg v hbytes pt = .ok M

theorem encrypt_mode (P : Prims) (bs : Nat) (hb : 0 < bs) (pieces : Bytes → List Bytes)
    (hp : ∀ b, (pieces b).flatten = b) (v : Version) (sender : Option Bytes) (rs : List Encrypt.Recipient)
    (eph pk hbytes : Bytes) (cfg : Cfg) (hs : encryptSetup P bs pieces v sender rs eph pk = .ok (hbytes, cfg)) :
    Mode cfg v hbytes (Encrypt.sealWith P bs v sender rs eph pk) := by
  obtain ⟨h1, h2, h3, h4⟩ := encryptSetup_cfg P bs pieces v sender rs eph pk hbytes cfg hs
  refine ⟨by rw [h2]; exact hp, by rw [h1]; exact hb, h4, h3, fun pt M => ?_⟩
  rw [sealWith_iff_oneShot P bs pieces v sender rs eph pk pt M]
  constructor
  · rintro ⟨hb', cfg', hs', h⟩
    rw [hs] at hs'
    cases hs'
    exact h
  · exact fun h => ⟨hbytes, cfg, hs, h⟩

theorem sign_mode (P : Prims) (bs : Nat) (hb : 0 < bs) (pieces : Bytes → List Bytes)
    (hp : ∀ b, (pieces b).flatten = b) (v : Version) (signer nonce hbytes : Bytes) (cfg : Cfg)
    (hs : signSetup P bs pieces v signer nonce = .ok (hbytes, cfg)) :
    Mode cfg v hbytes (Sign.attachedWith P bs v signer nonce) := by
  obtain ⟨h1, h2, h3, h4⟩ := signSetup_cfg P bs pieces v signer nonce hbytes cfg hs
  refine ⟨by rw [h2]; exact hp, by rw [h1]; exact hb, h4, h3, fun pt M => ?_⟩
  rw [attachedWith_iff_oneShot P bs pieces v signer nonce pt M]
  constructor
  · rintro ⟨hb', cfg', hs', h⟩
    rw [hs] at hs'
    cases hs'
    exact h
  · exact fun h => ⟨hbytes, cfg, hs, h⟩

theorem signcrypt_mode (P : Prims) (bs : Nat) (hb : 0 < bs) (pieces : Bytes → List Bytes)
    (hp : ∀ b, (pieces b).flatten = b) (sender : Option Bytes) (rs : List Signcrypt.Recipient)
    (eph pk hbytes : Bytes) (cfg : Cfg) (hs : signcryptSetup P bs pieces sender rs eph pk = .ok (hbytes, cfg)) :
    Mode cfg v2 hbytes (Signcrypt.sealWith P bs sender rs eph pk) := by
  obtain ⟨h1, h2, h3, h4⟩ := signcryptSetup_cfg P bs pieces sender rs eph pk hbytes cfg hs
  refine ⟨by rw [h2]; exact hp, by rw [h1]; exact hb, h4, h3, fun pt M => ?_⟩
  rw [scSealWith_iff_oneShot P bs pieces sender rs eph pk pt M]
  constructor
  · rintro ⟨hb', cfg', hs', h⟩
    rw [hs] at hs'
    cases hs'
    exact h
  · exact fun h => ⟨hbytes, cfg, hs, h⟩

end Saltpack.Proofs.SenderP
