/-
  Forward compatibility END TO END: the bytes the reference
  sender of Model/Spec.lean emits — with ANY minor version and with extra
  trailing elements in the header, in every recipient pair and in every payload
  packet (`Spec.Opts`), for ANY valid chunk plan — split by the receiver's
  MessagePack reader (`Wire.split*`) and opened by the receiver models, give
  exactly the chunks' concatenation and the right key information.  (The assembly for
  attached and detached signatures stands under its statements in Props/C09.)

  The `…Val` definitions are the values inside the let-bodies of Model/Spec.lean, tied to it
  by `rfl` lemmas: an edit of Spec has to be mirrored in them.

  The point beyond AnyChunking/`C09_*_extras`: the sender hashes the header
  bytes it actually sends, i.e. WITH the extras; the receiver hashes the bytes
  it received; all MACs / signatures are over that hash.
-/
import Saltpack.Proofs.RingRT
import Saltpack.Proofs.SpecEq

namespace Saltpack.Proofs
open Saltpack Saltpack.Spec Saltpack.Msgpack

/-- options of a sender that follows the specification: the genuine format
    name, the layout's own major version, the mode's own number; everything the
    specification leaves open (minor version, extras, chunking) is arbitrary -/
structure SpecFollowing (o : Opts) : Prop where
  fmt : o.formatName = sFormatName
  major : o.majorLabel = none
  typ : o.typ = none

/-- the extras are encodable MessagePack values (lengths below 2^32, integers in
    the 64-bit range, no maps / ext / floats), and so is the minor version -/
structure ExtrasWF (o : Opts) : Prop where
  hdr : ∀ x ∈ o.headerExtras, ValWF x
  hdrLen : o.headerExtras.length + 6 < 2 ^ 32
  recv : ∀ x ∈ o.recvExtras, ValWF x
  recvLen : o.recvExtras.length + 2 < 2 ^ 32
  pkt : ∀ x ∈ o.packetExtras, ValWF x
  pktLen : o.packetExtras.length + 3 < 2 ^ 32
  minorLo : -(2 ^ 63 : Int) ≤ o.minor
  minorHi : o.minor < (2 ^ 64 : Int)

namespace Extras

theorem valWF_arr_append {l ex : List Val} (hl : ∀ x ∈ l, ValWF x) (hex : ∀ x ∈ ex, ValWF x)
    (hlen : l.length + ex.length < 2 ^ 32) : ValWF (.arr (l ++ ex)) := by
  apply ValWF.arr _ (by rw [List.length_append]; exact hlen)
  intro x hx
  rcases List.mem_append.1 hx with h | h
  · exact hl x h
  · exact hex x h

theorem flatMap_encode_map {α : Type} (f : α → Val) (l : List α) :
    l.flatMap (fun x => encode (f x)) = (l.map f).flatMap encode := by
  induction l with
  | nil => rfl
  | cons a t ih => simp only [List.flatMap_cons, List.map_cons, ih]

theorem layoutOf_major {v : Version} (hv : v = v1 ∨ v = v2) : ((layoutOf v : Nat) : Int) = v.major := by
  rcases hv with rfl | rfl <;> rfl

theorem layoutOf_eq_one {v : Version} (hv : v = v1 ∨ v = v2) : (layoutOf v = 1 ↔ v = v1) := by
  rcases hv with rfl | rfl
  · exact ⟨fun _ => rfl, fun _ => rfl⟩
  · exact ⟨fun h => absurd h (by decide), fun h => absurd h v2_ne_v1⟩

theorem versionVal_view (layout : Nat) (o : Opts) (ho : SpecFollowing o) :
    versionVal layout o = .arr [.int (layout : Int), .int o.minor] := by
  simp [versionVal, ho.major]

theorem versionVal_wf (layout : Nat) (hl : layout ≤ 2) (o : Opts) (ho : SpecFollowing o) (hx : ExtrasWF o) :
    ValWF (versionVal layout o) := by
  rw [versionVal_view layout o ho]
  exact .arr _ (of_decide_eq_true rfl)
    (wfAll_cons (.int _ (by omega) (by omega)) (wfAll_cons (.int _ hx.minorLo hx.minorHi) wfAll_nil))

/-! ## encryption -/

/-- the header value `Spec.encodePlan` encodes -/
def encHeaderVal (P : Prims) (layout : Nat) (o : Opts) (sender : Option Bytes) (rs : List Encrypt.Recipient)
    (eph pk : Bytes) : Val :=
  .arr ([.str o.formatName, versionVal layout o, .int (o.typ.getD sModeEncryption),
      .bin (P.boxPub eph), .bin (P.sbSeal pk sNonceSenderKey (P.boxPub (sender.getD eph))),
      .arr (rs.zipIdx.map (fun (r, i) => encRecipientVal P layout o eph pk i r))] ++ o.headerExtras)

/-- the value of one payload packet of `Spec.encodePlan` -/
def encPacketVal (P : Prims) (layout : Nat) (o : Opts) (pk hh : Bytes) (mks : List Bytes)
    (i : Nat) (c : Bytes) (f : Bool) : Val :=
  let nonce := sNonceChunk i
  let ct := P.sbSeal pk nonce c
  let h := if layout = 1 then P.hash (hh ++ nonce ++ ct) else P.hash (hh ++ nonce ++ sFinal f ++ ct)
  let auths : Val := .arr (mks.map (fun k => .bin ((P.hmac k h).take 32)))
  .arr ((if layout = 1 then [auths, .bin ct] else [.bool f, auths, .bin ct]) ++ o.packetExtras)

theorem encodePlan_eq (P : Prims) (layout : Nat) (o : Opts) (sender : Option Bytes)
    (rs : List Encrypt.Recipient) (eph pk : Bytes) (pl : List (Bytes × Bool)) :
    Spec.encodePlan P layout o sender rs eph pk pl =
      headerPacket (encode (encHeaderVal P layout o sender rs eph pk)) ++
        (pl.zipIdx.map (fun x => encPacketVal P layout o pk
          (P.hash (encode (encHeaderVal P layout o sender rs eph pk)))
          (rs.zipIdx.map (fun (r, i) => encMacKey P layout (sender.getD eph) eph r.pub
            (P.hash (encode (encHeaderVal P layout o sender rs eph pk))) i)) x.2 x.1.1 x.1.2)).flatMap encode := by
  rw [← flatMap_encode_map]
  rfl

theorem viewRecipients_extras (P : Prims) (v : Version) (hv : v = v1 ∨ v = v2) (o : Opts) (eph pk : Bytes) :
    ∀ (rs : List Encrypt.Recipient) (k : Nat) (es : List RecvKeys),
      Encrypt.receiverEntries P v eph pk rs k = .ok es →
      viewList viewRecvKeys ((rs.zipIdx k).map (fun x => encRecipientVal P (layoutOf v) o eph pk x.2 x.1)) = some es := by
  intro rs
  induction rs with
  | nil =>
    intro k es h
    simp only [Encrypt.receiverEntries, Except.ok.injEq] at h
    subst h
    rfl
  | cons r rs ih =>
    intro k es h
    simp only [Encrypt.receiverEntries] at h
    split at h
    · rename_i n es' hn hes
      cases h
      rw [List.zipIdx_cons, List.map_cons, viewList, ih (k + 1) es' hes,
        encRecipientVal_eq P v hv o eph pk k r n hn]
      have := viewRecvKeys_extras ⟨if r.hidden then none else some r.pub, P.box eph r.pub n pk⟩ o.recvExtras
      simp only at this
      rw [this]
    · cases h
    · cases h

theorem recipients_wf (P : Prims) (hS : WireSizes P) (v : Version) (hv : v = v1 ∨ v = v2) (o : Opts)
    (hx : ExtrasWF o) (eph pk : Bytes) (hpk : pk.length + 16 < 2 ^ 32)
    (rs : List Encrypt.Recipient) (k : Nat) (hpub : ∀ r ∈ rs, r.pub.length < 2 ^ 32) :
    ∀ x ∈ (rs.zipIdx k).map (fun x => encRecipientVal P (layoutOf v) o eph pk x.2 x.1), ValWF x :=
  wfAll_map fun x hxm => by
    obtain ⟨n, hn⟩ := payloadKeyBox_ok hv x.2
    rw [encRecipientVal_eq P v hv o eph pk x.2 x.1 n hn]
    refine valWF_arr_append (wfAll_cons ?_ (wfAll_cons (.bin _ ?_) wfAll_nil)) hx.recv
      (by rw [Nat.add_comm]; exact hx.recvLen)
    · exact optBin_wf _ fun b hb => by
        cases hh : x.1.hidden <;> rw [hh] at hb <;> cases hb
        exact hpub _ (List.fst_mem_of_mem_zipIdx hxm)
    · rw [Prims.box, hS.sb_len]; exact hpk

theorem encHeaderVal_view (P : Prims) (v : Version) (hv : v = v1 ∨ v = v2) (o : Opts) (ho : SpecFollowing o)
    (sender : Option Bytes) (rs : List Encrypt.Recipient) (eph pk : Bytes) (h0 : EncHeader)
    (hh : Encrypt.header P v sender eph pk rs = .ok h0) :
    viewEncHeader (encHeaderVal P (layoutOf v) o sender rs eph pk) = some (withMinor h0 o.minor) := by
  simp only [Encrypt.header] at hh
  split at hh
  · cases hh
  · rename_i es hes
    cases hh
    have hrl := viewRecipients_extras P v hv o eph pk rs 0 es hes
    simp only [encHeaderVal, versionVal_view _ o ho, ho.fmt, ho.typ, List.cons_append, List.nil_append,
      viewEncHeader, viewBytes, viewVersion, viewInt, Option.getD_none]
    rw [show (List.map (fun x : Encrypt.Recipient × Nat =>
        match x with | (r, i) => encRecipientVal P (layoutOf v) o eph pk i r) rs.zipIdx) =
      (rs.zipIdx 0).map (fun x => encRecipientVal P (layoutOf v) o eph pk x.2 x.1) from rfl, hrl]
    simp only [withMinor, layoutOf_major hv, c_format, c_senderKey, mtEncryption, sModeEncryption]
    rfl

theorem encHeaderVal_wf (P : Prims) (hS : WireSizes P) (v : Version) (hv : v = v1 ∨ v = v2) (o : Opts)
    (ho : SpecFollowing o) (hx : ExtrasWF o)
    (sender : Option Bytes) (rs : List Encrypt.Recipient) (eph pk : Bytes) (hpk : pk.length + 16 < 2 ^ 32)
    (hpub : ∀ r ∈ rs, r.pub.length < 2 ^ 32) (hn : rs.length < 2 ^ 32) :
    ValWF (encHeaderVal P (layoutOf v) o sender rs eph pk) := by
  refine valWF_arr_append
    (wfAll_cons ?_ <| wfAll_cons (versionVal_wf _ (by rcases hv with rfl | rfl <;> decide) o ho hx) <|
      wfAll_cons ?_ <| wfAll_cons (.bin _ ?_) <| wfAll_cons (.bin _ ?_) <|
      wfAll_cons (.arr _ ?_ (recipients_wf P hS v hv o hx eph pk hpk rs 0 hpub)) wfAll_nil)
    hx.hdr (by rw [Nat.add_comm]; exact hx.hdrLen)
  -- the holes, in field order: format name, type, the byte strings' lengths, the receivers' count
  · rw [ho.fmt, c_format]; exact .str _ (by decide)
  · rw [ho.typ]; exact .int _ (by decide) (by decide)
  · rw [hS.pub_len]; decide
  · rw [hS.sb_len, hS.pub_len]; decide
  · rw [List.length_map, List.length_zipIdx]; exact hn

theorem auths_bin (P : Prims) (mks : List Bytes) (ph : Bytes) :
    mks.map (fun k => Val.bin ((P.hmac k ph).take 32)) =
      (mks.map (fun k => payloadAuthenticator P k ph)).map .bin := by
  rw [List.map_map]; rfl

theorem encPacketVal_facts (P : Prims) (hS : WireSizes P) (v : Version) (hv : v = v1 ∨ v = v2) (o : Opts)
    (hx : ExtrasWF o) (pk hh : Bytes) (mks : List Bytes) (hm0 : mks ≠ []) (hml : mks.length < 2 ^ 32)
    (i : Nat) (c : Bytes) (f : Bool) (hc : c.length + 16 < 2 ^ 32) (b : EncBlock)
    (hb : Encrypt.blockStruct P v pk hh mks i c f = .ok b) :
    ValWF (encPacketVal P (layoutOf v) o pk hh mks i c f) ∧
    viewEncBlock v.major (encPacketVal P (layoutOf v) o pk hh mks i c f) = some (encAsRead v b) := by
  simp only [Encrypt.blockStruct] at hb
  split at hb
  · cases hb
  · have hauth : ∀ ph : Bytes, ∀ a ∈ mks.map (fun k => payloadAuthenticator P k ph), a.length = 32 := by
      intro ph a ha
      simp only [List.mem_map] at ha
      obtain ⟨mk, _, rfl⟩ := ha
      simp only [payloadAuthenticator, List.length_take]
      exact Nat.min_eq_left (hS.hmac_len _ _)
    have hane : ∀ ph : Bytes, mks.map (fun k => payloadAuthenticator P k ph) ≠ [] := by
      intro ph h0
      exact hm0 (List.map_eq_nil_iff.1 h0)
    have hawf : ∀ ph : Bytes, ValWF (.arr ((mks.map (fun k => payloadAuthenticator P k ph)).map .bin)) := by
      intro ph
      apply ValWF.arr _ (by simp only [List.length_map]; exact hml)
      intro y hy
      rw [List.mem_map] at hy
      obtain ⟨a, ha, rfl⟩ := hy
      exact ValWF.bin _ (by rw [hauth ph a ha]; decide)
    have hct : (P.sbSeal pk (Nonce.chunkSecretBox i) c).length < 2 ^ 32 := by rw [hS.sb_len]; exact hc
    rcases hv with rfl | rfl
    · simp only [payloadHash, show v1.major = 1 from rfl, if_true, Except.ok.injEq] at hb
      subst hb
      simp only [encPacketVal, layoutOf_v1, if_true, c_chunk]
      rw [auths_bin]
      constructor
      · exact valWF_arr_append (wfAll_cons (hawf _) (wfAll_cons (.bin _ hct) wfAll_nil)) hx.pkt
          (by rw [Nat.add_comm]; exact Nat.lt_of_le_of_lt (Nat.add_le_add_left (Nat.le_succ 2) _) hx.pktLen)
      · exact viewEncBlock_v1_extras _ _ o.packetExtras (hane _) (hauth _)
    · simp only [payloadHash, show v2.major = 2 from rfl, show ¬ ((2 : Int) = 1) by decide,
        if_true, if_false, Except.ok.injEq] at hb
      subst hb
      simp only [encPacketVal, layoutOf_v2, show ¬ ((2 : Nat) = 1) by decide, if_false, c_chunk, c_final]
      rw [auths_bin]
      constructor
      · exact valWF_arr_append (wfAll_cons (.bool _) (wfAll_cons (hawf _) (wfAll_cons (.bin _ hct) wfAll_nil)))
          hx.pkt (by rw [Nat.add_comm]; exact hx.pktLen)
      · exact viewEncBlock_v2_extras _ _ f o.packetExtras (hane _) (hauth _)

theorem encPackets_facts (P : Prims) (hS : WireSizes P) (v : Version) (hv : v = v1 ∨ v = v2) (o : Opts)
    (hx : ExtrasWF o) (pk hh : Bytes) (mks : List Bytes) (hm0 : mks ≠ []) (hml : mks.length < 2 ^ 32) :
    ∀ (pl : List (Bytes × Bool)) (k : Nat) (blks : List EncBlock),
      (∀ p ∈ pl, p.1.length + 16 < 2 ^ 32) →
      Encrypt.blockStructs P v pk hh mks pl k = .ok blks →
      (∀ x ∈ (pl.zipIdx k).map (fun x => encPacketVal P (layoutOf v) o pk hh mks x.2 x.1.1 x.1.2), ValWF x) ∧
      ((pl.zipIdx k).map (fun x => encPacketVal P (layoutOf v) o pk hh mks x.2 x.1.1 x.1.2)).map
        (viewEncBlock v.major) = (blks.map (encAsRead v)).map some := by
  intro pl k blks hsz h
  rw [blockStructs_eq_gblocks] at h
  have := WireRT.gblocks_pointwise _ (fun i c f => encPacketVal P (layoutOf v) o pk hh mks i c f) ValWF
    (viewEncBlock v.major) (some ∘ encAsRead v) (fun c => c.length + 16 < 2 ^ 32)
    (fun i c f b hc hb => encPacketVal_facts P hS v hv o hx pk hh mks hm0 hml i c f hc b hb) pl k blks hsz h
  exact ⟨this.1, this.2.trans List.map_map.symm⟩

theorem encHeader_exists (P : Prims) {v : Version} (hv : v = v1 ∨ v = v2) (sender : Option Bytes) (eph pk : Bytes)
    (rs : List Encrypt.Recipient) : ∃ h0, Encrypt.header P v sender eph pk rs = .ok h0 := by
  obtain ⟨es, hes, _, _⟩ := receiverEntries_spec P hv eph pk rs 0
  refine ⟨{ formatName := Gen.c_sp_FormatName, version := v, typ := mtEncryption, ephemeral := P.boxPub eph,
            senderSecretbox := P.sbSeal pk Nonce.senderKeySecretBox (P.boxPub (sender.getD eph)),
            receivers := es }, ?_⟩
  simp only [Encrypt.header, hes]

theorem encAsRead_major {v w : Version} (h : w.major = v.major) : encAsRead w = encAsRead v := by
  funext b
  simp only [encAsRead, h]

end Extras
open Extras

/-- what `Spec.encodePlan … o` emits splits into the header bytes it hashed (the
    encoding WITH the extras), the code model's header relabelled `[major,
    o.minor]`, and exactly the packets `Encrypt.blockStructs` computes from the
    hash of those bytes (`EncSent`) -/
theorem wire_spec_enc (P : Prims) (hS : WireSizes P) (v : Version) (hv : v = v1 ∨ v = v2)
    (o : Opts) (ho : SpecFollowing o) (hx : ExtrasWF o)
    (sender : Option Bytes) (rs : List Encrypt.Recipient) (eph pk : Bytes) (plan : List (Bytes × Bool))
    (hcr : Encrypt.checkReceivers rs = .ok ())
    (hpk : pk.length + 16 < 2 ^ 32) (hpub : ∀ r ∈ rs, r.pub.length < 2 ^ 32)
    (hchunks : ∀ p ∈ plan, p.1.length + 16 < 2 ^ 32) (hblocks : plan.length ≤ 2 ^ 64 - 1)
    (hhb : (encode (encHeaderVal P (layoutOf v) o sender rs eph pk)).length < 2 ^ 32) :
    ∃ h hb blks, EncSent P v o.minor sender rs eph pk plan h hb blks ∧
      hb = encode (encHeaderVal P (layoutOf v) o sender rs eph pk) ∧
      Wire.splitEnc (Spec.encodePlan P (layoutOf v) o sender rs eph pk plan) =
        .ok (.ok hb h, ⟨(blks.map (encAsRead v)).map some, .eof⟩) := by
  obtain ⟨hne, _⟩ := checkReceivers_inv hcr
  have hcount := WireRT.checkReceivers_count hcr
  obtain ⟨h0, hhdr⟩ := encHeader_exists P hv sender eph pk rs
  have hver : h0.version = v := (header_spec P hv sender eph pk rs h0 hhdr).2.1
  have hmaj : (withMinor h0 o.minor).version.major = v.major := by simp [withMinor, hver]
  obtain ⟨hb, hhbdef⟩ : ∃ hb, hb = encode (encHeaderVal P (layoutOf v) o sender rs eph pk) := ⟨_, rfl⟩
  rw [← hhbdef] at hhb
  obtain ⟨mks, hm, hmlen, _⟩ := macKeysSender_spec P hv (sender.getD eph) eph (P.hash hb) rs 0
  obtain ⟨blks, hbl, _⟩ := blockStructs_ok P hv pk (P.hash hb) mks plan 0 (by omega)
  have hmk := encMacKeys_eq P v hv _ _ _ rs 0 mks hm
  have hm0 := WireRT.macKeys_ne_nil hv hcr hm
  obtain ⟨hvals, hviews⟩ := encPackets_facts P hS v hv o hx pk (P.hash hb) mks hm0 (by omega) plan 0 blks hchunks hbl
  refine ⟨_, hb, blks, ⟨hcr, ⟨_, hhdr, rfl⟩, mks, hm, hbl⟩, hhbdef, ?_⟩
  rw [encodePlan_eq, ← hhbdef, ← hmk]
  unfold Wire.splitEnc
  have hview := encHeaderVal_view P v hv o ho sender rs eph pk _ hhdr
  have hwf := encHeaderVal_wf P hS v hv o ho hx sender rs eph pk hpk hpub hcount
  have hlen : (encode (encHeaderVal P (layoutOf v) o sender rs eph pk)).length < 2 ^ 32 := by
    rw [← hhbdef]; exact hhb
  rw [← hmaj] at hviews
  have := WireRT.split_encoded (viewH := viewEncHeader) (viewB := fun h => viewEncBlock h.version.major)
    (hval := encHeaderVal P (layoutOf v) o sender rs eph pk) (hwf := hwf) (h := withMinor h0 o.minor)
    (hview := hview) (hlen := hlen) (hvals := hvals) (bl := blks.map (encAsRead v)) (hitems := hviews)
  rw [← hhbdef] at this
  exact this

/-- **C09 end to end, encryption**: the bytes of the reference sender — any
    minor version, extras in header / recipient pairs / packets, any valid chunk
    plan — split by the receiver's reader and opened with any keyring that holds
    a recipient's key, give the chunks' concatenation with the true sender, as
    some recipient whose key is in the ring. -/
theorem spec_enc_accepted (P : Prims) (hP : P.Lawful) (v : Version) (hv : v = v1 ∨ v = v2)
    (o : Opts) (ho : SpecFollowing o) (hx : ExtrasWF o)
    (sender : Option Bytes) (rs : List Encrypt.Recipient) (eph payloadKey : Bytes)
    (plan : List (Bytes × Bool)) (hplan : ValidPlan v plan)
    (hcr : Encrypt.checkReceivers rs = .ok ())
    (hpk : payloadKey.length = 32)
    (hnamed : ∀ s, sender = some s → P.boxPub s ≠ P.boxPub eph)
    (hpub : ∀ r ∈ rs, r.hidden = false → r.pub ≠ [])
    (hpubLen : ∀ r ∈ rs, r.pub.length < 2 ^ 32)
    (hchunks : ∀ p ∈ plan, p.1.length + 16 < 2 ^ 32) (hblocks : plan.length ≤ 2 ^ 64 - 1)
    (hhb : (encode (encHeaderVal P (layoutOf v) o sender rs eph payloadKey)).length < 2 ^ 32)
    (sks : List Bytes) (i : Nat) (hi : i < rs.length) (sk : Bytes) (hmem : sk ∈ sks)
    (hsk : (rs.getD i default).pub = P.boxPub sk)
    (hns : RingNoSpuriousOpen P v eph payloadKey rs sks) :
    ∃ hr ps, Wire.splitEnc (Spec.encodePlan P (layoutOf v) o sender rs eph payloadKey plan) = .ok (hr, ps) ∧
      ∃ i' sk', i' < rs.length ∧ sk' ∈ sks ∧ (rs.getD i' default).pub = P.boxPub sk' ∧
        Decrypt.openAll P knownMajor (faithfulKeyring P sks) hr ps =
          .ok (mkiOf P sender rs eph i' sk', (plan.map (·.1)).flatten) := by
  have hS := WireSizes.of_lawful hP
  obtain ⟨h, hb, blks, hsent, _, hsplit⟩ := wire_spec_enc P hS v hv o ho hx sender rs eph payloadKey plan hcr
    (by omega) hpubLen hchunks hblocks hhb
  refine ⟨_, _, hsplit, ?_⟩
  obtain ⟨h0, hh0, hh⟩ := hsent.hdr
  have hver : h0.version = v := (header_spec P hv sender eph payloadKey rs h0 hh0).2.1
  have hmaj : h.version.major = v.major := by rw [hh]; simp [withMinor, hver]
  rw [← encAsRead_major hmaj, WireRT.openAll_asRead]
  exact enc_roundtrip_ring P hP v hv o.minor sender rs eph payloadKey plan hplan.final hplan.empty_v1 hplan.empty_v2
    hpk hnamed hpub sks i hi sk hmem hsk hns h hb blks hsent

/-! ## attached and detached signatures -/

namespace Extras

/-- the header value `Spec.sigHeaderBytes` encodes -/
def sigHeaderVal (layout : Nat) (o : Opts) (typ : Int) (signerPub nonce : Bytes) : Val :=
  .arr ([.str o.formatName, versionVal layout o, .int (o.typ.getD typ), .bin signerPub, .bin nonce] ++ o.headerExtras)

theorem sigHeaderBytes_eq (layout : Nat) (o : Opts) (typ : Int) (signerPub nonce : Bytes) :
    sigHeaderBytes layout o typ signerPub nonce = encode (sigHeaderVal layout o typ signerPub nonce) := rfl

theorem sigHeaderVal_view (v : Version) (hv : v = v1 ∨ v = v2) (o : Opts) (ho : SpecFollowing o)
    (typ : Int) (pub nonce : Bytes) :
    viewSigHeader (sigHeaderVal (layoutOf v) o typ pub nonce) = some (Sign.header ⟨v.major, o.minor⟩ pub typ nonce) := by
  simp only [sigHeaderVal, versionVal_view _ o ho, ho.fmt, ho.typ, List.cons_append, List.nil_append,
    viewSigHeader, viewBytes, viewVersion, viewInt, Option.getD_none, Sign.header, layoutOf_major hv, c_format]

theorem sigHeaderVal_wf (P : Prims) (hS : WireSizes P) (v : Version) (hv : v = v1 ∨ v = v2) (o : Opts)
    (ho : SpecFollowing o) (hx : ExtrasWF o) (typ : Int) (ht : typ = mtAttached ∨ typ = mtDetached)
    (signer nonce : Bytes) (hn : nonce.length < 2 ^ 32) :
    ValWF (sigHeaderVal (layoutOf v) o typ (P.sigPub signer) nonce) := by
  refine valWF_arr_append
    (wfAll_cons ?_ <| wfAll_cons (versionVal_wf _ (by rcases hv with rfl | rfl <;> decide) o ho hx) <|
      wfAll_cons ?_ <| wfAll_cons (.bin _ ?_) <| wfAll_cons (.bin _ hn) wfAll_nil)
    hx.hdr (by rw [Nat.add_comm]; exact Nat.lt_of_le_of_lt (Nat.add_le_add_left (Nat.le_succ 5) _) hx.hdrLen)
  -- the holes, in field order: format name, type, the signer key's length
  · rw [ho.fmt, c_format]; exact .str _ (by decide)
  · rw [ho.typ]; rcases ht with rfl | rfl <;> exact .int _ (by decide) (by decide)
  · rw [hS.sigPub_len]; decide

/-- the value of one payload packet of `Spec.attachedPlan` -/
def attPacketVal (P : Prims) (layout : Nat) (o : Opts) (signer hh : Bytes) (i : Nat) (c : Bytes) (f : Bool) : Val :=
  let hashed := if layout = 1 then P.hash (hh ++ be64 i ++ c) else P.hash (hh ++ be64 i ++ sFinal f ++ c)
  let sig := P.sign signer (sSigAttached ++ hashed)
  .arr ((if layout = 1 then [.bin sig, .bin c] else [.bool f, .bin sig, .bin c]) ++ o.packetExtras)

theorem attachedPlan_eq (P : Prims) (layout : Nat) (o : Opts) (signer nonce : Bytes) (pl : List (Bytes × Bool)) :
    Spec.attachedPlan P layout o signer nonce pl =
      headerPacket (encode (sigHeaderVal layout o sModeAttached (P.sigPub signer) nonce)) ++
        (pl.zipIdx.map (fun x => attPacketVal P layout o signer
          (P.hash (encode (sigHeaderVal layout o sModeAttached (P.sigPub signer) nonce))) x.2 x.1.1 x.1.2)).flatMap encode := by
  rw [← flatMap_encode_map]
  rfl

theorem attPacketVal_facts (P : Prims) (hS : WireSizes P) (v : Version) (hv : v = v1 ∨ v = v2) (o : Opts)
    (hx : ExtrasWF o) (signer hh : Bytes) (i : Nat) (c : Bytes) (f : Bool) (hc : c.length < 2 ^ 32) (b : SigBlock)
    (hb : Sign.blockStruct P v signer hh i c f = .ok b) :
    ValWF (attPacketVal P (layoutOf v) o signer hh i c f) ∧
    viewSigBlock v.major (attPacketVal P (layoutOf v) o signer hh i c f) = some (sigAsRead v b) := by
  rcases hv with rfl | rfl
  · simp only [Sign.blockStruct, attachedSignatureInput, show v1.major = 1 from rfl, if_true,
      Except.ok.injEq] at hb
    subst hb
    simp only [attPacketVal, layoutOf_v1, if_true, c_sigAtt]
    constructor
    · exact valWF_arr_append
        (wfAll_cons (.bin _ (by rw [hS.sig_len]; decide)) (wfAll_cons (.bin _ hc) wfAll_nil)) hx.pkt
        (by rw [Nat.add_comm]; exact Nat.lt_of_le_of_lt (Nat.add_le_add_left (Nat.le_succ 2) _) hx.pktLen)
    · exact viewSigBlock_v1_extras _ _ o.packetExtras
  · simp only [Sign.blockStruct, attachedSignatureInput, show v2.major = 2 from rfl,
      show ¬ ((2 : Int) = 1) by decide, if_true, if_false, Except.ok.injEq] at hb
    subst hb
    simp only [attPacketVal, layoutOf_v2, show ¬ ((2 : Nat) = 1) by decide, if_false, c_sigAtt, c_final]
    constructor
    · exact valWF_arr_append
        (wfAll_cons (.bool _) (wfAll_cons (.bin _ (by rw [hS.sig_len]; decide)) (wfAll_cons (.bin _ hc) wfAll_nil)))
        hx.pkt (by rw [Nat.add_comm]; exact hx.pktLen)
    · exact viewSigBlock_v2_extras _ _ f o.packetExtras

theorem attPackets_facts (P : Prims) (hS : WireSizes P) (v : Version) (hv : v = v1 ∨ v = v2) (o : Opts)
    (hx : ExtrasWF o) (signer hh : Bytes) :
    ∀ (pl : List (Bytes × Bool)) (k : Nat) (blks : List SigBlock),
      (∀ p ∈ pl, p.1.length < 2 ^ 32) →
      Sign.blockStructs P v signer hh pl k = .ok blks →
      (∀ x ∈ (pl.zipIdx k).map (fun x => attPacketVal P (layoutOf v) o signer hh x.2 x.1.1 x.1.2), ValWF x) ∧
      ((pl.zipIdx k).map (fun x => attPacketVal P (layoutOf v) o signer hh x.2 x.1.1 x.1.2)).map
        (viewSigBlock v.major) = (blks.map (sigAsRead v)).map some := by
  intro pl k blks hsz h
  rw [RTSig.sign_blockStructs_eq_gblocks] at h
  have := WireRT.gblocks_pointwise _ (fun i c f => attPacketVal P (layoutOf v) o signer hh i c f) ValWF
    (viewSigBlock v.major) (some ∘ sigAsRead v) (fun c => c.length < 2 ^ 32)
    (fun i c f b hc hb => attPacketVal_facts P hS v hv o hx signer hh i c f hc b hb) pl k blks hsz h
  exact ⟨this.1, this.2.trans List.map_map.symm⟩

theorem sigAsRead_major {v w : Version} (h : w.major = v.major) : sigAsRead w = sigAsRead v := by
  funext b
  simp only [sigAsRead, h]

end Extras
open Extras

theorem wire_spec_sig (P : Prims) (hS : WireSizes P) (v : Version) (hv : v = v1 ∨ v = v2)
    (o : Opts) (ho : SpecFollowing o) (hx : ExtrasWF o)
    (signer nonce : Bytes) (plan : List (Bytes × Bool)) (hn : nonce.length < 2 ^ 32)
    (hchunks : ∀ p ∈ plan, p.1.length < 2 ^ 32)
    (hhb : (encode (sigHeaderVal (layoutOf v) o sModeAttached (P.sigPub signer) nonce)).length < 2 ^ 32) :
    ∃ h hb blks, SigSent P v o.minor signer nonce plan h hb blks ∧
      hb = encode (sigHeaderVal (layoutOf v) o sModeAttached (P.sigPub signer) nonce) ∧
      Wire.splitSig (Spec.attachedPlan P (layoutOf v) o signer nonce plan) =
        .ok (.ok hb h, ⟨(blks.map (sigAsRead v)).map some, .eof⟩) := by
  obtain ⟨hb, hhbdef⟩ : ∃ hb, hb = encode (sigHeaderVal (layoutOf v) o sModeAttached (P.sigPub signer) nonce) :=
    ⟨_, rfl⟩
  rw [← hhbdef] at hhb
  obtain ⟨blks, hbl⟩ := RTSig.sign_blockStructs_ok P v hv signer (P.hash hb) plan 0
  obtain ⟨hvals, hviews⟩ := attPackets_facts P hS v hv o hx signer (P.hash hb) plan 0 blks hchunks hbl
  refine ⟨_, hb, blks, ⟨rfl, hbl⟩, hhbdef, ?_⟩
  rw [attachedPlan_eq, ← hhbdef]
  unfold Wire.splitSig
  have hview := sigHeaderVal_view v hv o ho sModeAttached (P.sigPub signer) nonce
  have hwf := sigHeaderVal_wf P hS v hv o ho hx sModeAttached (Or.inl rfl) signer nonce hn
  have hlen : (encode (sigHeaderVal (layoutOf v) o sModeAttached (P.sigPub signer) nonce)).length < 2 ^ 32 := by
    rw [← hhbdef]; exact hhb
  have := WireRT.split_encoded (viewH := viewSigHeader) (viewB := fun h => viewSigBlock h.version.major)
    (hval := sigHeaderVal (layoutOf v) o sModeAttached (P.sigPub signer) nonce) (hwf := hwf)
    (h := Sign.header ⟨v.major, o.minor⟩ (P.sigPub signer) sModeAttached nonce)
    (hview := hview) (hlen := hlen) (hvals := hvals) (bl := blks.map (sigAsRead v)) (hitems := hviews)
  rw [← hhbdef] at this
  exact this

/-! ## signcryption -/

namespace Extras

/-- the header value `Spec.signcryptPlan` encodes -/
def scHeaderVal (P : Prims) (o : Opts) (sender : Option Bytes) (rs : List Signcrypt.Recipient) (eph pk : Bytes) : Val :=
  .arr ([.str o.formatName, versionVal 2 o, .int (o.typ.getD sModeSigncryption), .bin (P.boxPub eph),
      .bin (P.sbSeal pk sNonceSenderKey (match sender with | none => zeros 32 | some s => P.sigPub s)),
      .arr (rs.zipIdx.map (fun (r, i) => scRecipientVal P o eph pk i r))] ++ o.headerExtras)

theorem signcryptPlan_eq (P : Prims) (o : Opts) (sender : Option Bytes) (rs : List Signcrypt.Recipient)
    (eph pk : Bytes) (pl : List (Bytes × Bool)) :
    Spec.signcryptPlan P o sender rs eph pk pl =
      headerPacket (encode (scHeaderVal P o sender rs eph pk)) ++
        (pl.zipIdx.map (fun x => scPacketVal P o sender pk
          (P.hash (encode (scHeaderVal P o sender rs eph pk))) x.2 x.1.1 x.1.2)).flatMap encode := by
  rw [← flatMap_encode_map]
  rfl

theorem viewScRecipients_extras (P : Prims) (o : Opts) (eph pk : Bytes) :
    ∀ (rs : List Signcrypt.Recipient) (k : Nat),
      viewList viewRecvKeys ((rs.zipIdx k).map (fun x => scRecipientVal P o eph pk x.2 x.1)) =
        some (Signcrypt.receiverEntries P eph pk rs k) := by
  intro rs
  induction rs with
  | nil => intro k; rfl
  | cons r rs ih =>
    intro k
    rw [List.zipIdx_cons, List.map_cons, viewList, ih (k + 1), scRecipientVal_eq]
    have := viewRecvKeys_extras (Signcrypt.receiverEntry P eph pk k r) o.recvExtras
    rw [this]
    rfl

theorem scRecipients_wf (P : Prims) (hS : WireSizes P) (o : Opts) (hx : ExtrasWF o) (eph pk : Bytes)
    (hpk : pk.length + 16 < 2 ^ 32) (rs : List Signcrypt.Recipient) (k : Nat)
    (hid : ∀ key ident, Signcrypt.Recipient.sym key ident ∈ rs → ident.length < 2 ^ 32) :
    ∀ x ∈ (rs.zipIdx k).map (fun x => scRecipientVal P o eph pk x.2 x.1), ValWF x :=
  wfAll_map fun x hxm => by
    obtain ⟨hbox, hkid⟩ := WireRT.sc_entries_sizes P hS eph pk (2 ^ 32 - 1) (by decide) [x.1] x.2
      (fun key ident hm => by
        have hm' : Signcrypt.Recipient.sym key ident = x.1 := by simpa using hm
        have := hid key ident (hm' ▸ List.fst_mem_of_mem_zipIdx hxm)
        omega)
      (Signcrypt.receiverEntry P eph pk x.2 x.1) (by simp [Signcrypt.receiverEntries])
    rw [scRecipientVal_eq]
    exact valWF_arr_append
      (wfAll_cons (optBin_wf _ fun b hb => by have := hkid b hb; omega)
        (wfAll_cons (.bin _ (by rw [hbox]; exact hpk)) wfAll_nil))
      hx.recv (by rw [Nat.add_comm]; exact hx.recvLen)

theorem scHeaderVal_view (P : Prims) (o : Opts) (ho : SpecFollowing o)
    (sender : Option Bytes) (rs : List Signcrypt.Recipient) (eph pk : Bytes) :
    viewEncHeader (scHeaderVal P o sender rs eph pk) =
      some (withMinor (Signcrypt.header P sender eph pk rs) o.minor) := by
  have hrl := viewScRecipients_extras P o eph pk rs 0
  simp only [scHeaderVal, versionVal_view _ o ho, ho.fmt, ho.typ, List.cons_append, List.nil_append,
    viewEncHeader, viewBytes, viewVersion, viewInt, Option.getD_none]
  rw [show (List.map (fun x : Signcrypt.Recipient × Nat =>
      match x with | (r, i) => scRecipientVal P o eph pk i r) rs.zipIdx) =
    (rs.zipIdx 0).map (fun x => scRecipientVal P o eph pk x.2 x.1) from rfl, hrl]
  simp only [withMinor, Signcrypt.header, c_format, c_senderKey, mtSigncryption, sModeSigncryption]
  rfl

theorem scHeaderVal_wf (P : Prims) (hS : WireSizes P) (o : Opts) (ho : SpecFollowing o) (hx : ExtrasWF o)
    (sender : Option Bytes) (rs : List Signcrypt.Recipient) (eph pk : Bytes) (hpk : pk.length + 16 < 2 ^ 32)
    (hid : ∀ key ident, Signcrypt.Recipient.sym key ident ∈ rs → ident.length < 2 ^ 32)
    (hn : rs.length < 2 ^ 32) :
    ValWF (scHeaderVal P o sender rs eph pk) := by
  refine valWF_arr_append
    (wfAll_cons ?_ <| wfAll_cons (versionVal_wf _ (by decide) o ho hx) <|
      wfAll_cons ?_ <| wfAll_cons (.bin _ ?_) <| wfAll_cons (.bin _ ?_) <|
      wfAll_cons (.arr _ ?_ (scRecipients_wf P hS o hx eph pk hpk rs 0 hid)) wfAll_nil)
    hx.hdr (by rw [Nat.add_comm]; exact hx.hdrLen)
  -- the holes, in field order: format name, type, the byte strings' lengths, the receivers' count
  · rw [ho.fmt, c_format]; exact .str _ (by decide)
  · rw [ho.typ]; exact .int _ (by decide) (by decide)
  · rw [hS.pub_len]; decide
  · rw [hS.sb_len]
    cases sender with
    | none => simp [zeros]
    | some s => simp [hS.sigPub_len]
  · rw [List.length_map, List.length_zipIdx]; exact hn

theorem scPacketVal_facts (P : Prims) (hS : WireSizes P) (o : Opts) (hx : ExtrasWF o) (sender : Option Bytes)
    (pk hh : Bytes) (i : Nat) (c : Bytes) (f : Bool) (hc : c.length + 80 < 2 ^ 32) (b : SigncryptBlock)
    (hb : Signcrypt.blockStruct P sender pk hh i c f = .ok b) :
    ValWF (scPacketVal P o sender pk hh i c f) ∧
    viewSigncryptBlock (scPacketVal P o sender pk hh i c f) = some b := by
  rw [scPacketVal_eq P o sender pk hh i c f b hb]
  refine ⟨valWF_arr_append (wfAll_cons (.bin _ ?_) (wfAll_cons (.bool _) wfAll_nil)) hx.pkt
    (by rw [Nat.add_comm]; exact Nat.lt_of_le_of_lt (Nat.add_le_add_left (Nat.le_succ 2) _) hx.pktLen),
    viewSigncryptBlock_extras _ _ _⟩
  rw [WireRT.sc_blockStruct_ct_length P hS sender pk hh i c f b hb]
  exact hc

theorem scPackets_facts (P : Prims) (hS : WireSizes P) (o : Opts) (hx : ExtrasWF o) (sender : Option Bytes)
    (pk hh : Bytes) :
    ∀ (pl : List (Bytes × Bool)) (k : Nat) (blks : List SigncryptBlock),
      (∀ p ∈ pl, p.1.length + 80 < 2 ^ 32) →
      Signcrypt.blockStructs P sender pk hh pl k = .ok blks →
      (∀ x ∈ (pl.zipIdx k).map (fun x => scPacketVal P o sender pk hh x.2 x.1.1 x.1.2), ValWF x) ∧
      ((pl.zipIdx k).map (fun x => scPacketVal P o sender pk hh x.2 x.1.1 x.1.2)).map viewSigncryptBlock =
        blks.map some := by
  intro pl k blks hsz h
  rw [RTSig.sc_blockStructs_eq_gblocks] at h
  exact WireRT.gblocks_pointwise _ (fun i c f => scPacketVal P o sender pk hh i c f) ValWF
    viewSigncryptBlock some (fun c => c.length + 80 < 2 ^ 32)
    (fun i c f b hc hb => scPacketVal_facts P hS o hx sender pk hh i c f hc b hb) pl k blks hsz h

end Extras
open Extras

theorem wire_spec_signcrypt (P : Prims) (hS : WireSizes P)
    (o : Opts) (ho : SpecFollowing o) (hx : ExtrasWF o)
    (sender : Option Bytes) (rs : List Signcrypt.Recipient) (eph pk : Bytes) (plan : List (Bytes × Bool))
    (hcr : Signcrypt.checkReceivers rs [] = .ok ())
    (hpk : pk.length + 16 < 2 ^ 32)
    (hid : ∀ key ident, Signcrypt.Recipient.sym key ident ∈ rs → ident.length < 2 ^ 32)
    (hchunks : ∀ p ∈ plan, p.1.length + 80 < 2 ^ 32) (hblocks : plan.length ≤ 2 ^ 64 - 1)
    (hhb : (encode (scHeaderVal P o sender rs eph pk)).length < 2 ^ 32) :
    ∃ h hb blks, ScSent P o.minor sender rs eph pk plan h hb blks ∧
      hb = encode (scHeaderVal P o sender rs eph pk) ∧
      Wire.splitSigncrypt (Spec.signcryptPlan P o sender rs eph pk plan) =
        .ok (.ok hb h, ⟨blks.map some, .eof⟩) := by
  have hcount := WireRT.sc_checkReceivers_count hcr
  obtain ⟨hb, hhbdef⟩ : ∃ hb, hb = encode (scHeaderVal P o sender rs eph pk) := ⟨_, rfl⟩
  rw [← hhbdef] at hhb
  obtain ⟨blks, hbl, _⟩ := sc_blockStructs_ok P sender pk (P.hash hb) plan 0 (by omega)
  obtain ⟨hvals, hviews⟩ := scPackets_facts P hS o hx sender pk (P.hash hb) plan 0 blks hchunks hbl
  refine ⟨_, hb, blks, ⟨hcr, rfl, hbl⟩, hhbdef, ?_⟩
  rw [signcryptPlan_eq, ← hhbdef]
  unfold Wire.splitSigncrypt
  have hview := scHeaderVal_view P o ho sender rs eph pk
  have hwf := scHeaderVal_wf P hS o ho hx sender rs eph pk hpk hid hcount
  have hlen : (encode (scHeaderVal P o sender rs eph pk)).length < 2 ^ 32 := by rw [← hhbdef]; exact hhb
  have := WireRT.split_encoded (viewH := viewEncHeader) (viewB := fun _ => viewSigncryptBlock)
    (hval := scHeaderVal P o sender rs eph pk) (hwf := hwf)
    (h := withMinor (Signcrypt.header P sender eph pk rs) o.minor)
    (hview := hview) (hlen := hlen) (hvals := hvals) (bl := blks) (hitems := hviews)
  rw [← hhbdef] at this
  exact this

/-- **C09 end to end, signcryption, box-key recipient**: the bytes of the
    reference sender — any minor version, extras everywhere, any valid chunk
    plan — split by the receiver's reader and opened with any keyring that holds
    the recipient's box key (with or without a resolver). -/
theorem spec_signcrypt_accepted (P : Prims) (hP : P.Lawful)
    (o : Opts) (ho : SpecFollowing o) (hx : ExtrasWF o)
    (sender : Option Bytes) (rs : List Signcrypt.Recipient) (eph payloadKey : Bytes)
    (plan : List (Bytes × Bool)) (hplan : ValidPlan v2 plan)
    (hcr : Signcrypt.checkReceivers rs [] = .ok ())
    (hpk : payloadKey.length = 32)
    (hsender : ∀ s, sender = some s → ¬ ((P.sigPub s).all (· == 0)))
    (hidLen : ∀ key ident, Signcrypt.Recipient.sym key ident ∈ rs → ident.length < 2 ^ 32)
    (hchunks : ∀ p ∈ plan, p.1.length + 80 < 2 ^ 32) (hblocks : plan.length < 2 ^ 64 - 1)
    (hhb : (encode (scHeaderVal P o sender rs eph payloadKey)).length < 2 ^ 32)
    (sks : List Bytes) (res : Signcrypt.Resolver)
    (i : Nat) (hi : i < rs.length) (sk : Bytes) (hmem : sk ∈ sks) (hsk : rs.getD i default = .box (P.boxPub sk))
    (hnc : ScRingNoCollision P eph rs (Signcrypt.header P sender eph payloadKey rs) sks i) :
    ∃ hr ps, Wire.splitSigncrypt (Spec.signcryptPlan P o sender rs eph payloadKey plan) = .ok (hr, ps) ∧
      Signcrypt.openAll P (faithfulKeyring P sks) res hr ps =
        .ok (sender.map P.sigPub, (plan.map (·.1)).flatten) := by
  have hS := WireSizes.of_lawful hP
  obtain ⟨h, hb, blks, hsent, _, hsplit⟩ := wire_spec_signcrypt P hS o ho hx sender rs eph payloadKey plan hcr
    (by omega) hidLen hchunks (by omega) hhb
  refine ⟨_, _, hsplit, ?_⟩
  apply sc_roundtrip_box_ring P hP o.minor sender rs eph payloadKey plan hplan.final (hplan.empty_v2 rfl) hpk
    hsender hblocks sks res i hi sk hmem hsk h hb blks hsent
  rw [hsent.hdr]
  exact hnc

end Saltpack.Proofs
