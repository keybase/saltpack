/-
  The armored SENDERS (packet stream → go-codec → armor encoder stream →
  faulting writer, `closeForwarder`): if the armor constructor, the packet
  stream's constructor, every `Write` and `Close` reported success, the writer
  holds exactly `Armor.seal62 typ brand M`, `M` the all-at-once binary message.

  Route: the generic "success means written" theorem of the packet streams
  (`run_success`) needs an observation `obs : ω → Bytes` of what the writer below
  accepted.  The armor stream does not keep its payload, so the packet stream is
  run over the HISTORY of the `Write` calls made on the armor stream (`ω' = List
  Bytes`, `π H = farmRun a0 H`); the run over `FArm` is the image of that run
  (`proj_*`), and the accepted payload is a function of the history (`okBytes`).
-/
import Saltpack.Proofs.ArmorWriterFaults

namespace Saltpack.Proofs.SenderP
open Saltpack Saltpack.Sender Saltpack.Stream

/-! ## a packet stream over a writer that is the image of another writer -/

section proj
variable {ω ω' : Type} (wr : ω → Bytes → Bool × ω) (wr' : ω' → Bytes → Bool × ω') (π : ω' → ω)

/-- `π` lifted through go-codec's encoder state, and through the packet stream's -/
def mapC (c : Codec ω') : Codec ω := { w := π c.w, failed := c.failed }
def mapP (st : PSt ω') : PSt ω := { codec := mapC π st.codec, buf := st.buf, n := st.n, err := st.err }

variable (hπ : ∀ w p, wr (π w) p = ((wr' w p).1, π (wr' w p).2))
include hπ

theorem proj_writePieces : ∀ (ps : List Bytes) (w : ω'),
    writePieces wr ps (π w) = ((writePieces wr' ps w).1, π (writePieces wr' ps w).2) := by
  intro ps
  induction ps with
  | nil => intro w; rfl
  | cons p ps ih =>
    intro w
    unfold writePieces
    rw [hπ]
    cases h : wr' w p with
    | mk ok w1 =>
      cases ok with
      | true => exact ih w1
      | false => rfl

theorem proj_encode (pieces : Bytes → List Bytes) (c : Codec ω') (b : Bytes) :
    Codec.encode wr pieces (mapC π c) b =
      ((Codec.encode wr' pieces c b).1, mapC π (Codec.encode wr' pieces c b).2) := by
  unfold Codec.encode
  have hf : (mapC π c).failed = c.failed := rfl
  have hw : (mapC π c).w = π c.w := rfl
  rw [hf, hw]
  cases hc : c.failed with
  | true => rfl
  | false =>
    simp only [Bool.false_eq_true, if_false]
    rw [proj_writePieces wr wr' π hπ]
    rfl

theorem proj_emit (cfg : Cfg) (f : Bool) (st : PSt ω') :
    emitBlock wr cfg f (mapP π st) = ((emitBlock wr' cfg f st).1, mapP π (emitBlock wr' cfg f st).2) := by
  unfold emitBlock
  have h1 : (mapP π st).buf = st.buf := rfl
  have h2 : (mapP π st).n = st.n := rfl
  have h3 : (mapP π st).codec = mapC π st.codec := rfl
  simp only [h1, h2, h3]
  by_cases hr : readPanics cfg.v1shape f cfg.bs (st.buf.take cfg.bs).length (st.buf.drop cfg.bs).length = true
  · simp only [hr, if_true]; rfl
  · simp only [hr, Bool.false_eq_true, if_false]
    cases hpk : cfg.pkt st.n (st.buf.take cfg.bs) f with
    | error e => rfl
    | ok b =>
      simp only
      by_cases ha : assertPanics cfg.v1shape cfg.assertExtra f (st.buf.take cfg.bs).length st.n = true
      · simp only [ha, if_true]; rfl
      · simp only [ha, Bool.false_eq_true, if_false]
        rw [proj_encode wr wr' π hπ]
        cases he : Codec.encode wr' cfg.pieces st.codec b with
        | mk ok c' => cases ok <;> rfl

theorem proj_writeLoop (cfg : Cfg) (len : Nat) : ∀ (fuel : Nat) (st : PSt ω'),
    writeLoop wr cfg len fuel (mapP π st) =
      ((writeLoop wr' cfg len fuel st).1, (writeLoop wr' cfg len fuel st).2.1, mapP π (writeLoop wr' cfg len fuel st).2.2) := by
  intro fuel
  induction fuel with
  | zero => intro st; rfl
  | succ fuel ih =>
    intro st
    unfold writeLoop
    have h1 : (mapP π st).buf = st.buf := rfl
    rw [h1]
    by_cases hgt : st.buf.length > cfg.bs
    · rw [if_pos hgt, if_pos hgt, proj_emit wr wr' π hπ]
      cases he : emitBlock wr' cfg false st with
      | mk r st1 =>
        cases r with
        | none => exact ih st1
        | some e =>
          simp only
          cases cfg.hasErr <;> rfl
    · rw [if_neg hgt, if_neg hgt]

theorem proj_write (cfg : Cfg) (st : PSt ω') (p : Bytes) :
    (mapP π st).write wr cfg p =
      ((st.write wr' cfg p).1, (st.write wr' cfg p).2.1, mapP π (st.write wr' cfg p).2.2) := by
  unfold PSt.write
  have h1 : (mapP π st).err = st.err := rfl
  rw [h1]
  cases he : (if cfg.hasErr then st.err else none) with
  | some e => rfl
  | none => exact proj_writeLoop wr wr' π hπ cfg p.length _ { st with buf := st.buf ++ p }

theorem proj_close (cfg : Cfg) (st : PSt ω') :
    (mapP π st).close wr cfg = ((st.close wr' cfg).1, mapP π (st.close wr' cfg).2) := by
  unfold PSt.close
  have h1 : (mapP π st).buf = st.buf := rfl
  rw [h1]
  cases hv : cfg.v1shape with
  | false =>
    simp only [Bool.false_eq_true, if_false]
    exact proj_emit wr wr' π hπ cfg true st
  | true =>
    simp only [if_true]
    by_cases hgt : st.buf.length > 0
    · simp only [hgt, if_true]
      rw [proj_emit wr wr' π hπ]
      cases he : emitBlock wr' cfg false st with
      | mk r st1 =>
        cases r with
        | some e => rfl
        | none =>
          simp only
          have h2 : (mapP π st1).buf = st1.buf := rfl
          rw [h2]
          by_cases hg2 : st1.buf.length > 0
          · rw [if_pos hg2, if_pos hg2]
          · rw [if_neg hg2, if_neg hg2]
            exact proj_emit wr wr' π hπ cfg true st1
    · simp only [hgt, if_false, h1]
      exact proj_emit wr wr' π hπ cfg true st

theorem proj_init (pieces : Bytes → List Bytes) (w0 : ω') (hbytes : Bytes) :
    PSt.init wr pieces (π w0) hbytes =
      ((PSt.init wr' pieces w0 hbytes).1, mapP π (PSt.init wr' pieces w0 hbytes).2) := by
  unfold PSt.init
  have := proj_encode wr wr' π hπ pieces ({ w := w0 } : Codec ω') (headerPacket hbytes)
  have hm : mapC π ({ w := w0 } : Codec ω') = ({ w := π w0 } : Codec ω) := rfl
  rw [hm] at this
  rw [this]
  rfl

theorem proj_writes (cfg : Cfg) : ∀ (ws : List Bytes) (st : PSt ω'),
    PSt.writes wr cfg (mapP π st) ws = ((PSt.writes wr' cfg st ws).1, mapP π (PSt.writes wr' cfg st ws).2) := by
  intro ws
  induction ws with
  | nil => intro st; rfl
  | cons p ps ih =>
    intro st
    unfold PSt.writes
    simp only
    rw [proj_write wr wr' π hπ]
    simp only
    rw [ih]

end proj

/-! ## the history writer of the armor stream -/

/-- the bytes of the `Write`s of `H` that the armor stream (starting in `a`) accepted -/
def okBytes : FArm → List Bytes → Bytes
  | _, [] => []
  | a, p :: ps => (if (a.write p).1 then p else []) ++ okBytes (a.write p).2 ps

/-- a `Write` on the armor stream reached by the history `H` -/
def histWrite (a0 : FArm) (H : List Bytes) (p : Bytes) : Bool × List Bytes :=
  (((farmRun a0 H).write p).1, H ++ [p])

theorem farmRun_snoc (a0 : FArm) (H : List Bytes) (p : Bytes) :
    farmRun a0 (H ++ [p]) = ((farmRun a0 H).write p).2 := by
  unfold farmRun
  rw [List.foldl_append]
  rfl

theorem hist_proj (a0 : FArm) (H : List Bytes) (p : Bytes) :
    FArm.write (farmRun a0 H) p = ((histWrite a0 H p).1, farmRun a0 (histWrite a0 H p).2) := by
  unfold histWrite
  simp only
  rw [farmRun_snoc]

theorem okBytes_snoc : ∀ (H : List Bytes) (a0 : FArm) (p : Bytes),
    okBytes a0 (H ++ [p]) = okBytes a0 H ++ (if ((farmRun a0 H).write p).1 then p else []) := by
  intro H
  induction H with
  | nil =>
    intro a0 p
    show (if (a0.write p).1 then p else []) ++ [] = [] ++ (if (a0.write p).1 then p else [])
    rw [List.append_nil, List.nil_append]
  | cons q H ih =>
    intro a0 p
    have hr : farmRun a0 (q :: H) = farmRun (a0.write q).2 H := rfl
    rw [List.cons_append, okBytes, okBytes, ih, hr, List.append_assoc]

theorem hist_obs (a0 : FArm) : ObsWriter (histWrite a0) (okBytes a0) := by
  constructor
  · intro H p H' h
    unfold histWrite at h
    obtain ⟨h1, h2⟩ := Prod.mk.inj h
    subst h2
    rw [okBytes_snoc, h1]; rfl
  · intro H p H' h
    unfold histWrite at h
    obtain ⟨h1, h2⟩ := Prod.mk.inj h
    subst h2
    rw [okBytes_snoc, h1]; simp

theorem okBytes_all : ∀ (H : List Bytes) (a : FArm), a.failed = false → (farmRun a H).failed = false →
    okBytes a H = H.flatten := by
  intro H
  induction H with
  | nil => intro a _ _; rfl
  | cons p H ih =>
    intro a hf hr
    have hstep : farmRun a (p :: H) = farmRun (a.write p).2 H := rfl
    rw [hstep] at hr
    have hflag := farm_write_flag a p hf
    cases hok : (a.write p).1 with
    | true =>
      rw [hok] at hflag
      rw [okBytes, hok, ih _ (by simpa using hflag) hr]
      simp
    | false =>
      rw [hok] at hflag
      rw [farmRun_failed H _ (by simpa using hflag)] at hr
      rw [hr] at hflag; simp at hflag

/-! ## the armored run as the image of the run over the history writer -/

/-- constructor, `Write`s and `Close` of the packet stream over the history writer of the armor stream `a0` -/
abbrev histInit (cfg : Cfg) (a0 : FArm) (hb : Bytes) := PSt.init (histWrite a0) cfg.pieces [] hb
abbrev histWrites (cfg : Cfg) (a0 : FArm) (hb : Bytes) (ws : List Bytes) :=
  PSt.writes (histWrite a0) cfg (histInit cfg a0 hb).2 ws
abbrev histClose (cfg : Cfg) (a0 : FArm) (hb : Bytes) (ws : List Bytes) :=
  (histWrites cfg a0 hb ws).2.close (histWrite a0) cfg

/-- everything the armored run returns, and the armor stream it ends with, in terms of the run over
    the history writer: the calls return the same; the armor stream is the one the history leads to,
    closed by `closeForwarder` iff the packet stream's `Close` succeeded -/
theorem hist_run (cfg : Cfg) (a0 : FArm) (hb : Bytes) (ws : List Bytes) :
    (PSt.init FArm.write cfg.pieces a0 hb).1 = (histInit cfg a0 hb).1 ∧
    (PSt.writes FArm.write cfg (PSt.init FArm.write cfg.pieces a0 hb).2 ws).1 = (histWrites cfg a0 hb ws).1 ∧
    (PSt.writes FArm.write cfg (PSt.init FArm.write cfg.pieces a0 hb).2 ws).2.codec.w =
      farmRun a0 (histWrites cfg a0 hb ws).2.codec.w ∧
    (armoredClose cfg (PSt.writes FArm.write cfg (PSt.init FArm.write cfg.pieces a0 hb).2 ws).2).1 =
      (match (histClose cfg a0 hb ws).1 with
       | some e => some e
       | none => if (farmRun a0 (histClose cfg a0 hb ws).2.codec.w).close.1 then none else some .ioError) ∧
    (armoredClose cfg (PSt.writes FArm.write cfg (PSt.init FArm.write cfg.pieces a0 hb).2 ws).2).2.codec.w =
      (match (histClose cfg a0 hb ws).1 with
       | some _ => farmRun a0 (histClose cfg a0 hb ws).2.codec.w
       | none => (farmRun a0 (histClose cfg a0 hb ws).2.codec.w).close.2) := by
  have hπ := hist_proj a0
  have e1 : PSt.init FArm.write cfg.pieces a0 hb = ((histInit cfg a0 hb).1, mapP (farmRun a0) (histInit cfg a0 hb).2) :=
    proj_init FArm.write (histWrite a0) (farmRun a0) hπ cfg.pieces [] hb
  have e2 := proj_writes FArm.write (histWrite a0) (farmRun a0) hπ cfg ws (histInit cfg a0 hb).2
  have e3 := proj_close FArm.write (histWrite a0) (farmRun a0) hπ cfg (histWrites cfg a0 hb ws).2
  unfold armoredClose
  rw [e1]
  simp only
  rw [e2]
  simp only
  rw [e3]
  refine ⟨trivial, trivial, rfl, ?_, ?_⟩ <;>
  · cases (histClose cfg a0 hb ws).1 with
    | some e => rfl
    | none =>
      simp only [mapP, mapC]
      cases (farmRun a0 (histClose cfg a0 hb ws).2.codec.w).close with
      | mk ok a' => cases ok <;> rfl

theorem farm_hist_close (par : Armor.Params) (he : par.enc.WF) (hw : 0 < par.bytesPerWord) (hdr ftr : Bytes)
    (sink : Stream.Sink) (part : List Nat) (H : List Bytes)
    (ha : (FArm.init par hdr ftr ({ sink := sink, part := part } : Wr)).1 = true)
    (hc : (farmRun (FArm.init par hdr ftr ({ sink := sink, part := part } : Wr)).2 H).close.1 = true) :
    (farmRun (FArm.init par hdr ftr ({ sink := sink, part := part } : Wr)).2 H).close.2.w.faults = 0 ∧
    (farmRun (FArm.init par hdr ftr ({ sink := sink, part := part } : Wr)).2 H).close.2.w.bytes =
      Armor.sealText par hdr ftr (okBytes (FArm.init par hdr ftr ({ sink := sink, part := part } : Wr)).2 H) := by
  obtain ⟨hf0, hbytes⟩ := (farm_run_close par he hw hdr ftr sink part H ha).1 hc
  have hnf : (farmRun (FArm.init par hdr ftr ({ sink := sink, part := part } : Wr)).2 H).failed = false := by
    cases hff : (farmRun (FArm.init par hdr ftr ({ sink := sink, part := part } : Wr)).2 H).failed with
    | false => rfl
    | true => rw [farm_close_failed _ hff] at hc; cases hc
  rw [okBytes_all H _ (farm_init_sim par hdr ftr sink part ha).2.1 hnf]
  exact ⟨hf0, hbytes⟩

/-! ## the armored senders: success means written -/

/-- `hist_run`, then `run_success` over the history writer, then `farm_hist_close` -/
theorem armored_success (cfg : Cfg) (hp : ∀ b, (cfg.pieces b).flatten = b) (hb : 0 < cfg.bs) (hif : IndexFail cfg.pkt)
    (v : Version) (hv : cfg.v1shape = (v == v1)) (par : Armor.Params) (he : par.enc.WF) (hw : 0 < par.bytesPerWord)
    (hdr ftr : Bytes) (sink : Stream.Sink) (part : List Nat) (headerBytes : Bytes) (ws : List Bytes)
    (ha : (FArm.init par hdr ftr ({ sink := sink, part := part } : Wr)).1 = true)
    (hi : (PSt.init FArm.write cfg.pieces (FArm.init par hdr ftr ({ sink := sink, part := part } : Wr)).2 headerBytes).1 = true)
    (hws : ∀ x ∈ (PSt.writes FArm.write cfg
        (PSt.init FArm.write cfg.pieces (FArm.init par hdr ftr ({ sink := sink, part := part } : Wr)).2 headerBytes).2 ws).1, x.2 = none)
    (hc : (armoredClose cfg (PSt.writes FArm.write cfg
        (PSt.init FArm.write cfg.pieces (FArm.init par hdr ftr ({ sink := sink, part := part } : Wr)).2 headerBytes).2 ws).2).1 = none) :
    ∃ M, oneShot cfg v headerBytes ws.flatten = .ok M ∧
      (armoredClose cfg (PSt.writes FArm.write cfg
        (PSt.init FArm.write cfg.pieces (FArm.init par hdr ftr ({ sink := sink, part := part } : Wr)).2 headerBytes).2 ws).2).2.codec.w.w.bytes =
        Armor.sealText par hdr ftr M ∧
      (armoredClose cfg (PSt.writes FArm.write cfg
        (PSt.init FArm.write cfg.pieces (FArm.init par hdr ftr ({ sink := sink, part := part } : Wr)).2 headerBytes).2 ws).2).2.codec.w.w.faults = 0 := by
  generalize ha0 : (FArm.init par hdr ftr ({ sink := sink, part := part } : Wr)).2 = a0 at hi hws hc ⊢
  obtain ⟨ei, ew, -, ec, ecw⟩ := hist_run cfg a0 headerBytes ws
  rw [ei] at hi
  rw [ew] at hws
  rw [ec] at hc
  rw [ecw]
  cases hcl : (histClose cfg a0 headerBytes ws).1 with
  | some e => rw [hcl] at hc; cases hc
  | none =>
    rw [hcl] at hc
    obtain ⟨B, hB, ho, _⟩ := run_success (histWrite a0) (okBytes a0) (hist_obs a0) cfg hp hb hif v hv [] headerBytes ws hi hws hcl
    have hcl1 : (farmRun a0 (histClose cfg a0 headerBytes ws).2.codec.w).close.1 = true := by simpa using hc
    subst ha0
    obtain ⟨hf0, hbytes⟩ := farm_hist_close par he hw hdr ftr sink part _ ha hcl1
    refine ⟨headerPacket headerBytes ++ B, by simp [oneShot, hB], ?_, hf0⟩
    rw [hbytes, ho]
    rfl

end Saltpack.Proofs.SenderP
