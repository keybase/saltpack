/-
  Armor framing: what a successful `splitAt1` / `toASCII`
  tells about its input (for the soundness of validated dearmoring), and the
  layout of the sealed body in lines of 200 words.
-/
import Saltpack.Proofs.ArmorRT

namespace Saltpack.Proofs
open Saltpack Saltpack.Armor

theorem splitAt1_sound (c : UInt8) : ∀ (l a b : Bytes), splitAt1 c l = some (a, b) → l = a ++ c :: b ∧ c ∉ a := by
  intro l
  induction l with
  | nil => intro a b h; simp [splitAt1] at h
  | cons x xs ih =>
    intro a b h
    unfold splitAt1 at h
    by_cases hx : (x == c) = true
    · rw [if_pos hx] at h
      cases h
      have : x = c := by simpa using hx
      subst this
      exact ⟨rfl, by simp⟩
    · rw [if_neg hx] at h
      split at h
      · cases h
      · rename_i a' b' hs
        cases h
        obtain ⟨e, hn⟩ := ih a' _ hs
        refine ⟨by rw [e]; rfl, ?_⟩
        intro hm
        rcases List.mem_cons.mp hm with h | h
        · exact hx (by simp [h])
        · exact hn h

theorem toASCII_sound (p : Params) (b s : Bytes) (h : toASCII p b = .ok s) :
    (∀ c ∈ b, validByte p c = true) ∧ s = trimSpace b := by
  unfold toASCII at h
  split at h
  · rename_i hv
    injection h with h
    exact ⟨by simpa [List.all_eq_true] using hv, h.symm⟩
  · cases h

/-- lines joined by single newlines -/
def joinLines : List Bytes → Bytes
  | [] => []
  | [l] => l
  | l :: ls => l ++ [newline] ++ joinLines ls

theorem wpl_eq : params62.wordsPerLine = 200 := rfl

theorem spaceWords_line (p : Params) (ws : List Bytes) : ∀ k : Nat,
    (∀ j, k < j → j < k + ws.length → j % p.wordsPerLine ≠ 0) → spaceWords p k ws = intercalateSp ws := by
  induction ws with
  | nil => intro k _; rfl
  | cons w rest ih =>
    intro k hk
    cases rest with
    | nil => rfl
    | cons w' rest' =>
      have h1 := hk (k + 1) (Nat.lt_succ_self k) (by simp only [List.length_cons]; omega)
      have ih' := ih (k + 1) (fun j hj hj' => hk j (by omega) (by simp only [List.length_cons] at hj' ⊢; omega))
      simp only [spaceWords, intercalateSp, if_neg h1, ih']

theorem spaceWords_append (p : Params) (l rest : List Bytes) (hr : rest ≠ []) : ∀ k : Nat, l ≠ [] →
    spaceWords p k (l ++ rest) =
      spaceWords p k l ++ [if (k + l.length) % p.wordsPerLine = 0 then newline else space] ++
        spaceWords p (k + l.length) rest := by
  induction l with
  | nil => intro k h; exact absurd rfl h
  | cons w l' ih =>
    intro k _
    cases l' with
    | nil =>
      cases rest with
      | nil => exact absurd rfl hr
      | cons r rs => rfl
    | cons w' l'' =>
      have ih' := ih (k + 1) (List.cons_ne_nil _ _)
      have e : k + 1 + (w' :: l'').length = k + (w :: w' :: l'').length := by
        simp only [List.length_cons]; omega
      rw [e] at ih'
      simp only [List.cons_append] at ih' ⊢
      simp only [spaceWords, ih', List.append_assoc]

theorem line_unbroken (k len : Nat) (hk : k % 200 = 0) (hl : len ≤ 200) :
    ∀ j, k < j → j < k + len → j % params62.wordsPerLine ≠ 0 := by
  intro j h1 h2
  rw [wpl_eq]
  omega

theorem chunks_ne_nil {α : Type} (n : Nat) (l : List α) (h : l ≠ []) : chunks n l ≠ [] := by
  intro hc
  have := chunks_flatten n l
  rw [hc] at this
  exact h this.symm

theorem spaceWords_layout (ws : List Bytes) : ∀ k : Nat, k % 200 = 0 →
    spaceWords params62 k ws = joinLines ((chunks 200 ws).map intercalateSp) := by
  induction ws using blocks_ind 200 (by decide) with
  | nil => intro k _; rfl
  | last ws hnil hs =>
    intro k hk
    rw [chunks_short 200 ws hnil hs, spaceWords_line params62 ws k (line_unbroken k _ hk hs)]
    rfl
  | block l rest hl hrest ih =>
    intro k hk
    have hnl : (k + 200) % params62.wordsPerLine = 0 := by rw [wpl_eq]; omega
    rw [chunks_append 200 (by decide) l rest hl,
      spaceWords_append _ _ _ hrest k (List.ne_nil_of_length_pos (by omega)), hl, if_pos hnl,
      spaceWords_line params62 _ k (line_unbroken k _ hk (Nat.le_of_eq hl)), ih (k + 200) (by omega)]
    cases hc : chunks 200 rest with
    | nil => exact absurd hc (chunks_ne_nil 200 _ hrest)
    | cons c cs => simp [joinLines]

end Saltpack.Proofs
