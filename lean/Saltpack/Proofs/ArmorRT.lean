/-
  Armor framing: the sealed text has the specified shape;
  dearmoring accepts every *variant* of it (arbitrary runs of space, tab, CR, LF
  or '>' between payload characters, between frame words, around the frame) and
  returns the identical payload and brand, and the header/footer as received
  (identical after the normalisation of white-space runs the frame grammar
  defines); wrong type / mismatching footer are rejected.
-/
import Saltpack.Model.Armor
import Saltpack.Proofs.Basex
import Saltpack.Proofs.Digits
import Saltpack.Proofs.ArmorLemmas

namespace Saltpack.Proofs
open Saltpack Saltpack.Armor

/-- alphanumeric brand of at most 128 characters (`[a-zA-Z0-9]{0,128}`) -/
def BrandOK (b : Bytes) : Prop :=
  b.length ≤ 128 ∧ ∀ c ∈ b, (48 ≤ c ∧ c ≤ 57) ∨ (65 ≤ c ∧ c ≤ 90) ∨ (97 ≤ c ∧ c ≤ 122)

def Armorable (typ : Int) : Prop := typ = mtEncryption ∨ typ = mtAttached ∨ typ = mtDetached

/-- `f'` is read as the frame `f`: valid bytes only, the frame grammar's normal
    form (runs of `[>\n\r\t ]` collapsed, trimmed) is `f`, and the length limits
    hold.  Replacing separating spaces of `f` by non-empty runs and adding runs
    around it gives such `f'` (`C11_reflow_frame`, `C11_reflow_around`). -/
structure FrameVariant (f f' : Bytes) : Prop where
  valid : ∀ c ∈ f', validByte params62 c = true
  norm : trimSpace (collapse f') = f
  len : (trimSpace f').length ≤ 512
  lim : f'.length < 8192

/-- a frame word: non-empty, alphabet characters only -/
def WordOK (w : Bytes) : Prop := w ≠ [] ∧ ∀ c ∈ w, (params62.enc.digit? c).isSome = true

theorem alnum_word (w : Bytes) (hne : w ≠ [])
    (h : ∀ c ∈ w, (48 ≤ c ∧ c ≤ 57) ∨ (65 ≤ c ∧ c ≤ 90) ∨ (97 ≤ c ∧ c ≤ 122)) : WordOK w :=
  ⟨hne, fun c hc => alnum_digit c (h c hc)⟩

/-- the type string of `typ` is the two words `s1 s2`; together they have at most
    17 characters (`DETACHED SIGNATURE`) -/
structure TypeWords (typ : Int) (sffx s1 s2 : Bytes) : Prop where
  ts : typeString typ = some sffx
  split : sffx = s1 ++ [space] ++ s2
  w1 : WordOK s1
  w2 : WordOK s2
  len : s1.length + s2.length ≤ 17

theorem typeWords (typ : Int) (ht : Armorable typ) : ∃ sffx s1 s2, TypeWords typ sffx s1 s2 := by
  rcases ht with rfl | rfl | rfl
  -- "ENCRYPTED" "MESSAGE"
  · exact ⟨Gen.c_sp_EncryptionArmorString, [69, 78, 67, 82, 89, 80, 84, 69, 68], [77, 69, 83, 83, 65, 71, 69],
      rfl, rfl, alnum_word _ (by decide) (by decide), alnum_word _ (by decide) (by decide), by decide⟩
  -- "SIGNED" "MESSAGE"
  · exact ⟨Gen.c_sp_SignedArmorString, [83, 73, 71, 78, 69, 68], [77, 69, 83, 83, 65, 71, 69],
      rfl, rfl, alnum_word _ (by decide) (by decide), alnum_word _ (by decide) (by decide), by decide⟩
  -- "DETACHED" "SIGNATURE"
  · exact ⟨Gen.c_sp_DetachedSignatureArmorString, [68, 69, 84, 65, 67, 72, 69, 68], [83, 73, 71, 78, 65, 84, 85, 82, 69],
      rfl, rfl, alnum_word _ (by decide) (by decide), alnum_word _ (by decide) (by decide), by decide⟩

theorem typeString_inj (typ typ' : Int) (ht : Armorable typ) (ht' : Armorable typ')
    (h : typeString typ = typeString typ') : typ = typ' := by
  have h12 : typeString mtEncryption ≠ typeString mtAttached := by decide
  have h13 : typeString mtEncryption ≠ typeString mtDetached := by decide
  have h23 : typeString mtAttached ≠ typeString mtDetached := by decide
  rcases ht with rfl | rfl | rfl <;> rcases ht' with rfl | rfl | rfl
  · rfl
  · exact absurd h h12
  · exact absurd h h13
  · exact absurd h.symm h12
  · rfl
  · exact absurd h h23
  · exact absurd h.symm h13
  · exact absurd h.symm h23
  · rfl

theorem upperName_ok : WordOK (upper Gen.c_sp_FormatName) := alnum_word _ (by decide) (by decide)
theorem upperName_len : (upper Gen.c_sp_FormatName).length = 8 := by decide
theorem headerMarker_ok : WordOK Gen.c_sp_headerMarker := alnum_word _ (by decide) (by decide)
theorem footerMarker_ok : WordOK Gen.c_sp_footerMarker := alnum_word _ (by decide) (by decide)

def frameWords (marker brand s1 s2 : Bytes) : List Bytes :=
  [marker] ++ (if brand.isEmpty then [] else [brand]) ++ [upper Gen.c_sp_FormatName, s1, s2]

theorem makeFrame_words (marker : Bytes) (typ : Int) (brand sffx s1 s2 : Bytes)
    (tw : TypeWords typ sffx s1 s2) :
    makeFrame marker typ brand = intercalateSp (frameWords marker brand s1 s2) := by
  unfold makeFrame frameWords
  rw [tw.ts]
  by_cases hb : brand.isEmpty = true <;> simp [hb, intercalateSp, tw.split]

theorem frameWords_ok (marker brand s1 s2 : Bytes) (hm : WordOK marker) (hb : BrandOK brand)
    (h1 : WordOK s1) (h2 : WordOK s2) : ∀ w ∈ frameWords marker brand s1 s2, WordOK w := by
  intro w hw
  have hn := upperName_ok
  cases brand with
  | nil =>
    simp only [frameWords, List.isEmpty_nil, if_true, List.append_nil, List.cons_append, List.nil_append,
      List.mem_cons, List.not_mem_nil, or_false] at hw
    rcases hw with rfl | rfl | rfl | rfl <;> assumption
  | cons x xs =>
    have hbw := alnum_word _ (List.cons_ne_nil x xs) hb.2
    simp only [frameWords, List.isEmpty_cons, Bool.false_eq_true, if_false, List.cons_append,
      List.nil_append, List.mem_cons, List.not_mem_nil, or_false] at hw
    rcases hw with rfl | rfl | rfl | rfl | rfl <;> assumption

/-- a frame of a marker of at most 5 characters (`BEGIN`) is made of valid bytes,
    is its own normal form, and is at most 5+1+128+1+8+1+17+1 ≤ 200 long -/
theorem frame_canon (marker : Bytes) (hm : WordOK marker) (hml : marker.length ≤ 5) (typ : Int)
    (ht : Armorable typ) (brand : Bytes) (hb : BrandOK brand) :
    (∀ c ∈ makeFrame marker typ brand, validByte params62 c = true) ∧
    (∀ r, collapseAux r (makeFrame marker typ brand) = makeFrame marker typ brand) ∧
    trimSpace (makeFrame marker typ brand) = makeFrame marker typ brand ∧
    (makeFrame marker typ brand).length ≤ 200 := by
  obtain ⟨sffx, s1, s2, tw⟩ := typeWords typ ht
  have hws := frameWords_ok marker brand s1 s2 hm hb tw.w1 tw.w2
  rw [makeFrame_words marker typ brand sffx s1 s2 tw]
  refine ⟨?_, ?_, ?_, ?_⟩
  · intro c hc
    rcases mem_intercalateSp _ c hc with rfl | ⟨w, hw, hcw⟩
    · exact space_valid
    · exact (digit_facts c ((hws w hw).2 c hcw)).1
  · intro r
    have frameWords_ne : frameWords marker brand s1 s2 ≠ [] := by
      unfold frameWords; simp
    exact collapseAux_intercalate _ frameWords_ne
      (fun w hw => ⟨(hws w hw).1, fun c hc => (digit_facts c ((hws w hw).2 c hc)).2.1⟩) r
  · exact trimSpace_intercalate _
      (fun w hw => ⟨(hws w hw).1, fun c hc => ⟨(digit_facts c ((hws w hw).2 c hc)).2.2.1,
        digit_lt c ((hws w hw).2 c hc)⟩⟩)
  · have h8 := upperName_len
    have hl := tw.len
    have hbl := hb.1
    -- with or without brand: the words' lengths plus one space between them
    cases brand <;>
      simp only [frameWords, List.isEmpty_nil, List.isEmpty_cons, if_true, Bool.false_eq_true, if_false,
        List.append_nil, List.cons_append, List.nil_append, intercalateSp, List.length_append,
        List.length_cons, List.length_nil] at hbl ⊢ <;>
      omega

theorem maxFrame_eq : Gen.c_sp_maxFrameLength.toNat = 512 := by decide
theorem maxBrand_eq : Gen.c_sp_maxBrandLength.toNat = 128 := by decide

theorem splitSp_frame (marker brand s1 s2 : Bytes) (hm : WordOK marker) (hb : BrandOK brand)
    (h1 : WordOK s1) (h2 : WordOK s2) :
    splitSp (intercalateSp (frameWords marker brand s1 s2)) = frameWords marker brand s1 s2 := by
  have hws := frameWords_ok marker brand s1 s2 hm hb h1 h2
  have hsp : ∀ v ∈ frameWords marker brand s1 s2, ∀ c ∈ v, (c == space) = false :=
    fun v hv c hc => (digit_facts c ((hws v hv).2 c hc)).2.2.2.1
  revert hsp
  unfold frameWords
  intro hsp
  exact splitSp_intercalate _ _ hsp

theorem ite_error_eq_ok {ε α : Type} {c : Prop} [Decidable c] {e : ε} {x : Except ε α} {b : α} :
    (if c then .error e else x) = .ok b ↔ ¬ c ∧ x = .ok b := by
  split <;> simp [*]

theorem ite_else_error_eq_ok {ε α : Type} {c : Prop} [Decidable c] {e : ε} {x : Except ε α} {b : α} :
    (if c then x else .error e) = .ok b ↔ c ∧ x = .ok b := by
  split <;> simp [*]

/-- `parseFrame` accepts exactly the frames of at most 512 bytes whose normal form
    splits into `marker [brand] SALTPACK s1 s2`, with `s1 ␠ s2` the type string -/
theorem parseFrame_ok_iff (m : Bytes) (typ : Int) (marker brand : Bytes) :
    parseFrame m typ marker = .ok brand ↔
      m.length ≤ 512 ∧ ∃ s1 s2, typeString typ = some (s1 ++ [space] ++ s2) ∧
        (splitSp (trimSpace (collapse m)) = [marker, upper Gen.c_sp_FormatName, s1, s2] ∧ brand = [] ∨
         splitSp (trimSpace (collapse m)) = [marker, brand, upper Gen.c_sp_FormatName, s1, s2] ∧
           brand.length ≤ 128) := by
  unfold parseFrame
  rw [maxFrame_eq, maxBrand_eq]
  dsimp only
  generalize splitSp (trimSpace (collapse m)) = v
  generalize upper Gen.c_sp_FormatName = name
  cases typeString typ with
  | none => simp
  | some sffx =>
    -- only a list of four or five words gets past the length test
    rcases v with _ | ⟨a, _ | ⟨b, _ | ⟨c, _ | ⟨d, _ | ⟨e, _ | ⟨f, v⟩⟩⟩⟩⟩⟩
    all_goals simp [ite_error_eq_ok, ite_else_error_eq_ok]
    · intro _
      constructor
      · rintro ⟨rfl, rfl, rfl, rfl⟩
        exact ⟨c, d, rfl, ⟨rfl, rfl, rfl, rfl⟩, rfl⟩
      · rintro ⟨s1, s2, rfl, ⟨rfl, rfl, rfl, rfl⟩, rfl⟩
        exact ⟨rfl, rfl, rfl, rfl⟩
    · intro _
      constructor
      · rintro ⟨rfl, rfl, rfl, hb, rfl⟩
        exact ⟨d, e, rfl, ⟨rfl, rfl, rfl, rfl, rfl⟩, hb⟩
      · rintro ⟨s1, s2, rfl, ⟨rfl, rfl, rfl, rfl, rfl⟩, hb⟩
        exact ⟨rfl, rfl, rfl, hb, rfl⟩

theorem parseFrame_canon (marker : Bytes) (hm : WordOK marker) (typ : Int) (ht : Armorable typ)
    (brand : Bytes) (hb : BrandOK brand) (m : Bytes) (hlen : m.length ≤ 512)
    (hnorm : trimSpace (collapse m) = makeFrame marker typ brand) :
    parseFrame m typ marker = .ok brand := by
  obtain ⟨sffx, s1, s2, tw⟩ := typeWords typ ht
  rw [parseFrame_ok_iff, hnorm, makeFrame_words marker typ brand sffx s1 s2 tw,
    splitSp_frame marker brand s1 s2 hm hb tw.w1 tw.w2]
  refine ⟨hlen, s1, s2, by rw [tw.ts, tw.split], ?_⟩
  cases brand with
  | nil => exact Or.inl ⟨rfl, rfl⟩
  | cons x xs => exact Or.inr ⟨rfl, hb.1⟩

/-- a frame of another type is rejected: its last two words are the type string
    of `typ`, and the type strings are distinct -/
theorem parseFrame_canon_wrong (marker : Bytes) (hm : WordOK marker) (typ typ' : Int)
    (ht : Armorable typ) (ht' : Armorable typ') (hne : typ ≠ typ')
    (brand : Bytes) (hb : BrandOK brand) (m : Bytes)
    (hnorm : trimSpace (collapse m) = makeFrame marker typ brand) (b : Bytes) :
    parseFrame m typ' marker ≠ .ok b := by
  obtain ⟨sffx, s1, s2, tw⟩ := typeWords typ ht
  rw [Ne, parseFrame_ok_iff, hnorm, makeFrame_words marker typ brand sffx s1 s2 tw,
    splitSp_frame marker brand s1 s2 hm hb tw.w1 tw.w2]
  rintro ⟨_, s1', s2', hts, hw⟩
  apply hne
  apply typeString_inj typ typ' ht ht'
  rw [tw.ts, tw.split, hts]
  -- with or without brand, the list of four or five words ends in `s1 s2` on one
  -- side and in `s1' s2'` on the other (lists of different length are excluded)
  have hlast : s1 = s1' ∧ s2 = s2' := by
    unfold frameWords at hw
    cases brand <;> simp at hw
    · exact hw.1
    · exact hw.1.2
  rw [hlast.1, hlast.2]

theorem open62_text (hdr' body' ftr' trail : Bytes) :
    hdr' ++ [period] ++ body' ++ [period] ++ ftr' ++ [period] ++ trail =
      hdr' ++ period :: (body' ++ period :: (ftr' ++ period :: trail)) := by
  simp

/-- on a three-period text with valid pieces, what is left of the framed decoder
    are the frame checks of `expect` -/
theorem open62_pieces (expect : Expect) (brand payload hdr' body' ftr' trail : Bytes)
    (hh : (∀ c ∈ hdr', validByte params62 c = true) ∧ hdr'.length < 8192)
    (hf : (∀ c ∈ ftr', validByte params62 c = true) ∧ ftr'.length < 8192)
    (hbody : ∀ c ∈ body', validByte params62 c = true)
    (hfil : Basex.filterSkip params62.enc body' = Basex.encode params62.enc payload)
    (htrail : ∀ c ∈ trail, validByte params62 c = true)
    (hchk : match expect with
      | none => brand = []
      | some typ => parseFrame (trimSpace hdr') typ Gen.c_sp_headerMarker = .ok brand ∧
          ∃ b', checkArmor62 (trimSpace hdr') (trimSpace ftr') typ = .ok b') :
    open62 expect (hdr' ++ [period] ++ body' ++ [period] ++ ftr' ++ [period] ++ trail) =
      .ok ⟨payload, brand, trimSpace hdr', trimSpace ftr'⟩ := by
  rw [open62_text]
  unfold open62 openPure
  have h1 : ¬ (hdr'.length ≥ frameLim) := by unfold frameLim; omega
  have h2 : ¬ (ftr'.length ≥ frameLim) := by unfold frameLim; omega
  have decode_body : Basex.decode params62.enc.strict (Basex.filterSkip params62.enc body') = .ok payload := by
    rw [hfil, ← encode_strict]
    exact decode_encode _ params62_strict_wf payload
  simp only [splitAt1_append _ _ _ (valid_ne_period _ hh.1), splitAt1_append _ _ _ (valid_ne_period _ hbody),
    splitAt1_append _ _ _ (valid_ne_period _ hf.1), toASCII_valid _ hh.1, toASCII_valid _ hf.1,
    all_valid _ hbody, all_valid _ htrail, no_period _ htrail, decode_body,
    if_neg h1, if_neg h2]
  cases expect with
  | none => simp [hchk]
  | some typ =>
    obtain ⟨hp, b', hc⟩ := hchk
    simp [hp, hc]

theorem open_variant (typ : Int) (ht : Armorable typ) (brand : Bytes) (hb : BrandOK brand)
    (payload hdr' body' ftr' trail : Bytes)
    (hh : FrameVariant (header typ brand) hdr') (hf : FrameVariant (footer typ brand) ftr')
    (hbody : ∀ c ∈ body', validByte params62 c = true)
    (hfil : Basex.filterSkip params62.enc body' = Basex.encode params62.enc payload)
    (htrail : ∀ c ∈ trail, validByte params62 c = true) :
    open62 (some typ) (hdr' ++ [period] ++ body' ++ [period] ++ ftr' ++ [period] ++ trail) =
      .ok ⟨payload, brand, trimSpace hdr', trimSpace ftr'⟩ := by
  have hnh := trim_collapse_trim hdr' (fun c hc => valid_lt c (hh.valid c hc)) (fun c hc => valid_trim_frame c (hh.valid c hc))
  have hnf := trim_collapse_trim ftr' (fun c hc => valid_lt c (hf.valid c hc)) (fun c hc => valid_trim_frame c (hf.valid c hc))
  have hp : parseFrame (trimSpace hdr') typ Gen.c_sp_headerMarker = .ok brand :=
    parseFrame_canon _ headerMarker_ok typ ht brand hb _ hh.len (by rw [hnh, hh.norm]; rfl)
  have hq : parseFrame (trimSpace ftr') typ Gen.c_sp_footerMarker = .ok brand :=
    parseFrame_canon _ footerMarker_ok typ ht brand hb _ hf.len (by rw [hnf, hf.norm]; rfl)
  have hc : checkArmor62 (trimSpace hdr') (trimSpace ftr') typ = .ok brand := by
    unfold checkArmor62
    simp [hp, hq]
  exact open62_pieces (some typ) brand payload hdr' body' ftr' trail ⟨hh.valid, hh.lim⟩ ⟨hf.valid, hf.lim⟩
    hbody hfil htrail ⟨hp, brand, hc⟩

/-- a frame, and the frame after one space (as the footer follows the body), are
    read as that frame; trimming removes the space -/
theorem makeFrame_variant (marker : Bytes) (hm : WordOK marker) (hml : marker.length ≤ 5) (typ : Int)
    (ht : Armorable typ) (brand : Bytes) (hb : BrandOK brand) :
    FrameVariant (makeFrame marker typ brand) (makeFrame marker typ brand) ∧
    FrameVariant (makeFrame marker typ brand) ([space] ++ makeFrame marker typ brand) ∧
    trimSpace ([space] ++ makeFrame marker typ brand) = makeFrame marker typ brand := by
  obtain ⟨hv, hc, htr, hl⟩ := frame_canon marker hm hml typ ht brand hb
  have hsp : ∀ c ∈ [space], isTrimSpace c = true := by simp; decide
  have htr' : trimSpace ([space] ++ makeFrame marker typ brand) = makeFrame marker typ brand := by
    rw [trimSpace_pre _ _ hsp, htr]
  refine ⟨⟨hv, ?_, ?_, ?_⟩, ⟨?_, ?_, ?_, ?_⟩, htr'⟩
  · unfold collapse; rw [hc, htr]
  · rw [htr]; omega
  · omega
  · exact List.forall_mem_append.mpr ⟨List.forall_mem_singleton.mpr space_valid, hv⟩
  · have hfs : isFrameSpace space = true := by decide
    unfold collapse
    simp only [List.singleton_append, collapseAux, hfs, if_true, Bool.false_eq_true, if_false, hc]
    exact htr'
  · rw [htr']; omega
  · simp only [List.singleton_append, List.length_cons]; omega

theorem words_chars (payload : Bytes) :
    ∀ w ∈ chunks params62.bytesPerWord (Basex.encode params62.enc payload),
      ∀ c ∈ w, (params62.enc.digit? c).isSome = true := by
  intro w hw c hc
  apply encode_chars params62.enc params62_wf payload c
  rw [← chunks_flatten params62.bytesPerWord (Basex.encode params62.enc payload)]
  exact List.mem_flatten.mpr ⟨w, hw, hc⟩

theorem sealText_shape (p : Params) (hdr ftr payload : Bytes) :
    ∃ pad, (pad = [] ∨ pad = [space] ∨ pad = [newline]) ∧
      sealText p hdr ftr payload =
        hdr ++ [period, space] ++ spaceWords p 0 (chunks p.bytesPerWord (Basex.encode p.enc payload)) ++ pad ++
          [period, space] ++ ftr ++ [period, newline] := by
  have hpad : ∀ (b1 b2 : Prop) [Decidable b1] [Decidable b2],
      let pad : Bytes := if b1 then (if b2 then [newline] else [space]) else []
      pad = [] ∨ pad = [space] ∨ pad = [newline] := by
    intro b1 b2 _ _
    by_cases h1 : b1 <;> by_cases h2 : b2 <;> simp [h1, h2]
  exact ⟨_, hpad _ _, rfl⟩

theorem seal_is_variant (typ : Int) (ht : Armorable typ) (brand : Bytes) (hb : BrandOK brand) (payload : Bytes) :
    ∃ body', seal62 typ brand payload =
        header typ brand ++ [period] ++ body' ++ [period] ++ ([space] ++ footer typ brand) ++ [period] ++ [newline] ∧
      FrameVariant (header typ brand) (header typ brand) ∧
      FrameVariant (footer typ brand) ([space] ++ footer typ brand) ∧
      (∀ c ∈ body', validByte params62 c = true) ∧
      Basex.filterSkip params62.enc body' = Basex.encode params62.enc payload := by
  obtain ⟨hv1, _, _⟩ := makeFrame_variant _ headerMarker_ok (by decide) typ ht brand hb
  obtain ⟨_, hv2, _⟩ := makeFrame_variant _ footerMarker_ok (by decide) typ ht brand hb
  have hwc := words_chars payload
  obtain ⟨pad, hpad, heq⟩ := sealText_shape params62 (header typ brand) (footer typ brand) payload
  have hpad : ∀ c ∈ pad, isFrameSpace c = true := by
    rcases hpad with rfl | rfl | rfl <;> decide
  refine ⟨[space] ++ spaceWords params62 0 (chunks params62.bytesPerWord (Basex.encode params62.enc payload)) ++ pad,
    ?_, hv1, hv2, ?_, ?_⟩
  · unfold seal62
    rw [heq]
    simp only [List.append_assoc, List.cons_append, List.nil_append]
  · exact List.forall_mem_append.mpr ⟨List.forall_mem_append.mpr
      ⟨List.forall_mem_singleton.mpr space_valid, valid_spaceWords _ hwc 0⟩,
      fun c hc => frameSpace_valid c (hpad c hc)⟩
  · rw [filterSkip_append, filterSkip_append, filterSkip_spaceWords _ hwc 0,
      filterSkip_run [space] (by simp; decide), filterSkip_run _ hpad, chunks_flatten]
    simp

theorem open_seal (typ : Int) (ht : Armorable typ) (brand : Bytes) (hb : BrandOK brand) (payload : Bytes) :
    open62 (some typ) (seal62 typ brand payload) =
      .ok ⟨payload, brand, header typ brand, footer typ brand⟩ := by
  obtain ⟨_, _, htf⟩ := makeFrame_variant _ footerMarker_ok (by decide) typ ht brand hb
  obtain ⟨_, _, hth, _⟩ := frame_canon _ headerMarker_ok (by decide) typ ht brand hb
  obtain ⟨body', heq, hv1, hv2, hvalid, hfil⟩ := seal_is_variant typ ht brand hb payload
  rw [heq, open_variant typ ht brand hb payload _ body' _ [newline] hv1 hv2 hvalid hfil
    (by intro c hc; rw [List.mem_singleton] at hc; subst hc; exact newline_valid)]
  unfold header footer at *
  rw [hth, htf]

theorem header_shape (typ : Int) (sffx : Bytes) (ht : typeString typ = some sffx) (brand : Bytes) :
    header typ brand =
      (if brand.isEmpty then Gen.c_sp_headerMarker ++ [space] ++ upper Gen.c_sp_FormatName ++ [space] ++ sffx
       else Gen.c_sp_headerMarker ++ [space] ++ brand ++ [space] ++ upper Gen.c_sp_FormatName ++ [space] ++ sffx) ∧
    footer typ brand =
      (if brand.isEmpty then Gen.c_sp_footerMarker ++ [space] ++ upper Gen.c_sp_FormatName ++ [space] ++ sffx
       else Gen.c_sp_footerMarker ++ [space] ++ brand ++ [space] ++ upper Gen.c_sp_FormatName ++ [space] ++ sffx) := by
  unfold header footer makeFrame
  rw [ht]
  by_cases hb : brand.isEmpty = true <;> simp [hb, intercalateSp]

theorem parse_wrong_type (typ typ' : Int) (ht : Armorable typ) (ht' : Armorable typ') (hne : typ ≠ typ')
    (brand f' : Bytes) (hb : BrandOK brand) (hv : FrameVariant (header typ brand) f') :
    ∃ e, parseFrame (trimSpace f') typ' Gen.c_sp_headerMarker = .error e := by
  have hnorm : trimSpace (collapse (trimSpace f')) = makeFrame Gen.c_sp_headerMarker typ brand := by
    rw [trim_collapse_trim f' (fun c hc => valid_lt c (hv.valid c hc))
      (fun c hc => valid_trim_frame c (hv.valid c hc)), hv.norm]
    rfl
  cases h : parseFrame (trimSpace f') typ' Gen.c_sp_headerMarker with
  | error e => exact ⟨e, rfl⟩
  | ok b => exact absurd h (parseFrame_canon_wrong _ headerMarker_ok typ typ' ht ht' hne brand hb _ hnorm b)

theorem check_sound (hdr ftr : Bytes) (typ : Int) (brand : Bytes) (h : checkArmor62 hdr ftr typ = .ok brand) :
    parseFrame hdr typ Gen.c_sp_headerMarker = .ok brand ∧ parseFrame ftr typ Gen.c_sp_footerMarker = .ok brand := by
  unfold checkArmor62 at h
  split at h
  · exact absurd h (by simp)
  · rename_i b1 h1
    split at h
    · exact absurd h (by simp)
    · rename_i b2 h2
      split at h
      · exact absurd h (by simp)
      · rename_i hne
        injection h with h
        subst h
        have : b2 = b1 := by simpa using hne
        subst this
        exact ⟨h1, h2⟩

end Saltpack.Proofs
