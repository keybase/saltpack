/-
  The `panic("logic error in ClassifyStream")`
  site of `IsSaltpackArmoredPrefix` (classify_and_decrypt.go) is unreachable:
  the five-words regular expression together with `strings.TrimSpace` excludes
  `len(strs) > 5`.  Also: the only `unmodelled` reasons the classifier model
  can return are the three go-codec shapes of `binarySlice`.
-/
import Saltpack.Model.Classify
import Saltpack.Proofs.ArmorLemmas
import Saltpack.Proofs.ClassifyCodec
import Saltpack.Proofs.ClassifyAux

namespace Saltpack.Proofs
open Saltpack

theorem getLast?_reverse_dropWhile_ne {α : Type} (p : α → Bool) (l : List α) (c : α) (hp : p c = true) :
    (l.dropWhile p).reverse.getLast? ≠ some c := by
  rw [List.getLast?_reverse]
  intro h
  have h2 := List.head?_dropWhile_not p l
  rw [h] at h2
  simp [hp] at h2


/-- the only fact about `strings.TrimSpace` the classifier's totality needs: the result does not end in an ASCII space -/
theorem trimSpace_no_trailing_space (b : Bytes) : (Armor.trimSpace b).getLast? ≠ some Armor.space := by
  intro h
  have h1 := trimSpace_last b Armor.space (Option.mem_def.mpr h)
  revert h1
  decide

/-! ### `strings.Split(s, " ")` -/

theorem splitSp_go_ne_nil (b cur : Bytes) : Armor.splitSp.go b cur ≠ [] := by
  induction b generalizing cur with
  | nil => simp [Armor.splitSp.go]
  | cons c cs ih =>
    unfold Armor.splitSp.go
    split
    · simp
    · exact ih _

theorem splitSp_go_getLast_nil (b cur : Bytes)
    (h : (Armor.splitSp.go b cur).getLast? = some []) :
    (b = [] ∧ cur = []) ∨ b.getLast? = some Armor.space := by
  induction b generalizing cur with
  | nil =>
    left
    simpa [Armor.splitSp.go] using h
  | cons c cs ih =>
    right
    unfold Armor.splitSp.go at h
    split at h
    next hc =>
      have hc' : c = Armor.space := by simpa using hc
      rw [List.getLast?_cons] at h
      cases hg : (Armor.splitSp.go cs []).getLast? with
      | none =>
        exact absurd (List.getLast?_eq_none_iff.mp hg) (splitSp_go_ne_nil _ _)
      | some x =>
        rw [hg] at h
        have hx : x = [] := by simpa using h
        subst hx
        rcases ih [] hg with ⟨hcs, _⟩ | hl
        · subst hcs; simp [hc']
        · rw [List.getLast?_cons, hl]; rfl
    next hc =>
      rcases ih (c :: cur) h with ⟨_, hcur⟩ | hl
      · cases hcur
      · rw [List.getLast?_cons, hl]; rfl

/-! ### the five-words recogniser bounds the number of pieces -/

/-- independent of `trimSpace`: a string accepted by `^([a-zA-Z0-9]+ ?){0,5}$`
    that does not end in a space splits into at most five pieces -/
theorem fewWords_length_le (s : Bytes) (hs : s.getLast? ≠ some Armor.space)
    (hf : Classify.fewWords s = true) : (Armor.splitSp s).length ≤ 5 := by
  cases s with
  | nil => decide
  | cons c cs =>
    have hne : Armor.splitSp (c :: cs) ≠ [] := splitSp_go_ne_nil _ _
    unfold Classify.fewWords at hf
    simp only [List.isEmpty_cons, Bool.false_or, Bool.and_eq_true, decide_eq_true_eq] at hf
    obtain ⟨_, hle⟩ := hf
    split at hle
    next hemp =>
      exfalso
      cases hg : (Armor.splitSp (c :: cs)).getLast? with
      | none => exact hne (List.getLast?_eq_none_iff.mp hg)
      | some x =>
        rw [hg] at hemp
        have hx : x = [] := by simpa using hemp
        subst hx
        rcases splitSp_go_getLast_nil _ [] hg with ⟨h, _⟩ | h
        · cases h
        · exact hs h
    next => exact hle


/-- the only `unmodelled` reasons of `IsSaltpackBinarySlice`'s model: one per
    go-codec call, given when `Model/Codec.lean` does not claim to know that
    call's answer (none of them is a panic; the format-name and message-type
    decoders have no such case, so in effect "version shape": a surplus version
    element / unknown map key whose `swallow` meets one of `Codec`'s unmodelled
    generic-map cases) -/
theorem binarySlice_unmodelled (b : Bytes) :
    ∀ w, Classify.binarySlice b = .unmodelled w →
      w = "message type shape" ∨ w = "version shape" ∨ w = "format name shape" := by
  intro w h
  obtain ⟨_, _, _, _, _, hb⟩ := CodecMono.bin_walk b _ h nofun nofun
  exact CodecMono.binBody_unmodelled _ _ hb

theorem binarySlice_no_logic_error (b : Bytes) :
    Classify.binarySlice b ≠ .unmodelled "logic error in ClassifyStream" := by
  intro h
  have := binarySlice_unmodelled b _ h
  revert this
  decide

/-! ### `armoredPrefix` and `classifyStream` -/

/-- every `unmodelled` answer of `IsSaltpackArmoredPrefix`'s model is one of
    `binarySlice`'s three shapes: the "logic error" branch is dead -/
theorem armoredPrefix_unmodelled (pref : Bytes) :
    ∀ w, Classify.armoredPrefix pref = .unmodelled w →
      w = "message type shape" ∨ w = "version shape" ∨ w = "format name shape" := by
  intro w h
  rw [ClsAux.armoredPrefix_norm] at h
  rcases ClsAux.classifyNorm_cases (Armor.trimSpace (Armor.collapse pref)) with
    h' | h' | ⟨hfw, h5, _⟩ | ⟨brand, typStr, payload, _, _, h'⟩
  · rw [h'] at h; cases h
  · rw [h'] at h; cases h
  · exact absurd (fewWords_length_le _ (trimSpace_no_trailing_space _) hfw) (by omega)
  · rw [h'] at h
    exact binarySlice_unmodelled _ _ (ClsAux.conclude_unmodelled h)

theorem armoredPrefix_no_logic_error (pref : Bytes) :
    Classify.armoredPrefix pref ≠ .unmodelled "logic error in ClassifyStream" := by
  intro h
  have := armoredPrefix_unmodelled pref _ h
  revert this
  decide

theorem classifyStream_unmodelled (size : Nat) (all : Bytes) :
    ∀ w, Classify.classifyStream size all = .unmodelled w →
      w = "message type shape" ∨ w = "version shape" ∨ w = "format name shape" := by
  intro w
  unfold Classify.classifyStream
  dsimp only
  split
  · intro h; cases h
  · intro h; cases h
  · intro h; cases h
  next w' ha =>
    intro h
    cases h
    split at ha
    · cases ha
    · exact armoredPrefix_unmodelled _ _ ha
  · repeat' split
    all_goals first | (intro h; cases h; done) | skip
    next w' hb =>
      intro h
      cases h
      exact binarySlice_unmodelled _ _ hb

theorem classifyStream_no_logic_error (size : Nat) (all : Bytes) :
    Classify.classifyStream size all ≠ .unmodelled "logic error in ClassifyStream" := by
  intro h
  have := classifyStream_unmodelled size all _ h
  revert this
  decide

/-! ### why `trimSpace` is needed: the recogniser tolerates one trailing space -/

/-- `"a b c d e "` is accepted by the five-words recogniser and splits into six pieces -/
example : Classify.fewWords [97, 32, 98, 32, 99, 32, 100, 32, 101, 32] = true ∧
    (Armor.splitSp [97, 32, 98, 32, 99, 32, 100, 32, 101, 32]).length = 6 := by decide

/-- without the trailing space: five pieces -/
example : Classify.fewWords [97, 32, 98, 32, 99, 32, 100, 32, 101] = true ∧
    (Armor.splitSp [97, 32, 98, 32, 99, 32, 100, 32, 101]).length = 5 := by decide

/-- six words are rejected -/
example : Classify.fewWords [97, 32, 98, 32, 99, 32, 100, 32, 101, 32, 102] = false := by decide

/-- `trimSpace` removes the trailing space of the first example -/
example : Armor.splitSp (Armor.trimSpace [97, 32, 98, 32, 99, 32, 100, 32, 101, 32]) =
    [[97], [98], [99], [100], [101]] := by decide

end Saltpack.Proofs
