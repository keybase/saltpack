/-
  Bounded buffering of the reader state machines of Model/Stream.lean:
  invariants of the reader STATES, each preserved by one `Read` call and true
  of the initial state.

    punctuatedReader      nextSegment + thisSegment ≤ B   (any B ≥ the caller's buffer)
    framedDecoderStream   header, footer < 8192 bytes; its punctuated reader bounded
    filteringReader       (no buffer of its own)
    BaseX decoder         input buffer ≤ dBufSize, decoded leftover ≤ decLen dBufSize

  The machines are taken stage by stage through the equations of the reader
  stack (PunctAll, Stack*), which hold of every state; nothing here assumes a
  well-formed script.  Lemmas that serve only this file carry the prefix `sb`.
-/
import Saltpack.Proofs.StackDecoder
import Saltpack.Proofs.BasexLen

namespace Saltpack.Proofs
open Saltpack Saltpack.Stream

theorem sb_srcRead_len (cap : Nat) (src : Source) : (srcRead cap src).1.length ≤ cap := by
  cases src with
  | nil => simp [srcRead]
  | cons hd rest =>
    obtain ⟨d, e⟩ := hd
    by_cases hc : d.length ≤ cap
    · simp [srcRead, hc]
    · simp only [srcRead, hc, if_false, List.length_take]; omega

/-! ## punctuatedReader -/

/-- the punctuated reader's own memory: the two stashed segments -/
def PBounded (B : Nat) (s : PState) : Prop := s.nextSegment.length + s.thisSegment.length ≤ B

/-- the part behind the period and the part before it that did not fit: together no more than the whole -/
theorem sb_stash_le {α : Type} (l : List α) (i cap : Nat) :
    (l.drop (i + 1)).length + ((l.take i).drop cap).length ≤ l.length :=
  calc (l.drop (i + 1)).length + ((l.take i).drop cap).length
      ≤ (l.drop (i + 1)).length + (l.take i).length :=
        Nat.add_le_add_left (by rw [List.length_drop]; exact Nat.sub_le _ _) _
    _ ≤ (l.drop i).length + (l.take i).length :=
        Nat.add_le_add_right (by rw [List.length_drop, List.length_drop]; exact Nat.sub_le_sub_left (Nat.le_succ i) _) _
    _ = l.length := by rw [Nat.add_comm, ← List.length_append, List.take_append_drop]

theorem pProc_bounded (cap : Nat) (src : Bytes) (used : Bool) (s1 : PState)
    (h1 : s1.thisSegment = []) (h2 : s1.nextSegment = []) :
    (pProc cap src used s1).2.2.nextSegment.length + (pProc cap src used s1).2.2.thisSegment.length ≤ src.length ∧
    (pProc cap src used s1).1.length ≤ (if used then cap else src.length) := by
  have htake : ∀ n : Nat, (src.take n).length ≤ src.length := fun n => by
    rw [List.length_take]; exact Nat.min_le_right _ _
  unfold pProc
  cases findIdx Armor.period src with
  | none =>
    cases used with
    | true =>
      show s1.nextSegment.length + (src.drop cap).length ≤ src.length ∧ (src.take cap).length ≤ cap
      rw [h2, List.length_drop]
      exact ⟨by rw [List.length_nil, Nat.zero_add]; exact Nat.sub_le _ _, List.length_take_le _ _⟩
    | false =>
      show s1.nextSegment.length + s1.thisSegment.length ≤ src.length ∧ src.length ≤ src.length
      rw [h1, h2]
      exact ⟨Nat.zero_le _, Nat.le_refl _⟩
  | some i =>
    -- whether the period's `ErrPunctuated` goes out with this call or is kept for the next changes no length
    cases used with
    | true =>
      simp only [↓reduceIte]
      cases ((src.take i).drop cap).isEmpty <;> exact ⟨sb_stash_le src i cap, List.length_take_le _ _⟩
    | false =>
      have hstash : (src.drop (i + 1)).length + s1.thisSegment.length ≤ src.length := by
        rw [h1, List.length_drop]; exact Nat.sub_le _ _
      simp only [↓reduceIte, Bool.false_eq_true]
      cases s1.thisSegment.isEmpty <;> exact ⟨hstash, htake i⟩

theorem pRead_bounded (B cap : Nat) (s : PState) (hB : PBounded B s) (hc : cap ≤ B) :
    PBounded B (pRead cap s).2.2 ∧ (pRead cap s).1.length ≤ cap := by
  unfold PBounded at *
  by_cases h1 : s.thisSegment = []
  · by_cases h2 : s.nextSegment = []
    · cases h3 : s.errNextRead with
      | some e =>
        rw [pRead_sticky cap s e h1 h2 h3]
        exact ⟨hB, by simp⟩
      | none =>
        rw [pRead_src cap s h1 h2 h3]
        have hl := sb_srcRead_len cap s.src
        split
        · split
          · simp [h1, h2]
          · have := pProc_bounded cap (srcRead cap s.src).1 false
              { s with src := (srcRead cap s.src).2.2, errNextRead := some ‹RErr› } h1 h2
            simp only [Bool.false_eq_true, if_false] at this
            exact ⟨Nat.le_trans this.1 (Nat.le_trans hl hc), Nat.le_trans this.2 hl⟩
        · have := pProc_bounded cap (srcRead cap s.src).1 false { s with src := (srcRead cap s.src).2.2 } h1 h2
          simp only [Bool.false_eq_true, if_false] at this
          exact ⟨Nat.le_trans this.1 (Nat.le_trans hl hc), Nat.le_trans this.2 hl⟩
    · rw [pRead_next cap s h1 h2]
      have := pProc_bounded cap s.nextSegment true { s with nextSegment := [] } h1 rfl
      simp only [if_true] at this
      rw [h1] at hB
      simp only [List.length_nil, Nat.add_zero] at hB
      exact ⟨by omega, this.2⟩
  · rw [pRead_this cap s h1]
    split
    · exact ⟨Nat.le_trans (Nat.add_le_add_left (Nat.zero_le _) _) hB,
        by rw [List.length_take]; exact Nat.min_le_left _ _⟩
    · exact ⟨by rw [List.length_drop]; exact Nat.le_trans (Nat.add_le_add_left (Nat.sub_le _ _) _) hB,
        by rw [List.length_take]; exact Nat.min_le_left _ _⟩

/-! ## `ReadUntilPunctuation`, `consumeUntilEOF` -/

theorem pReadUntil_bounded (B lim : Nat) (h4 : 4096 ≤ B) : ∀ (fuel : Nat) (s : PState) (acc : Bytes), PBounded B s →
    PBounded B (pReadUntil lim fuel s acc).2 ∧ (∀ r, (pReadUntil lim fuel s acc).1 = .ok r → r.length < lim) := by
  intro fuel
  induction fuel with
  | zero => intro s acc hB; exact ⟨hB, fun r h => nomatch h⟩
  | succ fuel ih =>
    intro s acc hB
    have hp := (pRead_bounded B 4096 s hB h4).1
    rw [pReadUntil_succ]
    generalize pRead 4096 s = pr at hp
    obtain ⟨d, e, s1⟩ := pr
    simp only [] at hp ⊢
    split
    · by_cases h1 : (acc ++ d).length ≥ lim
      · rw [if_pos h1]; exact ⟨hp, fun r h => nomatch h⟩
      · rw [if_neg h1]
        by_cases h2 : d.isEmpty = true
        · rw [if_pos h2]; exact ⟨hp, fun r h => nomatch h⟩
        · rw [if_neg h2]; exact ih _ _ hp
    · by_cases h1 : (acc ++ d).length ≥ lim
      · rw [if_pos h1]; exact ⟨hp, fun r h => nomatch h⟩
      · rw [if_neg h1]
        exact ⟨hp, fun r h => by cases h; exact Nat.lt_of_not_ge h1⟩
    · exact ⟨hp, fun r h => nomatch h⟩
    · exact ⟨hp, fun r h => nomatch h⟩

theorem consumeUntilEOF_bounded (par : Armor.Params) (B : Nat) (h4 : 4096 ≤ B) : ∀ (fuel : Nat) (s : PState), PBounded B s →
    PBounded B (consumeUntilEOF par fuel s).2 := by
  intro fuel
  induction fuel with
  | zero => intro s hB; exact hB
  | succ fuel ih =>
    intro s hB
    have hp := (pRead_bounded B 4096 s hB h4).1
    rw [consume_succ]
    generalize pRead 4096 s = pr at hp
    obtain ⟨d, e, s1⟩ := pr
    cases e with
    | some x => exact hp
    | none =>
      simp only []
      by_cases h1 : d.isEmpty = true
      · rw [if_pos h1]; exact hp
      · rw [if_neg h1]
        by_cases h2 : (!(d.all (Armor.validByte par))) = true
        · rw [if_pos h2]; exact hp
        · rw [if_neg h2]; exact ih _ hp

/-! ## framedDecoderStream -/

/-- the framed decoder's memory: its punctuated reader, the collected header and footer -/
def FBounded (B : Nat) (f : FState) : Prop :=
  PBounded B f.p ∧ f.hdr.length < Armor.frameLim ∧ f.ftr.length < Armor.frameLim

theorem fBounded_init (B : Nat) (src : Source) : FBounded B ({ p := { src := src } } : FState) := by
  refine ⟨by simp [PBounded], ?_, ?_⟩ <;> simp [Armor.frameLim]

/-- the checks that end the header and the footer block set `phase` and `brand` only -/
theorem fHeaderCheck_bounded (par : Armor.Params) (expect : Armor.Expect) (B : Nat) (f1 : FState) (hd : Bytes)
    (hB : FBounded B f1) : FBounded B (fHeaderCheck par expect f1 hd).2 := by
  have h := fHeaderCheck_spec par expect f1 hd
  generalize hdrCheck par expect f1.brand hd = c at h
  cases c with
  | none => obtain ⟨z, hz⟩ := h; rw [hz]; exact hB
  | some b => rw [show fHeaderCheck par expect f1 hd = _ from h]; exact hB

theorem fFrameCheck_bounded (par : Armor.Params) (expect : Armor.Expect) (B : Nat) (f2 : FState) (ft : Bytes)
    (hB : FBounded B f2) : FBounded B (fFrameCheck par expect f2 ft).2 := by
  cases hc : ftrCheck par expect f2.hdr ft with
  | true => rw [(fFrameCheck_spec par expect f2 ft).1 hc]; exact hB
  | false => obtain ⟨z, hz⟩ := (fFrameCheck_spec par expect f2 ft).2 hc; rw [hz]; exact hB

theorem fLoadHeader_bounded (par : Armor.Params) (expect : Armor.Expect) (B : Nat) (h4 : 4096 ≤ B) (f : FState)
    (hB : FBounded B f) : FBounded B (fLoadHeader par expect f).2 := by
  by_cases hph : f.phase = .header
  · obtain ⟨hp, hh, hf⟩ := hB
    rw [fLoadHeader_header par expect f hph]
    obtain ⟨hq, hr⟩ := pReadUntil_bounded B Armor.frameLim h4 (Armor.frameLim + 2) f.p [] hp
    generalize pReadUntil Armor.frameLim (Armor.frameLim + 2) f.p [] = rp at hq hr
    obtain ⟨r, p1⟩ := rp
    cases r with
    | error e => exact ⟨hq, hh, hf⟩
    | ok hd => exact fHeaderCheck_bounded par expect B _ hd ⟨hq, hr hd rfl, hf⟩
  · rw [fLoadHeader_not par expect f hph]; exact hB

/-- the body stage of `fRead` -/
def sbBody (cap : Nat) (f0 : FState) : (Bytes × FState) ⊕ (Option RErr × FState) :=
  if f0.phase == .body then
    let (d, e, p1) := pRead cap f0.p
    let f1 := { f0 with p := p1 }
    match e with
    | some (.err .punctuated) => .inl (d, { f1 with phase := .footer })
    | some .eof => .inr (some (.err .unexpectedEOF), f1)
    | some x => .inr (some x, f1)
    | none => .inl (d, f1)
  else .inl ([], f0)

/-- `fRead` by stages, for a state in any phase (StackFramed's `fRead_body_*`, `fRead_end` are the cases
    of a given phase and a given result of `pRead`) -/
theorem sb_fRead_eq (par : Armor.Params) (expect : Armor.Expect) (cap : Nat) (f : FState) :
    fRead par expect cap f =
      match fLoadHeader par expect f with
      | (some e, f0) => ([], some e, f0)
      | (none, f0) =>
        match sbBody cap f0 with
        | .inr (e, f1) => ([], e, f1)
        | .inl (d, f1) =>
          match (if f1.phase == .footer then fFooter par expect f1 else (none, f1)) with
          | (some e, f2) => ([], some e, f2)
          | (none, f2) => fFinish par d f2 := by
  unfold fRead
  rcases fLoadHeader par expect f with ⟨e0, f0⟩
  cases e0 with
  | some e => rfl
  | none => rfl

theorem sbBody_bounded (B cap : Nat) (hc : cap ≤ B) (f0 : FState) (hB : FBounded B f0) :
    (∀ d f1, sbBody cap f0 = .inl (d, f1) → FBounded B f1 ∧ d.length ≤ cap) ∧
    (∀ e f1, sbBody cap f0 = .inr (e, f1) → FBounded B f1) := by
  obtain ⟨hp0, hh0, hf0⟩ := hB
  have hpr := pRead_bounded B cap f0.p hp0 hc
  unfold sbBody
  generalize pRead cap f0.p = pr at hpr
  obtain ⟨d, e, p1⟩ := pr
  simp only [] at hpr ⊢
  split
  · -- in the body: the new state is `f0` with `p := p1` (bounded by `hpr`) and perhaps the phase `footer`
    split
    · -- a period: data go out, the footer is next
      exact ⟨fun d' f1 h => by cases h; exact ⟨⟨hpr.1, hh0, hf0⟩, hpr.2⟩, fun e' f1 h => nomatch h⟩
    · -- EOF inside the body
      exact ⟨(fun d' f1 h => nomatch h), fun e' f1 h => by cases h; exact ⟨hpr.1, hh0, hf0⟩⟩
    · -- any other condition
      exact ⟨(fun d' f1 h => nomatch h), fun e' f1 h => by cases h; exact ⟨hpr.1, hh0, hf0⟩⟩
    · -- plain data
      exact ⟨fun d' f1 h => by cases h; exact ⟨⟨hpr.1, hh0, hf0⟩, hpr.2⟩, fun e' f1 h => nomatch h⟩
  · -- not in the body: nothing is read
    exact ⟨fun d' f1 h => by cases h; exact ⟨⟨hp0, hh0, hf0⟩, Nat.zero_le _⟩, fun e' f1 h => nomatch h⟩

theorem fFooter_bounded (par : Armor.Params) (expect : Armor.Expect) (B : Nat) (h4 : 4096 ≤ B) (f1 : FState)
    (hB : FBounded B f1) : FBounded B (fFooter par expect f1).2 := by
  obtain ⟨hp, hh, hf⟩ := hB
  unfold fFooter
  obtain ⟨hq, hr⟩ := pReadUntil_bounded B Armor.frameLim h4 (Armor.frameLim + 2) f1.p [] hp
  generalize pReadUntil Armor.frameLim (Armor.frameLim + 2) f1.p [] = rp at hq hr
  obtain ⟨r, p2⟩ := rp
  cases r with
  | error e => exact ⟨hq, hh, hf⟩
  | ok ft => exact fFrameCheck_bounded par expect B _ ft ⟨hq, hh, hr ft rfl⟩

theorem fFinish_bounded (par : Armor.Params) (B : Nat) (h4 : 4096 ≤ B) (d : Bytes) (f2 : FState)
    (hB : FBounded B f2) : FBounded B (fFinish par d f2).2.2 ∧ (fFinish par d f2).1 = d := by
  obtain ⟨hp, hh, hf⟩ := hB
  unfold fFinish
  split
  · have hq := consumeUntilEOF_bounded par B h4 (fuelOf f2.p) f2.p hp
    generalize consumeUntilEOF par (fuelOf f2.p) f2.p = rp at hq
    obtain ⟨e, p3⟩ := rp
    simp only [] at hq ⊢
    split <;> exact ⟨⟨hq, hh, hf⟩, rfl⟩
  · exact ⟨⟨hp, hh, hf⟩, rfl⟩

theorem fRead_bounded (par : Armor.Params) (expect : Armor.Expect) (B cap : Nat) (h4 : 4096 ≤ B) (hc : cap ≤ B)
    (f : FState) (hB : FBounded B f) :
    FBounded B (fRead par expect cap f).2.2 ∧ (fRead par expect cap f).1.length ≤ cap := by
  have h0 := fLoadHeader_bounded par expect B h4 f hB
  rw [sb_fRead_eq]
  generalize fLoadHeader par expect f = lh at h0
  obtain ⟨e0, f0⟩ := lh
  cases e0 with
  | some e => exact ⟨h0, by simp⟩
  | none =>
    simp only [] at h0 ⊢
    obtain ⟨hb1, hb2⟩ := sbBody_bounded B cap hc f0 h0
    generalize sbBody cap f0 = br at hb1 hb2
    cases br with
    | inr x =>
      obtain ⟨e, f1⟩ := x
      exact ⟨hb2 e f1 rfl, by simp⟩
    | inl x =>
      obtain ⟨d, f1⟩ := x
      obtain ⟨hf1, hd⟩ := hb1 d f1 rfl
      simp only []
      have hft : FBounded B (if f1.phase == .footer then fFooter par expect f1 else (none, f1)).2 := by
        split
        · exact fFooter_bounded par expect B h4 f1 hf1
        · exact hf1
      generalize (if f1.phase == .footer then fFooter par expect f1 else (none, f1)) = fr at hft
      obtain ⟨e1, f2⟩ := fr
      cases e1 with
      | some e => exact ⟨hft, by simp⟩
      | none =>
        simp only [] at hft ⊢
        obtain ⟨hfin, hout⟩ := fFinish_bounded par B h4 d f2 hft
        exact ⟨hfin, by rw [hout]; exact hd⟩

/-! ## filteringReader (no buffer of its own) -/

theorem filterScan_len (enc : Basex.Enc) (d : Bytes) (n : Nat) (kept : Bytes) (n' : Nat)
    (h : filterScan enc d n = .ok (kept, n')) : kept.length ≤ d.length := by
  rw [(filterScan_ok enc d n kept n' h).1]
  exact List.length_filter_le _ _

theorem filRead_bounded (par : Armor.Params) (expect : Armor.Expect) (B cap : Nat) (h4 : 4096 ≤ B) (hc : cap ≤ B) :
    ∀ (fuel : Nat) (s : FilState), FBounded B s.f →
      FBounded B (filRead par expect cap fuel s).2.2.f ∧ (filRead par expect cap fuel s).1.length ≤ cap := by
  intro fuel
  induction fuel with
  | zero => intro s hB; exact ⟨hB, by simp [filRead]⟩
  | succ fuel ih =>
    intro s hB
    obtain ⟨hf, hl⟩ := fRead_bounded par expect B cap h4 hc s.f hB
    rw [filRead_succ]
    generalize fRead par expect cap s.f = fr at hf hl
    obtain ⟨d, e, f1⟩ := fr
    simp only [] at hf hl ⊢
    by_cases hd : d.isEmpty = true
    · rw [if_pos hd]; exact ⟨hf, Nat.zero_le _⟩
    · rw [if_neg hd]
      cases hk : filterScan par.enc d s.nRead with
      | error k => exact ⟨hf, Nat.zero_le _⟩
      | ok kn =>
        obtain ⟨kept, n'⟩ := kn
        have hkl := filterScan_len par.enc d s.nRead kept n' hk
        simp only []
        by_cases hke : (!kept.isEmpty) = true
        · rw [if_pos hke]; exact ⟨hf, Nat.le_trans hkl hl⟩
        · rw [if_neg hke]
          cases e with
          | some x => exact ⟨hf, Nat.zero_le _⟩
          | none => exact ih _ hf

/-! ## BaseX: decoded length never exceeds `decLen` of the input length -/

theorem sb_decLen_add_block (e : Basex.Enc) (hc : 0 < e.charBlockLen) (n : Nat) :
    e.decLen (n + e.charBlockLen) = e.decLen n + e.blockLen := by
  have := decLen_add_blocks e hc 1 n
  rwa [Nat.one_mul, Nat.one_mul, Nat.add_comm, Nat.add_comm e.blockLen] at this

/-- whole blocks aside, a step of `decLen` is a step within one block (`decLen_mono_pred`) -/
theorem sb_decLen_succ {e : Basex.Enc} (he : e.WF) (n : Nat) : e.decLen n ≤ e.decLen (n + 1) := by
  have hc := he.cblock_pos
  have h1 : e.decLen n = n / e.charBlockLen * e.blockLen + e.decLen (n % e.charBlockLen) := by
    rw [← decLen_add_blocks e hc, Nat.div_add_mod']
  have h2 : e.decLen (n + 1) = n / e.charBlockLen * e.blockLen + e.decLen (n % e.charBlockLen + 1) := by
    rw [← decLen_add_blocks e hc, ← Nat.add_assoc, Nat.div_add_mod']
  rw [h1, h2]
  exact Nat.add_le_add_left (decLen_mono_pred he (n % e.charBlockLen + 1) (Nat.mod_lt n hc)) _

theorem sb_decLen_mono {e : Basex.Enc} (he : e.WF) (a b : Nat) (h : a ≤ b) : e.decLen a ≤ e.decLen b := by
  induction b with
  | zero => have : a = 0 := by omega
            subst this; exact Nat.le_refl _
  | succ b ih =>
    by_cases hab : a = b + 1
    · subst hab; exact Nat.le_refl _
    · exact Nat.le_trans (ih (by omega)) (sb_decLen_succ he b)

theorem sb_decodeBlockDigits_len (e : Basex.Enc) (ds : List Nat) (bs : Bytes)
    (h : Basex.decodeBlockDigits e ds = .ok bs) : bs.length = e.decLen ds.length := by
  unfold Basex.decodeBlockDigits at h
  split at h
  · cases h
  · dsimp only at h
    split at h
    · cases h
    · simp only [Except.ok.injEq] at h
      rw [← h, bytesOfNat_length]

theorem sb_decodeAux_len {e : Basex.Enc} (he : e.WF) (hs : e.skip = []) (hc : 0 < e.charBlockLen)
    (hfull : e.decLen e.charBlockLen = e.blockLen) (hzero : e.decLen 0 = 0) :
    ∀ (fuel : Nat) (s : List UInt8) (pos : Nat) (bs : Bytes),
      Basex.decodeAux e fuel s pos = .ok bs → bs.length ≤ e.decLen s.length := by
  intro fuel
  induction fuel with
  | zero => intro s pos bs h; simp [Basex.decodeAux] at h; subst h; simp
  | succ fuel ih =>
    intro s pos bs h
    unfold Basex.decodeAux at h
    split at h
    · simp only [Except.ok.injEq] at h; simp [← h]
    · split at h
      · cases h
      · rename_i ds rest hsc
        split at h
        · cases h
        · rename_i b1 hb1
          split at h
          · cases h
          · rename_i more hmore
            simp only [Except.ok.injEq] at h
            -- without skip characters the scan consumes exactly the digits it returns (`scan_strict`)
            obtain ⟨hsplit, _, _, i3, _⟩ := scan_strict he hs _ _ _ _ _ hsc
            have i1 : ds.length + rest.length = s.length := by
              rw [hsplit, List.length_append, List.length_map]
            have hl1 := sb_decodeBlockDigits_len e ds b1 hb1
            have hl2 := ih _ _ _ hmore
            rw [← h, List.length_append, hl1]
            rcases i3 with i3 | i3
            · have := sb_decLen_add_block e hc rest.length
              rw [i3, hfull]
              rw [← i1, i3, Nat.add_comm e.charBlockLen, this, Nat.add_comm]
              exact Nat.add_le_add_right hl2 _
            · subst i3
              simp only [List.length_nil, hzero, Nat.add_zero] at hl2 i1
              rw [← i1, Nat.le_zero.mp hl2]
              exact Nat.le_refl _

theorem sb_decodePrefix_len {enc : Basex.Enc} (he : enc.WF) : ∀ (fuel : Nat) (s : List UInt8),
    (Basex.decodePrefix enc fuel s).1.length ≤ enc.decLen s.length := by
  have hc := he.cblock_pos
  intro fuel
  induction fuel with
  | zero => intro s; simp [Basex.decodePrefix]
  | succ fuel ih =>
    intro s
    unfold Basex.decodePrefix
    split
    · simp
    · simp only []
      split
      · simp
      · rename_i b hb
        have hb' : b.length ≤ enc.decLen (s.take enc.charBlockLen).length := by
          have h1 := decLen_full he
          have h2 := decLen_zero he
          exact sb_decodeAux_len (strict_wf he) rfl hc h1 h2 _ _ _ _ hb
        have hm := ih (s.drop enc.charBlockLen)
        generalize Basex.decodePrefix enc fuel (s.drop enc.charBlockLen) = mr at hm
        obtain ⟨more, e⟩ := mr
        simp only [List.length_append, List.length_take, List.length_drop] at hb' hm ⊢
        by_cases hlen : enc.charBlockLen ≤ s.length
        · rw [Nat.min_eq_left hlen, decLen_full he] at hb'
          have := sb_decLen_add_block enc hc (s.length - enc.charBlockLen)
          rw [Nat.sub_add_cancel hlen] at this
          rw [this, Nat.add_comm b.length]
          exact Nat.add_le_add hm hb'
        · have hlt : s.length ≤ enc.charBlockLen := Nat.le_of_lt (Nat.lt_of_not_le hlen)
          rw [Nat.sub_eq_zero_of_le hlt, decLen_zero he] at hm
          rw [Nat.min_eq_right hlt] at hb'
          rw [Nat.le_zero.mp hm]
          exact hb'

/-! ## BaseX decoder stream -/

/-- the decoder's memory: the layers below it, its input buffer and the decoded leftover.  The punctuated
    reader may stash what a caller's buffer did not take: `ReadUntilPunctuation` reads with 4096 bytes, the decoder
    asks the filter for at most `nnOf ≤ dBufSize` — hence `max 4096 dBufSize`. -/
def DBounded (par : Armor.Params) (d : DState) : Prop :=
  FBounded (max 4096 (dBufSize par.enc)) d.fil.f ∧
  d.buf.length ≤ dBufSize par.enc ∧
  d.out.length ≤ par.enc.decLen (dBufSize par.enc)

theorem dBounded_init (par : Armor.Params) (src : Source) : DBounded par (newDecoder src) :=
  ⟨fBounded_init _ src, by simp [newDecoder], by simp [newDecoder]⟩

theorem dFill_bounded (par : Armor.Params) (expect : Armor.Expect) (B nn : Nat) (h4 : 4096 ≤ B) (hnn : nn ≤ B) :
    ∀ (fuel : Nat) (d : DState), FBounded B d.fil.f →
      FBounded B (dFill par expect nn fuel d).fil.f ∧ (dFill par expect nn fuel d).out = d.out ∧
      (dFill par expect nn fuel d).buf.length ≤ max d.buf.length nn := by
  intro fuel
  induction fuel with
  | zero => intro d hB; exact ⟨hB, rfl, Nat.le_max_left _ _⟩
  | succ fuel ih =>
    intro d hB
    by_cases h : d.buf.length < par.enc.charBlockLen ∧ d.err.isNone = true
    · rw [dFill_go par expect nn fuel d h]
      have hr := filRead_bounded par expect B (nn - d.buf.length) h4 (Nat.le_trans (Nat.sub_le _ _) hnn)
        (fuelOf d.fil.f.p + 4) d.fil hB
      generalize filRead par expect (nn - d.buf.length) (fuelOf d.fil.f.p + 4) d.fil = fr at hr
      obtain ⟨x, e, fil1⟩ := fr
      obtain ⟨i1, i2, i3⟩ := ih { d with fil := fil1, buf := d.buf ++ x, err := e } hr.1
      refine ⟨i1, i2, Nat.le_trans i3 (Nat.max_le.mpr ⟨?_, Nat.le_max_right _ _⟩)⟩
      rw [List.length_append]
      have sb_fill_le : ∀ a x : Nat, x ≤ nn - a → a + x ≤ max a nn := by
        intro a x h
        rcases Nat.le_total a nn with h' | h'
        · exact Nat.le_trans (Nat.add_le_add_left h a) (by rw [Nat.add_sub_cancel' h']; exact Nat.le_max_right _ _)
        · rw [Nat.sub_eq_zero_of_le h'] at h
          rw [Nat.le_zero.mp h]
          exact Nat.le_max_left _ _
      exact sb_fill_le _ _ hr.2
    · rw [dFill_stop par expect nn _ d h]
      exact ⟨hB, rfl, Nat.le_max_left _ _⟩

theorem nnOf_le (par : Armor.Params) (cap : Nat) : nnOf par cap ≤ dBufSize par.enc := by
  have cap_le : ∀ a b : Nat, (if a > b then b else a) ≤ b := fun a b => by
    by_cases h : a > b
    · rw [if_pos h]; exact Nat.le_refl _
    · rw [if_neg h]; exact Nat.le_of_not_gt h
  exact cap_le _ _

theorem dEmit_bounded (par : Armor.Params) (he : par.enc.WF) (cap : Nat) (d2 : DState) (nDec : Nat)
    (hnle : nDec ≤ d2.buf.length) (hB : DBounded par d2) :
    DBounded par (dEmit par cap d2 nDec).2.2 ∧ (dEmit par cap d2 nDec).1.length ≤ cap := by
  obtain ⟨hf, hb, ho⟩ := hB
  unfold dEmit
  simp only []
  have hdl := sb_decodePrefix_len he (nDec + 1) (d2.buf.take nDec)
  rw [List.length_take, Nat.min_eq_left hnle] at hdl
  generalize Basex.decodePrefix par.enc (nDec + 1) (d2.buf.take nDec) = dp at hdl
  obtain ⟨dec, de⟩ := dp
  simp only [] at hdl ⊢
  have hmono := sb_decLen_mono he nDec (dBufSize par.enc) (Nat.le_trans hnle hb)
  have hrest : (d2.buf.drop nDec).length ≤ dBufSize par.enc := by
    rw [List.length_drop]; exact Nat.le_trans (Nat.sub_le _ _) hb
  have hout : (dec.drop cap).length ≤ par.enc.decLen (dBufSize par.enc) := by
    rw [List.length_drop]; exact Nat.le_trans (Nat.sub_le _ _) (Nat.le_trans hdl hmono)
  by_cases hgt : par.enc.decLen nDec > cap
  · rw [if_pos hgt]
    split
    · exact ⟨⟨hf, hrest, hout⟩, Nat.zero_le _⟩
    · exact ⟨⟨hf, hrest, hout⟩, List.length_take_le _ _⟩
  · rw [if_neg hgt]
    split
    · exact ⟨⟨hf, hrest, ho⟩, Nat.zero_le _⟩
    · exact ⟨⟨hf, hrest, ho⟩, Nat.le_trans hdl (Nat.le_of_not_gt hgt)⟩

theorem dDecode_bounded (par : Armor.Params) (he : par.enc.WF) (cap : Nat) (d1 : DState) (hB : DBounded par d1) :
    DBounded par (dDecode par cap d1).2.2 ∧ (dDecode par cap d1).1.length ≤ cap := by
  cases h : d1.err with
  | none =>
    rw [dDecode_none par cap d1 h]
    exact dEmit_bounded par he cap d1 _ (Nat.div_mul_le_self _ _) hB
  | some x =>
    cases x with
    | err z => rw [dDecode_err par cap d1 z h]; exact ⟨hB, Nat.zero_le _⟩
    | eof =>
      by_cases hb : d1.buf = []
      · rw [dDecode_eof_empty par cap d1 h hb]; exact ⟨hB, Nat.zero_le _⟩
      · rw [dDecode_eof par cap d1 h hb]; exact dEmit_bounded par he cap _ _ (Nat.le_refl _) hB

theorem dRead_bounded (par : Armor.Params) (he : par.enc.WF) (expect : Armor.Expect) (cap : Nat) (d : DState)
    (hB : DBounded par d) :
    DBounded par (dRead par expect cap d).2.2 ∧ (dRead par expect cap d).1.length ≤ cap := by
  cases he' : d.err with
  | some e =>
    have : dRead par expect cap d = ([], some e, d) := by unfold dRead; rw [he']
    rw [this]; exact ⟨hB, Nat.zero_le _⟩
  | none =>
    obtain ⟨hf, hb, ho⟩ := hB
    by_cases hoe : d.out = []
    · rw [dRead_fill par expect cap d he' hoe]
      obtain ⟨i1, i2, i3⟩ := dFill_bounded par expect (max 4096 (dBufSize par.enc)) (nnOf par cap)
        (Nat.le_max_left _ _) (Nat.le_trans (nnOf_le par cap) (Nat.le_max_right _ _)) (nnOf par cap + 2) d hf
      exact dDecode_bounded par he cap _
        ⟨i1, Nat.le_trans i3 (Nat.max_le.mpr ⟨hb, nnOf_le par cap⟩), by rw [i2]; exact ho⟩
    · rw [dRead_out par expect cap d he' hoe]
      exact ⟨⟨hf, hb, by rw [List.length_drop]; exact Nat.le_trans (Nat.sub_le _ _) ho⟩, List.length_take_le _ _⟩

end Saltpack.Proofs
