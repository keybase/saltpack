/-
  The ARMORED senders over a NEVER-FAILING underlying writer: the armor encoder
  stream `FArm` over a scripted writer whose fault script is exhausted
  (`sink = []`) is itself a never-failing writer in the sense of `GoodWriter`
  (Proofs/SenderStreamTotal.lean) — every `Write` and `Close` of it succeeds —,
  so the totality theorem `run_good_full` of the packet streams applies to the
  armored compositions: UNCONDITIONAL write-split independence and "= Armor62
  text of the all-at-once binary message" for every split.

  Route as in Proofs/ArmoredSenderWritten.lean: the packet stream is run over
  the HISTORY of the `Write` calls made on the armor stream.
-/
import Saltpack.Proofs.ArmoredSenderMore
import Saltpack.Proofs.SenderStreamTotal

namespace Saltpack.Proofs.SenderP
open Saltpack Saltpack.Sender Saltpack.Stream

/-! ## the armor stream over a writer that never fails never fails -/

/-- the armor stream has not failed, its BaseX encoder is healthy and the
    writer below has no fault left in its script -/
def GoodA (a : FArm) : Prop := a.w.sink = [] ∧ a.failed = false ∧ a.EncOk

theorem farm_write_good (a : FArm) (b : Bytes) (h : GoodA a) : (a.write b).1 = true ∧ GoodA (a.write b).2 := by
  obtain ⟨hs, hf, hok⟩ := h
  obtain ⟨he, hok'⟩ := farm_encOk_write a b hok
  obtain ⟨_, _, hw, -⟩ := farm_write_live a b hf he
  obtain ⟨g1, g2⟩ := writePieces_good Wr.write _ wr_good (spaced a.par (a.feed (a.enc.write b).2.2).buf a.nWords).1 a.w hs
  refine ⟨?_, ?_, ?_, hok'⟩ <;> rw [hw]
  · exact g1
  · exact g2
  · show (!_) = false
    rw [g1]; rfl

theorem farm_good : GoodWriter FArm.write GoodA := ⟨fun a p h => farm_write_good a p h⟩

theorem farm_close_good (a : FArm) (h : GoodA a) : a.close.1 = true := by
  obtain ⟨hs, hf, hok⟩ := h
  obtain ⟨_, _, hw⟩ := farm_close_live a hf (farm_encOk_close a hok).1
  rw [hw]
  exact (writePieces_good Wr.write _ wr_good _ a.w hs).1

theorem farm_init_good (par : Armor.Params) (hdr ftr : Bytes) :
    (FArm.init par hdr ftr ({} : Wr)).1 = true ∧ GoodA (FArm.init par hdr ftr ({} : Wr)).2 := by
  obtain ⟨a1, a2⟩ := wr_good.step ({} : Wr) (hdr ++ [Armor.period, Armor.space]) rfl
  have hok := farm_encOk_init par hdr ftr ({} : Wr)
  unfold FArm.init at hok ⊢
  cases hw : ({} : Wr).write (hdr ++ [Armor.period, Armor.space]) with
  | mk ok w' =>
    rw [hw] at a1 a2 hok
    simp only at a1 a2 hok ⊢
    exact ⟨a1, a2, rfl, hok⟩

theorem hist_good (a0 : FArm) : GoodWriter (histWrite a0) (fun H => GoodA (farmRun a0 H)) := by
  constructor
  intro H p h
  unfold histWrite
  simp only
  rw [farmRun_snoc]
  exact farm_write_good _ p h

/-! ## the closed / unclosed armor text is a function of the bytes written -/

/-- the encoder only appends (`encInv_grow`), in both directions -/
theorem encInv_written_unique (enc : Basex.Enc) (he : enc.WF) (T : Bytes) (e e' : EncState)
    (h : EncInv enc T e) (h' : EncInv enc T e') : e.written.flatten = e'.written.flatten := by
  obtain ⟨D, hD⟩ := encInv_grow enc he T [] e e' h (by rwa [List.append_nil])
  obtain ⟨D', hD'⟩ := encInv_grow enc he T [] e' e h' (by rwa [List.append_nil])
  have hlen := congrArg List.length hD'
  rw [hD, List.length_append, List.length_append] at hlen
  rw [hD, List.eq_nil_of_length_eq_zero (show D.length = 0 by omega), List.append_nil]

theorem chInv_unique (bs : Nat) (hb : 0 < bs) (X : Bytes) (c c' : Chunker) (h : ChInv bs X c) (h' : ChInv bs X c') :
    c.emitted = c'.emitted ∧ c.buf = c'.buf := by
  have e := chInv_chunks bs hb X c h
  have e' := chInv_chunks bs hb X c' h'
  rw [e] at e'
  by_cases h0 : c.buf = []
  · by_cases h0' : c'.buf = []
    · exact ⟨by rw [h.ne h0, h'.ne h0'], by rw [h0, h0']⟩
    · rw [if_pos h0, if_neg h0', h.ne h0] at e'
      simp at e'
  · by_cases h0' : c'.buf = []
    · rw [if_neg h0, if_pos h0', h'.ne h0'] at e'
      simp at e'
    · rw [if_neg h0, if_neg h0'] at e'
      have hl : c.emitted.length = c'.emitted.length := by
        have := congrArg List.length e'
        simpa using this
      obtain ⟨e1, e2⟩ := List.append_inj e' hl
      exact ⟨e1, by simpa using e2⟩

theorem armInv_out_unique (par : Armor.Params) (he : par.enc.WF) (hw : 0 < par.bytesPerWord) (base ftr T : Bytes)
    (s s' : ArmState) (h : ArmInv par base ftr s) (hE : EncInv par.enc T s.enc)
    (h' : ArmInv par base ftr s') (hE' : EncInv par.enc T s'.enc) : s.out = s'.out := by
  have hwr := encInv_written_unique par.enc he T s.enc s'.enc hE hE'
  obtain ⟨_, _, c, hc, _, _, ho⟩ := h
  obtain ⟨_, _, c', hc', _, _, ho'⟩ := h'
  rw [hwr] at hc
  obtain ⟨e1, _⟩ := chInv_unique par.bytesPerWord hw _ c c' hc hc'
  rw [ho, ho', e1]

theorem arm_fold_out_unique (par : Armor.Params) (he : par.enc.WF) (hw : 0 < par.bytesPerWord) (hdr ftr : Bytes)
    (H H' : List Bytes) (hsame : H.flatten = H'.flatten) :
    (H.foldl ArmState.write (ArmState.init par hdr ftr)).out = (H'.foldl ArmState.write (ArmState.init par hdr ftr)).out := by
  have hE0 : EncInv par.enc [] (ArmState.init par hdr ftr).enc :=
    ⟨rfl, rfl, rfl, he.block_pos, [], by simp, rfl, by simp [ArmState.init, encode_nil]⟩
  obtain ⟨h1, h2⟩ := armInv_fold par he hw _ ftr H [] (ArmState.init par hdr ftr) (armInv_init par hdr ftr) hE0
  obtain ⟨h1', h2'⟩ := armInv_fold par he hw _ ftr H' [] (ArmState.init par hdr ftr) (armInv_init par hdr ftr) hE0
  rw [hsame] at h2
  exact armInv_out_unique par he hw _ ftr _ _ _ h1 h2 h1' h2'

/-- what is at the writer when the armor stream received `X` and was NOT closed -/
def armorUnclosed (par : Armor.Params) (hdr ftr X : Bytes) : Bytes :=
  ((ArmState.init par hdr ftr).write X).out

/-! ## the armored packet streams over a never-failing writer -/

theorem good_run_sim (par : Armor.Params) (hdr ftr : Bytes) (H : List Bytes)
    (hg : GoodA (farmRun (FArm.init par hdr ftr ({} : Wr)).2 H)) :
    Sim (farmRun (FArm.init par hdr ftr ({} : Wr)).2 H) (H.foldl ArmState.write (ArmState.init par hdr ftr)) ∧
    okBytes (FArm.init par hdr ftr ({} : Wr)).2 H = H.flatten := by
  obtain ⟨hi, hg0⟩ := farm_init_good par hdr ftr
  obtain ⟨hs, hf, _⟩ := farm_init_sim par hdr ftr [] [] hi
  obtain ⟨r1, _⟩ := run_sim H _ _ hs hg0.2.2 hf
  exact ⟨(r1 hg.2.1).1, okBytes_all H _ hf hg.2.1⟩

theorem armored_run_good (cfg : Cfg) (hp : ∀ b, (cfg.pieces b).flatten = b) (hb : 0 < cfg.bs) (hif : IndexFail cfg.pkt)
    (v : Version) (hv : cfg.v1shape = (v == v1)) (par : Armor.Params) (he : par.enc.WF) (hw : 0 < par.bytesPerWord)
    (hdr ftr : Bytes) (headerBytes : Bytes) (ws : List Bytes) :
    (FArm.init par hdr ftr ({} : Wr)).1 = true ∧
    (PSt.init FArm.write cfg.pieces (FArm.init par hdr ftr ({} : Wr)).2 headerBytes).1 = true ∧
    (∀ B, planBytes cfg.pkt (Encrypt.chunkPlan v cfg.bs ws.flatten) 0 = .ok B →
      (PSt.writes FArm.write cfg
        (PSt.init FArm.write cfg.pieces (FArm.init par hdr ftr ({} : Wr)).2 headerBytes).2 ws).1 =
          ws.map (fun p => (p.length, none)) ∧
      (armoredClose cfg (PSt.writes FArm.write cfg
        (PSt.init FArm.write cfg.pieces (FArm.init par hdr ftr ({} : Wr)).2 headerBytes).2 ws).2).1 = none ∧
      (armoredClose cfg (PSt.writes FArm.write cfg
        (PSt.init FArm.write cfg.pieces (FArm.init par hdr ftr ({} : Wr)).2 headerBytes).2 ws).2).2.codec.w.w.bytes =
        Armor.sealText par hdr ftr (headerPacket headerBytes ++ B)) ∧
    ((∀ B, planBytes cfg.pkt (Encrypt.chunkPlan v cfg.bs ws.flatten) 0 ≠ .ok B) →
      (armoredClose cfg (PSt.writes FArm.write cfg
        (PSt.init FArm.write cfg.pieces (FArm.init par hdr ftr ({} : Wr)).2 headerBytes).2 ws).2).1 ≠ none ∧
      (armoredClose cfg (PSt.writes FArm.write cfg
        (PSt.init FArm.write cfg.pieces (FArm.init par hdr ftr ({} : Wr)).2 headerBytes).2 ws).2).2.codec.w.w.bytes =
        armorUnclosed par hdr ftr
          (headerPacket headerBytes ++ planOkBytes cfg.pkt (Encrypt.chunkPlan v cfg.bs ws.flatten) 0)) := by
  obtain ⟨hai, hg0⟩ := farm_init_good par hdr ftr
  refine ⟨hai, ?_⟩
  generalize ha0 : (FArm.init par hdr ftr ({} : Wr)).2 = a0 at hg0 ⊢
  obtain ⟨ei, ew, -, ec, ecw⟩ := hist_run cfg a0 headerBytes ws
  obtain ⟨hi, ho, hall, hconv, hgfin⟩ := run_good_full (histWrite a0) (okBytes a0) (fun H => GoodA (farmRun a0 H))
    (hist_obs a0) (hist_good a0) cfg hp hb hif v hv [] hg0 headerBytes ws
  rw [ei, ew, ec, ecw]
  have hcg := farm_close_good (farmRun a0 (histClose cfg a0 headerBytes ws).2.codec.w) hgfin
  refine ⟨hi, fun B hB => ?_, fun hno => ?_⟩
  · obtain ⟨hwr, hcl⟩ := hall B hB
    rw [planOkBytes_of_ok cfg.pkt _ 0 B hB] at ho
    subst ha0
    rw [hcl, (farm_hist_close par he hw hdr ftr [] [] (histClose cfg _ headerBytes ws).2.codec.w hai hcg).2, ho]
    exact ⟨hwr, by simp [hcg], rfl⟩
  · cases hcr : (histClose cfg a0 headerBytes ws).1 with
    | none =>
      obtain ⟨B, hB⟩ := hconv hcr
      exact absurd hB (hno B)
    | some e =>
      refine ⟨by simp, ?_⟩
      subst ha0
      obtain ⟨hsim, hokb⟩ := good_run_sim par hdr ftr (histClose cfg _ headerBytes ws).2.codec.w hgfin
      show (farmRun _ _).w.bytes = _
      unfold armorUnclosed
      rw [hsim.out, arm_fold_out_unique par he hw hdr ftr (histClose cfg _ headerBytes ws).2.codec.w
        [headerPacket headerBytes ++ planOkBytes cfg.pkt (Encrypt.chunkPlan v cfg.bs ws.flatten) 0]
        (by rw [← hokb, ho]; simp [okBytes]), List.foldl_cons, List.foldl_nil]

theorem armored_det_good (pieces : Bytes → List Bytes) (hp : ∀ b, (pieces b).flatten = b) (sp : Bytes → Bytes)
    (par : Armor.Params) (he : par.enc.WF) (hw : 0 < par.bytesPerWord) (hdr ftr : Bytes) (headerBytes : Bytes)
    (ws : List Bytes) :
    (FArm.init par hdr ftr ({} : Wr)).1 = true ∧
    (DSt.init FArm.write pieces (FArm.init par hdr ftr ({} : Wr)).2 headerBytes).1 = true ∧
    (DSt.writes (DSt.init FArm.write pieces (FArm.init par hdr ftr ({} : Wr)).2 headerBytes).2 ws).1 =
      ws.map (fun p => (p.length, none)) ∧
    (armoredCloseD pieces sp (DSt.writes
      (DSt.init FArm.write pieces (FArm.init par hdr ftr ({} : Wr)).2 headerBytes).2 ws).2).1 = none ∧
    (armoredCloseD pieces sp (DSt.writes
      (DSt.init FArm.write pieces (FArm.init par hdr ftr ({} : Wr)).2 headerBytes).2 ws).2).2.codec.w.w.bytes =
      Armor.sealText par hdr ftr (headerPacket headerBytes ++ sp ws.flatten) := by
  obtain ⟨hai, hg0⟩ := farm_init_good par hdr ftr
  refine ⟨hai, ?_⟩
  obtain ⟨ei, ew, ec, ecw⟩ := hist_run_det pieces sp (FArm.init par hdr ftr ({} : Wr)).2 headerBytes ws
  obtain ⟨hi, hwr, hcl, ho⟩ := det_good (histWrite _) (okBytes _) (fun H => GoodA (farmRun _ H))
    (hist_obs _) (hist_good _) pieces hp sp [] hg0 headerBytes ws
  have hcg := farm_close_good _
    (det_keeps_good (histWrite _) (fun H => GoodA (farmRun _ H)) (hist_good _) pieces sp [] hg0 headerBytes ws)
  rw [ei, ew, ec, ecw, hcl, (farm_hist_close par he hw hdr ftr [] [] _ hai hcg).2, ho]
  exact ⟨hi, hwr, by simp [hcg], rfl⟩

end Saltpack.Proofs.SenderP
