/-
  Round trips for the sender models `Sign.attachedPackets`, `Sign.detachedWith`
  and `Signcrypt.sealPackets`: the instances of Proofs/RingSig for the Go
  sender's chunk plan and a keyring that holds exactly one recipient key;
  soundness of detached verification.
-/
import Saltpack.Proofs.RoundTripEnc
import Saltpack.Proofs.RingSig
import Saltpack.Proofs.NoPanic

namespace Saltpack.Proofs
open Saltpack Saltpack.Encrypt

namespace RTSig

theorem attachedPackets_inv (P : Prims) (bs : Nat) (v : Version) (signer nonce msg : Bytes)
    (h : SigHeader) (hb : Bytes) (blks : List SigBlock)
    (hs : Sign.attachedPackets P bs v signer nonce msg = .ok (h, hb, blks)) :
    h = Sign.header v (P.sigPub signer) mtAttached nonce ∧ hb = Msgpack.encode h.toVal ∧
    Sign.blockStructs P v signer (P.hash hb) (chunkPlan v bs msg) 0 = .ok blks := by
  unfold Sign.attachedPackets at hs
  split at hs
  · cases hs
  · simp only [] at hs
    split at hs
    · cases hs
    · rename_i blks' hb'
      simp only [Except.ok.injEq, Prod.mk.injEq] at hs
      obtain ⟨h1, h2, h3⟩ := hs
      subst h1 h2 h3
      exact ⟨rfl, rfl, hb'⟩

/-- `Signcrypt.sealPackets` is `Signcrypt.sealPacketsPlan` at the Go sender's own plan -/
theorem sc_sealPackets_inv (P : Prims) (bs : Nat) (sender : Option Bytes) (rs : List Signcrypt.Recipient)
    (eph payloadKey pt : Bytes) (h : EncHeader) (hb : Bytes) (blks : List SigncryptBlock)
    (hseal : Signcrypt.sealPackets P bs sender rs eph payloadKey pt = .ok (h, hb, blks)) :
    h = Signcrypt.header P sender eph payloadKey rs ∧ hb = Msgpack.encode h.toVal ∧
    Signcrypt.blockStructs P sender payloadKey (P.hash hb) (chunkPlan v2 bs pt) 0 = .ok blks :=
  (sc_sealPacketsPlan_inv P sender rs eph payloadKey (chunkPlan v2 bs pt) h hb blks hseal).2

end RTSig
open RTSig

theorem sigSent_of_attachedPackets (P : Prims) (bs : Nat) {v : Version} (hv : v = v1 ∨ v = v2)
    (signer nonce msg : Bytes) (h : SigHeader) (hb : Bytes) (blks : List SigBlock)
    (hs : Sign.attachedPackets P bs v signer nonce msg = .ok (h, hb, blks)) :
    SigSent P v 0 signer nonce (chunkPlan v bs msg) h hb blks := by
  obtain ⟨hh, _, hblk⟩ := attachedPackets_inv P bs v signer nonce msg h hb blks hs
  refine ⟨?_, hblk⟩
  rw [hh]
  rcases hv with rfl | rfl <;> rfl

theorem scSent_of_sealPackets (P : Prims) (bs : Nat) (sender : Option Bytes) (rs : List Signcrypt.Recipient)
    (eph pk pt : Bytes) (h : EncHeader) (hb : Bytes) (blks : List SigncryptBlock)
    (hseal : Signcrypt.sealPackets P bs sender rs eph pk pt = .ok (h, hb, blks)) :
    ScSent P 0 sender rs eph pk (chunkPlan v2 bs pt) h hb blks :=
  scSent_of_sealPacketsPlan P sender rs eph pk _ h hb blks hseal

/-! ## attached signatures -/

theorem sign_roundtrip (P : Prims) (hP : P.Lawful) (bs : Nat) (hbs : 0 < bs)
    (v : Version) (hv : v = v1 ∨ v = v2) (signer nonce msg : Bytes)
    (kr : Keyring) (hk : kr.lookupSigningPublicKey (P.sigPub signer) = some (P.sigPub signer))
    (h : SigHeader) (hb : Bytes) (blks : List SigBlock)
    (hs : Sign.attachedPackets P bs v signer nonce msg = .ok (h, hb, blks)) :
    Sign.verifyAll P knownMajor kr (.ok hb h) ⟨blks.map some, .eof⟩ = .ok (P.sigPub signer, msg) := by
  have hplan := chunkPlan_valid v hv bs hbs msg
  have := sign_roundtrip_gen P hP v hv 0 signer nonce (chunkPlan v bs msg) hplan.finalLast hplan.empty_v1 hplan.emptySole
    kr hk h hb blks (sigSent_of_attachedPackets P bs hv signer nonce msg h hb blks hs)
  rwa [chunkPlan_flatten] at this

/-! ## detached signatures -/

theorem detached_roundtrip (P : Prims) (hP : P.Lawful)
    (v : Version) (hv : v = v1 ∨ v = v2) (signer nonce msg : Bytes)
    (kr : Keyring) (hk : kr.lookupSigningPublicKey (P.sigPub signer) = some (P.sigPub signer)) :
    let h := Sign.header v (P.sigPub signer) mtDetached nonce
    let hb := Msgpack.encode h.toVal
    Sign.verifyDetached P knownMajor kr (.ok hb h)
        (.sig (P.sign signer (detachedSignatureInput P (P.hash hb) msg))) msg = .ok (P.sigPub signer) := by
  intro h hb
  rcases hv with rfl | rfl
  · exact detached_roundtrip_gen P hP v1 (Or.inl rfl) 0 signer nonce msg hb kr hk
  · exact detached_roundtrip_gen P hP v2 (Or.inr rfl) 0 signer nonce msg hb kr hk

/-- a detached verification can succeed only through a signature check on
    exactly `domain_detached ‖ hash(hash(header bytes) ‖ message)` under the key
    the keyring returned for the header's signer field, with the header saying
    "saltpack", an admitted version and detached mode -/
theorem detached_sound (P : Prims) (valid : Validator) (kr : Keyring)
    (hr : HeaderRead SigHeader) (sr : Sign.SigRead) (msg k : Bytes)
    (hok : Sign.verifyDetached P valid kr hr sr msg = .ok k) :
    ∃ hb h sg, hr = .ok hb h ∧ sr = .sig sg ∧
      h.formatName = Gen.c_sp_FormatName ∧ valid h.version = true ∧ h.typ = mtDetached ∧
      kr.lookupSigningPublicKey h.senderPublic = some k ∧
      P.verify k (Gen.c_sp_signatureDetachedString ++ P.hash (P.hash hb ++ msg)) sg = true := by
  unfold Sign.verifyDetached at hok
  split at hok
  · cases hok
  · cases hok
  rename_i hb h
  split at hok
  · cases hok
  rename_i hval
  split at hok
  · cases hok
  rename_i sg
  split at hok
  · cases hok
  rename_i pk hpk
  split at hok
  · rename_i hver
    cases hok
    obtain ⟨h1, h2, h3⟩ := sig_validate_ok valid h mtDetached hval
    exact ⟨hb, h, sg, rfl, rfl, h1, h2, h3, hpk, hver⟩
  · cases hok

/-! ## signcryption -/

open Signcrypt in
theorem sc_roundtrip_box (P : Prims) (hP : P.Lawful) (bs : Nat) (hbs : 0 < bs)
    (sender : Option Bytes) (rs : List Signcrypt.Recipient) (eph payloadKey pt : Bytes)
    (hpk : payloadKey.length = 32)
    (hsender : ∀ s, sender = some s → ¬ ((P.sigPub s).all (· == 0)))
    (hblocks : (chunkPlan v2 bs pt).length < 2 ^ 64 - 1)
    (i : Nat) (hi : i < rs.length) (sk : Bytes) (hsk : rs.getD i default = .box (P.boxPub sk))
    (h : EncHeader) (hb : Bytes) (blks : List SigncryptBlock)
    (hseal : Signcrypt.sealPackets P bs sender rs eph payloadKey pt = .ok (h, hb, blks))
    (hnc : ∀ j, j < i → Signcrypt.keyIdentifier P (Signcrypt.derivedKeyFromBoxKeys P (P.boxPub eph) sk) j ≠
        Decrypt.kidOf (h.receivers.getD j default)) :
    Signcrypt.openAll P (faithfulKeyring P [sk]) none (.ok hb h) ⟨blks.map some, .eof⟩ =
      .ok (sender.map P.sigPub, pt) := by
  have hplan := chunkPlan_valid v2 (.inr rfl) bs hbs pt
  have := sc_roundtrip_box_ring P hP 0 sender rs eph payloadKey (chunkPlan v2 bs pt) hplan.finalLast
    (hplan.emptySole rfl) hpk hsender hblocks [sk] none i hi sk
    List.mem_cons_self hsk h hb blks (scSent_of_sealPackets P bs sender rs eph payloadKey pt h hb blks hseal)
    (ScRingNoCollision.single hsk hnc)
  rwa [chunkPlan_flatten] at this

theorem sc_roundtrip_sym (P : Prims) (hP : P.Lawful) (bs : Nat) (hbs : 0 < bs)
    (sender : Option Bytes) (rs : List Signcrypt.Recipient) (eph payloadKey pt : Bytes)
    (hpk : payloadKey.length = 32)
    (hsender : ∀ s, sender = some s → ¬ ((P.sigPub s).all (· == 0)))
    (hblocks : (chunkPlan v2 bs pt).length < 2 ^ 64 - 1)
    (h : EncHeader) (hb : Bytes) (blks : List SigncryptBlock)
    (hseal : Signcrypt.sealPackets P bs sender rs eph payloadKey pt = .ok (h, hb, blks))
    (f : List Bytes → Except Err (List (Option Bytes))) (keys : List (Option Bytes))
    (hf : f (h.receivers.map Decrypt.kidOf) = .ok keys) (hlen : keys.length = rs.length)
    (htrue : ∀ (j : Nat) (k : Bytes), keys[j]? = some (some k) → ∃ ident, rs[j]? = some (Signcrypt.Recipient.sym k ident))
    (hsome : ∃ (j : Nat) (k : Bytes), keys[j]? = some (some k)) :
    Signcrypt.openAll P (faithfulKeyring P []) (some f) (.ok hb h) ⟨blks.map some, .eof⟩ =
      .ok (sender.map P.sigPub, pt) := by
  have hplan := chunkPlan_valid v2 (.inr rfl) bs hbs pt
  have _ := hblocks
  have := sc_roundtrip_sym_ring P hP 0 sender rs eph payloadKey (chunkPlan v2 bs pt) hplan.finalLast
    (hplan.emptySole rfl) hpk hsender h hb blks
    (scSent_of_sealPackets P bs sender rs eph payloadKey pt h hb blks hseal) [] ScRingForeign.nil f keys hf hlen
    htrue hsome
  rwa [chunkPlan_flatten] at this

theorem sc_no_key (P : Prims) (bs : Nat)
    (sender : Option Bytes) (rs : List Signcrypt.Recipient) (eph payloadKey pt : Bytes)
    (h : EncHeader) (hb : Bytes) (blks : List SigncryptBlock)
    (hseal : Signcrypt.sealPackets P bs sender rs eph payloadKey pt = .ok (h, hb, blks))
    (f : List Bytes → Except Err (List (Option Bytes)))
    (hf : f (h.receivers.map Decrypt.kidOf) = .ok (rs.map (fun _ => none))) :
    Signcrypt.openAll P (faithfulKeyring P []) (some f) (.ok hb h) ⟨blks.map some, .eof⟩ =
      .error .noDecryptionKey := by
  exact (sc_no_key_ring P 0 sender rs eph payloadKey _ h hb blks
    (scSent_of_sealPackets P bs sender rs eph payloadKey pt h hb blks hseal) [] ScRingForeign.nil (some f)
    (fun f' hf' => by
      cases hf'
      exact ⟨_, hf, List.length_map _, fun k hk => by
        obtain ⟨_, _, rfl⟩ := List.mem_map.1 hk
        rfl⟩)).1

end Saltpack.Proofs
