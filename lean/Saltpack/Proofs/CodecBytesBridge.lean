/-
  The BRIDGE between the two readers of the model: on canonical messages
  (header packet ‖ canonical packets — what every model sender emits) the
  spec-shaped reader `Wire.split*` and go-codec's typed decoding `Codec.split*`
  give the SAME header read and the SAME packet stream.  Structural forms
  (`bridge_*`: any header / packets within MessagePack's size limits) and the
  instances for genuine sender output (`bridge_seal_*`).
-/
import Saltpack.Proofs.CodecBytesCanon

namespace Saltpack.Proofs.CodecP
open Saltpack Saltpack.Msgpack Saltpack.Codec Saltpack.Proofs.MsgpackRT Saltpack.Proofs.WireRT

/-! ### the stream level -/

theorem topStruct_nil {σ : Type} (fields : Nat → Nat → List (Field σ)) (zero : σ) :
    topStruct fields zero [] = .error .eof := rfl

theorem topSelfer_nil {σ : Type} (decs : Nat → List (σ → Dec σ)) (zero : σ) :
    topSelfer decs zero [] = .error .eof := rfl

theorem flatMap_encode_len (vals : List Val) : vals.length ≤ (vals.flatMap encode).length := by
  induction vals with
  | nil => simp
  | cons v vs ih =>
    rw [List.flatMap_cons, List.length_append, List.length_cons]
    have := encode_pos v
    omega

theorem codec_blocks_encoded {β : Type} (d : Dec β) (hnil : d [] = .error .eof) :
    ∀ (l : List (Val × β)), (∀ p ∈ l, ∀ rest, d (encode p.1 ++ rest) = .ok (p.2, rest)) →
    ∀ fuel, l.length < fuel →
      Codec.blocks d fuel ((l.map (·.1)).flatMap encode) = .ok ⟨l.map (fun p => some p.2), .eof⟩
  | [], _, fuel, hf => by
    obtain ⟨f, rfl⟩ : ∃ f, fuel = f + 1 := ⟨fuel - 1, by simp at hf; omega⟩
    simp [Codec.blocks, hnil]
  | p :: l, hp, fuel, hf => by
    obtain ⟨f, rfl⟩ : ∃ f, fuel = f + 1 := ⟨fuel - 1, by omega⟩
    have h1 := hp p (by simp) ((l.map (·.1)).flatMap encode)
    have ih := codec_blocks_encoded d hnil l (fun q hq => hp q (by simp [hq])) f (by simp at hf; omega)
    rw [List.map_cons, List.flatMap_cons, Codec.blocks]
    simp only [h1, ih, List.map_cons]

theorem codec_split_encoded {η β : Type} (decH : Dec η) (decB : η → Option (Dec β)) (hb : Bytes)
    (hl : hb.length < 2 ^ 32) (h : η) (r0 : Bytes) (hd : decH hb = .ok (h, r0))
    (d : Dec β) (hdB : decB h = some d) (hnil : d [] = .error .eof)
    (l : List (Val × β)) (hp : ∀ p ∈ l, ∀ rest, d (encode p.1 ++ rest) = .ok (p.2, rest)) :
    Codec.split decH decB (headerPacket hb ++ (l.map (·.1)).flatMap encode) =
      .ok (.ok hb h, ⟨l.map (fun p => some p.2), .eof⟩) := by
  have hfuel : l.length < ((l.map (·.1)).flatMap encode).length + 1 := by
    have := flatMap_encode_len (l.map (·.1))
    rw [List.length_map] at this
    omega
  rw [Codec.split, readHeader_headerPacket decH hb hl h r0 hd]
  simp only [hdB, codec_blocks_encoded d hnil l hp _ hfuel]

/-! ### signcryption -/

/-- size limits of an encryption-family header (MessagePack's 32-bit lengths, 64-bit signed integers) -/
structure EncHeaderSized (h : EncHeader) : Prop where
  fmt : h.formatName.length < 2 ^ 32
  major : -(2 ^ 63 : Int) ≤ h.version.major ∧ h.version.major < (2 ^ 63 : Int)
  minor : -(2 ^ 63 : Int) ≤ h.version.minor ∧ h.version.minor < (2 ^ 63 : Int)
  typ : -(2 ^ 63 : Int) ≤ h.typ ∧ h.typ < (2 ^ 63 : Int)
  eph : h.ephemeral.length < 2 ^ 32
  ssb : h.senderSecretbox.length < 2 ^ 32
  rlen : h.receivers.length < 2 ^ 32
  rs : ∀ rk ∈ h.receivers, (∀ k, rk.kid = some k → k.length < 2 ^ 32) ∧ rk.box.length < 2 ^ 32
  bytes : (encode h.toVal).length < 2 ^ 32

theorem topExtras_nil : TopExtras [] := ⟨by simp, by rw [depthList_nil]; omega⟩
theorem selfExtras_nil : SelfExtras [] := ⟨by simp, by rw [depthList_nil]; omega⟩

theorem EncHeaderSized.wf {h : EncHeader} (s : EncHeaderSized h) : ValWF h.toVal :=
  encHeader_wf h s.fmt s.eph s.ssb s.rlen (fun r hr => ⟨(s.rs r hr).2, (s.rs r hr).1⟩)
    ⟨s.major.1, by have := s.major.2; omega⟩ ⟨s.minor.1, by have := s.minor.2; omega⟩
    ⟨s.typ.1, by have := s.typ.2; omega⟩

theorem EncHeaderSized.dec {h : EncHeader} (s : EncHeaderSized h) : decEncHeader (encode h.toVal) = .ok (h, []) := by
  have := decEncHeader_encode h s.fmt s.major s.minor s.typ s.eph s.ssb s.rlen s.rs [] topExtras_nil (by decide) []
  rw [List.append_nil, List.append_nil] at this
  exact this

theorem bridge_signcrypt (h : EncHeader) (s : EncHeaderSized h) (blks : List SigncryptBlock)
    (hct : ∀ b ∈ blks, b.ct.length < 2 ^ 32) :
    Wire.splitSigncrypt (headerPacket (encode h.toVal) ++ Signcrypt.encodeBlocks blks) =
      .ok (.ok (encode h.toVal) h, ⟨blks.map some, .eof⟩) ∧
    Codec.splitSigncrypt (headerPacket (encode h.toVal) ++ Signcrypt.encodeBlocks blks) =
      .ok (.ok (encode h.toVal) h, ⟨blks.map some, .eof⟩) := by
  rw [sc_body]
  constructor
  · unfold Wire.splitSigncrypt
    refine split_encoded viewEncHeader (fun _ => viewSigncryptBlock) h.toVal s.wf h (viewEncHeader_toVal h) s.bytes _ ?_
      blks (sc_views blks)
    intro x hx
    rw [List.mem_map] at hx
    obtain ⟨b, hb', rfl⟩ := hx
    exact .arr _ (of_decide_eq_true rfl) (wfAll_cons (.bin _ (hct b hb')) (wfAll_cons (.bool _) wfAll_nil))
  · have := codec_split_encoded decEncHeader (fun _ => some decSigncryptBlock) (encode h.toVal) s.bytes h [] s.dec
      decSigncryptBlock rfl (topStruct_nil _ _) (blks.map (fun b => (signcryptBlockVal b.ct b.final, b))) (by
        intro p hp rest
        rw [List.mem_map] at hp
        obtain ⟨b, hb', rfl⟩ := hp
        exact decSigncryptBlock_encode b.ct (hct b hb') b.final [] topExtras_nil (by decide) rest)
    simp only [List.map_map, Function.comp_def] at this
    exact this

/-! ### attached signatures -/

structure SigHeaderSized (h : SigHeader) : Prop where
  fmt : h.formatName.length < 2 ^ 32
  major : -(2 ^ 63 : Int) ≤ h.version.major ∧ h.version.major < (2 ^ 63 : Int)
  minor : -(2 ^ 63 : Int) ≤ h.version.minor ∧ h.version.minor < (2 ^ 63 : Int)
  typ : -(2 ^ 63 : Int) ≤ h.typ ∧ h.typ < (2 ^ 63 : Int)
  pk : h.senderPublic.length < 2 ^ 32
  nonce : h.nonce.length < 2 ^ 32
  bytes : (encode h.toVal).length < 2 ^ 32

theorem SigHeaderSized.wf {h : SigHeader} (s : SigHeaderSized h) : ValWF h.toVal :=
  sigHeader_wf h s.fmt s.pk s.nonce ⟨s.major.1, by have := s.major.2; omega⟩ ⟨s.minor.1, by have := s.minor.2; omega⟩
    ⟨s.typ.1, by have := s.typ.2; omega⟩

theorem SigHeaderSized.dec {h : SigHeader} (s : SigHeaderSized h) : decSigHeader (encode h.toVal) = .ok (h, []) := by
  have := decSigHeader_encode h s.fmt s.major s.minor s.typ s.pk s.nonce [] topExtras_nil (by decide) []
  rw [List.append_nil, List.append_nil] at this
  exact this

theorem decSigBlock_val (v : Version) (hv : v = v1 ∨ v = v2) (b : SigBlock) (hs : b.sig.length < 2 ^ 32)
    (hc : b.chunk.length < 2 ^ 32) (val : Val) (hval : sigBlockVal v b.sig b.chunk b.final = .ok val) (rest : Bytes) :
    decSigBlock v.major (encode val ++ rest) = .ok (sigAsRead v b, rest) := by
  rcases hv with rfl | rfl
  · have : val = .arr ([.bin b.sig, .bin b.chunk] ++ []) := by
      simp [sigBlockVal] at hval; exact hval.symm
    subst this
    have hd := decSigBlockV1_encode b.sig b.chunk hs hc [] topExtras_nil (by decide) rest
    simpa [decSigBlock, v1, sigAsRead] using hd
  · have : val = .arr ([.bool b.final, .bin b.sig, .bin b.chunk] ++ []) := by
      simp [sigBlockVal, v1, v2] at hval; exact hval.symm
    subst this
    have hd := decSigBlockV2_encode b.final b.sig b.chunk hs hc [] selfExtras_nil (by decide) rest
    simpa [decSigBlock, v2, sigAsRead] using hd

theorem sig_body_pairs (v : Version) (hv : v = v1 ∨ v = v2) :
    ∀ (blks : List SigBlock) (body : Bytes), (∀ b ∈ blks, b.sig.length < 2 ^ 32 ∧ b.chunk.length < 2 ^ 32) →
      Sign.encodeBlocks v blks = .ok body →
      ∃ l : List (Val × SigBlock), body = (l.map (·.1)).flatMap encode ∧ l.map (·.2) = blks.map (sigAsRead v) ∧
        ∀ p ∈ l, ∀ rest, decSigBlock v.major (encode p.1 ++ rest) = .ok (p.2, rest)
  | [], body, _, h => by
    simp only [Sign.encodeBlocks, Except.ok.injEq] at h
    subst h
    exact ⟨[], rfl, rfl, by simp⟩
  | b :: bl, body, hp, h => by
    simp only [Sign.encodeBlocks] at h
    split at h
    · rename_i val rest hval hrest
      simp only [Except.ok.injEq] at h
      subst h
      obtain ⟨l, h1, h2, h3⟩ := sig_body_pairs v hv bl rest (fun x hx => hp x (by simp [hx])) hrest
      refine ⟨(val, sigAsRead v b) :: l, ?_, ?_, ?_⟩
      · rw [List.map_cons, List.flatMap_cons, h1]
      · rw [List.map_cons, List.map_cons, h2]
      intro p hpm rest'
      rcases List.mem_cons.1 hpm with rfl | hpm
      · exact decSigBlock_val v hv b (hp b (by simp)).1 (hp b (by simp)).2 val hval rest'
      · exact h3 p hpm rest'
    · cases h
    · cases h

theorem decSigBlock_nil (m : Int) : decSigBlock m [] = .error .eof := by
  unfold decSigBlock; split <;> rfl

theorem bridge_sig (h : SigHeader) (s : SigHeaderSized h) (hv : h.version = v1 ∨ h.version = v2)
    (blks : List SigBlock) (hsz : ∀ b ∈ blks, b.sig.length < 2 ^ 32 ∧ b.chunk.length < 2 ^ 32)
    (body : Bytes) (he : Sign.encodeBlocks h.version blks = .ok body) :
    Wire.splitSig (headerPacket (encode h.toVal) ++ body) =
      .ok (.ok (encode h.toVal) h, ⟨(blks.map (sigAsRead h.version)).map some, .eof⟩) ∧
    Codec.splitSig (headerPacket (encode h.toVal) ++ body) =
      .ok (.ok (encode h.toVal) h, ⟨(blks.map (sigAsRead h.version)).map some, .eof⟩) := by
  constructor
  · obtain ⟨vals, hbody, hvals, hviews⟩ := sig_body h.version hv blks body hsz he
    subst hbody
    unfold Wire.splitSig
    exact split_encoded viewSigHeader (fun h => viewSigBlock h.version.major) h.toVal s.wf h (viewSigHeader_toVal h)
      s.bytes vals hvals _ hviews
  · obtain ⟨l, hbody, hl2, hl3⟩ := sig_body_pairs h.version hv blks body hsz he
    subst hbody
    have hmaj : majorOK h.version.major = true := by rcases hv with e | e <;> (rw [e]; decide)
    have := codec_split_encoded decSigHeader
      (fun h => if majorOK h.version.major then some (decSigBlock h.version.major) else none) (encode h.toVal) s.bytes h []
      s.dec (decSigBlock h.version.major) (by simp [hmaj]) (decSigBlock_nil _) l hl3
    rw [← hl2, List.map_map]
    exact this

/-! ### encryption (V1 and V2) -/

/-- `authsVal` is the authenticator element of the packet value the model sender writes -/
theorem encBlockVal_v1 (auths : List Bytes) (ct : Bytes) (f : Bool) :
    encBlockVal v1 auths ct f = .ok (.arr [authsVal auths, .bin ct]) := rfl

theorem encBlockVal_v2 (auths : List Bytes) (ct : Bytes) (f : Bool) :
    encBlockVal v2 auths ct f = .ok (.arr [.bool f, authsVal auths, .bin ct]) := rfl

theorem decEncBlock_val (v : Version) (hv : v = v1 ∨ v = v2) (b : EncBlock) (hal : b.auths.length < 2 ^ 32)
    (h32 : ∀ a ∈ b.auths, a.length = 32) (hc : b.ct.length < 2 ^ 32) (val : Val)
    (hval : encBlockVal v b.auths b.ct b.final = .ok val) (rest : Bytes) :
    decEncBlock v.major (encode val ++ rest) = .ok (encAsRead v b, rest) := by
  rcases hv with rfl | rfl
  · have : val = .arr ([authsVal b.auths, .bin b.ct] ++ []) := by
      rw [encBlockVal_v1] at hval
      injection hval with hval
      exact hval.symm
    subst this
    have hd := decEncBlockV1_encode b.auths hal h32 b.ct hc [] topExtras_nil (by decide) rest
    simpa [decEncBlock, v1, encAsRead] using hd
  · have : val = .arr ([.bool b.final, authsVal b.auths, .bin b.ct] ++ []) := by
      rw [encBlockVal_v2] at hval
      injection hval with hval
      exact hval.symm
    subst this
    have hd := decEncBlockV2_encode b.final b.auths hal h32 b.ct hc [] selfExtras_nil (by decide) rest
    simpa [decEncBlock, v2, encAsRead] using hd

theorem enc_body_pairs (v : Version) (hv : v = v1 ∨ v = v2) :
    ∀ (blks : List EncBlock) (body : Bytes),
      (∀ b ∈ blks, b.auths.length < 2 ^ 32 ∧ (∀ a ∈ b.auths, a.length = 32) ∧ b.ct.length < 2 ^ 32) →
      Encrypt.encodeBlocks v blks = .ok body →
      ∃ l : List (Val × EncBlock), body = (l.map (·.1)).flatMap encode ∧ l.map (·.2) = blks.map (encAsRead v) ∧
        ∀ p ∈ l, ∀ rest, decEncBlock v.major (encode p.1 ++ rest) = .ok (p.2, rest)
  | [], body, _, h => by
    simp only [Encrypt.encodeBlocks, Except.ok.injEq] at h
    subst h
    exact ⟨[], rfl, rfl, by simp⟩
  | b :: bl, body, hp, h => by
    simp only [Encrypt.encodeBlocks] at h
    split at h
    · rename_i val rest hval hrest
      simp only [Except.ok.injEq] at h
      subst h
      obtain ⟨l, h1, h2, h3⟩ := enc_body_pairs v hv bl rest (fun x hx => hp x (by simp [hx])) hrest
      refine ⟨(val, encAsRead v b) :: l, ?_, ?_, ?_⟩
      · rw [List.map_cons, List.flatMap_cons, h1]
      · rw [List.map_cons, List.map_cons, h2]
      intro p hpm rest'
      rcases List.mem_cons.1 hpm with rfl | hpm
      · obtain ⟨a1, a2, a3⟩ := hp b (by simp)
        exact decEncBlock_val v hv b a1 a2 a3 val hval rest'
      · exact h3 p hpm rest'
    · cases h
    · cases h

theorem decEncBlock_nil (m : Int) : decEncBlock m [] = .error .eof := by
  unfold decEncBlock; split <;> rfl

/-- every packet carries a non-empty list of 32-byte authenticators: what `makeEncryptionBlock`
    writes for ≥ 1 recipient -/
theorem bridge_enc (h : EncHeader) (s : EncHeaderSized h) (hv : h.version = v1 ∨ h.version = v2)
    (blks : List EncBlock)
    (hsz : ∀ b ∈ blks, b.auths ≠ [] ∧ b.auths.length < 2 ^ 32 ∧ (∀ a ∈ b.auths, a.length = 32) ∧ b.ct.length < 2 ^ 32)
    (body : Bytes) (he : Encrypt.encodeBlocks h.version blks = .ok body) :
    Wire.splitEnc (headerPacket (encode h.toVal) ++ body) =
      .ok (.ok (encode h.toVal) h, ⟨(blks.map (encAsRead h.version)).map some, .eof⟩) ∧
    Codec.splitEnc (headerPacket (encode h.toVal) ++ body) =
      .ok (.ok (encode h.toVal) h, ⟨(blks.map (encAsRead h.version)).map some, .eof⟩) := by
  constructor
  · obtain ⟨vals, hbody, hvals, hviews⟩ := enc_body h.version hv blks body hsz he
    subst hbody
    unfold Wire.splitEnc
    exact split_encoded viewEncHeader (fun h => viewEncBlock h.version.major) h.toVal s.wf h (viewEncHeader_toVal h)
      s.bytes vals hvals _ hviews
  · obtain ⟨l, hbody, hl2, hl3⟩ := enc_body_pairs h.version hv blks body
      (fun b hb => ⟨(hsz b hb).2.1, (hsz b hb).2.2.1, (hsz b hb).2.2.2⟩) he
    subst hbody
    have hmaj : majorOK h.version.major = true := by rcases hv with e | e <;> (rw [e]; decide)
    have := codec_split_encoded decEncHeader
      (fun h => if majorOK h.version.major then some (decEncBlock h.version.major) else none) (encode h.toVal) s.bytes h []
      s.dec (decEncBlock h.version.major) (by simp [hmaj]) (decEncBlock_nil _) l hl3
    rw [← hl2, List.map_map]
    exact this

/-! ### detached signatures -/

theorem bridge_detached (h : SigHeader) (s : SigHeaderSized h) (sg : Bytes) (hsg : sg.length < 2 ^ 32) :
    Wire.splitDetached (headerPacket (encode h.toVal) ++ encBin sg) = .ok (.ok (encode h.toVal) h, .sig sg) ∧
    Codec.splitDetached (headerPacket (encode h.toVal) ++ encBin sg) = .ok (.ok (encode h.toVal) h, .sig sg) := by
  constructor
  · have hsig : Wire.readBytesObj (encBin sg) = .ok (.ok sg, []) := by
      have := readBytesObj_bin sg [] hsg
      rwa [List.append_nil] at this
    unfold Wire.splitDetached headerPacket
    rw [readBytesObj_bin _ _ s.bytes]
    simp only []
    rw [decodeHeader_encode viewSigHeader _ s.wf _ (viewSigHeader_toVal _)]
    simp only [hsig]
  · have hd := decBytesTop_headerPacket sg hsg []
    rw [headerPacket, List.append_nil] at hd
    rw [Codec.splitDetached, readHeader_headerPacket decSigHeader _ s.bytes h [] s.dec]
    simp only [hd]

/-! ### genuine sender output -/

theorem sigHeaderSized_sender (P : Prims) (hS : WireSizes P) (v : Version) (hv : v = v1 ∨ v = v2) (signer nonce : Bytes)
    (typ : Int) (ht : typ = mtAttached ∨ typ = mtDetached) (hn : nonce.length + 92 < 2 ^ 32) :
    SigHeaderSized (Sign.header v (P.sigPub signer) typ nonce) where
  fmt := by show (8 : Nat) < _; decide
  major := by show -(2 ^ 63 : Int) ≤ v.major ∧ v.major < 2 ^ 63; rcases hv with rfl | rfl <;> decide
  minor := by show -(2 ^ 63 : Int) ≤ v.minor ∧ v.minor < 2 ^ 63; rcases hv with rfl | rfl <;> decide
  typ := by show -(2 ^ 63 : Int) ≤ typ ∧ typ < 2 ^ 63; rcases ht with rfl | rfl <;> decide
  pk := by show (P.sigPub signer).length < _; rw [hS.sigPub_len]; decide
  nonce := by show nonce.length < _; omega
  bytes := (sig_header_facts P hS v hv signer nonce typ ht hn).2


/-- `hsz` is what `enc_header_sizes` / `sc_header_sizes` return -/
theorem encHeaderSized_of_sizes {h : EncHeader} {v : Version} (hv : v = v1 ∨ v = v2) {typ : Int}
    (ht : typ = mtEncryption ∨ typ = mtSigncryption) {n boxLen : Nat} (hn : n < 2 ^ 32) (hbox : boxLen < 2 ^ 32)
    (hsz : h.formatName.length = 8 ∧ h.version = v ∧ h.typ = typ ∧ h.ephemeral.length = 32 ∧
      h.senderSecretbox.length = 48 ∧ h.receivers.length = n ∧
      ∀ r ∈ h.receivers, r.box.length = boxLen ∧ ∀ k, r.kid = some k → k.length ≤ 2 ^ 32 - 1)
    (hbytes : (encode h.toVal).length < 2 ^ 32) : EncHeaderSized h := by
  obtain ⟨hfmt, hver, htyp, heph, hssb, hcount, hrecv⟩ := hsz
  exact {
    fmt := by omega
    major := by rw [hver]; rcases hv with rfl | rfl <;> decide
    minor := by rw [hver]; rcases hv with rfl | rfl <;> decide
    typ := by rw [htyp]; rcases ht with rfl | rfl <;> decide
    eph := by omega
    ssb := by omega
    rlen := by omega
    rs := fun r hr =>
      ⟨fun k hk => by have := (hrecv r hr).2 k hk; omega, by have := (hrecv r hr).1; omega⟩
    bytes := hbytes }

/-- hypotheses: those of `wire_signcrypt` -/
theorem bridge_seal_signcrypt (P : Prims) (hS : WireSizes P) (bs : Nat) (hbs : 0 < bs) (hbs32 : bs + 80 < 2 ^ 32)
    (sender : Option Bytes) (rs : List Signcrypt.Recipient) (eph pk pt : Bytes)
    (hpk : pk.length + 16 < 2 ^ 32)
    (hid : ∀ key ident, Signcrypt.Recipient.sym key ident ∈ rs → ident.length < 2 ^ 32)
    (h : EncHeader) (hb : Bytes) (blks : List SigncryptBlock)
    (hs : Signcrypt.sealPackets P bs sender rs eph pk pt = .ok (h, hb, blks))
    (hhb : hb.length < 2 ^ 32) :
    Wire.splitSigncrypt (headerPacket hb ++ Signcrypt.encodeBlocks blks) = .ok (.ok hb h, ⟨blks.map some, .eof⟩) ∧
    Codec.splitSigncrypt (headerPacket hb ++ Signcrypt.encodeBlocks blks) = .ok (.ok hb h, ⟨blks.map some, .eof⟩) := by
  obtain ⟨hh, hhbe, hbl⟩ := RTSig.sc_sealPackets_inv P bs sender rs eph pk pt h hb blks hs
  have hcount : rs.length < 2 ^ 32 := sc_checkReceivers_count (scSent_of_sealPackets P bs sender rs eph pk pt h hb blks hs).recv
  have hsizes := sc_header_sizes P hS sender eph pk rs (2 ^ 32 - 1) (by decide)
    (fun key ident hm => by have := hid key ident hm; omega)
  rw [← hh] at hsizes
  rw [hhbe] at hhb hbl ⊢
  have hsz := sc_blockStructs_sizes P hS sender pk (P.hash (encode h.toVal)) _ 0 blks hbl
  exact bridge_signcrypt h (encHeaderSized_of_sizes (Or.inr rfl) (Or.inr rfl) hcount (by omega) hsizes hhb) blks
    (fun b hb' => by
    obtain ⟨p, hp, a3⟩ := hsz b hb'
    have := chunkPlan_size v2 bs hbs pt p hp
    omega)

/-- hypotheses: those of `wire_sig` -/
theorem bridge_seal_sig (P : Prims) (hS : WireSizes P) (bs : Nat) (hbs : 0 < bs) (hbs32 : bs < 2 ^ 32)
    (v : Version) (signer nonce msg : Bytes) (hn : nonce.length + 92 < 2 ^ 32)
    (h : SigHeader) (hb : Bytes) (blks : List SigBlock) (body : Bytes)
    (hs : Sign.attachedPackets P bs v signer nonce msg = .ok (h, hb, blks))
    (he : Sign.encodeBlocks v blks = .ok body) :
    Wire.splitSig (headerPacket hb ++ body) = .ok (.ok hb h, ⟨(blks.map (sigAsRead v)).map some, .eof⟩) ∧
    Codec.splitSig (headerPacket hb ++ body) = .ok (.ok hb h, ⟨(blks.map (sigAsRead v)).map some, .eof⟩) := by
  have hv := attachedPackets_version P bs v signer nonce msg _ hs
  obtain ⟨hh, hhbe, hbl⟩ := RTSig.attachedPackets_inv P bs v signer nonce msg h hb blks hs
  have hsz := sig_blockStructs_sizes P hS v signer (P.hash hb) _ 0 blks hbl
  subst hhbe hh
  exact bridge_sig _ (sigHeaderSized_sender P hS v hv signer nonce mtAttached (Or.inl rfl) hn) hv blks (by
    intro b hb'
    obtain ⟨a1, p, hp, a2⟩ := hsz b hb'
    have := chunkPlan_size v bs hbs msg p hp
    rw [a2]
    exact ⟨by omega, by omega⟩) body he

theorem bridge_seal_detached (P : Prims) (hS : WireSizes P) (v : Version) (signer nonce msg out : Bytes)
    (hn : nonce.length + 92 < 2 ^ 32) (hout : Sign.detachedWith P v signer nonce msg = .ok out) :
    ∃ hb h sg, Wire.splitDetached out = .ok (.ok hb h, .sig sg) ∧ Codec.splitDetached out = .ok (.ok hb h, .sig sg) := by
  obtain ⟨hv, e⟩ := seal_bytes_are_packets_detached P v signer nonce msg out hout
  -- `rw`, not `subst`: `out` occurs in `hout`, and substituting there unfolds the sender
  rw [e]
  exact ⟨_, _, _, bridge_detached _ (sigHeaderSized_sender P hS v hv signer nonce mtDetached (Or.inr rfl) hn) _
    (by rw [hS.sig_len]; decide)⟩

/-- hypotheses: those of `wire_enc` -/
theorem bridge_seal_enc (P : Prims) (hS : WireSizes P) (bs : Nat) (hbs : 0 < bs) (hbs32 : bs + 16 < 2 ^ 32)
    (v : Version) (sender : Option Bytes) (rs : List Encrypt.Recipient) (eph pk pt : Bytes)
    (hpk : pk.length + 16 < 2 ^ 32) (hpub : ∀ r ∈ rs, r.pub.length < 2 ^ 32)
    (h : EncHeader) (hb : Bytes) (blks : List EncBlock) (body : Bytes)
    (hs : Encrypt.sealPackets P bs v sender rs eph pk pt = .ok (h, hb, blks))
    (he : Encrypt.encodeBlocks v blks = .ok body)
    (hhb : hb.length < 2 ^ 32) :
    Wire.splitEnc (headerPacket hb ++ body) = .ok (.ok hb h, ⟨(blks.map (encAsRead v)).map some, .eof⟩) ∧
    Codec.splitEnc (headerPacket hb ++ body) = .ok (.ok hb h, ⟨(blks.map (encAsRead v)).map some, .eof⟩) := by
  have hv := sealPackets_version P bs v sender rs eph pk pt _ hs
  have hhbe := sealPackets_hb P bs v sender rs eph pk pt h hb blks hs
  obtain ⟨hcr, hhdr, mks, hm, hbl⟩ := sealPackets_inv P bs v sender rs eph pk pt h hb blks hs
  obtain ⟨hne, _⟩ := checkReceivers_inv hcr
  have hcount := checkReceivers_count hcr
  obtain ⟨mks', hm', hmlen, _⟩ := macKeysSender_spec P hv (sender.getD eph) eph (P.hash hb) rs 0
  rw [hm] at hm'
  cases hm'
  have hsizes := enc_header_sizes P hS hv sender eph pk rs h hhdr (2 ^ 32 - 1)
    (fun r hr => by have := hpub r hr; omega)
  have s2 := hsizes.2.1
  rw [hhbe] at hhb hbl ⊢
  have hsz := enc_blockStructs_sizes P hS v pk (P.hash (encode h.toVal)) mks _ 0 blks hbl
  have hrspos : 0 < rs.length := List.length_pos_iff.mpr hne
  have := bridge_enc h (encHeaderSized_of_sizes hv (Or.inl rfl) hcount (by omega) hsizes hhb) (s2 ▸ hv) blks (by
    intro b hb'
    obtain ⟨a1, a2, p, hp, a3⟩ := hsz b hb'
    have := chunkPlan_size v bs hbs pt p hp
    refine ⟨?_, by omega, a2, by omega⟩
    intro h0
    rw [h0] at a1
    simp at a1
    omega) body (s2 ▸ he)
  rw [s2] at this
  exact this

end Saltpack.Proofs.CodecP
