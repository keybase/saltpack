/-
  The round trips of RingEnc / RingSig for the sender models
  (`Encrypt.sealPackets`, `Signcrypt.sealPackets`) with any ring, and for the
  emitted bytes of `Encrypt.sealWith`.
-/
import Saltpack.Proofs.RingEnc
import Saltpack.Proofs.RingSig
import Saltpack.Proofs.AnyChunking
import Saltpack.Proofs.WireRT

namespace Saltpack.Proofs
open Saltpack Saltpack.Encrypt

/-! ## encryption -/

theorem enc_roundtrip_seal_ring (P : Prims) (hP : P.Lawful) (bs : Nat) (hbs : 0 < bs)
    (v : Version) (hv : v = v1 ∨ v = v2)
    (sender : Option Bytes) (rs : List Recipient) (eph payloadKey pt : Bytes)
    (hpk : payloadKey.length = 32)
    (hnamed : ∀ s, sender = some s → P.boxPub s ≠ P.boxPub eph)
    (hpub : ∀ r ∈ rs, r.hidden = false → r.pub ≠ [])
    (sks : List Bytes) (i : Nat) (hi : i < rs.length) (sk : Bytes) (hmem : sk ∈ sks)
    (hsk : (rs.getD i default).pub = P.boxPub sk)
    (hns : RingNoSpuriousOpen P v eph payloadKey rs sks)
    (h : EncHeader) (hb : Bytes) (blks : List EncBlock)
    (hseal : sealPackets P bs v sender rs eph payloadKey pt = .ok (h, hb, blks)) :
    ∃ i' sk', i' < rs.length ∧ sk' ∈ sks ∧ (rs.getD i' default).pub = P.boxPub sk' ∧
      Decrypt.openAll P knownMajor (faithfulKeyring P sks) (.ok hb h) ⟨blks.map some, .eof⟩ =
        .ok (mkiOf P sender rs eph i' sk', pt) := by
  have hplan := chunkPlan_valid v hv bs hbs pt
  have := enc_roundtrip_ring P hP v hv 0 sender rs eph payloadKey (chunkPlan v bs pt) hplan.finalLast hplan.empty_v1
    hplan.emptySole hpk hnamed hpub sks i hi sk hmem hsk hns h hb blks
    (encSent_of_sealPackets P bs hv sender rs eph payloadKey pt h hb blks hseal)
  rwa [chunkPlan_flatten] at this

theorem enc_roundtrip_bytes_ring (P : Prims) (hP : P.Lawful) (bs : Nat) (hbs : 0 < bs) (hbs32 : bs + 16 < 2 ^ 32)
    (v : Version) (hv : v = v1 ∨ v = v2)
    (sender : Option Bytes) (rs : List Recipient) (eph payloadKey pt : Bytes)
    (hpk : payloadKey.length = 32)
    (hnamed : ∀ s, sender = some s → P.boxPub s ≠ P.boxPub eph)
    (hpub : ∀ r ∈ rs, r.hidden = false → r.pub ≠ [])
    (sks : List Bytes) (i : Nat) (hi : i < rs.length) (sk : Bytes) (hmem : sk ∈ sks)
    (hsk : (rs.getD i default).pub = P.boxPub sk)
    (hns : RingNoSpuriousOpen P v eph payloadKey rs sks)
    (L : Nat) (hL : ∀ r ∈ rs, r.pub.length ≤ L) (hsmall : 145 + rs.length * (L + 63) < 2 ^ 32)
    (msg : Bytes) (hmsg : sealWith P bs v sender rs eph payloadKey pt = .ok msg) :
    ∃ hr ps, Wire.splitEnc msg = .ok (hr, ps) ∧
      ∃ i' sk', i' < rs.length ∧ sk' ∈ sks ∧ (rs.getD i' default).pub = P.boxPub sk' ∧
        Decrypt.openAll P knownMajor (faithfulKeyring P sks) hr ps = .ok (mkiOf P sender rs eph i' sk', pt) := by
  obtain ⟨h, hb, blks, hs, hver, hsplit⟩ := WireRT.enc_bytes_split P hP bs hbs hbs32 v hv sender rs eph payloadKey pt hpk
    L hL hsmall msg hmsg
  refine ⟨_, _, hsplit, ?_⟩
  rw [← hver, WireRT.openAll_asRead]
  exact enc_roundtrip_seal_ring P hP bs hbs v hv sender rs eph payloadKey pt hpk hnamed hpub sks i hi sk hmem hsk
    hns h hb blks hs

/-! ## signcryption -/

theorem sc_roundtrip_box_seal_ring (P : Prims) (hP : P.Lawful) (bs : Nat) (hbs : 0 < bs)
    (sender : Option Bytes) (rs : List Signcrypt.Recipient) (eph payloadKey pt : Bytes)
    (hpk : payloadKey.length = 32)
    (hsender : ∀ s, sender = some s → ¬ ((P.sigPub s).all (· == 0)))
    (hblocks : (chunkPlan v2 bs pt).length < 2 ^ 64 - 1)
    (sks : List Bytes) (res : Signcrypt.Resolver)
    (i : Nat) (hi : i < rs.length) (sk : Bytes) (hmem : sk ∈ sks) (hsk : rs.getD i default = .box (P.boxPub sk))
    (h : EncHeader) (hb : Bytes) (blks : List SigncryptBlock)
    (hseal : Signcrypt.sealPackets P bs sender rs eph payloadKey pt = .ok (h, hb, blks))
    (hnc : ScRingNoCollision P eph rs h sks i) :
    Signcrypt.openAll P (faithfulKeyring P sks) res (.ok hb h) ⟨blks.map some, .eof⟩ =
      .ok (sender.map P.sigPub, pt) := by
  have hplan := chunkPlan_valid v2 (Or.inr rfl) bs hbs pt
  have := sc_roundtrip_box_ring P hP 0 sender rs eph payloadKey (chunkPlan v2 bs pt) hplan.finalLast
    (hplan.emptySole rfl) hpk hsender hblocks sks res i hi sk hmem hsk h hb blks
    (scSent_of_sealPackets P bs sender rs eph payloadKey pt h hb blks hseal) hnc
  rwa [chunkPlan_flatten] at this

theorem sc_roundtrip_sym_seal_ring (P : Prims) (hP : P.Lawful) (bs : Nat) (hbs : 0 < bs)
    (sender : Option Bytes) (rs : List Signcrypt.Recipient) (eph payloadKey pt : Bytes)
    (hpk : payloadKey.length = 32)
    (hsender : ∀ s, sender = some s → ¬ ((P.sigPub s).all (· == 0)))
    (hblocks : (chunkPlan v2 bs pt).length < 2 ^ 64 - 1)
    (h : EncHeader) (hb : Bytes) (blks : List SigncryptBlock)
    (hseal : Signcrypt.sealPackets P bs sender rs eph payloadKey pt = .ok (h, hb, blks))
    (sks : List Bytes) (hfor : ScRingForeign P eph h sks)
    (f : List Bytes → Except Err (List (Option Bytes))) (keys : List (Option Bytes))
    (hf : f (h.receivers.map Decrypt.kidOf) = .ok keys) (hlen : keys.length = rs.length)
    (htrue : ∀ (j : Nat) (k : Bytes), keys[j]? = some (some k) → ∃ ident, rs[j]? = some (Signcrypt.Recipient.sym k ident))
    (hsome : ∃ (j : Nat) (k : Bytes), keys[j]? = some (some k)) :
    Signcrypt.openAll P (faithfulKeyring P sks) (some f) (.ok hb h) ⟨blks.map some, .eof⟩ =
      .ok (sender.map P.sigPub, pt) := by
  have hplan := chunkPlan_valid v2 (Or.inr rfl) bs hbs pt
  have _ := hblocks
  have := sc_roundtrip_sym_ring P hP 0 sender rs eph payloadKey (chunkPlan v2 bs pt) hplan.finalLast
    (hplan.emptySole rfl) hpk hsender h hb blks
    (scSent_of_sealPackets P bs sender rs eph payloadKey pt h hb blks hseal) sks hfor f keys hf hlen htrue hsome
  rwa [chunkPlan_flatten] at this

end Saltpack.Proofs
