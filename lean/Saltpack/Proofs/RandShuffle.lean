/-
  Proofs about the Fisher–Yates model (`swap`, `shuffleLoop`, `shuffle`):
  the output is a permutation, and legal draw vectors correspond bijectively
  to arrangements.
-/
import Saltpack.Model.Rand

namespace Saltpack.Proofs.RandShuffle
open Saltpack Saltpack.Rand

/-! ### `swap` -/

theorem swap_eq {α : Type} (l : List α) (i j : Nat) (hi : i < l.length) (hj : j < l.length) :
    swap l i j = (l.set i l[j]).set j l[i] := by
  unfold swap
  rw [List.getElem?_eq_getElem hi, List.getElem?_eq_getElem hj]

theorem length_swap {α : Type} (l : List α) (i j : Nat) : (swap l i j).length = l.length := by
  unfold swap
  split
  · simp only [List.length_set]
  · rfl

theorem getElem?_swap_of_ne {α : Type} (l : List α) (i j m : Nat) (hi : m ≠ i) (hj : m ≠ j) :
    (swap l i j)[m]? = l[m]? := by
  unfold swap
  split
  · rw [List.getElem?_set_ne (Ne.symm hj), List.getElem?_set_ne (Ne.symm hi)]
  · rfl

theorem getElem?_swap_left {α : Type} (l : List α) (i j : Nat)
    (hi : i < l.length) (hj : j < l.length) : (swap l i j)[i]? = l[j]? := by
  rw [swap_eq l i j hi hj, List.getElem?_eq_getElem hj]
  by_cases h : j = i
  · subst h
    rw [List.getElem?_set_self (by simpa using hi)]
  · rw [List.getElem?_set_ne h, List.getElem?_set_self hi]

theorem take_swap {α : Type} (l : List α) (i j n : Nat) (hi : i < n) (hj : j < n) :
    (swap l i j).take n = swap (l.take n) i j := by
  unfold swap
  rw [List.getElem?_take, List.getElem?_take, if_pos hi, if_pos hj]
  split
  · simp only [List.take_set]
  · rfl

theorem drop_swap {α : Type} (l : List α) (i j n : Nat) (hi : i < n) (hj : j < n) :
    (swap l i j).drop n = l.drop n := by
  unfold swap
  split
  · rw [List.drop_set, if_pos hj, List.drop_set, if_pos hi]
  · rfl

theorem cons_set_perm {α : Type} (xs : List α) (j : Nat) (x b : α) (h : xs[j]? = some b) :
    (b :: xs.set j x).Perm (x :: xs) := by
  induction xs generalizing j with
  | nil => simp at h
  | cons y ys ih =>
    cases j with
    | zero =>
      simp only [List.getElem?_cons_zero, Option.some.injEq] at h
      subst h
      exact List.Perm.swap _ _ _
    | succ j =>
      simp only [List.getElem?_cons_succ] at h
      simp only [List.set_cons_succ]
      exact (List.Perm.swap y b _).trans (((ih j h).cons y).trans (List.Perm.swap x y _))

theorem swap_perm {α : Type} (l : List α) (i j : Nat) : (swap l i j).Perm l := by
  induction l generalizing i j with
  | nil => unfold swap; simp
  | cons x xs ih =>
    cases i with
    | zero =>
      cases j with
      | zero => simp [swap]
      | succ j =>
        unfold swap
        simp only [List.getElem?_cons_zero, List.getElem?_cons_succ]
        cases h : xs[j]? with
        | none => exact List.Perm.refl _
        | some b =>
          simp only [List.set_cons_zero, List.set_cons_succ]
          exact cons_set_perm xs j x b h
    | succ i =>
      cases j with
      | zero =>
        unfold swap
        simp only [List.getElem?_cons_zero, List.getElem?_cons_succ]
        cases h : xs[i]? with
        | none => exact List.Perm.refl _
        | some a =>
          simp only [List.set_cons_zero, List.set_cons_succ]
          exact cons_set_perm xs i x a h
      | succ j =>
        have e : swap (x :: xs) (i + 1) (j + 1) = x :: swap xs i j := by
          unfold swap
          simp only [List.getElem?_cons_succ]
          split <;> simp only [List.set_cons_succ]
        rw [e]
        exact (ih i j).cons x

/-! ### `shuffleLoop` -/

theorem length_shuffleLoop {α : Type} (k : Nat) (js : List Nat) (l : List α) :
    (shuffleLoop k js l).length = l.length := by
  induction k generalizing js l with
  | zero => rfl
  | succ k ih =>
    cases js with
    | nil => rfl
    | cons j js =>
      show (shuffleLoop k js (swap l (k + 1) j)).length = l.length
      rw [ih, length_swap]

theorem shuffleLoop_perm {α : Type} (k : Nat) (js : List Nat) (l : List α) :
    (shuffleLoop k js l).Perm l := by
  induction k generalizing js l with
  | zero => exact List.Perm.refl _
  | succ k ih =>
    cases js with
    | nil => exact List.Perm.refl _
    | cons j js =>
      show (shuffleLoop k js (swap l (k + 1) j)).Perm l
      exact (ih js _).trans (swap_perm l (k + 1) j)

theorem getElem?_shuffleLoop_of_gt {α : Type} (k : Nat) (js : List Nat) (l : List α)
    (hv : ValidDraws k js) (m : Nat) (hm : k < m) : (shuffleLoop k js l)[m]? = l[m]? := by
  induction k generalizing js l with
  | zero => rfl
  | succ k ih =>
    cases js with
    | nil => rfl
    | cons j js =>
      obtain ⟨hj, hv'⟩ := hv
      show (shuffleLoop k js (swap l (k + 1) j))[m]? = l[m]?
      rw [ih js _ hv' (Nat.lt_of_succ_lt hm),
        getElem?_swap_of_ne l (k + 1) j m (Nat.ne_of_gt hm) (Nat.ne_of_gt (Nat.lt_of_le_of_lt hj hm))]

/-! ### injectivity -/

theorem shuffleLoop_injective {α : Type} (k : Nat) (l : List α) (hl : l.Nodup)
    (hk : k < l.length) (js js' : List Nat) (h : ValidDraws k js) (h' : ValidDraws k js') :
    shuffleLoop k js l = shuffleLoop k js' l → js = js' := by
  induction k generalizing l js js' with
  | zero =>
    intro _
    have e : js = [] := h
    have e' : js' = [] := h'
    rw [e, e']
  | succ k ih =>
    cases js with
    | nil => exact absurd h (by simp [ValidDraws])
    | cons j js =>
      cases js' with
      | nil => exact absurd h' (by simp [ValidDraws])
      | cons j' js' =>
        obtain ⟨hj, hv⟩ := h
        obtain ⟨hj', hv'⟩ := h'
        intro heq
        change shuffleLoop k js (swap l (k + 1) j) = shuffleLoop k js' (swap l (k + 1) j') at heq
        have hjl : j < l.length := Nat.lt_of_le_of_lt hj hk
        have hjl' : j' < l.length := Nat.lt_of_le_of_lt hj' hk
        -- position `k+1` of the result is `l[j]` resp. `l[j']`
        have e1 := getElem?_shuffleLoop_of_gt k js (swap l (k + 1) j) hv (k + 1) (Nat.lt_succ_self k)
        have e2 := getElem?_shuffleLoop_of_gt k js' (swap l (k + 1) j') hv' (k + 1) (Nat.lt_succ_self k)
        rw [getElem?_swap_left l (k + 1) j hk hjl] at e1
        rw [getElem?_swap_left l (k + 1) j' hk hjl'] at e2
        have e3 : l[j]? = l[j']? := by rw [← e1, ← e2, heq]
        have hjj : j = j' := (List.getElem?_inj hjl hl).mp e3
        subst hjj
        have hnd : (swap l (k + 1) j).Nodup := (swap_perm l (k + 1) j).nodup_iff.mpr hl
        have hlen : k < (swap l (k + 1) j).length := by rw [length_swap]; exact Nat.lt_of_succ_lt hk
        rw [ih (swap l (k + 1) j) hnd hlen js js' hv hv' heq]

/-! ### surjectivity -/

/-- any rearrangement of the first `k+1` positions of `l` (the rest unchanged)
    is produced by `shuffleLoop k` with legal draws -/
theorem shuffleLoop_surjective {α : Type} (k : Nat) (l l' : List α) (hk : k < l.length)
    (hlen : l'.length = l.length)
    (ht : (l'.take (k + 1)).Perm (l.take (k + 1))) (hd : l'.drop (k + 1) = l.drop (k + 1)) :
    ∃ js, ValidDraws k js ∧ shuffleLoop k js l = l' := by
  induction k generalizing l with
  | zero =>
    refine ⟨[], rfl, ?_⟩
    show l = l'
    have h1 : l.take 1 = [l[0]] := by
      rw [List.take_succ_eq_append_getElem hk]; rfl
    rw [h1] at ht
    have h2 : l'.take 1 = [l[0]] := List.perm_singleton.mp ht
    rw [← List.take_append_drop 1 l, ← List.take_append_drop 1 l', h1, h2, hd]
  | succ k ih =>
    have hk' : k + 1 < l'.length := hlen.symm ▸ hk
    -- the element that must end up at position `k+1`
    have hx : l'[k + 1] ∈ l'.take (k + 2) :=
      List.mem_take_iff_getElem.mpr ⟨k + 1, Nat.lt_min.mpr ⟨Nat.lt_succ_self _, hk'⟩, rfl⟩
    obtain ⟨j, hj, hjx⟩ := List.mem_take_iff_getElem.mp (ht.mem_iff.mp hx)
    have hjk : j < k + 2 := (Nat.lt_min.mp hj).1
    have hjl : j < l.length := (Nat.lt_min.mp hj).2
    have hmlen : (swap l (k + 1) j).length = l.length := length_swap _ _ _
    have hm1 : (swap l (k + 1) j)[k + 1]? = some l'[k + 1] := by
      rw [getElem?_swap_left l (k + 1) j hk hjl, List.getElem?_eq_getElem hjl, hjx]
    have hmk : k + 1 < (swap l (k + 1) j).length := hmlen.symm ▸ hk
    have hm1' : (swap l (k + 1) j)[k + 1] = l'[k + 1] := by
      rw [List.getElem?_eq_getElem hmk] at hm1
      exact Option.some.inj hm1
    have hmd : (swap l (k + 1) j).drop (k + 2) = l.drop (k + 2) :=
      drop_swap l (k + 1) j (k + 2) (Nat.lt_succ_self _) hjk
    have hmt : ((swap l (k + 1) j).take (k + 2)).Perm (l.take (k + 2)) := by
      rw [take_swap l (k + 1) j (k + 2) (Nat.lt_succ_self _) hjk]
      exact swap_perm _ _ _
    have hd2 : l'.drop (k + 2) = l.drop (k + 2) := hd
    have hd' : l'.drop (k + 1) = (swap l (k + 1) j).drop (k + 1) := by
      rw [List.drop_eq_getElem_cons hk', List.drop_eq_getElem_cons hmk, hm1', hmd, hd2]
    have ht' : (l'.take (k + 1)).Perm ((swap l (k + 1) j).take (k + 1)) := by
      have p : (l'.take (k + 2)).Perm ((swap l (k + 1) j).take (k + 2)) := ht.trans hmt.symm
      rw [List.take_succ_eq_append_getElem hk', List.take_succ_eq_append_getElem hmk, hm1'] at p
      exact (List.perm_append_right_iff _).mp p
    obtain ⟨js, hv, hs⟩ := ih (swap l (k + 1) j) (Nat.lt_of_succ_lt hmk) (hlen.trans hmlen.symm) ht' hd'
    exact ⟨j :: js, ⟨Nat.le_of_lt_succ hjk, hv⟩, hs⟩

end Saltpack.Proofs.RandShuffle
