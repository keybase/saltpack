/-
  go-codec's typed decoders (Model/Codec.lean) are LOCAL: what a decoder reads
  from the front of `b` it reads, to the same value, from the front of every
  extension `b ++ e`, with any larger fuel (`Sim`).  `Sim` is closed under `pure`,
  `>>=`, `if`, `<$>` and holds of the primitives; the proof for a decoder is the
  term that follows its `do` block; `swallow`/`gen` by induction on the fuel.
  Then `IsSaltpackBinarySlice`: its body `binBody` decoder by decoder, and its walk
  over the two tags.
-/
import Saltpack.Model.Codec
import Saltpack.Proofs.Codec
import Saltpack.Proofs.MsgpackMono
import Saltpack.Proofs.CodecTypes
import Saltpack.Model.Classify

namespace Saltpack.Proofs.CodecMono
open Saltpack Saltpack.Msgpack Saltpack.Codec Saltpack.Proofs.CodecP

/-- `d'` follows `d` onto every extension of the input; `Sim d d` says that `d` is local.  Two decoders, so that
    the second may have more fuel. -/
def Sim {α : Type} (d d' : Dec α) : Prop :=
  ∀ (b : Bytes) (x : α) (r e : Bytes), d b = .ok (x, r) → d' (b ++ e) = .ok (x, r ++ e)

theorem Sim.pure {α : Type} (a : α) : Sim (pure a : Dec α) (pure a) := by
  intro b x r e h
  cases h; rfl

theorem Sim.fail {α : Type} (er : DErr) (d' : Dec α) : Sim (Codec.fail er) d' := nofun

theorem Sim.bad {α : Type} (w : String) (d' : Dec α) : Sim (Codec.bad w) d' := Sim.fail _ _

theorem Sim.bind {α β : Type} {x x' : Dec α} {f f' : α → Dec β} (hx : Sim x x') (hf : ∀ a, Sim (f a) (f' a)) :
    Sim (x >>= f) (x' >>= f') := by
  intro b y r e h
  rw [bind_run] at h
  split at h
  · rename_i a r1 hx1
    rw [bind_ok (hx b a r1 e hx1)]
    exact hf a r1 y r e h
  · cases h

theorem Sim.ite {α : Type} {c : Prop} [Decidable c] {a a' b b' : Dec α} (h1 : Sim a a') (h2 : Sim b b') :
    Sim (if c then a else b) (if c then a' else b') := by
  split
  · exact h1
  · exact h2

theorem Sim.map {α β : Type} (g : α → β) {x x' : Dec α} (hx : Sim x x') : Sim (g <$> x) (g <$> x') := by
  intro b y r e h
  rw [map_run] at h
  split at h
  · rename_i a r1 hx1
    cases h
    exact map_ok (hx b a _ e hx1)
  · cases h

theorem Sim.mapConst {α β : Type} (a : β) {x x' : Dec α} (hx : Sim x x') :
    Sim (Functor.mapConst a x) (Functor.mapConst a x') :=
  Sim.map (Function.const α a) hx

/-! ### the primitives -/

theorem sim_readn1 : Sim readn1 readn1
  | _ :: _, _, _, _, h => by cases h; rfl

theorem sim_peek1 : Sim peek1 peek1
  | _ :: _, _, _, _, h => by cases h; rfl

theorem sim_tryNil : Sim tryNil tryNil
  | y :: t, _, _, e, h => by
    unfold tryNil at h ⊢
    dsimp only [List.cons_append] at h ⊢
    split at h <;> rename_i hy <;> cases h
    · rw [if_pos hy]
    · rw [if_neg hy]; rfl

theorem sim_liftP {α : Type} {p : Bytes → PRes α}
    (hp : ∀ b x r e, p b = .ok (x, r) → p (b ++ e) = .ok (x, r ++ e)) : Sim (fun b => liftP (p b)) (fun b => liftP (p b)) := by
  intro b x r e h
  dsimp only at h ⊢
  cases hb : p b with
  | error er => rw [hb] at h; cases h
  | ok q => rw [hb] at h; cases h; rw [hp b x r e hb]; rfl

theorem sim_readx (n : Nat) : Sim (readx n) (readx n) := sim_liftP (MpMono.takeN_mono n)

theorem sim_readBE (w : Nat) : Sim (readBE w) (readBE w) := sim_liftP (MpMono.readLen_mono w)

/-! ### the decoders without fuel: each proof follows the decoder's `do` block -/

theorem sim_lenBytes (c : Nat) : Sim (lenBytes c) (lenBytes c) :=
  .ite (sim_readBE 1) <| .ite (sim_readBE 2) <| .ite (sim_readBE 4) (.pure _)

theorem sim_lenArr (c : Nat) : Sim (lenArr c) (lenArr c) := .ite (sim_readBE 2) <| .ite (sim_readBE 4) (.pure _)

theorem sim_lenMap (c : Nat) : Sim (lenMap c) (lenMap c) := .ite (sim_readBE 2) <| .ite (sim_readBE 4) (.pure _)

theorem sim_nonNeg (bits w : Nat) : Sim (nonNeg bits w) (nonNeg bits w) :=
  .bind (sim_readBE w) fun _ => .ite (.pure _) (.bad _ _)

theorem sim_readInt (f : Nat → Int) (w : Nat) : Sim (readInt f w) (readInt f w) := .bind (sim_readBE w) fun _ => .pure _

theorem sim_readArrayStart : Sim readArrayStart readArrayStart := .bind sim_readn1 fun _ => sim_lenArr _

theorem sim_readMapStart : Sim readMapStart readMapStart := .bind sim_readn1 fun _ => sim_lenMap _

theorem sim_decodeUint64 : Sim decodeUint64 decodeUint64 :=
  .bind sim_readn1 fun _ =>
    .ite (sim_readBE 1) <| .ite (sim_readBE 2) <| .ite (sim_readBE 4) <| .ite (sim_readBE 8) <|
    .ite (sim_nonNeg 8 1) <| .ite (sim_nonNeg 16 2) <| .ite (sim_nonNeg 32 4) <| .ite (sim_nonNeg 64 8) <|
    .ite (.pure _) <| .ite (.bad _ _) (.bad _ _)

theorem sim_decodeInt64 : Sim decodeInt64 decodeInt64 :=
  .bind sim_readn1 fun _ =>
    .ite (sim_readInt _ 1) <| .ite (sim_readInt _ 2) <| .ite (sim_readInt _ 4) <| .ite (sim_readInt _ 8) <|
    .ite (sim_readInt _ 1) <| .ite (sim_readInt _ 2) <| .ite (sim_readInt _ 4) <| .ite (sim_readInt _ 8) <|
    .ite (.pure _) <| .ite (.pure _) (.bad _ _)

theorem sim_decodeBool : Sim decodeBool decodeBool :=
  .bind sim_readn1 fun _ => .ite (.pure _) <| .ite (.pure _) (.bad _ _)

theorem sim_u8elem : Sim u8elem u8elem :=
  .bind sim_tryNil fun _ => .ite (.pure _) <| .bind sim_decodeUint64 fun _ => .ite (.pure _) (.bad _ _)

theorem sim_u8loop : ∀ (n : Nat) (acc : Bytes), Sim (u8loop n acc) (u8loop n acc)
  | 0, _ => .pure _
  | n + 1, _ => .bind sim_u8elem fun _ => sim_u8loop n _

theorem sim_decodeBytes : Sim decodeBytes decodeBytes :=
  .bind sim_peek1 fun bd => by
    cases ctype bd.toNat
    case bytes => exact .bind sim_readn1 fun _ => .bind (sim_lenBytes _) fun n => sim_readx n
    case array => exact .bind sim_readArrayStart fun n => sim_u8loop n []
    all_goals exact .bad _ _

theorem sim_decBytesTop : Sim decBytesTop decBytesTop := .bind sim_tryNil fun _ => .ite (.pure _) sim_decodeBytes

theorem sim_decodeFloat64 : Sim decodeFloat64 decodeFloat64 :=
  .bind sim_peek1 fun _ =>
    .ite (.bind sim_readn1 fun _ => .bind (sim_readx 4) fun _ => .pure _) <|
    .ite (.bind sim_readn1 fun _ => .bind (sim_readx 8) fun _ => .pure _) <|
    .bind sim_decodeInt64 fun _ => .pure _

theorem sim_extLen (c : Nat) : Sim (extLen c) (extLen c) :=
  .ite (.pure _) <| .ite (.pure _) <| .ite (.pure _) <| .ite (.pure _) <| .ite (.pure _) <|
  .ite (sim_readBE 1) <| .ite (sim_readBE 2) (sim_readBE 4)

theorem sim_readKey (f : Nat → GKey) (w : Nat) : Sim (readKey f w) (readKey f w) := .bind (sim_readBE w) fun _ => .pure _

theorem sim_nakedScalar (c : Nat) : Sim (nakedScalar c) (nakedScalar c) :=
  .ite (.pure _) <| .ite (.pure _) <| .ite (.pure _) <|
  .ite (sim_readKey _ 4) <| .ite (sim_readKey _ 8) <|
  .ite (sim_readKey _ 1) <| .ite (sim_readKey _ 2) <| .ite (sim_readKey _ 4) <| .ite (sim_readKey _ 8) <|
  .ite (sim_readKey _ 1) <| .ite (sim_readKey _ 2) <| .ite (sim_readKey _ 4) <| .ite (sim_readKey _ 8) <|
  .ite (.pure _) <| .ite (.pure _) (.pure _)

theorem sim_nakedExt (c : Nat) : Sim (nakedExt c) (nakedExt c) :=
  .bind (sim_extLen c) fun n => .bind sim_readn1 fun _ =>
    .ite (.ite (.bind (sim_readx n) fun _ => .pure _) (.bad _ _)) (.bind (sim_readx n) fun _ => .pure _)

/-! ### the fuel-recursive decoders -/

structure AllSim (f f' : Nat) : Prop where
  gen : ∀ rem, Sim (Codec.gen f rem) (Codec.gen f' rem)
  genArr : ∀ rem n, Sim (Codec.genArr f rem n) (Codec.genArr f' rem n)
  genMap : ∀ rem n keys, Sim (Codec.genMap f rem n keys) (Codec.genMap f' rem n keys)
  swallow : ∀ rem, Sim (Codec.swallow f rem) (Codec.swallow f' rem)
  swallowN : ∀ rem n, Sim (Codec.swallowN f rem n) (Codec.swallowN f' rem n)

theorem AllSim.zero (f' : Nat) : AllSim 0 f' where
  gen _ := by rw [Codec.gen]; exact .fail _ _
  genArr _ _ := by rw [Codec.genArr]; exact .fail _ _
  genMap _ _ _ := by rw [Codec.genMap]; exact .fail _ _
  swallow _ := .fail _ _
  swallowN _ _ := .fail _ _

/-- one more unit of fuel.  `gen`, `genArr`, `genMap` are compiled by well-founded recursion and are opened by
    their equations; `swallow`, `swallowN` (structural) unfold by themselves -/
theorem AllSim.succ {f g : Nat} (ih : AllSim f g) : AllSim (f + 1) (g + 1) where
  gen rem := by
    rw [Codec.gen, Codec.gen]
    exact .ite (.bad _ _) <| .bind sim_readn1 fun bd => .bind (sim_nakedScalar _) fun
      | some _ => .pure _
      | none => by
        dsimp only
        cases ctype bd.toNat
        case bytes => exact .bind (sim_lenBytes _) fun n => .bind (sim_readx n) fun _ => .pure _
        case array => exact .ite (.bad _ _) <| .bind (sim_lenArr _) fun _ => .bind (ih.genArr _ _) fun _ => .pure _
        case map => exact .ite (.bad _ _) <| .bind (sim_lenMap _) fun _ => .bind (ih.genMap _ _ _) fun _ => .pure _
        all_goals exact .ite (.bind (sim_nakedExt _) fun (_, _) =>
          .ite (.bind (.mapConst _ (ih.gen _)) fun _ => .pure _) (.pure _)) (.bad _ _)
  genArr rem
    | 0 => by rw [Codec.genArr, Codec.genArr]; exact .pure _
    | n + 1 => by
      rw [Codec.genArr, Codec.genArr]
      exact .bind sim_tryNil fun _ => .ite (ih.genArr rem n) <| .bind (ih.gen rem) fun _ => ih.genArr rem n
  genMap rem
    | 0, _ => by rw [Codec.genMap, Codec.genMap]; exact .pure _
    | n + 1, keys => by
      rw [Codec.genMap, Codec.genMap]
      refine .bind (ih.gen rem) fun k => .bind sim_tryNil fun _ =>
        .ite (.bad _ _) <| .ite (.fail _ _) <| .ite (ih.genMap _ _ _) ?_
      -- what is stored under `k` so far decides how the value is read
      dsimp only
      split
      · exact .bind (ih.gen rem) fun _ => ih.genMap _ _ _
      · exact .fail _ _
      · refine .ite (.bad _ _) ?_
        split
        · exact .bind sim_decodeInt64 fun _ => ih.genMap _ _ _
        · exact .bind sim_decodeUint64 fun _ => ih.genMap _ _ _
        · exact .bind sim_decodeBool fun _ => ih.genMap _ _ _
        · exact .bind sim_decodeFloat64 fun _ => ih.genMap _ _ _
  swallow rem :=
    .ite (.bad _ _) <| .bind sim_tryNil fun _ => .ite (.pure _) <| .bind sim_peek1 fun bd => by
      dsimp only
      cases ctype bd.toNat
      case map => exact .bind sim_readMapStart fun _ => ih.swallowN _ _
      case array => exact .bind sim_readArrayStart fun _ => ih.swallowN _ _
      case bytes => exact .bind sim_decodeBytes fun _ => .pure _
      all_goals exact .bind sim_readn1 fun _ => .bind (sim_nakedScalar _) fun
        | some _ => .pure _
        | none => .ite (.bind (sim_nakedExt _) fun (_, _) =>
          .ite (.bind (.mapConst _ (ih.gen _)) fun _ => .pure _) (.pure _)) (.bad _ _)
  swallowN rem
    | 0 => .pure _
    | n + 1 => .bind (ih.swallow rem) fun _ => ih.swallowN rem n

theorem allSim : ∀ (f f' : Nat), f ≤ f' → AllSim f f'
  | 0, f', _ => .zero f'
  | f + 1, g + 1, h => (allSim f g (Nat.le_of_succ_le_succ h)).succ

/-! ### structs -/

/-- a field whose decoder is local -/
def GoodField {σ : Type} (f : Field σ) : Prop := ∀ st, Sim (f.dec st) (f.dec st)

theorem sim_fieldVal {σ : Type} (f : Field σ) (hf : GoodField f) (st : σ) : Sim (fieldVal f st) (fieldVal f st) :=
  .bind sim_tryNil fun _ => .ite (.pure _) (hf st)

theorem sim_structArr {σ : Type} {fu fu' : Nat} (h : fu ≤ fu') (rem : Nat) :
    ∀ (fs : List (Field σ)) (_ : ∀ f ∈ fs, GoodField f) (n : Nat) (st : σ),
      Sim (structArr fu rem fs n st) (structArr fu' rem fs n st)
  | [], _, 0, _ => .pure _
  | _ :: _, _, 0, _ => .pure _
  | [], _, n + 1, _ => .bind ((allSim fu fu' h).swallowN rem (n + 1)) fun _ => .pure _
  | f :: fs, hfs, n + 1, st =>
    .bind (sim_fieldVal f (hfs f List.mem_cons_self) st) fun _ =>
      sim_structArr h rem fs (fun g hg => hfs g (List.mem_cons_of_mem f hg)) n _

theorem sim_structMap {σ : Type} {fu fu' : Nat} (h : fu ≤ fu') (rem : Nat) (fields : List (Field σ))
    (hfs : ∀ f ∈ fields, GoodField f) :
    ∀ (n : Nat) (seen : List Bytes) (st : σ),
      Sim (structMap fu rem fields n seen st) (structMap fu' rem fields n seen st)
  | 0, _, _ => .pure _
  | n + 1, seen, st =>
    .bind sim_decodeBytes fun k => by
      cases hl : lookupField fields k with
      | panic => exact .bad _ _
      | notFound => exact .bind ((allSim fu fu' h).swallow rem) fun _ => sim_structMap h rem fields hfs n seen st
      | found f =>
        exact .ite (.fail _ _) <| .bind (sim_fieldVal f (hfs f (lookupField_mem fields k f hl)) st) fun _ =>
          sim_structMap h rem fields hfs n _ _

theorem sim_kStruct {σ : Type} {fu fu' : Nat} (h : fu ≤ fu') (rem : Nat) (fields : List (Field σ))
    (hfs : ∀ f ∈ fields, GoodField f) (st : σ) :
    Sim (kStruct fu rem fields st) (kStruct fu' rem fields st) :=
  .bind sim_peek1 fun bd => by
    cases ctype bd.toNat
    case map => exact .bind sim_readMapStart fun n => sim_structMap h rem fields hfs n [] st
    case array => exact .bind sim_readArrayStart fun n => sim_structArr h rem fields hfs n st
    all_goals exact .bad _ _

theorem versionFields_good : ∀ f ∈ versionFields, GoodField f := by
  intro f hf
  unfold versionFields at hf
  simp only [List.mem_cons, List.not_mem_nil, or_false] at hf
  rcases hf with rfl | rfl <;> exact fun _ => .bind sim_decodeInt64 fun _ => .pure _

theorem fuelFor_mono (b e : Bytes) : fuelFor b ≤ fuelFor (b ++ e) := by
  unfold fuelFor; rw [List.length_append]; omega


/-! ### the three decode calls of `IsSaltpackBinarySlice` -/

open Saltpack.Classify

theorem decName_ext : Sim decName decName := sim_decBytesTop

theorem decMode_ext : Sim decMode decMode := .bind sim_tryNil fun _ => .ite (.pure _) sim_decodeInt64

/-- locality of `decVersionTop`, written out and not as `Sim`: its fuel `fuelFor b` grows with the input
    (`fuelFor_mono`), so the decoder on `b ++ e` is a different `kStruct` from the one on `b`.  99 is the depth
    `topStruct` leaves after taking one level of go-codec's 100. -/
theorem decVersionTop_ext (b : Bytes) (v : Version) (r e : Bytes) (h : decVersionTop b = .ok (v, r)) :
    decVersionTop (b ++ e) = .ok (v, r ++ e) :=
  Sim.bind sim_tryNil (fun _ => .ite (.pure _) (sim_kStruct (fuelFor_mono b e) 99 versionFields versionFields_good ⟨0, 0⟩))
    b v r e h

theorem step_ok {α : Type} (why : String) (r : Except DErr (α × Bytes)) (k : α → Bytes → Verdict (Int × Version))
    (z : Int × Version) (h : step why r k = .ok z) : ∃ a rest, r = .ok (a, rest) ∧ k a rest = .ok z := by
  unfold step at h
  split at h
  · rename_i a rest; exact ⟨a, rest, rfl, h⟩
  · cases h
  · cases h

theorem step_unmodelled {α : Type} (why : String) (r : Except DErr (α × Bytes)) (k : α → Bytes → Verdict (Int × Version))
    (w : String) (h : step why r k = .unmodelled w) : w = why ∨ ∃ a rest, k a rest = .unmodelled w := by
  unfold step at h
  split at h
  · rename_i a rest; exact Or.inr ⟨a, rest, h⟩
  · cases h; exact Or.inl rfl
  · cases h

theorem step_ne {α : Type} (why : String) (r : Except DErr (α × Bytes)) (k : α → Bytes → Verdict (Int × Version))
    (hk : ∀ a rest, k a rest ≠ .short ∧ k a rest ≠ .eof) : step why r k ≠ .short ∧ step why r k ≠ .eof := by
  unfold step
  split
  · exact hk _ _
  · exact ⟨nofun, nofun⟩
  · exact ⟨nofun, nofun⟩

theorem binBody_sound (rest : Bytes) (t : Int) (v : Version) (h : binBody rest = .ok (t, v)) :
    isMode t = true ∧ ∃ r1 r2 r3,
      decName rest = .ok (Gen.c_sp_FormatName, r1) ∧ decVersionTop r1 = .ok (v, r2) ∧ decMode r2 = .ok (t, r3) := by
  unfold binBody at h
  obtain ⟨fn, r1, h1, h⟩ := step_ok _ _ _ _ h
  split at h
  · cases h
  · rename_i hfn
    have hfn' : fn = Gen.c_sp_FormatName := by simpa using hfn
    subst hfn'
    obtain ⟨ver, r2, h2, h⟩ := step_ok _ _ _ _ h
    obtain ⟨t', r3, h3, h⟩ := step_ok _ _ _ _ h
    split at h
    · rename_i hm
      cases h
      exact ⟨hm, r1, r2, r3, h1, h2, h3⟩
    · cases h

theorem binBody_of (rest r1 r2 r3 : Bytes) (t : Int) (v : Version) (hm : isMode t = true)
    (h1 : decName rest = .ok (Gen.c_sp_FormatName, r1)) (h2 : decVersionTop r1 = .ok (v, r2))
    (h3 : decMode r2 = .ok (t, r3)) : binBody rest = .ok (t, v) := by
  unfold binBody step
  rw [h1]
  dsimp only
  rw [if_neg (by simp), h2]
  dsimp only
  rw [h3]
  dsimp only
  rw [if_pos hm]

theorem binBody_ok_stable (rest e : Bytes) (t : Int) (v : Version) (h : binBody rest = .ok (t, v)) :
    binBody (rest ++ e) = .ok (t, v) := by
  obtain ⟨hm, r1, r2, r3, h1, h2, h3⟩ := binBody_sound rest t v h
  exact binBody_of _ _ _ _ t v hm (decName_ext _ _ _ e h1) (decVersionTop_ext _ _ _ e h2) (decMode_ext _ _ _ e h3)

theorem binBody_ne_short (rest : Bytes) : binBody rest ≠ .short ∧ binBody rest ≠ .eof := by
  unfold binBody
  refine step_ne _ _ _ (fun fn r1 => ?_)
  split
  · exact ⟨nofun, nofun⟩
  · refine step_ne _ _ _ (fun ver r2 => step_ne _ _ _ (fun t r3 => ?_))
    split <;> exact ⟨nofun, nofun⟩

theorem binBody_unmodelled (rest : Bytes) (w : String) (h : binBody rest = .unmodelled w) :
    w = "message type shape" ∨ w = "version shape" ∨ w = "format name shape" := by
  unfold binBody at h
  rcases step_unmodelled _ _ _ _ h with rfl | ⟨fn, r1, h⟩
  · exact Or.inr (Or.inr rfl)
  · split at h
    · cases h
    · rcases step_unmodelled _ _ _ _ h with rfl | ⟨ver, r2, h⟩
      · exact Or.inr (Or.inl rfl)
      · rcases step_unmodelled _ _ _ _ h with rfl | ⟨t, r3, h⟩
        · exact Or.inl rfl
        · split at h <;> cases h

theorem isMode_cases (t : Int) (h : isMode t = true) :
    t = mtEncryption ∨ t = mtAttached ∨ t = mtDetached ∨ t = mtSigncryption := by
  unfold isMode at h
  simp only [Bool.or_eq_true, beq_iff_eq] at h
  rcases h with ((h | h) | h) | h <;> simp [h]

theorem isMode_le (t : Nat) (h : isMode (t : Int) = true) : t ≤ 3 := by
  have h0 : mtEncryption = 0 := rfl
  have h1 : mtAttached = 1 := rfl
  have h2 : mtDetached = 2 := rfl
  have h3 : mtSigncryption = 3 := rfl
  rcases isMode_cases _ h with h | h | h | h <;> omega

theorem binBody_correct (ma mi t : Nat) (hma : ma < 128) (hmi : mi < 128) (ht : isMode (t : Int) = true) (tail : Bytes) :
    binBody (encode (.str Gen.c_sp_FormatName) ++ (encode (.arr [.int ma, .int mi]) ++ (encode (.int t) ++ tail))) =
      .ok ((t : Int), ⟨ma, mi⟩) := by
  have ht3 := isMode_le t ht
  refine binBody_of _ (encode (.arr [.int ma, .int mi]) ++ (encode (.int t) ++ tail)) (encode (.int t) ++ tail) tail
    t ⟨ma, mi⟩ ht ?_ ?_ ?_
  · obtain ⟨x, t', e, o⟩ := bytesObj_encStr Gen.c_sp_FormatName (by decide) (encode (.arr [.int ma, .int mi]) ++ (encode (.int t) ++ tail))
    rw [show encode (Val.str Gen.c_sp_FormatName) = encStr Gen.c_sp_FormatName from by rw [encode],
      e, decName, decBytesTop, bind_ok (tryNil_other x t' o.ne)]
    simp only [Bool.false_eq_true, if_false]
    exact o.dec
  · -- `decVersion_encode` with no surplus elements after `[major, minor]`: the empty list is within fuel and depth
    have hex : ExtrasOK [] (fuelFor (encode (.arr [.int ma, .int mi]) ++ (encode (.int t) ++ tail))) 99 := by
      refine ⟨by simp, ?_, ?_⟩
      · rw [MsgpackRT.encodeList_nil]; unfold fuelFor; simp
      · rw [depthList_nil]; omega
    have hv := decVersion_encode _ 99 ma mi ⟨by omega, by omega⟩ ⟨by omega, by omega⟩ [] hex (by simp) ⟨0, 0⟩
      (encode (.int t) ++ tail)
    rw [List.append_nil] at hv
    unfold decVersionTop topStruct
    have hnil : tryNil (encode (.arr [.int ma, .int mi]) ++ (encode (.int t) ++ tail)) =
        .ok (false, encode (.arr [.int ma, .int mi]) ++ (encode (.int t) ++ tail)) := by
      rw [show encode (Val.arr [.int ma, .int mi]) = encArrayHdr 2 ++ encode.encodeList [.int ma, .int mi] from by
        rw [encode]; rfl, List.append_assoc]
      exact tryNil_arr _ (by decide) _
    show (tryNil >>= fun c => if c = true then pure (⟨0, 0⟩ : Version) else kStruct _ 99 versionFields ⟨0, 0⟩) _ = _
    rw [bind_ok hnil]
    simp only [Bool.false_eq_true, if_false]
    exact hv
  · obtain ⟨x, t', e, o⟩ := intObj_encInt (t : Int) (by omega) (by omega) tail
    rw [show encode (Val.int (t : Int)) = encInt (t : Int) from by rw [encode],
      e, decMode, bind_ok (tryNil_other x t' o.ne)]
    simp only [Bool.false_eq_true, if_false]
    exact o.dec

/-! ### the tag walk of `IsSaltpackBinarySlice` -/

theorem minLen_eq : minLen = 23 := by decide

/-- bytes to skip for the outer bin tag `t0`: the local `skip?` of `Classify.binarySlice`, letter for letter -/
def binSkip (t0 : Nat) : Option Nat :=
  if t0 = 0xc4 then some 2 else if t0 = 0xc5 then some 3 else if t0 = 0xc6 then some 5 else none

/-- bytes to skip for the array tag `a`: its local `askip?`, letter for letter (`binarySlice_eq` is by `rfl`) -/
def arrSkip (a : Nat) : Option Nat :=
  if 0x93 ≤ a ∧ a ≤ 0x9f then some 1 else if a = 0xdc then some 3 else if a = 0xdd then some 5 else none

-- 23 is `minLen` (`minLen_eq`), written as a numeral so that `omega` sees it
theorem binarySlice_eq (b : Bytes) : binarySlice b =
    if b.length < 23 then .short
    else match binSkip (b.getD 0 0).toNat with
      | none => .notSaltpack
      | some skip => match arrSkip (b.getD skip 0).toNat with
        | none => .notSaltpack
        | some askip => binBody (b.drop (skip + askip)) := rfl

theorem getD_append_lt (b e : Bytes) (i : Nat) (h : i < b.length) : (b ++ e).getD i 0 = b.getD i 0 := by
  rw [List.getD_eq_getElem?_getD, List.getD_eq_getElem?_getD, List.getElem?_append_left h]

theorem binSkip_some {t0 skip : Nat} (h : binSkip t0 = some skip) : skip = 2 ∨ skip = 3 ∨ skip = 5 := by
  unfold binSkip at h
  repeat' split at h
  all_goals cases h
  all_goals decide

theorem arrSkip_some {a askip : Nat} (h : arrSkip a = some askip) : askip = 1 ∨ askip = 3 ∨ askip = 5 := by
  unfold arrSkip at h
  repeat' split at h
  all_goals cases h
  all_goals decide

theorem bin_reduce (b : Bytes) (skip askip : Nat) (hlen : 23 ≤ b.length)
    (h0 : binSkip (b.getD 0 0).toNat = some skip) (h1 : arrSkip (b.getD skip 0).toNat = some askip) :
    binarySlice b = binBody (b.drop (skip + askip)) := by
  rw [binarySlice_eq, if_neg (Nat.not_lt.mpr hlen), h0]
  dsimp only
  rw [h1]

theorem bin_walk (b : Bytes) (r : Verdict (Int × Version)) (h : binarySlice b = r) (h1 : r ≠ .short)
    (h2 : r ≠ .notSaltpack) : ∃ skip askip, 23 ≤ b.length ∧ binSkip (b.getD 0 0).toNat = some skip ∧
      arrSkip (b.getD skip 0).toNat = some askip ∧ binBody (b.drop (skip + askip)) = r := by
  rw [binarySlice_eq] at h
  split at h
  · exact absurd h.symm h1
  · split at h
    · exact absurd h.symm h2
    · split at h
      · exact absurd h.symm h2
      · exact ⟨_, _, by omega, ‹_›, ‹_›, h⟩

theorem binarySlice_ok_iff (b : Bytes) (t : Int) (v : Version) :
    binarySlice b = .ok (t, v) ↔ 23 ≤ b.length ∧ ∃ skip askip, binSkip (b.getD 0 0).toNat = some skip ∧
      arrSkip (b.getD skip 0).toNat = some askip ∧ binBody (b.drop (skip + askip)) = .ok (t, v) :=
  ⟨fun h => by
    obtain ⟨skip, askip, hlen, hs, ha, hb⟩ := bin_walk b _ h nofun nofun
    exact ⟨hlen, skip, askip, hs, ha, hb⟩,
   fun ⟨hlen, skip, askip, hs, ha, hb⟩ => (bin_reduce b skip askip hlen hs ha).trans hb⟩

end Saltpack.Proofs.CodecMono
