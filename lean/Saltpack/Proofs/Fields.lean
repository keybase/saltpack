/-
  Which packet fields carry which identities: the key-id column of the recipient
  entries, counting a visible recipient's key in it, and congruence of the
  recipient entries and the sender's MAC keys under recipient lists that agree on
  what the boxes see (`FieldsSameBoxes`).
-/
import Saltpack.Model.Encrypt
import Saltpack.Model.Signcrypt

namespace Saltpack.Proofs
open Saltpack

/-! ## encryption -/

/-- the key id the sender writes for a recipient -/
def fieldsKid (r : Encrypt.Recipient) : Option Bytes := if r.hidden then none else some r.pub

theorem fields_receiverEntries_kids (P : Prims) (v : Version) (eph pk : Bytes) :
    ∀ (rs : List Encrypt.Recipient) (i : Nat) (es : List RecvKeys),
      Encrypt.receiverEntries P v eph pk rs i = .ok es →
      es.map (·.kid) = rs.map (fun r => if r.hidden then none else some r.pub) := by
  intro rs
  induction rs with
  | nil =>
    intro i es h
    simp only [Encrypt.receiverEntries] at h
    cases h
    rfl
  | cons r rs ih =>
    intro i es h
    simp only [Encrypt.receiverEntries] at h
    cases hn : Nonce.payloadKeyBox v i with
    | error e => rw [hn] at h; cases h
    | ok n =>
      cases hr : Encrypt.receiverEntries P v eph pk rs (i + 1) with
      | error e => rw [hn, hr] at h; cases h
      | ok es' =>
        rw [hn, hr] at h
        cases h
        simp only [List.map_cons, ih _ _ hr]

theorem fields_header_receivers (P : Prims) (v : Version) (sender : Option Bytes) (eph pk : Bytes)
    (rs : List Encrypt.Recipient) (h : EncHeader)
    (hh : Encrypt.header P v sender eph pk rs = .ok h) :
    Encrypt.receiverEntries P v eph pk rs 0 = .ok h.receivers ∧
    h.senderSecretbox = P.sbSeal pk Nonce.senderKeySecretBox (P.boxPub (sender.getD eph)) := by
  simp only [Encrypt.header] at hh
  cases hr : Encrypt.receiverEntries P v eph pk rs 0 with
  | error e => rw [hr] at hh; cases hh
  | ok es =>
    rw [hr] at hh
    cases hh
    exact ⟨rfl, rfl⟩

theorem enc_kid_slots (P : Prims) (v : Version) (sender : Option Bytes) (eph pk : Bytes)
    (rs : List Encrypt.Recipient) (h : EncHeader)
    (hh : Encrypt.header P v sender eph pk rs = .ok h) :
    h.receivers.map (·.kid) = rs.map (fun r => if r.hidden then none else some r.pub) :=
  fields_receiverEntries_kids P v eph pk rs 0 h.receivers
    (fields_header_receivers P v sender eph pk rs h hh).1

theorem fields_checkReceivers_nodup (rs : List Encrypt.Recipient)
    (hck : Encrypt.checkReceivers rs = .ok ()) : (rs.map (·.pub)).Nodup := by
  unfold Encrypt.checkReceivers at hck
  split at hck
  · cases hck
  · split at hck
    · cases hck
    · split at hck
      · assumption
      · cases hck

theorem fields_count_absent (p : Bytes) :
    ∀ (rs : List Encrypt.Recipient), p ∉ rs.map (·.pub) →
      rs.countP (fun r' => decide ((if r'.hidden then none else some r'.pub) = some p)) = 0 := by
  intro rs hp
  rw [List.countP_eq_zero]
  intro r' hr'
  simp only [decide_eq_true_eq]
  intro hk
  apply hp
  cases hh : r'.hidden with
  | true => rw [hh] at hk; simp at hk
  | false =>
    rw [hh] at hk
    simp at hk
    exact List.mem_map.mpr ⟨r', hr', hk⟩

theorem fields_count_named (r : Encrypt.Recipient) :
    ∀ (rs : List Encrypt.Recipient), (rs.map (·.pub)).Nodup → r ∈ rs →
      rs.countP (fun r' => decide ((if r'.hidden then none else some r'.pub) = some r.pub))
        = (if r.hidden then 0 else 1) := by
  intro rs
  induction rs with
  | nil => intro _ hr; cases hr
  | cons r0 rs ih =>
    intro hnd hr
    simp only [List.map_cons, List.nodup_cons] at hnd
    obtain ⟨hnot, hnd'⟩ := hnd
    rw [List.countP_cons]
    rcases List.mem_cons.mp hr with rfl | hr'
    · rw [fields_count_absent r.pub rs hnot]
      cases hh : r.hidden <;> simp
    · rw [ih hnd' hr']
      have hne : r0.pub ≠ r.pub := by
        intro he
        apply hnot
        rw [he]
        exact List.mem_map.mpr ⟨r, hr', rfl⟩
      have : decide ((if r0.hidden then none else some r0.pub) = some r.pub) = false := by
        cases hh : r0.hidden <;> simp [hne]
      rw [this]
      simp

theorem fields_macKeysSender_sender (P : Prims) (v : Version) (s s' eph hh : Bytes) :
    ∀ (rs : List Encrypt.Recipient) (i : Nat),
      (∀ r ∈ rs, ∀ n, P.box s r.pub n (zeros 32) = P.box s' r.pub n (zeros 32)) →
      Encrypt.macKeysSender P v s eph hh rs i = Encrypt.macKeysSender P v s' eph hh rs i := by
  intro rs
  induction rs with
  | nil => intro i _; rfl
  | cons r rs ih =>
    intro i hmac
    have h1 : Encrypt.macKeySender P v i s eph r.pub hh = Encrypt.macKeySender P v i s' eph r.pub hh := by
      simp only [Encrypt.macKeySender, macKeySingle, hmac r (List.mem_cons_self ..)]
    simp only [Encrypt.macKeysSender, h1,
      ih (i + 1) (fun r' hr' => hmac r' (List.mem_cons_of_mem _ hr'))]

/-- pointwise relation between two lists (core Lean has no `List.Forall₂`) -/
inductive FieldsForall₂ {α β : Type} (R : α → β → Prop) : List α → List β → Prop
  | nil : FieldsForall₂ R [] []
  | cons {a b l₁ l₂} : R a b → FieldsForall₂ R l₁ l₂ → FieldsForall₂ R (a :: l₁) (b :: l₂)

theorem fields_forall₂_of_zip {α β : Type} (R : α → β → Prop) :
    ∀ (l₁ : List α) (l₂ : List β), l₁.length = l₂.length →
      (∀ a b, (a, b) ∈ l₁.zip l₂ → R a b) → FieldsForall₂ R l₁ l₂ := by
  intro l₁
  induction l₁ with
  | nil =>
    intro l₂ hl _
    cases l₂ with
    | nil => exact .nil
    | cons b l₂ => simp at hl
  | cons a l₁ ih =>
    intro l₂ hl h
    cases l₂ with
    | nil => simp at hl
    | cons b l₂ =>
      refine .cons (h a b (by simp)) (ih l₂ (by simpa using hl) ?_)
      intro a' b' hm
      exact h a' b' (by simp [hm])

/-- the relation of `C19_enc_hidden_noninterference` between recipient lists -/
def FieldsSameBoxes (P : Prims) (sec eph : Bytes) (r r' : Encrypt.Recipient) : Prop :=
  r.hidden = r'.hidden ∧ (r.hidden = false → r.pub = r'.pub) ∧
    (∀ n m, P.box eph r.pub n m = P.box eph r'.pub n m) ∧
    (∀ n m, P.box sec r.pub n m = P.box sec r'.pub n m)

theorem fields_receiverEntries_congr (P : Prims) (v : Version) (sec eph pk : Bytes)
    {rs rs' : List Encrypt.Recipient} (hsame : FieldsForall₂ (FieldsSameBoxes P sec eph) rs rs') :
    ∀ i, Encrypt.receiverEntries P v eph pk rs i = Encrypt.receiverEntries P v eph pk rs' i := by
  induction hsame with
  | nil => intro i; rfl
  | @cons r r' rs rs' hr _ ih =>
    intro i
    obtain ⟨hhid, hvis, hbe, _⟩ := hr
    have hkid : (if r.hidden then none else some r.pub) = (if r'.hidden then none else some r'.pub) := by
      rw [← hhid]
      cases hh : r.hidden with
      | true => rfl
      | false => simp [hvis hh]
    simp only [Encrypt.receiverEntries, ih (i + 1), hkid, hbe]

theorem fields_macKeysSender_congr (P : Prims) (v : Version) (sec eph hh : Bytes)
    {rs rs' : List Encrypt.Recipient} (hsame : FieldsForall₂ (FieldsSameBoxes P sec eph) rs rs') :
    ∀ i, Encrypt.macKeysSender P v sec eph hh rs i = Encrypt.macKeysSender P v sec eph hh rs' i := by
  induction hsame with
  | nil => intro i; rfl
  | @cons r r' rs rs' hr _ ih =>
    intro i
    obtain ⟨_, _, hbe, hbs⟩ := hr
    have h1 : Encrypt.macKeySender P v i sec eph r.pub hh = Encrypt.macKeySender P v i sec eph r'.pub hh := by
      simp only [Encrypt.macKeySender, macKeySingle, hbe, hbs]
    simp only [Encrypt.macKeysSender, h1, ih (i + 1)]

/-! ## signcryption -/

theorem fields_sc_kids (P : Prims) (eph pk : Bytes) :
    ∀ (rs : List Signcrypt.Recipient) (k : Nat),
      (Signcrypt.receiverEntries P eph pk rs k).map (·.kid)
        = (List.zipIdx rs k).map (fun (r, i) => match r with
            | .box pub => some (Signcrypt.keyIdentifier P (Signcrypt.derivedKeyFromBoxKeys P pub eph) i)
            | .sym _ ident => some ident) := by
  intro rs
  induction rs with
  | nil => intro k; rfl
  | cons r rs ih =>
    intro k
    simp only [Signcrypt.receiverEntries, List.zipIdx_cons, List.map_cons, ih (k + 1)]
    cases r <;> rfl

theorem fields_sc_receiverEntries_congr (P : Prims) (eph pk : Bytes)
    {rs rs' : List Signcrypt.Recipient}
    (hsame : FieldsForall₂ (fun r r' => match r, r' with
        | .box p, .box p' => Signcrypt.derivedKeyFromBoxKeys P p eph = Signcrypt.derivedKeyFromBoxKeys P p' eph
        | .sym k i, .sym k' i' => k = k' ∧ i = i'
        | _, _ => False) rs rs') :
    ∀ i, Signcrypt.receiverEntries P eph pk rs i = Signcrypt.receiverEntries P eph pk rs' i := by
  induction hsame with
  | nil => intro i; rfl
  | @cons r r' rs rs' hr _ ih =>
    intro i
    have h1 : Signcrypt.receiverEntry P eph pk i r = Signcrypt.receiverEntry P eph pk i r' := by
      cases r with
      | box p =>
        cases r' with
        | box p' =>
          simp only at hr
          simp only [Signcrypt.receiverEntry, hr]
        | sym k' i' => exact absurd hr (by simp)
      | sym k ident =>
        cases r' with
        | box p' => exact absurd hr (by simp)
        | sym k' i' =>
          simp only at hr
          obtain ⟨rfl, rfl⟩ := hr
          rfl
    simp only [Signcrypt.receiverEntries, h1, ih (i + 1)]

end Saltpack.Proofs
