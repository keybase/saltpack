/-
  `Decrypt.processHeader` as a chain of logged steps.  Each step either fails
  (the chain stops with the log so far) or hands its value to the rest, whose
  log is appended.  What holds of every step — admissible calls, no panic — then
  holds of the chain (`andThen_all`, `andThen_err`), and a successful chain is
  a success of every step (`andThen_inv`).
-/
import Saltpack.Model.Decrypt

namespace Saltpack.Proofs
open Saltpack

section
variable {α β : Type}

/-- run `x`; on success run `f` on its value and append the logs -/
def andThen (x : Decrypt.Logged α) (f : α → Decrypt.Logged β) : Decrypt.Logged β :=
  match x.2 with
  | .error e => (x.1, .error e)
  | .ok a => (x.1 ++ (f a).1, (f a).2)

theorem andThen_error {x : Decrypt.Logged α} {f : α → Decrypt.Logged β} {e : Err} (h : x.2 = .error e) :
    andThen x f = (x.1, .error e) := by
  unfold andThen
  rw [h]

theorem andThen_ok {x : Decrypt.Logged α} {f : α → Decrypt.Logged β} {a : α} (h : x.2 = .ok a) :
    andThen x f = (x.1 ++ (f a).1, (f a).2) := by
  unfold andThen
  rw [h]

theorem andThen_all {p : KeyCall → Prop} {x : Decrypt.Logged α} {f : α → Decrypt.Logged β}
    (hx : ∀ c ∈ x.1, p c) (hf : ∀ a, x.2 = .ok a → ∀ c ∈ (f a).1, p c) :
    ∀ c ∈ (andThen x f).1, p c := by
  cases h : x.2 with
  | error e => rw [andThen_error h]; exact hx
  | ok a =>
    rw [andThen_ok h]
    intro c hc
    rcases List.mem_append.mp hc with hc | hc
    · exact hx c hc
    · exact hf a h c hc

theorem andThen_err {x : Decrypt.Logged α} {f : α → Decrypt.Logged β} {e : Err}
    (he : (andThen x f).2 = .error e) : x.2 = .error e ∨ ∃ a, x.2 = .ok a ∧ (f a).2 = .error e := by
  cases h : x.2 with
  | error e' =>
    rw [andThen_error h] at he
    cases he
    exact Or.inl rfl
  | ok a =>
    rw [andThen_ok h] at he
    exact Or.inr ⟨a, rfl, he⟩

theorem andThen_inv {x : Decrypt.Logged α} {f : α → Decrypt.Logged β} {log : List KeyCall} {b : β}
    (hb : andThen x f = (log, .ok b)) : ∃ a l, x.2 = .ok a ∧ f a = (l, .ok b) ∧ log = x.1 ++ l := by
  cases h : x.2 with
  | error e => rw [andThen_error h] at hb; cases hb
  | ok a =>
    rw [andThen_ok h] at hb
    exact ⟨a, (f a).1, rfl, Prod.ext rfl (congrArg Prod.snd hb : (f a).2 = .ok b), (congrArg Prod.fst hb).symm⟩

theorem andThen_congr {x : Decrypt.Logged α} {f g : α → Decrypt.Logged β}
    (h : ∀ a, x.2 = .ok a → f a = g a) : andThen x f = andThen x g := by
  cases hx : x.2 with
  | error e => rw [andThen_error hx, andThen_error hx]
  | ok a => rw [andThen_ok hx, andThen_ok hx, h a hx]

theorem andThen_pure {x : Except Err α} {f : α → Decrypt.Logged β} {a : α} (h : x = .ok a) :
    andThen ([], x) f = f a := by
  subst h
  rfl

/-- a missing value as the error `e` -/
def orErr (e : Err) : Option α → Except Err α
  | none => .error e
  | some a => .ok a

theorem orErr_ok {e : Err} {o : Option α} {a : α} (h : orErr e o = .ok a) : o = some a := by
  cases o with
  | none => cases h
  | some a' => exact congrArg some (Except.ok.inj h)

end

/-! ## `tryVisible`: every possible result -/

/-- what the unboxed payload key of entry `pos` makes of the search -/
def unboxed (sk : Bytes) (pos : Nat) : Option Bytes → Except Err (Option (Bytes × Bytes × Nat))
  | none => .error .decryptionFailed
  | some pk => if pk.length != 32 then .error .badSymmetricKey else .ok (some (sk, pk, pos))

theorem unboxed_ok {sk sk' pk : Bytes} {pos pos' : Nat} {o : Option Bytes}
    (h : unboxed sk pos o = .ok (some (sk', pk, pos'))) : sk' = sk ∧ pos' = pos ∧ o = some pk ∧ pk.length = 32 := by
  cases o with
  | none => cases h
  | some pk0 =>
    dsimp only [unboxed] at h
    by_cases hl : (pk0.length != 32) = true
    · rw [if_pos hl] at h
      cases h
    · rw [if_neg hl] at h
      cases h
      exact ⟨rfl, rfl, rfl, by simpa using hl⟩

theorem tryVisible_cases (P : Prims) (kr : Keyring) (h : EncHeader) (eph : Bytes) :
    Decrypt.tryVisible P kr h eph = ([], .ok none) ∨
    Decrypt.tryVisible P kr h eph = ([], .error .badLookup) ∨
    ∃ sk i pos, kr.lookupBoxSecretKey ((Decrypt.visibleIndices h.receivers).map
          (fun i => Decrypt.kidOf (h.receivers.getD i default))) = (i, some sk) ∧ 0 ≤ i ∧
      (Decrypt.visibleIndices h.receivers)[i.toNat]? = some pos ∧
      ((∃ e, Nonce.payloadKeyBox h.version pos = .error e ∧ Decrypt.tryVisible P kr h eph = ([], .error e)) ∨
       ∃ nonce, Nonce.payloadKeyBox h.version pos = .ok nonce ∧
         Decrypt.tryVisible P kr h eph =
           ([KeyCall.unbox sk eph nonce (h.receivers.getD pos default).box],
            unboxed sk pos (P.unbox sk eph nonce (h.receivers.getD pos default).box))) := by
  unfold Decrypt.tryVisible
  dsimp (config := { proj := false, iota := false }) only
  generalize hlk : kr.lookupBoxSecretKey ((Decrypt.visibleIndices h.receivers).map
          (fun i => Decrypt.kidOf (h.receivers.getD i default))) = lk
  obtain ⟨i, sk?⟩ := lk
  dsimp only
  cases sk? with
  | none => exact .inl rfl
  | some sk =>
    dsimp only
    by_cases hi : i < 0
    · rw [if_pos hi]
      exact .inl rfl
    · rw [if_neg hi]
      cases hv : (Decrypt.visibleIndices h.receivers)[i.toNat]? with
      | none => exact .inr (.inl rfl)
      | some pos =>
        refine .inr (.inr ⟨sk, i, pos, rfl, Int.not_lt.1 hi, hv, ?_⟩)
        dsimp only
        cases hn : Nonce.payloadKeyBox h.version pos with
        | error e => exact .inl ⟨e, rfl, rfl⟩
        | ok nonce =>
          refine .inr ⟨nonce, rfl, ?_⟩
          dsimp only
          cases P.unbox sk eph nonce (h.receivers.getD pos default).box with
          | none => rfl
          | some pk =>
            dsimp only [unboxed]
            split <;> rfl
/-! ## `tryHiddenOne`, `tryHidden`: one step -/

/-- one step of `tryHiddenOne`: a named entry is skipped; a hidden one is tried
    under the nonce of its index — the walk goes on if the box does not open, and
    ends with the first box that does -/
theorem tryHiddenOne_cons_cases (P : Prims) (v : Version) (sk eph : Bytes) (r : RecvKeys) (i : Nat)
    (rest : List (RecvKeys × Nat)) :
    (Decrypt.isHidden r = false ∧
      Decrypt.tryHiddenOne P v sk eph ((r, i) :: rest) = Decrypt.tryHiddenOne P v sk eph rest) ∨
    (Decrypt.isHidden r = true ∧
      ((∃ e, Nonce.payloadKeyBox v i = .error e ∧
          Decrypt.tryHiddenOne P v sk eph ((r, i) :: rest) = ([], .error e)) ∨
       ∃ nonce, Nonce.payloadKeyBox v i = .ok nonce ∧
         ((P.unbox sk eph nonce r.box = none ∧
            Decrypt.tryHiddenOne P v sk eph ((r, i) :: rest) =
              (KeyCall.sharedUnbox sk eph nonce r.box :: (Decrypt.tryHiddenOne P v sk eph rest).1,
               (Decrypt.tryHiddenOne P v sk eph rest).2)) ∨
          ∃ pk, P.unbox sk eph nonce r.box = some pk ∧
            ((pk.length ≠ 32 ∧ Decrypt.tryHiddenOne P v sk eph ((r, i) :: rest) =
                ([KeyCall.sharedUnbox sk eph nonce r.box], .error .badSymmetricKey)) ∨
             (pk.length = 32 ∧ Decrypt.tryHiddenOne P v sk eph ((r, i) :: rest) =
                ([KeyCall.sharedUnbox sk eph nonce r.box], .ok (some (pk, i)))))))) := by
  rw [Decrypt.tryHiddenOne]
  cases hh : Decrypt.isHidden r with
  | false => exact .inl ⟨rfl, rfl⟩
  | true =>
    refine .inr ⟨rfl, ?_⟩
    rw [if_pos rfl]
    cases hn : Nonce.payloadKeyBox v i with
    | error e => exact .inl ⟨e, rfl, rfl⟩
    | ok nonce =>
      refine .inr ⟨nonce, rfl, ?_⟩
      dsimp only
      cases hu : P.unbox sk eph nonce r.box with
      | none => exact .inl ⟨rfl, rfl⟩
      | some pk =>
        refine .inr ⟨pk, rfl, ?_⟩
        dsimp only
        by_cases hl : pk.length = 32
        · exact .inr ⟨hl, by rw [if_neg (by simp [hl])]⟩
        · exact .inl ⟨hl, by rw [if_pos (by simpa using hl)]⟩
theorem tryHidden_cons_cases (P : Prims) (h : EncHeader) (eph sk : Bytes) (sks : List Bytes) :
    (∃ e, (Decrypt.tryHiddenOne P h.version sk eph h.receivers.zipIdx).2 = .error e ∧
      Decrypt.tryHidden P h eph (sk :: sks) =
        (KeyCall.precompute sk eph :: (Decrypt.tryHiddenOne P h.version sk eph h.receivers.zipIdx).1, .error e)) ∨
    (∃ pk i, (Decrypt.tryHiddenOne P h.version sk eph h.receivers.zipIdx).2 = .ok (some (pk, i)) ∧
      Decrypt.tryHidden P h eph (sk :: sks) =
        (KeyCall.precompute sk eph :: (Decrypt.tryHiddenOne P h.version sk eph h.receivers.zipIdx).1,
         .ok (some (sk, pk, i)))) ∨
    ((Decrypt.tryHiddenOne P h.version sk eph h.receivers.zipIdx).2 = .ok none ∧
      Decrypt.tryHidden P h eph (sk :: sks) =
        ((KeyCall.precompute sk eph :: (Decrypt.tryHiddenOne P h.version sk eph h.receivers.zipIdx).1) ++
           (Decrypt.tryHidden P h eph sks).1, (Decrypt.tryHidden P h eph sks).2)) := by
  rw [Decrypt.tryHidden]
  generalize Decrypt.tryHiddenOne P h.version sk eph h.receivers.zipIdx = one
  obtain ⟨log, res⟩ := one
  rcases res with e | (_ | ⟨pk, i⟩)
  · exact .inl ⟨e, rfl, rfl⟩
  · exact .inr (.inr ⟨rfl, rfl⟩)
  · exact .inr (.inl ⟨pk, i, rfl, rfl⟩)
/-! ## `processHeader` -/

/-- the recipient entry found by name, else the first hidden entry that some
    secret key of the keyring opens.  An entry is `((sk, pk, pos), byTrial)`: the
    secret key that opened it (`r.1.1`), the payload key (`r.1.2.1`), its position
    in the header (`r.1.2.2`), and whether it was found by trial (`r.2`). -/
def findEntry (P : Prims) (kr : Keyring) (h : EncHeader) (eph : Bytes) :
    Option (Bytes × Bytes × Nat) → Decrypt.Logged ((Bytes × Bytes × Nat) × Bool)
  | some r => ([], .ok (r, false))
  | none => andThen (Decrypt.tryHidden P h eph kr.getAllBoxSecretKeys) fun r =>
      ([], (orErr .noDecryptionKey r).map (·, true))

theorem findEntry_ok {P : Prims} {kr : Keyring} {h : EncHeader} {eph : Bytes} {vis : Option (Bytes × Bytes × Nat)}
    {l : List KeyCall} {r : (Bytes × Bytes × Nat) × Bool} (hr : findEntry P kr h eph vis = (l, .ok r)) :
    (vis = some r.1 ∧ r.2 = false ∧ l = []) ∨
    (vis = none ∧ r.2 = true ∧ Decrypt.tryHidden P h eph kr.getAllBoxSecretKeys = (l, .ok (some r.1))) := by
  cases vis with
  | some r' =>
    cases hr
    exact Or.inl ⟨rfl, rfl, rfl⟩
  | none =>
    obtain ⟨o, l', ho, hf, rfl⟩ := andThen_inv hr
    cases o with
    | none => cases hf
    | some r' =>
      cases hf
      exact Or.inr ⟨rfl, rfl, Prod.ext (List.append_nil _).symm ho⟩

/-- the state `processHeader` returns for the entry `r = ((sk, pk, pos), byTrial)` -/
def headerState (hh : Bytes) (h : EncHeader) (r : (Bytes × Bytes × Nat) × Bool)
    (senderKey senderPub mk : Bytes) : Decrypt.State :=
  { version := h.version, payloadKey := r.1.2.1, headerHash := hh, macKey := mk, position := r.1.2.2,
    mki := { senderKey := senderPub, senderIsAnon := h.ephemeral == senderKey, receiverKey := r.1.1,
             receiverIsAnon := r.2,
             namedReceivers := (Decrypt.visibleIndices h.receivers).map
               (fun i => Decrypt.kidOf (h.receivers.getD i default)),
             numAnonReceivers := if r.2 then (h.receivers.filter Decrypt.isHidden).length else 0 } }

theorem processHeader_eq (P : Prims) (valid : Validator) (kr : Keyring) (hh : Bytes) (h : EncHeader) :
    Decrypt.processHeader P valid kr hh h =
      andThen ([], Decrypt.validate valid h) fun _ =>
      andThen ([], orErr .badEphemeralKey (kr.importBoxEphemeralKey h.ephemeral)) fun eph =>
      andThen (Decrypt.tryVisible P kr h eph) fun vis =>
      andThen (findEntry P kr h eph vis) fun r =>
      andThen ([], orErr .badSenderKeySecretbox (P.sbOpen r.1.2.1 Nonce.senderKeySecretBox h.senderSecretbox))
        fun senderKey =>
      andThen ([], if senderKey.length != 32 then .error .badBoxKey else .ok ()) fun _ =>
      andThen ([], orErr .noSenderKey
        (if h.ephemeral == senderKey then some eph else kr.lookupBoxPublicKey senderKey)) fun senderPub =>
      andThen (Decrypt.macKeyReceiver P h.version r.1.2.2 r.1.1 senderPub eph hh) fun mk =>
      ([], .ok (headerState hh h r senderKey senderPub mk)) := by
  unfold Decrypt.processHeader
  cases Decrypt.validate valid h with
  | error e => rfl
  | ok u =>
    cases kr.importBoxEphemeralKey h.ephemeral with
    | none => rfl
    | some eph =>
      rw [andThen_pure (a := u) rfl, andThen_pure (x := orErr _ (some eph)) (a := eph) rfl]
      dsimp only
      generalize Decrypt.tryVisible P kr h eph = tv
      obtain ⟨log1, vis⟩ := tv
      rcases vis with e | (_ | ⟨sk, pk, pos⟩)
      · rfl
      -- no entry by name: the hidden entries; its two failures are closed here
      case' none =>
        rw [andThen_ok (a := none) rfl]
        simp only [findEntry]
        generalize Decrypt.tryHidden P h eph kr.getAllBoxSecretKeys = th
        obtain ⟨log2, hid⟩ := th
        rcases hid with e | (_ | ⟨sk, pk, pos⟩)
        · simp only [andThen]
        · simp only [andThen, orErr, Except.map, List.append_nil]
      -- an entry `(sk, pk, pos)`, found by name or by trial: the rest is the same
      all_goals
        simp only [andThen, findEntry, orErr, Except.map]
        cases P.sbOpen pk Nonce.senderKeySecretBox h.senderSecretbox with
        | none => simp only [List.append_nil]
        | some senderKey =>
          by_cases hl : (senderKey.length != 32) = true
          · simp only [hl, if_true, List.append_nil]
          · simp only [hl, Bool.false_eq_true, if_false]
            generalize (if (h.ephemeral == senderKey) = true then some eph else kr.lookupBoxPublicKey senderKey) = sp
            cases sp with
            | none => simp only [List.append_nil]
            | some senderPub =>
              simp only []
              generalize Decrypt.macKeyReceiver P h.version pos sk senderPub eph hh = mkr
              obtain ⟨log3, mk⟩ := mkr
              cases mk with
              | error e => simp only [List.append_nil, List.nil_append, List.append_assoc]
              | ok mk =>
                simp only [List.append_nil, List.nil_append, List.append_assoc]
                rfl

theorem processHeader_ok {P : Prims} {valid : Validator} {kr : Keyring} {hh : Bytes} {h : EncHeader}
    {log : List KeyCall} {st : Decrypt.State}
    (hok : Decrypt.processHeader P valid kr hh h = (log, .ok st)) :
    ∃ eph vis l1 r l2 senderKey senderPub mk l3,
      Decrypt.validate valid h = .ok () ∧
      st = headerState hh h r senderKey senderPub mk ∧ log = l1 ++ (l2 ++ l3) ∧
      kr.importBoxEphemeralKey h.ephemeral = some eph ∧
      Decrypt.tryVisible P kr h eph = (l1, .ok vis) ∧
      findEntry P kr h eph vis = (l2, .ok r) ∧
      P.sbOpen r.1.2.1 Nonce.senderKeySecretBox h.senderSecretbox = some senderKey ∧
      senderKey.length = 32 ∧
      (if h.ephemeral == senderKey then some eph else kr.lookupBoxPublicKey senderKey) = some senderPub ∧
      Decrypt.macKeyReceiver P h.version r.1.2.2 r.1.1 senderPub eph hh = (l3, .ok mk) := by
  rw [processHeader_eq] at hok
  obtain ⟨_, _, hval, h1, rfl⟩ := andThen_inv hok
  obtain ⟨eph, _, heph, h2, rfl⟩ := andThen_inv h1
  obtain ⟨vis, _, hvis, h3, rfl⟩ := andThen_inv h2
  obtain ⟨r, _, hr, h4, rfl⟩ := andThen_inv h3
  obtain ⟨senderKey, _, hsk, h5, rfl⟩ := andThen_inv h4
  obtain ⟨_, _, hlen, h6, rfl⟩ := andThen_inv h5
  obtain ⟨senderPub, _, hsp, h7, rfl⟩ := andThen_inv h6
  obtain ⟨mk, _, hmk, h8, rfl⟩ := andThen_inv h7
  cases h8
  refine ⟨eph, vis, _, r, _, senderKey, senderPub, mk, _, hval, rfl, ?_, orErr_ok heph, Prod.ext rfl hvis,
    Prod.ext rfl hr, orErr_ok hsk, ?_, orErr_ok hsp, Prod.ext rfl hmk⟩
  · simp only [List.append_nil]
  · by_cases hl : (senderKey.length != 32) = true
    · simp only [hl, if_true] at hlen
      cases hlen
    · simpa using hl

end Saltpack.Proofs
