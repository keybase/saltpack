/-
  BaseX facts for the decoder stream: on a string of alphabet characters the
  strict decoder works block by block (`decS`), `decodePrefix` computes it,
  decoding is compositional at block boundaries, a non-empty input never decodes
  to nothing, and the output is not longer than the input.
-/
import Saltpack.Proofs.Basex

namespace Saltpack.Proofs
open Saltpack Saltpack.Basex

/-- the digit of an alphabet character -/
def dig (e : Enc) (c : UInt8) : Nat := (e.digit? c).getD 0

def AllDig (e : Enc) (s : List UInt8) : Prop := ∀ c ∈ s, (e.digit? c).isSome = true

theorem allDig_nil (e : Enc) : AllDig e [] := by intro c hc; cases hc

theorem allDig_append {e : Enc} {a b : List UInt8} (ha : AllDig e a) (hb : AllDig e b) : AllDig e (a ++ b) := by
  intro c hc
  rcases List.mem_append.mp hc with h | h
  · exact ha c h
  · exact hb c h

theorem allDig_take {e : Enc} {a : List UInt8} (n : Nat) (ha : AllDig e a) : AllDig e (a.take n) :=
  fun c hc => ha c (List.mem_of_mem_take hc)

theorem allDig_drop {e : Enc} {a : List UInt8} (n : Nat) (ha : AllDig e a) : AllDig e (a.drop n) :=
  fun c hc => ha c (List.mem_of_mem_drop hc)

theorem allDig_left {e : Enc} {a b : List UInt8} (h : AllDig e (a ++ b)) : AllDig e a :=
  fun c hc => h c (List.mem_append_left _ hc)

theorem allDig_right {e : Enc} {a b : List UInt8} (h : AllDig e (a ++ b)) : AllDig e b :=
  fun c hc => h c (List.mem_append_right _ hc)

theorem take_ne_nil {α : Type} (s : List α) (n : Nat) (hn : 0 < n) (h0 : s ≠ []) : s.take n ≠ [] := by
  cases s with
  | nil => exact absurd rfl h0
  | cons x xs =>
    cases n with
    | zero => omega
    | succ m => simp

theorem scan_digits (e : Enc) : ∀ (s : List UInt8) (need pos : Nat), AllDig e s →
    scanBlock e need s pos = .ok ((s.take need).map (dig e), s.drop need) := by
  intro s
  induction s with
  | nil => intro need pos _; rw [scanBlock]; simp
  | cons c cs ih =>
    intro need pos h
    cases need with
    | zero => rw [scanBlock_zero]; simp
    | succ n =>
      have hc := h c (by simp)
      have hcs : AllDig e cs := fun x hx => h x (List.mem_cons_of_mem _ hx)
      cases hd : e.digit? c with
      | none => rw [hd] at hc; simp at hc
      | some d =>
        rw [scanBlock, hd]
        simp only
        by_cases hn : n = 0
        · subst hn
          simp [dig, hd]
        · rw [if_neg hn, ih n (pos + 1) hcs]
          simp [dig, hd]

/-- strict decoding of a string of alphabet characters, block by block,
    forgetting which error -/
def decBlocks (e : Enc) : (fuel : Nat) → List UInt8 → Option Bytes
  | 0, _ => some []
  | fuel + 1, s =>
    if s.isEmpty then some []
    else match decodeBlockDigits e ((s.take e.charBlockLen).map (dig e)) with
      | .error _ => none
      | .ok bs => (decBlocks e fuel (s.drop e.charBlockLen)).map (fun more => bs ++ more)

theorem decBlocks_nil (e : Enc) (fuel : Nat) : decBlocks e fuel [] = some [] := by
  cases fuel <;> simp [decBlocks]

theorem decBlocks_succ (e : Enc) (fuel : Nat) (s : List UInt8) (h : s ≠ []) :
    decBlocks e (fuel + 1) s =
      match decodeBlockDigits e ((s.take e.charBlockLen).map (dig e)) with
      | .error _ => none
      | .ok bs => (decBlocks e fuel (s.drop e.charBlockLen)).map (fun more => bs ++ more) := by
  have : s.isEmpty = false := List.isEmpty_eq_false_iff.mpr h
  rw [decBlocks]
  simp only [this, Bool.false_eq_true, if_false]

theorem decodeAux_strict_digits (e : Enc) : ∀ (fuel : Nat) (s : List UInt8) (pos : Nat), AllDig e s →
    (decodeAux e.strict fuel s pos).toOption = decBlocks e fuel s := by
  intro fuel
  induction fuel with
  | zero => intro s pos _; rw [decodeAux]; rfl
  | succ f ih =>
    intro s pos h
    by_cases h0 : s = []
    · subst h0; rw [decodeAux_nil, decBlocks_nil]; rfl
    · have hscan := scan_digits e.strict s e.strict.charBlockLen pos h
      rw [decodeAux_step_toOption e.strict f pos s _ _ h0 hscan, decBlocks_succ e f s h0]
      have hdb : ∀ ds, decodeBlockDigits e.strict ds = decodeBlockDigits e ds := fun _ => rfl
      rw [hdb]
      show _ = match decodeBlockDigits e ((s.take e.charBlockLen).map (dig e)) with
        | .error _ => none
        | .ok bs => (decBlocks e f (s.drop e.charBlockLen)).map (fun more => bs ++ more)
      cases hb : decodeBlockDigits e ((s.take e.charBlockLen).map (dig e)) with
      | error x =>
        have : decodeBlockDigits e (List.map (dig e.strict) (List.take e.strict.charBlockLen s)) = .error x := hb
        rw [this]; rfl
      | ok bs =>
        have : decodeBlockDigits e (List.map (dig e.strict) (List.take e.strict.charBlockLen s)) = .ok bs := hb
        rw [this]
        simp only [Except.toOption, Option.bind_some]
        have := ih (s.drop e.charBlockLen) (pos + (s.length - (s.drop e.strict.charBlockLen).length))
          (allDig_drop _ h)
        show Option.map _ (decodeAux e.strict f (s.drop e.charBlockLen) _).toOption = _
        rw [this]

theorem decBlocks_fuel (e : Enc) (hN : 0 < e.charBlockLen) : ∀ (fuel fuel' : Nat) (s : List UInt8),
    s.length < fuel → s.length < fuel' → decBlocks e fuel s = decBlocks e fuel' s := by
  intro fuel
  induction fuel with
  | zero => intro fuel' s h; omega
  | succ f ih =>
    intro fuel' s h h'
    cases fuel' with
    | zero => omega
    | succ f' =>
      by_cases h0 : s = []
      · subst h0; rw [decBlocks_nil, decBlocks_nil]
      · rw [decBlocks_succ e f s h0, decBlocks_succ e f' s h0]
        have hpos : 0 < s.length := List.length_pos_iff.mpr h0
        have hl : (s.drop e.charBlockLen).length < s.length := by rw [List.length_drop]; omega
        rw [ih f' (s.drop e.charBlockLen) (by omega) (by omega)]

/-- strict decoding of an alphabet string (errors forgotten) -/
def decS (e : Enc) (s : List UInt8) : Option Bytes := decBlocks e (s.length + 1) s

theorem decode_strict_digits (e : Enc) (s : List UInt8) (h : AllDig e s) :
    (decode e.strict s).toOption = decS e s := by
  unfold decode decS
  exact decodeAux_strict_digits e _ s 0 h

theorem decS_nil (e : Enc) : decS e [] = some [] := rfl

theorem decS_block (e : Enc) (s : List UInt8) (h0 : s ≠ []) (hl : s.length ≤ e.charBlockLen) :
    decS e s = (decodeBlockDigits e (s.map (dig e))).toOption := by
  unfold decS
  rw [decBlocks_succ e _ s h0, List.take_of_length_le hl, List.drop_eq_nil_of_le hl, decBlocks_nil]
  cases decodeBlockDigits e (s.map (dig e)) with
  | error x => rfl
  | ok bs => simp [Except.toOption]

theorem decS_step (e : Enc) (hN : 0 < e.charBlockLen) (s : List UInt8) :
    decS e s = (decS e (s.take e.charBlockLen)).bind (fun a => (decS e (s.drop e.charBlockLen)).map (fun m => a ++ m)) := by
  by_cases h0 : s = []
  · subst h0; simp [decS_nil]
  · have hpos : 0 < s.length := List.length_pos_iff.mpr h0
    have htne : s.take e.charBlockLen ≠ [] := take_ne_nil s _ hN h0
    have htl : (s.take e.charBlockLen).length ≤ e.charBlockLen := by rw [List.length_take]; omega
    rw [decS_block e _ htne htl]
    unfold decS
    rw [decBlocks_succ e _ s h0]
    have hl : (s.drop e.charBlockLen).length < s.length := by rw [List.length_drop]; omega
    rw [decBlocks_fuel e hN s.length ((s.drop e.charBlockLen).length + 1) _ (by omega) (by omega)]
    cases decodeBlockDigits e ((s.take e.charBlockLen).map (dig e)) with
    | error x => rfl
    | ok bs => rfl

theorem decS_append (e : Enc) (hN : 0 < e.charBlockLen) : ∀ (k : Nat) (a b : List UInt8),
    a.length = k * e.charBlockLen →
    decS e (a ++ b) = (decS e a).bind (fun x => (decS e b).map (fun m => x ++ m)) := by
  intro k
  induction k with
  | zero =>
    intro a b h
    have : a = [] := List.length_eq_zero_iff.mp (by simpa using h)
    subst this
    simp only [List.nil_append, decS_nil, Option.bind_some, List.nil_append]
    cases decS e b <;> simp
  | succ k ih =>
    intro a b h
    have hge : e.charBlockLen ≤ a.length := by rw [h, Nat.succ_mul]; omega
    have h1 : (a ++ b).take e.charBlockLen = a.take e.charBlockLen := by
      rw [List.take_append_of_le_length hge]
    have h2 : (a ++ b).drop e.charBlockLen = a.drop e.charBlockLen ++ b := by
      rw [List.drop_append_of_le_length hge]
    have h3 : (a.drop e.charBlockLen).length = k * e.charBlockLen := by
      rw [List.length_drop, h, Nat.succ_mul]; omega
    rw [decS_step e hN (a ++ b), h1, h2, ih _ b h3, decS_step e hN a]
    cases decS e (a.take e.charBlockLen) with
    | none => rfl
    | some x =>
      simp only [Option.bind_some]
      cases decS e (a.drop e.charBlockLen) with
      | none => rfl
      | some y =>
        simp only [Option.bind_some, Option.map_some]
        cases decS e b with
        | none => rfl
        | some z => simp

/-- `decodePrefix` computes the block-by-block decoder: the whole result and no
    error; or, when some block fails, the decoding of the `k` blocks before the
    first failing one together with that block's error -/
theorem decodePrefix_blocks (e : Enc) (hN : 0 < e.charBlockLen) : ∀ (fuel : Nat) (s : List UInt8), AllDig e s →
    s.length < fuel →
    (∀ y, decS e s = some y → decodePrefix e fuel s = (y, none)) ∧
    (decS e s = none → ∃ k preB x, decodePrefix e fuel s = (preB, some x) ∧
      k * e.charBlockLen < s.length ∧ decS e (s.take (k * e.charBlockLen)) = some preB ∧
      decode e.strict ((s.drop (k * e.charBlockLen)).take e.charBlockLen) = .error x) := by
  intro fuel
  induction fuel with
  | zero => intro s _ h; omega
  | succ f ih =>
    intro s h hf
    by_cases h0 : s = []
    · subst h0
      rw [decS_nil, decodePrefix]
      simp
    · have hse : s.isEmpty = false := List.isEmpty_eq_false_iff.mpr h0
      have hpos : 0 < s.length := List.length_pos_iff.mpr h0
      have hl : (s.drop e.charBlockLen).length < s.length := by rw [List.length_drop]; omega
      obtain ⟨i1, i2⟩ := ih (s.drop e.charBlockLen) (allDig_drop _ h) (by omega)
      rw [decS_step e hN s, decodePrefix]
      simp only [hse, Bool.false_eq_true, if_false]
      have hblk := decode_strict_digits e (s.take e.charBlockLen) (allDig_take _ h)
      cases hd : decode e.strict (s.take e.charBlockLen) with
      | error x =>
        rw [hd] at hblk
        simp only [Except.toOption] at hblk
        rw [← hblk]
        simp only [Option.bind_none]
        refine ⟨fun y hy => by simp at hy, fun _ => ⟨0, [], x, rfl, by omega, ?_, ?_⟩⟩
        · rw [Nat.zero_mul, List.take_zero]; rfl
        · rw [Nat.zero_mul, List.drop_zero]; exact hd
      | ok b =>
        rw [hd] at hblk
        simp only [Except.toOption] at hblk
        rw [← hblk]
        simp only [Option.bind_some]
        cases hr : decS e (s.drop e.charBlockLen) with
        | none =>
          obtain ⟨k, p, x, hp, hk1, hk2, hk3⟩ := i2 hr
          rw [hp]
          rw [List.length_drop] at hk1
          have htl : (s.take e.charBlockLen).length = 1 * e.charBlockLen := by
            rw [List.length_take]; omega
          refine ⟨fun y hy => by simp at hy, fun _ => ⟨k + 1, b ++ p, x, rfl, by rw [Nat.succ_mul]; omega, ?_, ?_⟩⟩
          · rw [Nat.succ_mul, Nat.add_comm, List.take_add, decS_append e hN 1 _ _ htl, ← hblk, hk2]
            rfl
          · rw [Nat.succ_mul, Nat.add_comm, ← List.drop_drop]
            exact hk3
        | some m =>
          rw [i1 m hr]
          refine ⟨fun y hy => ?_, fun hn => by simp at hn⟩
          simp only [Option.map_some, Option.some.injEq] at hy
          rw [← hy]

theorem decodePrefix_spec (e : Enc) (hN : 0 < e.charBlockLen) (fuel : Nat) (s : List UInt8) (h : AllDig e s)
    (hf : s.length < fuel) :
    (∀ y, decS e s = some y → decodePrefix e fuel s = (y, none)) ∧
    (decS e s = none → ∃ preB x, decodePrefix e fuel s = (preB, some x)) :=
  have hb := decodePrefix_blocks e hN fuel s h hf
  ⟨hb.1, fun hn => let ⟨_, p, x, hp, _⟩ := hb.2 hn; ⟨p, x, hp⟩⟩

theorem decLen_le_self {e : Enc} (he : e.WF) (c : Nat) (hc : c ≤ e.charBlockLen) : e.decLen c ≤ c := by
  have h1 := (decLen_spec he c hc).1
  have h2 : e.base ^ c ≤ 256 ^ c := Nat.pow_le_pow_left (base_le he) c
  exact (Nat.pow_le_pow_iff_right (a := 256) (by omega)).mp (Nat.le_trans h1 h2)

theorem decodeBlock_size {e : Enc} (he : e.WF) (s : List UInt8) (h : AllDig e s) (h0 : s ≠ [])
    (hl : s.length ≤ e.charBlockLen) (b : Bytes) (hb : decodeBlockDigits e (s.map (dig e)) = .ok b) :
    0 < b.length ∧ b.length ≤ s.length := by
  have hlt : ∀ d ∈ s.map (dig e), d < e.base := by
    intro d hd
    rw [List.mem_map] at hd
    obtain ⟨c, hc, rfl⟩ := hd
    have := h c hc
    cases hx : e.digit? c with
    | none => rw [hx] at this; simp at this
    | some v =>
      have := (char_of_digit? c v hx).1
      rw [he.alpha_len] at this
      simpa [dig, hx] using this
  have hpos : 0 < s.length := List.length_pos_iff.mpr h0
  obtain ⟨_, c2, c3, _⟩ := decodeBlock_canon he (s.map (dig e)) b hlt (by simpa using hpos) (by simpa using hl) hb
  refine ⟨c3, ?_⟩
  rw [c2, List.length_map]
  exact decLen_le_self he _ hl

theorem decS_size {e : Enc} (he : e.WF) (s : List UInt8) : AllDig e s →
    ∀ y, decS e s = some y → y.length ≤ s.length ∧ (y = [] → s = []) := by
  have hN := he.cblock_pos
  have hblock : ∀ a : List UInt8, a ≠ [] → a.length ≤ e.charBlockLen → AllDig e a →
      ∀ x, decS e a = some x → 0 < x.length ∧ x.length ≤ a.length := by
    intro a h0 hl h x hx
    rw [decS_block e a h0 hl] at hx
    cases hb : decodeBlockDigits e (a.map (dig e)) with
    | error err => rw [hb] at hx; cases hx
    | ok b =>
      rw [hb] at hx
      cases hx
      exact decodeBlock_size he a h h0 hl _ hb
  induction s using blocks_ind e.charBlockLen hN with
  | nil => intro _ y hy; cases hy; exact ⟨Nat.le_refl _, fun _ => rfl⟩
  | last s h0 hl =>
    intro h y hy
    obtain ⟨s1, s2⟩ := hblock s h0 hl h y hy
    exact ⟨s2, fun hn => by rw [hn] at s1; cases s1⟩
  | block a b ha _ ih =>
    intro h y hy
    rw [decS_append e hN 1 a b (by omega)] at hy
    cases hx : decS e a with
    | none => rw [hx] at hy; cases hy
    | some x =>
      cases hm : decS e b with
      | none => rw [hx, hm] at hy; cases hy
      | some m =>
        rw [hx, hm] at hy
        cases hy
        obtain ⟨s1, s2⟩ := hblock a (List.ne_nil_of_length_pos (by omega)) (by omega) (allDig_left h) x hx
        obtain ⟨t1, _⟩ := ih (allDig_right h) m hm
        rw [List.length_append, List.length_append]
        refine ⟨by omega, fun hnil => ?_⟩
        have := congrArg List.length hnil
        rw [List.length_append, List.length_nil] at this
        omega

theorem decS_length_le {e : Enc} (he : e.WF) (s : List UInt8) (h : AllDig e s) (y : Bytes) (hy : decS e s = some y) :
    y.length ≤ s.length := (decS_size he s h y hy).1

theorem decS_ne_nil {e : Enc} (he : e.WF) (s : List UInt8) (h : AllDig e s) (h0 : s ≠ []) (y : Bytes)
    (hy : decS e s = some y) : y ≠ [] := fun hn => h0 ((decS_size he s h y hy).2 hn)

end Saltpack.Proofs
