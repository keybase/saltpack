/-
  The strict reference decoder against the reference SENDER, signcryption.
  The oracle is handed ONE recipient's key (box secret or symmetric key), so the
  cryptographic layer ties that recipient's entry, the sender secretbox and
  every payload packet to the reference sender; the other recipient entries
  are covered by layer W only (shape, lengths).
-/
import Saltpack.Model.SpecDecodeAll
import Saltpack.Proofs.SpecDecodeOracle

namespace Saltpack.Proofs.SDW
open Saltpack Saltpack.Msgpack Saltpack.SpecDecode Saltpack.Proofs
open Saltpack.Spec hiding encode

section
variable (P : Prims)

def specScRecv (eph pk : Bytes) (i : Nat) : Signcrypt.Recipient → ScRecv
  | .box pub =>
    let bx := P.box eph pub sNonceDerived (zeros 32)
    let dk := bx.drop (bx.length - 32)
    ⟨(P.hmac sCtxBoxKeyIdentifier (dk ++ sNonceRecip i)).take 32, P.sbSeal dk (sNonceRecip i) pk⟩
  | .sym key ident =>
    ⟨ident, P.sbSeal ((P.hmac sCtxSymmetricKey (P.boxPub eph ++ key)).take 32) (sNonceRecip i) pk⟩

def specScSig (sender : Option Bytes) (hh : Bytes) (i : Nat) (c : Bytes) (f : Bool) : Bytes :=
  match sender with
  | none => zeros 64
  | some s => P.sign s (scSigInput P hh i f c)

def specScPkt (sender : Option Bytes) (pk hh : Bytes) (i : Nat) (c : Bytes) (f : Bool) : ScPkt :=
  ⟨P.sbSeal pk (sHashNonce hh f i) (specScSig P sender hh i c f ++ c), f⟩

def specScSenderPub (sender : Option Bytes) : Bytes :=
  match sender with | none => zeros 32 | some s => P.sigPub s

def specScHdr (sender : Option Bytes) (rs : List Signcrypt.Recipient) (eph pk : Bytes) : ScMsg :=
  ⟨P.boxPub eph, P.sbSeal pk sNonceSenderKey (specScSenderPub P sender),
   rs.zipIdx.map (fun (r, i) => specScRecv P eph pk i r), []⟩

def specScMsg (sender : Option Bytes) (rs : List Signcrypt.Recipient) (eph pk : Bytes) (pl : List (Bytes × Bool)) : ScMsg :=
  let m0 := specScHdr P sender rs eph pk
  { m0 with pkts := pl.zipIdx.map (fun (cf, i) => specScPkt P sender pk (P.hash m0.headerBytes) i cf.1 cf.2) }

theorem specScRecv_toVal (eph pk : Bytes) (i : Nat) (r : Signcrypt.Recipient) :
    (specScRecv P eph pk i r).toVal = scRecipientVal P {} eph pk i r := by
  cases r <;> simp [specScRecv, ScRecv.toVal, scRecipientVal]

theorem specScPkt_encode (sender : Option Bytes) (pk hh : Bytes) (i : Nat) (c : Bytes) (f : Bool) :
    Msgpack.encode (specScPkt P sender pk hh i c f).toVal = scPacket P {} sender pk hh i c f := by
  cases sender <;> simp [specScPkt, ScPkt.toVal, scPacket, specScSig, scSigInput]

theorem spec_signcryptPlan_render (sender : Option Bytes) (rs : List Signcrypt.Recipient) (eph pk : Bytes)
    (pl : List (Bytes × Bool)) :
    Spec.signcryptPlan P {} sender rs eph pk pl = (specScMsg P sender rs eph pk pl).render := by
  have hf : (specScHdr P sender rs eph pk).fields =
      [.str sFormatName, versionVal 2 {}, .int sModeSigncryption, .bin (P.boxPub eph),
       .bin (P.sbSeal pk sNonceSenderKey (specScSenderPub P sender)),
       .arr (rs.zipIdx.map (fun x => scRecipientVal P {} eph pk x.2 x.1))] := by
    simp only [specScHdr, ScMsg.fields, commonVals, versionVal, List.map_map, List.cons_append, List.nil_append]
    congr 6
    congr 1
    apply List.map_congr_left
    intro a _
    exact specScRecv_toVal P eph pk a.2 a.1
  unfold ScMsg.render joinMsg
  have hfields : (specScMsg P sender rs eph pk pl).fields = (specScHdr P sender rs eph pk).fields := rfl
  rw [hfields]
  unfold signcryptPlan
  simp only [List.append_nil, Option.getD_none]
  have key : ∀ A : List Val, A = (specScHdr P sender rs eph pk).fields →
      encBin (Msgpack.encode (.arr A)) ++
        pl.zipIdx.flatMap (fun x => scPacket P {} sender pk (P.hash (Msgpack.encode (.arr A))) x.2 x.1.1 x.1.2) =
      encBin (Msgpack.encode (.arr (specScHdr P sender rs eph pk).fields)) ++
        (specScMsg P sender rs eph pk pl).packets.flatMap Msgpack.encode := by
    intro A hA
    subst hA
    refine congrArg (fun t => encBin (Msgpack.encode (.arr (specScHdr P sender rs eph pk).fields)) ++ t) ?_
    simp only [ScMsg.packets, specScMsg, List.flatMap_map]
    apply flatMap_congr'
    intro a _
    obtain ⟨⟨c, f⟩, i⟩ := a
    exact (specScPkt_encode P sender pk _ i c f).symm
  have hf' := hf.symm
  cases sender <;> exact key _ hf'

/-! ### the reference sender's entries and packets are accepted -/

/-- the key handed to the oracle belongs to the recipient at the opener's index -/
def ScKeyFor (key : ScKey) : Option Signcrypt.Recipient → Prop
  | some (.box pub) => ∃ sk, key = .box sk ∧ pub = P.boxPub sk
  | some (.sym k _) => key = .sym k
  | none => False

theorem scRecvKey_spec (hL : P.Lawful) (eph pk : Bytes) (i : Nat) (r : Signcrypt.Recipient) (key : ScKey)
    (hk : ScKeyFor P key (some r)) :
    scRecvKey P (P.boxPub eph) i (specScRecv P eph pk i r) key = .ok pk := by
  cases r with
  | box pub =>
    obtain ⟨sk, rfl, rfl⟩ := hk
    simp only [scRecvKey, specScRecv]
    have hb : P.box sk (P.boxPub eph) sNonceDerived (zeros 32) = P.box eph (P.boxPub sk) sNonceDerived (zeros 32) := by
      unfold Prims.box; rw [hL.dh_comm]
    rw [hb]
    simp [hL.sb_open_seal]
  | sym k ident =>
    simp only [ScKeyFor] at hk
    subst hk
    simp [scRecvKey, specScRecv, hL.sb_open_seal]

theorem zeros_length (n : Nat) : (zeros n).length = n := by simp [zeros]

/-- the decoder's signature test passes on the reference sender's signature field:
    all zero for an anonymous sender, a verifying signature for a named one whose
    public key is not the all-zero marker -/
theorem specScSig_ok (hL : P.Lawful) (sender : Option Bytes) (hs : ∀ s, sender = some s → P.sigPub s ≠ zeros 32)
    (hh : Bytes) (i : Nat) (c : Bytes) (f : Bool) :
    ¬ (isAnon (specScSenderPub P sender) = true ∧ specScSig P sender hh i c f ≠ zeros 64) ∧
    ¬ (¬ isAnon (specScSenderPub P sender) = true ∧
        ¬ P.verify (specScSenderPub P sender) (scSigInput P hh i f c) (specScSig P sender hh i c f) = true) := by
  cases sender with
  | none => exact ⟨fun h => h.2 rfl, fun h => h.1 (by simp [isAnon, specScSenderPub])⟩
  | some s => exact ⟨fun h => hs s rfl (eq_of_beq h.1), fun h => h.2 (hL.verify_sign _ _)⟩

theorem scPkt_spec (hL : P.Lawful) (sender : Option Bytes) (hs : ∀ s, sender = some s → P.sigPub s ≠ zeros 32)
    (pk hh : Bytes) (i : Nat) (last : Bool) (c : Bytes) (f : Bool) (hrule : chunkRule 2 i last f c = .ok ()) :
    scPkt P pk hh (specScSenderPub P sender) (isAnon (specScSenderPub P sender)) i last
      (specScPkt P sender pk hh i c f) = .ok c := by
  have hsl : (specScSig P sender hh i c f).length = 64 := by
    cases sender with
    | none => exact zeros_length 64
    | some s => exact hL.sig_len _ _
  have hfl : f = last := Bool.eq_iff_iff.2 ((chunkRule_ok_iff 2 i last f c).1 hrule).2.1
  obtain ⟨ha, hv⟩ := specScSig_ok P hL sender hs hh i c f
  unfold scPkt
  rw [show (specScPkt P sender pk hh i c f).final = f from rfl,
    show (specScPkt P sender pk hh i c f).ct = P.sbSeal pk (sHashNonce hh f i) (specScSig P sender hh i c f ++ c) from rfl,
    if_neg (not_not_intro hfl), hL.sb_open_seal]
  simp only
  rw [if_neg (by rw [List.length_append, hsl]; omega),
    List.take_left' hsl, List.drop_left' hsl, if_neg ha, if_neg hv, hrule]

theorem scPkts_spec (hL : P.Lawful) (sender : Option Bytes) (hs : ∀ s, sender = some s → P.sigPub s ≠ zeros 32)
    (pk hh : Bytes) : ∀ (pl : List (Bytes × Bool)) (k : Nat), PlanOK 2 k pl →
    scPkts P pk hh (specScSenderPub P sender) (isAnon (specScSenderPub P sender)) k
      ((pl.zipIdx k).map (fun (cf, i) => specScPkt P sender pk hh i cf.1 cf.2)) = .ok (pl.map (·.1)) := by
  intro pl
  induction pl with
  | nil => intro _ _; rfl
  | cons x xs ih =>
    intro k hp
    obtain ⟨h1, h2⟩ := (planOK_cons 2 k x.1 x.2 xs).1 hp
    simp only [List.zipIdx_cons, List.map_cons, scPkts, isEmpty_map_zipIdx]
    rw [scPkt_spec P hL sender hs pk hh k _ x.1 x.2 h1, ih (k + 1) h2]

/-! ### what the checks are made of -/

theorem checkBody_ok_iff {m : ScMsg} {pk : Bytes} {o : ScOpened} :
    m.checkBody P pk = .ok o ↔
    o.payloadKey = pk ∧ P.sbOpen pk sNonceSenderKey m.ssb = some o.senderPub ∧ o.senderPub.length = 32 ∧
      m.pkts ≠ [] ∧ scPkts P pk (P.hash m.headerBytes) o.senderPub (isAnon o.senderPub) 0 m.pkts = .ok o.chunks := by
  unfold ScMsg.checkBody
  constructor
  · intro h
    split at h
    · cases h
    · rename_i hsp
      simp only [if_error_ok] at h
      obtain ⟨hlen, hne, h⟩ := h
      split at h
      · cases h
      · cases h
        exact ⟨rfl, hsp, Decidable.not_not.1 hlen, hne, ‹_›⟩
  · rintro ⟨rfl, h2, h3, h4, h5⟩
    rw [h2]
    simp only
    rw [if_neg (not_not_intro h3), if_neg h4, h5]

/-- `ScMsg.check` is: find the opener's entry, open its payload key box, then `checkBody` -/
theorem sc_check_ok_iff {m : ScMsg} {idx : Nat} {key : ScKey} {o : ScOpened} :
    m.check P idx key = .ok o ↔
    ∃ r pk, m.recvs[idx]? = some r ∧ scRecvKey P m.eph idx r key = .ok pk ∧ m.checkBody P pk = .ok o := by
  unfold ScMsg.check
  constructor
  · intro h
    split at h
    · cases h
    · split at h
      · cases h
      · exact ⟨_, _, ‹_›, ‹_›, h⟩
  · rintro ⟨r, pk, h1, h2, h3⟩
    rw [h1]
    simp only
    rw [h2]
    exact h3

/-! ### completeness of the checks -/

theorem specScMsg_checkBody (hL : P.Lawful) (sender : Option Bytes)
    (hs : ∀ s, sender = some s → P.sigPub s ≠ zeros 32)
    (rs : List Signcrypt.Recipient) (eph pk : Bytes) (pl : List (Bytes × Bool))
    (hpl : PlanOK 2 0 pl) (hpl0 : pl ≠ []) :
    (specScMsg P sender rs eph pk pl).checkBody P pk = .ok ⟨pk, specScSenderPub P sender, pl.map (·.1)⟩ := by
  refine (checkBody_ok_iff P).2 ⟨rfl, hL.sb_open_seal _ _ _, ?_, ?_,
    scPkts_spec P hL sender hs pk (P.hash (specScHdr P sender rs eph pk).headerBytes) pl 0 hpl⟩
  · cases sender with
    | none => exact zeros_length 32
    | some s => exact hL.sigPub_len s
  · rw [← List.isEmpty_eq_false_iff, specScMsg, isEmpty_map_zipIdx, List.isEmpty_eq_false_iff]
    exact hpl0

/-! ### soundness -/

/-- the opener's recipient entry is the reference sender's for that key and payload key -/
def ScRecvFor (eph : Bytes) (i : Nat) (r : ScRecv) (key : ScKey) (pk : Bytes) : Prop :=
  match key with
  | .box sk =>
    let b := P.box sk eph sNonceDerived (zeros 32)
    let dk := b.drop (b.length - 32)
    r.ident = (P.hmac sCtxBoxKeyIdentifier (dk ++ sNonceRecip i)).take 32 ∧ r.box = P.sbSeal dk (sNonceRecip i) pk
  | .sym k => r.box = P.sbSeal ((P.hmac sCtxSymmetricKey (eph ++ k)).take 32) (sNonceRecip i) pk

/-- every payload packet is the reference sender's packet for its chunk and a
    64-byte signature that is all zero (anonymous sender) or verifies under the
    sender key on exactly the specified input -/
def ScPktsOK (pk hh senderPub : Bytes) : Nat → List ScPkt → List Bytes → Prop
  | _, [], [] => True
  | i, p :: ps, c :: cs =>
    (∃ sg, sg.length = 64 ∧ p.ct = P.sbSeal pk (sHashNonce hh p.final i) (sg ++ c) ∧
      (isAnon senderPub = true → sg = zeros 64) ∧
      (isAnon senderPub = false → P.verify senderPub (scSigInput P hh i p.final c) sg = true)) ∧
    ScPktsOK pk hh senderPub (i + 1) ps cs
  | _, _, _ => False

/-- the chunk plan as the decoder saw it -/
def scPlanOf (chunks : List Bytes) (pkts : List ScPkt) : List (Bytes × Bool) :=
  List.zipWith (fun c (p : ScPkt) => (c, p.final)) chunks pkts

theorem scPkt_ok {pk hh senderPub : Bytes} {anon : Bool} {i : Nat} {last : Bool} {p : ScPkt} {c : Bytes}
    (h : scPkt P pk hh senderPub anon i last p = .ok c) :
    ∃ sg, sg.length = 64 ∧ P.sbOpen pk (sHashNonce hh p.final i) p.ct = some (sg ++ c) ∧
      (anon = true → sg = zeros 64) ∧ (anon = false → P.verify senderPub (scSigInput P hh i p.final c) sg = true) ∧
      chunkRule 2 i last p.final c = .ok () := by
  unfold scPkt at h
  rw [if_error_ok] at h
  obtain ⟨_, h⟩ := h
  split at h
  · cases h
  · rename_i att hatt
    simp only [if_error_ok] at h
    obtain ⟨hlen, ha, hv, h⟩ := h
    split at h
    · cases h
    · rename_i hu
      cases h
      -- the signature is the first 64 bytes of what opened, the chunk the rest
      have hsg : (att.take 64).length = 64 := by rw [List.length_take]; omega
      have hopen : P.sbOpen pk (sHashNonce hh p.final i) p.ct = some (att.take 64 ++ att.drop 64) := by
        rw [List.take_append_drop]; exact hatt
      refine ⟨att.take 64, hsg, hopen, fun han => ?_, fun han => ?_, hu⟩
      · simpa [han] using ha
      · simpa [han] using hv

theorem scPkts_cons_ok {pk hh senderPub : Bytes} {anon : Bool} {i : Nat} {p : ScPkt} {ps : List ScPkt}
    {cs : List Bytes} (h : scPkts P pk hh senderPub anon i (p :: ps) = .ok cs) :
    ∃ c cs', scPkt P pk hh senderPub anon i ps.isEmpty p = .ok c ∧ scPkts P pk hh senderPub anon (i + 1) ps = .ok cs' ∧
      cs = c :: cs' := by
  rw [scPkts] at h
  split at h
  · cases h
  · split at h
    · cases h
    · cases h
      exact ⟨_, _, ‹_›, ‹_›, rfl⟩

theorem scPkts_sound (hC : OpenCanonical P) (pk hh senderPub : Bytes) :
    ∀ (pkts : List ScPkt) (k : Nat) (chunks : List Bytes),
    scPkts P pk hh senderPub (isAnon senderPub) k pkts = .ok chunks →
    ScPktsOK P pk hh senderPub k pkts chunks ∧
      PlanOK 2 k (scPlanOf chunks pkts) ∧
      chunks.length = pkts.length := by
  intro pkts
  induction pkts with
  | nil => intro k chunks h; cases h; exact ⟨trivial, trivial, rfl⟩
  | cons p ps ih =>
    intro k chunks h
    obtain ⟨c, cs, h1, h2, rfl⟩ := scPkts_cons_ok P h
    obtain ⟨i1, i2, i3⟩ := ih (k + 1) cs h2
    obtain ⟨sg, hl, hct, ha, hv, hr⟩ := scPkt_ok P h1
    refine ⟨⟨⟨sg, hl, hC _ _ _ _ hct, ha, hv⟩, i1⟩, ?_, congrArg (· + 1) i3⟩
    rw [scPlanOf, List.zipWith_cons_cons, planOK_cons, isEmpty_zipWith _ _ _ i3]
    exact ⟨hr, i2⟩

theorem scRecvKey_recvFor (hC : OpenCanonical P) {eph : Bytes} {i : Nat} {r : ScRecv} {key : ScKey} {pk : Bytes}
    (h : scRecvKey P eph i r key = .ok pk) : ScRecvFor P eph i r key pk := by
  cases key with
  | box sk =>
    simp only [scRecvKey, if_error_ok, ne_eq, Decidable.not_not] at h
    obtain ⟨hid, h⟩ := h
    split at h
    · cases h
      exact ⟨hid, hC _ _ _ _ ‹_›⟩
    · cases h
  | sym k =>
    simp only [scRecvKey] at h
    split at h
    · cases h
      exact hC _ _ _ _ ‹_›
    · cases h

theorem checkBody_sound (hC : OpenCanonical P) {m : ScMsg} {pk : Bytes} {o : ScOpened} (h : m.checkBody P pk = .ok o) :
    o.payloadKey = pk ∧ m.ssb = P.sbSeal pk sNonceSenderKey o.senderPub ∧ o.senderPub.length = 32 ∧
      ScPktsOK P pk (P.hash m.headerBytes) o.senderPub 0 m.pkts o.chunks ∧
      PlanOK 2 0 (scPlanOf o.chunks m.pkts) ∧
      o.chunks.length = m.pkts.length := by
  obtain ⟨h1, h2, h3, _, h5⟩ := (checkBody_ok_iff P).1 h
  exact ⟨h1, hC _ _ _ _ h2, h3, scPkts_sound P hC pk _ _ _ _ _ h5⟩

end
end Saltpack.Proofs.SDW
