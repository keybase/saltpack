/-
  Encryption round trip at packet level: what a sender produces is opened by the
  receiver model to exactly the chunks of the plan, with the true sender and the
  key information of the recipient it was opened as — for ANY keyring holding a
  recipient's key among other keys, ANY minor version, ARBITRARY header bytes
  (the receiver uses them only through their hash) and any chunk plan the
  specification allows.  Proofs/RoundTripEnc has the instances for
  `Encrypt.sealPackets` and a single-key ring.
-/
import Saltpack.Proofs.PlanLemmas

namespace Saltpack.Proofs
open Saltpack Saltpack.Encrypt

/-- the canonical keyring of someone who holds exactly the box secret keys
    `sks` (in that order) and answers every lookup faithfully, the way
    `basic.Keyring` does -/
def faithfulKeyring (P : Prims) (sks : List Bytes) : Keyring where
  lookupBoxSecretKey kids :=
    match (kids.zipIdx.filterMap (fun (k, i) => (sks.find? (fun s => P.boxPub s == k)).map (fun s => (i, s)))).head? with
    | some (i, s) => ((i : Int), some s)
    | none => (-1, none)
  lookupBoxPublicKey k := some k
  getAllBoxSecretKeys := sks
  importBoxEphemeralKey k := some k
  lookupSigningPublicKey k := some k

/-- authenticated encryption, as far as the round trip needs it: the opener's
    key does not open the payload-key boxes of the *hidden* recipients that
    precede it in the header.  Not a consequence of `Prims.Lawful`; satisfiable:
    for the toy primitives it holds exactly when the opener's key differs from
    those recipients' keys within the first 16 bytes (and fails otherwise — both
    shown by `example`s in Props/C01.lean); for NaCl it is the standing
    assumption on `box`.  Stated on the sender's data.  The form for a keyring
    with several keys is `RingNoSpuriousOpen`. -/
def NoSpuriousOpen (P : Prims) (v : Version) (eph payloadKey : Bytes) (rs : List Recipient) (i : Nat) (sk : Bytes) : Prop :=
  ∀ j, j < i → (rs.getD j default).hidden = true → ∀ n, Nonce.payloadKeyBox v j = .ok n →
    P.unbox sk (P.boxPub eph) n (P.box eph (rs.getD j default).pub n payloadKey) = none

/-- authenticated encryption, as far as a keyring with several keys needs it: a
    key of the ring does not open the payload-key box of a *hidden* recipient
    entry that comes before its own entry — for a key that is no recipient's
    key: of any hidden entry.  These are exactly the trial decryptions
    `tryHiddenReceivers` makes before its first genuine success.
    (Not a consequence of `Prims.Lawful`; for NaCl it is the standing assumption
    on `box`.  `RingNoSpuriousOpen.of_foreign` is the plainer, stronger form.) -/
def RingNoSpuriousOpen (P : Prims) (v : Version) (eph payloadKey : Bytes) (rs : List Recipient)
    (sks : List Bytes) : Prop :=
  ∀ s ∈ sks, ∀ j, j < rs.length → (rs.getD j default).hidden = true →
    (∀ j', j' ≤ j → (rs.getD j' default).pub ≠ P.boxPub s) →
    ∀ n, Nonce.payloadKeyBox v j = .ok n →
      P.unbox s (P.boxPub eph) n (P.box eph (rs.getD j default).pub n payloadKey) = none

theorem RingNoSpuriousOpen.of_foreign {P : Prims} {v : Version} {eph pk : Bytes} {rs : List Recipient}
    {sks : List Bytes}
    (h : ∀ s ∈ sks, ∀ j, j < rs.length → (rs.getD j default).hidden = true →
      (rs.getD j default).pub ≠ P.boxPub s → ∀ n, Nonce.payloadKeyBox v j = .ok n →
        P.unbox s (P.boxPub eph) n (P.box eph (rs.getD j default).pub n pk) = none) :
    RingNoSpuriousOpen P v eph pk rs sks :=
  fun s hs j hj hh hne n hn => h s hs j hj hh (hne j (Nat.le_refl j)) n hn

theorem RingNoSpuriousOpen.single {P : Prims} {v : Version} {eph pk : Bytes} {rs : List Recipient}
    {i : Nat} {sk : Bytes} (hsk : (rs.getD i default).pub = P.boxPub sk)
    (h : NoSpuriousOpen P v eph pk rs i sk) : RingNoSpuriousOpen P v eph pk rs [sk] := by
  intro s hs j _ hh hne n hn
  have hs' : s = sk := List.mem_singleton.1 hs
  subst hs'
  have hji : j < i := by
    by_cases hji : j < i
    · exact hji
    · exact absurd hsk (hne i (Nat.le_of_not_lt hji))
  exact h j hji hh n hn

theorem RingNoSpuriousOpen.nil {P : Prims} {v : Version} {eph pk : Bytes} {rs : List Recipient} :
    RingNoSpuriousOpen P v eph pk rs [] := by
  intro s hs; cases hs

/-! ### the faithful keyring: `fk_*` say what it answers, field by field -/

@[simp] theorem fk_import (P : Prims) (sks : List Bytes) (k : Bytes) :
    (faithfulKeyring P sks).importBoxEphemeralKey k = some k := rfl
@[simp] theorem fk_lookupPub (P : Prims) (sks : List Bytes) (k : Bytes) :
    (faithfulKeyring P sks).lookupBoxPublicKey k = some k := rfl
@[simp] theorem fk_all (P : Prims) (sks : List Bytes) :
    (faithfulKeyring P sks).getAllBoxSecretKeys = sks := rfl

/-- the candidate list the faithful lookup takes the head of -/
def lookupList (P : Prims) (sks kids : List Bytes) (o : Nat) : List (Int × Bytes) :=
  (kids.zipIdx o).filterMap (fun x =>
    (sks.find? (fun s => P.boxPub s == x.1)).map (fun s => ((x.2 : Int), s)))

theorem fk_lookup (P : Prims) (sks kids : List Bytes) :
    (faithfulKeyring P sks).lookupBoxSecretKey kids =
      match (lookupList P sks kids 0).head? with
      | some (i, s) => (i, some s)
      | none => (-1, none) := rfl

theorem lookup_none (P : Prims) (sks : List Bytes) (kids : List Bytes)
    (h : ∀ s ∈ sks, ∀ k ∈ kids, k ≠ P.boxPub s) :
    (faithfulKeyring P sks).lookupBoxSecretKey kids = (-1, none) := by
  have hnil : lookupList P sks kids 0 = [] := by
    unfold lookupList
    rw [List.filterMap_eq_nil_iff]
    rintro ⟨k, i⟩ hq
    have hk : k ∈ kids := List.mem_of_getElem? (List.mem_zipIdx_iff_getElem?.1 hq)
    have : sks.find? (fun s => P.boxPub s == k) = none := by
      rw [List.find?_eq_none]
      intro s hs hbeq
      exact h s hs k hk (bytes_eq_of_beq hbeq).symm
    simp [this]
  rw [fk_lookup, hnil]
  rfl

/-! ### the header as the receiver sees it -/

/-- what the receiver needs to know about the header it was handed: the fields
    the sender wrote (`Encrypt.header`), under ANY version with the sender's
    major version -/
structure HdrOK (P : Prims) (v : Version) (sender : Option Bytes) (eph pk : Bytes) (rs : List Recipient)
    (h : EncHeader) : Prop where
  fmt : h.formatName = Gen.c_sp_FormatName
  major : h.version.major = v.major
  typ : h.typ = mtEncryption
  ephPub : h.ephemeral = P.boxPub eph
  ssb : h.senderSecretbox = P.sbSeal pk Nonce.senderKeySecretBox (P.boxPub (sender.getD eph))
  len : h.receivers.length = rs.length
  entry : ∀ j (hj : j < rs.length), ∃ n, Nonce.payloadKeyBox v j = .ok n ∧
      h.receivers[j]? = some ⟨kidSpec rs[j], P.box eph rs[j].pub n pk⟩
  kids : h.receivers.map (·.kid) = rs.map kidSpec

/-- the header the sender model builds, relabelled with another minor version -/
def withMinor (h : EncHeader) (minor : Int) : EncHeader := { h with version := ⟨h.version.major, minor⟩ }

theorem withMinor_self {v : Version} (hv : v = v1 ∨ v = v2) (h : EncHeader) (hh : h.version = v) :
    withMinor h 0 = h := by
  obtain ⟨fn, ver, ty, e, s, r⟩ := h
  simp only at hh
  subst hh
  rcases hv with rfl | rfl <;> rfl

theorem withMinor_eq {v : Version} (h : EncHeader) (hh : h.version = v) (minor : Int) :
    withMinor h minor = { h with version := ⟨v.major, minor⟩ } := by
  subst hh; rfl

theorem hdrOK_of_header (P : Prims) {v : Version} (hv : v = v1 ∨ v = v2) (sender : Option Bytes)
    (eph pk : Bytes) (rs : List Recipient) (h0 : EncHeader)
    (hhdr : header P v sender eph pk rs = .ok h0) (minor : Int) :
    HdrOK P v sender eph pk rs (withMinor h0 minor) := by
  obtain ⟨h1, h2, h3, h4, h5, h6, h7, h8⟩ := header_spec P hv sender eph pk rs h0 hhdr
  exact ⟨h1, by simp [withMinor, h2], h3, h4, h5, h6, h7, h8⟩

theorem payloadKeyBox_major {v w : Version} (h : w.major = v.major) (j : Nat) :
    Nonce.payloadKeyBox w j = Nonce.payloadKeyBox v j := by
  simp only [Nonce.payloadKeyBox, h]

theorem lookup_ring_aux (P : Prims) (sks : List Bytes) :
    ∀ (kids : List Bytes) (o : Nat), (∃ k ∈ kids, ∃ s ∈ sks, P.boxPub s = k) →
      ∃ idx s, s ∈ sks ∧ kids[idx]? = some (P.boxPub s) ∧
        (lookupList P sks kids o).head? = some (((o + idx : Nat) : Int), s) := by
  intro kids
  induction kids with
  | nil => intro o ⟨k, hk, _⟩; cases hk
  | cons k kids ih =>
    intro o hex
    cases hf : sks.find? (fun s => P.boxPub s == k) with
    | some s =>
      have hmem : s ∈ sks := List.mem_of_find?_eq_some hf
      have hp : P.boxPub s = k := by
        have := List.find?_some hf
        exact bytes_eq_of_beq this
      refine ⟨0, s, hmem, by simp [hp], ?_⟩
      unfold lookupList
      rw [List.zipIdx_cons, List.filterMap_cons]
      simp only [hf, Option.map_some, List.head?_cons, Nat.add_zero]
    | none =>
      have hnone : ∀ s ∈ sks, P.boxPub s ≠ k := by
        intro s hs heq
        have := List.find?_eq_none.1 hf s hs
        exact this (bytes_beq_true heq)
      have hex' : ∃ k' ∈ kids, ∃ s ∈ sks, P.boxPub s = k' := by
        obtain ⟨k', hk', s, hs, hsk⟩ := hex
        rcases List.mem_cons.1 hk' with rfl | hk'
        · exact absurd hsk (hnone s hs)
        · exact ⟨k', hk', s, hs, hsk⟩
      obtain ⟨idx, s, hs, h1, h2⟩ := ih (o + 1) hex'
      refine ⟨idx + 1, s, hs, h1, ?_⟩
      have : lookupList P sks (k :: kids) o = lookupList P sks kids (o + 1) := by
        unfold lookupList
        rw [List.zipIdx_cons, List.filterMap_cons]
        simp only [hf, Option.map_none]
      rw [this, h2, show o + 1 + idx = o + (idx + 1) from Nat.add_right_comm o 1 idx]

theorem lookup_ring (P : Prims) (sks kids : List Bytes)
    (h : ∃ k ∈ kids, ∃ s ∈ sks, P.boxPub s = k) :
    ∃ (idx : Nat) (s : Bytes), s ∈ sks ∧ kids[idx]? = some (P.boxPub s) ∧
      (faithfulKeyring P sks).lookupBoxSecretKey kids = ((idx : Int), some s) := by
  obtain ⟨idx, s, hs, h1, h2⟩ := lookup_ring_aux P sks kids 0 h
  refine ⟨idx, s, hs, h1, ?_⟩
  rw [fk_lookup, h2, Nat.zero_add]

/-! ### finding an entry -/

theorem tryVisible_ring_hit (P : Prims) (hP : P.Lawful) {v : Version}
    (sender : Option Bytes) (rs : List Recipient) (eph pk : Bytes) (hpk : pk.length = 32)
    (hpub : ∀ r ∈ rs, r.hidden = false → r.pub ≠ [])
    (sks : List Bytes) (h : EncHeader) (hh : HdrOK P v sender eph pk rs h)
    (hex : ∃ i, ∃ (hi : i < rs.length), rs[i].hidden = false ∧ ∃ s ∈ sks, rs[i].pub = P.boxPub s) :
    ∃ log i s, ∃ (hi : i < rs.length), s ∈ sks ∧ rs[i].hidden = false ∧ rs[i].pub = P.boxPub s ∧
      Decrypt.tryVisible P (faithfulKeyring P sks) h (P.boxPub eph) = (log, .ok (some (s, pk, i))) := by
  obtain ⟨i, hi, hhid, s0, hs0, hsk0⟩ := hex
  obtain ⟨n0, _, hei⟩ := hh.entry i hi
  have hvis_i : i ∈ Decrypt.visibleIndices h.receivers :=
    mem_visibleIndices.2 ⟨_, rs[i].pub, hei, by simp [kidSpec, hhid], hpub rs[i] (List.getElem_mem hi) hhid⟩
  have hkid_i : Decrypt.kidOf (h.receivers.getD i default) = rs[i].pub := by
    simp [List.getD_eq_getElem?_getD, hei, Decrypt.kidOf, kidSpec, hhid]
  have hmem : ∃ k ∈ (Decrypt.visibleIndices h.receivers).map
      (fun i => Decrypt.kidOf (h.receivers.getD i default)), ∃ s ∈ sks, P.boxPub s = k :=
    ⟨rs[i].pub, List.mem_map.2 ⟨i, hvis_i, hkid_i⟩, s0, hs0, hsk0.symm⟩
  obtain ⟨idx, s, hs, hidx, hlook⟩ := lookup_ring P sks _ hmem
  rw [List.getElem?_map, Option.map_eq_some_iff] at hidx
  obtain ⟨orig, horig, hg⟩ := hidx
  obtain ⟨e', k', he', hk', hne'⟩ := mem_visibleIndices.1 (List.mem_of_getElem? horig)
  have horig_lt : orig < rs.length := by
    rw [← hh.len]
    exact (List.getElem?_eq_some_iff.1 he').1
  obtain ⟨n, hn, heo⟩ := hh.entry orig horig_lt
  rw [he'] at heo
  cases heo
  have hnv : Nonce.payloadKeyBox h.version orig = .ok n := by rw [payloadKeyBox_major hh.major]; exact hn
  obtain ⟨hvis, hko⟩ := kidSpec_visible hk'
  have hpe : rs[orig].pub = P.boxPub s := by
    simp only [List.getD_eq_getElem?_getD, he', Option.getD_some, Decrypt.kidOf, hk'] at hg
    rw [hko, hg]
  have hneg : ¬ ((idx : Int) < 0) := Int.not_lt.2 (Int.natCast_nonneg idx)
  have htn : (idx : Int).toNat = idx := Int.toNat_natCast idx
  have hbox : (h.receivers.getD orig default).box = P.box eph (P.boxPub s) n pk := by
    simp [List.getD_eq_getElem?_getD, he', hpe]
  have hlen : (pk.length != 32) = false := by simp [hpk]
  refine ⟨[KeyCall.unbox s (P.boxPub eph) n (P.box eph (P.boxPub s) n pk)], orig, s, horig_lt, hs, hvis, hpe, ?_⟩
  simp only [Decrypt.tryVisible, hlook, hneg, htn, horig, hnv, hbox, unbox_box P hP, hlen,
    if_false, Bool.false_eq_true]

theorem tryVisible_ring_miss (P : Prims) {v : Version}
    (sender : Option Bytes) (rs : List Recipient) (eph pk : Bytes)
    (sks : List Bytes) (h : EncHeader) (hh : HdrOK P v sender eph pk rs h)
    (hno : ∀ i (hi : i < rs.length), rs[i].hidden = false → ∀ s ∈ sks, rs[i].pub ≠ P.boxPub s) :
    Decrypt.tryVisible P (faithfulKeyring P sks) h (P.boxPub eph) = ([], .ok none) := by
  have hlook : (faithfulKeyring P sks).lookupBoxSecretKey
      ((Decrypt.visibleIndices h.receivers).map (fun i => Decrypt.kidOf (h.receivers.getD i default))) =
      (-1, none) := by
    apply lookup_none
    intro s hs k hk
    rw [named_eq, hh.kids] at hk
    simp only [List.mem_map, List.mem_filter] at hk
    obtain ⟨o, ⟨⟨r, hr, rfl⟩, hvis⟩, rfl⟩ := hk
    cases hhid : r.hidden with
    | true => simp [kidSpec, hhid, visK] at hvis
    | false =>
      obtain ⟨j, hj, hrj⟩ := List.getElem_of_mem hr
      have := hno j hj (by rw [hrj]; exact hhid) s hs
      rw [hrj] at this
      simpa [kidSpec, hhid] using this
  simp only [Decrypt.tryVisible, hlook]

theorem tryHiddenOne_ring_at (P : Prims) (hP : P.Lawful) {v : Version}
    (sender : Option Bytes) (rs : List Recipient) (eph pk : Bytes) (hpk : pk.length = 32)
    (hpub : ∀ r ∈ rs, r.hidden = false → r.pub ≠ [])
    (h : EncHeader) (hh : HdrOK P v sender eph pk rs h)
    (s : Bytes) (i : Nat) (hi : i < rs.length) (hsi : rs[i].pub = P.boxPub s) (hhid : rs[i].hidden = true)
    (hbefore : ∀ j (hjl : j < rs.length), j < i → rs[j].hidden = true → ∀ n, Nonce.payloadKeyBox v j = .ok n →
      P.unbox s (P.boxPub eph) n (P.box eph rs[j].pub n pk) = none) :
    ∃ log, Decrypt.tryHiddenOne P h.version s (P.boxPub eph) h.receivers.zipIdx = (log, .ok (some (pk, i))) := by
  obtain ⟨n, hn, hei⟩ := hh.entry i hi
  have := tryHiddenOne_hit P h.version s (P.boxPub eph) pk hpk h.receivers 0 i _ hei
    ((hidK_kidSpec (hpub _ (List.getElem_mem hi))).trans hhid)
    ⟨n, by rw [Nat.zero_add, payloadKeyBox_major hh.major]; exact hn, by rw [hsi]; exact unbox_box P hP s eph n pk⟩
    (fun j r' hj hr' hjh => by
      have hjl : j < rs.length := Nat.lt_trans hj hi
      obtain ⟨m, hm, hej⟩ := hh.entry j hjl
      rw [hej] at hr'
      cases hr'
      have hjh' : rs[j].hidden = true := (hidK_kidSpec (hpub _ (List.getElem_mem hjl))).symm.trans hjh
      exact ⟨m, by rw [Nat.zero_add, payloadKeyBox_major hh.major]; exact hm, hbefore j hjl hj hjh' m hm⟩)
  rwa [Nat.zero_add] at this

theorem tryHiddenOne_ring_none (P : Prims) {v : Version}
    (sender : Option Bytes) (rs : List Recipient) (eph pk : Bytes)
    (h : EncHeader) (hh : HdrOK P v sender eph pk rs h) (s : Bytes)
    (hall : ∀ j (hj : j < rs.length), hidK (kidSpec rs[j]) = true → ∀ n, Nonce.payloadKeyBox v j = .ok n →
      P.unbox s (P.boxPub eph) n (P.box eph rs[j].pub n pk) = none) :
    ∃ log, Decrypt.tryHiddenOne P h.version s (P.boxPub eph) h.receivers.zipIdx = (log, .ok none) := by
  apply tryHiddenOne_miss
  intro j r hr hjh
  have hj : j < rs.length := by
    rw [← hh.len]
    exact (List.getElem?_eq_some_iff.1 hr).1
  obtain ⟨m, hm, hej⟩ := hh.entry j hj
  rw [hej] at hr
  cases hr
  exact ⟨m, by rw [Nat.zero_add, payloadKeyBox_major hh.major]; exact hm, hall j hj hjh m hm⟩

theorem getD_eq_getElem' {α : Type} [Inhabited α] (l : List α) (j : Nat) (hj : j < l.length) :
    l.getD j default = l[j] := by
  simp [List.getD_eq_getElem?_getD, hj]

theorem pub_inj {rs : List Recipient} (hnd : (rs.map (·.pub)).Nodup) {i j : Nat} (hi : i < rs.length)
    (hj : j < rs.length) (h : rs[i].pub = rs[j].pub) : i = j :=
  (List.getElem?_inj (by simpa using hi) hnd).1 (by simp [hi, hj, h])

theorem RingNoSpuriousOpen.elem {P : Prims} {v : Version} {eph pk : Bytes} {rs : List Recipient} {sks : List Bytes}
    (h : RingNoSpuriousOpen P v eph pk rs sks) {s : Bytes} (hs : s ∈ sks) (j : Nat) (hj : j < rs.length)
    (hhid : rs[j].hidden = true) (hne : ∀ j' (hj' : j' < rs.length), j' ≤ j → rs[j'].pub ≠ P.boxPub s)
    (n : Bytes) (hn : Nonce.payloadKeyBox v j = .ok n) :
    P.unbox s (P.boxPub eph) n (P.box eph rs[j].pub n pk) = none := by
  have := h s hs j hj (by rwa [getD_eq_getElem' rs j hj]) (fun j' hj' => by
    have hj'l : j' < rs.length := Nat.lt_of_le_of_lt hj' hj
    rw [getD_eq_getElem' rs j' hj'l]
    exact hne j' hj'l hj') n hn
  rwa [getD_eq_getElem' rs j hj] at this

theorem tryHidden_ring_hit (P : Prims) (hP : P.Lawful) {v : Version}
    (sender : Option Bytes) (rs : List Recipient) (eph pk : Bytes) (hpk : pk.length = 32)
    (hpub : ∀ r ∈ rs, r.hidden = false → r.pub ≠ [])
    (hnd : (rs.map (·.pub)).Nodup)
    (h : EncHeader) (hh : HdrOK P v sender eph pk rs h) :
    ∀ (sks : List Bytes), RingNoSpuriousOpen P v eph pk rs sks →
      (∀ i (hi : i < rs.length), ∀ s ∈ sks, rs[i].pub = P.boxPub s → rs[i].hidden = true) →
      (∃ i, ∃ (hi : i < rs.length), ∃ s ∈ sks, rs[i].pub = P.boxPub s) →
      ∃ log i s, ∃ (hi : i < rs.length), s ∈ sks ∧ rs[i].hidden = true ∧ rs[i].pub = P.boxPub s ∧
        Decrypt.tryHidden P h (P.boxPub eph) sks = (log, .ok (some (s, pk, i))) := by
  intro sks
  induction sks with
  | nil => intro _ _ ⟨i, hi, s, hs, _⟩; cases hs
  | cons s sks ih =>
    intro hns hhid hex
    by_cases hown : ∃ i, ∃ (hi : i < rs.length), rs[i].pub = P.boxPub s
    · -- `s` is the key of recipient `i`: the entries before `i` are not its own
      obtain ⟨i, hi, hsi⟩ := hown
      have hih : rs[i].hidden = true := hhid i hi s List.mem_cons_self hsi
      obtain ⟨log, hlog⟩ := tryHiddenOne_ring_at P hP sender rs eph pk hpk hpub h hh s i hi hsi hih
        (fun j hjl hj hjh => hns.elem List.mem_cons_self j hjl hjh (fun j' hj'l hj' heq => by
          have : j' = i := pub_inj hnd hj'l hi (heq.trans hsi.symm)
          omega))
      exact ⟨KeyCall.precompute s (P.boxPub eph) :: log, i, s, hi, List.mem_cons_self, hih, hsi, by
        simp only [Decrypt.tryHidden, hlog]⟩
    · -- `s` is a foreign key: it opens nothing, the walk goes on with the next key
      have hnot : ∀ j (hj : j < rs.length), rs[j].pub ≠ P.boxPub s := fun j hj heq => hown ⟨j, hj, heq⟩
      obtain ⟨log1, hlog1⟩ := tryHiddenOne_ring_none P sender rs eph pk h hh s (fun j hj hjh =>
        hns.elem List.mem_cons_self j hj ((hidK_kidSpec (hpub _ (List.getElem_mem hj))).symm.trans hjh)
          (fun j' hj'l _ => hnot j' hj'l))
      obtain ⟨log2, i, s', hi, hs', hih, hsi, hlog2⟩ := ih
        (fun s' hs' => hns s' (List.mem_cons_of_mem _ hs'))
        (fun i hi s' hs' => hhid i hi s' (List.mem_cons_of_mem _ hs'))
        (by
          obtain ⟨i, hi, s', hs', hsi⟩ := hex
          rcases List.mem_cons.1 hs' with rfl | hs'
          · exact absurd hsi (hnot i hi)
          · exact ⟨i, hi, s', hs', hsi⟩)
      exact ⟨(KeyCall.precompute s (P.boxPub eph) :: log1) ++ log2, i, s', hi, List.mem_cons_of_mem _ hs',
        hih, hsi, by simp only [Decrypt.tryHidden, hlog1, hlog2]⟩

/-! ### the whole header -/

theorem enc_header_validates (v : Version) (hv : v = v1 ∨ v = v2) (h : EncHeader)
    (h1 : h.formatName = Gen.c_sp_FormatName) (h2 : h.version.major = v.major) (h3 : h.typ = mtEncryption) :
    Decrypt.validate knownMajor h = .ok () := by
  have hk : knownMajor h.version = true := by
    unfold knownMajor
    rw [h2]
    rcases hv with rfl | rfl <;> rfl
  simp [Decrypt.validate, h1, h3, hk]

theorem macKeyReceiver_major (P : Prims) {v w : Version} (h : w.major = v.major) (idx : Nat)
    (sk pub ePub hh : Bytes) :
    Decrypt.macKeyReceiver P w idx sk pub ePub hh = Decrypt.macKeyReceiver P v idx sk pub ePub hh := by
  simp only [Decrypt.macKeyReceiver, h]

/-- the MKI a receiver reports when it opened the message as recipient `i` with
    the ring key `sk` -/
def mkiOf (P : Prims) (sender : Option Bytes) (rs : List Recipient) (eph : Bytes) (i : Nat) (sk : Bytes) : MKI :=
  { senderKey := P.boxPub (sender.getD eph), senderIsAnon := sender.isNone,
    receiverKey := sk, receiverIsAnon := (rs.getD i default).hidden,
    namedReceivers := (rs.filter (fun r => !r.hidden)).map (·.pub),
    numAnonReceivers := if (rs.getD i default).hidden then (rs.filter (·.hidden)).length else 0 }

/-- the ring holds a recipient's key: header processing succeeds as SOME
    recipient position `i` with SOME ring key `sk` of that recipient -/
theorem processHeader_ring (P : Prims) (hP : P.Lawful) {v : Version} (hv : v = v1 ∨ v = v2)
    (sender : Option Bytes) (rs : List Recipient) (eph pk : Bytes) (hpk : pk.length = 32)
    (hnamed : ∀ s, sender = some s → P.boxPub s ≠ P.boxPub eph)
    (hpub : ∀ r ∈ rs, r.hidden = false → r.pub ≠ [])
    (hnd : (rs.map (·.pub)).Nodup)
    (sks : List Bytes) (hns : RingNoSpuriousOpen P v eph pk rs sks)
    (hex : ∃ i, ∃ (hi : i < rs.length), ∃ s ∈ sks, rs[i].pub = P.boxPub s)
    (h : EncHeader) (hh : HdrOK P v sender eph pk rs h) (hhash : Bytes) :
    ∃ log i sk, ∃ (hi : i < rs.length), sk ∈ sks ∧ rs[i].pub = P.boxPub sk ∧
      ∀ mk, macKeySender P v i (sender.getD eph) eph rs[i].pub hhash = .ok mk →
        Decrypt.processHeader P knownMajor (faithfulKeyring P sks) hhash h =
          (log, .ok { version := h.version, payloadKey := pk, headerHash := hhash, macKey := mk, position := i,
                      mki := mkiOf P sender rs eph i sk }) := by
  have hval := enc_header_validates v hv h hh.fmt hh.major hh.typ
  have hnamedR : (Decrypt.visibleIndices h.receivers).map
      (fun i => Decrypt.kidOf (h.receivers.getD i default)) =
      (rs.filter (fun r => !r.hidden)).map (·.pub) := by
    rw [named_eq, hh.kids, named_of_spec rs hpub]
  have hcount : (h.receivers.filter Decrypt.isHidden).length = (rs.filter (·.hidden)).length := by
    rw [hiddenCount_eq, hh.kids, hiddenCount_of_spec rs hpub]
  have hsb : P.sbOpen pk Nonce.senderKeySecretBox h.senderSecretbox = some (P.boxPub (sender.getD eph)) := by
    rw [hh.ssb, hP.sb_open_seal]
  have hslen : ((P.boxPub (sender.getD eph)).length != 32) = false := by simp [hP.pub_len]
  have hanon : (P.boxPub eph == P.boxPub (sender.getD eph)) = sender.isNone := by
    cases sender with
    | none => exact bytes_beq_true rfl
    | some s => exact bytes_beq_false (fun h => hnamed s rfl h.symm)
  have hsp : (if sender.isNone = true then some (P.boxPub eph) else some (P.boxPub (sender.getD eph))) =
      some (P.boxPub (sender.getD eph)) := by
    cases sender <;> rfl
  by_cases hvis : ∃ i, ∃ (hi : i < rs.length), rs[i].hidden = false ∧ ∃ s ∈ sks, rs[i].pub = P.boxPub s
  · obtain ⟨log1, i, sk, hi, hsk, hhid, hpe, htv⟩ :=
      tryVisible_ring_hit P hP sender rs eph pk hpk hpub sks h hh hvis
    refine ⟨log1 ++ [] ++ (Decrypt.macKeyReceiver P v i sk (P.boxPub (sender.getD eph)) (P.boxPub eph) hhash).1,
      i, sk, hi, hsk, hpe, ?_⟩
    intro mk hmk
    rw [hpe] at hmk
    obtain ⟨log3, hmac⟩ := macKey_agree P hP hv i (sender.getD eph) eph sk hhash mk hmk
    have hgd : (rs.getD i default).hidden = false := by rw [getD_eq_getElem' rs i hi]; exact hhid
    -- the steps of `processHeader` in order: `hval` (validate), `fk_import` (ephemeral key), `htv` (entry by
    -- name), `hsb`/`hslen` (sender secretbox), `hanon`/`hsp` (sender key), `hmac` (MAC key); `hnamedR`
    -- (and `hcount` below) bring the reported `MKI` to the form `mkiOf`
    simp only [Decrypt.processHeader, hval, fk_import, fk_lookupPub, hh.ephPub, htv, hsb, hslen, hanon, hsp,
      macKeyReceiver_major P hh.major, hmac, hnamedR, Bool.false_eq_true, if_false, mkiOf, hgd]
  · have hno : ∀ i (hi : i < rs.length), rs[i].hidden = false → ∀ s ∈ sks, rs[i].pub ≠ P.boxPub s :=
      fun i hi hf s hs heq => hvis ⟨i, hi, hf, s, hs, heq⟩
    have htv := tryVisible_ring_miss P sender rs eph pk sks h hh hno
    have hhid : ∀ i (hi : i < rs.length), ∀ s ∈ sks, rs[i].pub = P.boxPub s → rs[i].hidden = true := by
      intro i hi s hs heq
      cases hc : rs[i].hidden with
      | true => rfl
      | false => exact absurd heq (hno i hi hc s hs)
    obtain ⟨log2, i, sk, hi, hsk, hih, hpe, hth⟩ :=
      tryHidden_ring_hit P hP sender rs eph pk hpk hpub hnd h hh sks hns hhid hex
    refine ⟨[] ++ log2 ++ (Decrypt.macKeyReceiver P v i sk (P.boxPub (sender.getD eph)) (P.boxPub eph) hhash).1,
      i, sk, hi, hsk, hpe, ?_⟩
    intro mk hmk
    rw [hpe] at hmk
    obtain ⟨log3, hmac⟩ := macKey_agree P hP hv i (sender.getD eph) eph sk hhash mk hmk
    have hgd : (rs.getD i default).hidden = true := by rw [getD_eq_getElem' rs i hi]; exact hih
    simp only [Decrypt.processHeader, hval, fk_import, fk_lookupPub, fk_all, hh.ephPub, htv, hth, hsb, hslen, hanon, hsp,
      macKeyReceiver_major P hh.major, hmac, hnamedR, hcount, Bool.false_eq_true, if_false, if_true,
      mkiOf, hgd]

/-! ### the payload packets: only the major version matters -/

theorem payloadHash_major (P : Prims) {v w : Version} (h : w.major = v.major) (hh n ct : Bytes) (f : Bool) :
    payloadHash P w hh n ct f = payloadHash P v hh n ct f := by
  simp only [payloadHash, h]

theorem checkChunkState_major {v w : Version} (h : w.major = v.major) (len idx : Nat) (f : Bool) :
    checkChunkState w len idx f = checkChunkState v len idx f := by
  simp only [checkChunkState, h]

theorem blockFinal_major {v w : Version} (h : w.major = v.major) (b : EncBlock) :
    Decrypt.blockFinal w b = Decrypt.blockFinal v b := by
  simp only [Decrypt.blockFinal, h]

theorem dec_run_major (P : Prims) (st : Decrypt.State) (v : Version) (hm : st.version.major = v.major) (tail : Tail) :
    ∀ (items : List (Option EncBlock)) (n : Nat),
      Decrypt.run P st items tail n = Decrypt.run P { st with version := v } items tail n := by
  intro items
  induction items with
  | nil => intro n; rfl
  | cons it rest ih =>
    intro n
    cases it with
    | none => rfl
    | some b =>
      have hp : ∀ f, Decrypt.processBlock P st b f n = Decrypt.processBlock P { st with version := v } b f n := by
        intro f
        simp only [Decrypt.processBlock, payloadHash_major P hm]
      simp only [Decrypt.run, hp, blockFinal_major hm, checkChunkState_major hm, ih]

/-! ### the general round trip -/

/-- **What a spec-following encryption sender puts on the wire**, relationally:
    for the recipients `rs` (in header order), ephemeral secret `eph`, payload key
    `pk`, chunk plan `plan`, major version of `v` and ANY `minor`: a header whose
    fields are the ones `Encrypt.header` computes, relabelled `[major, minor]`;
    ANY header bytes `hb` (the sender hashes the bytes it sends; the receiver is
    handed the same bytes, and their typed view `h`); MAC keys and payload
    packets computed from the hash of those bytes.
    `Encrypt.sealPacketsPlan` (hence `Encrypt.sealPackets`, i.e. `Seal`) is the
    instance `minor = 0`, `hb = encode h.toVal` (`encSent_of_sealPacketsPlan`);
    the reference sender `Spec.encodePlan` with its `Opts` extras is another
    (Proofs/ExtrasRT). -/
structure EncSent (P : Prims) (v : Version) (minor : Int) (sender : Option Bytes) (rs : List Recipient)
    (eph pk : Bytes) (plan : List (Bytes × Bool)) (h : EncHeader) (hb : Bytes) (blks : List EncBlock) : Prop where
  recv : checkReceivers rs = .ok ()
  hdr : ∃ h0, header P v sender eph pk rs = .ok h0 ∧ h = withMinor h0 minor
  blocks : ∃ mks, macKeysSender P v (sender.getD eph) eph (P.hash hb) rs 0 = .ok mks ∧
    blockStructs P v pk (P.hash hb) mks plan 0 = .ok blks

theorem encSent_of_sealPacketsPlan (P : Prims) {v : Version} (hv : v = v1 ∨ v = v2) (sender : Option Bytes)
    (rs : List Recipient) (eph pk : Bytes) (plan : List (Bytes × Bool))
    (h : EncHeader) (hb : Bytes) (blks : List EncBlock)
    (hseal : sealPacketsPlan P v sender rs eph pk plan = .ok (h, hb, blks)) :
    EncSent P v 0 sender rs eph pk plan h hb blks := by
  obtain ⟨hcr, hhdr, mks, hm, hbl⟩ := sealPacketsPlan_inv P v sender rs eph pk plan h hb blks hseal
  have hver := (header_spec P hv sender eph pk rs h hhdr).2.1
  exact ⟨hcr, ⟨h, hhdr, (withMinor_self hv h hver).symm⟩, mks, hm, hbl⟩

/-- the message opens *as some recipient position `i'` whose key `sk'` is in the
    ring*: the first visible recipient, in header order, whose key is in the ring;
    failing that the first ring key, in ring order, that belongs to a hidden
    recipient -/
theorem enc_roundtrip_ring (P : Prims) (hP : P.Lawful)
    (v : Version) (hv : v = v1 ∨ v = v2) (minor : Int)
    (sender : Option Bytes) (rs : List Recipient) (eph payloadKey : Bytes)
    (plan : List (Bytes × Bool)) (hplan : PlanL.FinalLast plan)
    (he1 : v = v1 → ∀ p ∈ plan, (p.1 = [] ↔ p.2 = true)) (he2 : v = v2 → PlanL.EmptySole plan)
    (hpk : payloadKey.length = 32)
    (hnamed : ∀ s, sender = some s → P.boxPub s ≠ P.boxPub eph)
    (hpub : ∀ r ∈ rs, r.hidden = false → r.pub ≠ [])
    (sks : List Bytes) (i : Nat) (hi : i < rs.length) (sk : Bytes) (hmem : sk ∈ sks)
    (hsk : (rs.getD i default).pub = P.boxPub sk)
    (hns : RingNoSpuriousOpen P v eph payloadKey rs sks)
    (h : EncHeader) (hb : Bytes) (blks : List EncBlock)
    (hsent : EncSent P v minor sender rs eph payloadKey plan h hb blks) :
    ∃ i' sk', i' < rs.length ∧ sk' ∈ sks ∧ (rs.getD i' default).pub = P.boxPub sk' ∧
      Decrypt.openAll P knownMajor (faithfulKeyring P sks) (.ok hb h) ⟨blks.map some, .eof⟩ =
        .ok (mkiOf P sender rs eph i' sk', (plan.map (·.1)).flatten) := by
  obtain ⟨hcr, ⟨h0, hhdr, rfl⟩, mks, hm, hbl⟩ := hsent
  obtain ⟨_, hnd⟩ := checkReceivers_inv hcr
  have hh := hdrOK_of_header P hv sender eph payloadKey rs h0 hhdr minor
  rw [getD_eq_getElem' rs i hi] at hsk
  obtain ⟨log, i', sk', hi', hsk', hpe, hph⟩ := processHeader_ring P hP hv sender rs eph payloadKey hpk hnamed hpub
    hnd sks hns ⟨i, hi, sk, hmem, hsk⟩ (withMinor h0 minor) hh (P.hash hb)
  obtain ⟨mks', hm', _, hmp⟩ := macKeysSender_spec P hv (sender.getD eph) eph (P.hash hb) rs 0
  rw [hm] at hm'
  cases hm'
  obtain ⟨mk, hmk, hmki⟩ := hmp i' hi'
  rw [Nat.zero_add] at hmk
  have hph' := hph mk hmk
  refine ⟨i', sk', hi', hsk', by rw [getD_eq_getElem' rs i' hi']; exact hpe, ?_⟩
  have hrun := PlanL.run_roundtrip_plan P hP hv plan hplan he1 he2
    { version := v, payloadKey := payloadKey, headerHash := P.hash hb, macKey := mk, position := i',
      mki := mkiOf P sender rs eph i' sk' }
    rfl mks hmki blks hbl
  have hrun' := dec_run_major P
    { version := (withMinor h0 minor).version, payloadKey := payloadKey, headerHash := P.hash hb, macKey := mk,
      position := i', mki := mkiOf P sender rs eph i' sk' } v hh.major .eof (blks.map some) 1
  simp only [Decrypt.openAll, Decrypt.openStream, hph', hrun', hrun]

theorem enc_roundtrip_ring_unique (P : Prims) (hP : P.Lawful)
    (v : Version) (hv : v = v1 ∨ v = v2) (minor : Int)
    (sender : Option Bytes) (rs : List Recipient) (eph payloadKey : Bytes)
    (plan : List (Bytes × Bool)) (hplan : PlanL.FinalLast plan)
    (he1 : v = v1 → ∀ p ∈ plan, (p.1 = [] ↔ p.2 = true)) (he2 : v = v2 → PlanL.EmptySole plan)
    (hpk : payloadKey.length = 32)
    (hnamed : ∀ s, sender = some s → P.boxPub s ≠ P.boxPub eph)
    (hpub : ∀ r ∈ rs, r.hidden = false → r.pub ≠ [])
    (sks : List Bytes) (i : Nat) (hi : i < rs.length) (sk : Bytes) (hmem : sk ∈ sks)
    (hsk : (rs.getD i default).pub = P.boxPub sk)
    (honly : ∀ s ∈ sks, ∀ j, j < rs.length → (rs.getD j default).pub = P.boxPub s → j = i ∧ s = sk)
    (hns : RingNoSpuriousOpen P v eph payloadKey rs sks)
    (h : EncHeader) (hb : Bytes) (blks : List EncBlock)
    (hsent : EncSent P v minor sender rs eph payloadKey plan h hb blks) :
    Decrypt.openAll P knownMajor (faithfulKeyring P sks) (.ok hb h) ⟨blks.map some, .eof⟩ =
      .ok (mkiOf P sender rs eph i sk, (plan.map (·.1)).flatten) := by
  obtain ⟨i', sk', hi', hsk', hpe, hopen⟩ := enc_roundtrip_ring P hP v hv minor sender rs eph payloadKey plan hplan
    he1 he2 hpk hnamed hpub sks i hi sk hmem hsk hns h hb blks hsent
  obtain ⟨rfl, rfl⟩ := honly sk' hsk' i' hi' hpe
  exact hopen

theorem honly_single (P : Prims) (rs : List Recipient) (hnd : (rs.map (·.pub)).Nodup)
    (i : Nat) (hi : i < rs.length) (sk : Bytes) (hsk : (rs.getD i default).pub = P.boxPub sk) :
    ∀ s ∈ [sk], ∀ j, j < rs.length → (rs.getD j default).pub = P.boxPub s → j = i ∧ s = sk := by
  intro s hs j hj heq
  have hs' : s = sk := List.mem_singleton.1 hs
  subst hs'
  refine ⟨?_, rfl⟩
  rw [getD_eq_getElem' rs j hj, ← hsk, getD_eq_getElem' rs i hi] at heq
  exact pub_inj hnd hj hi heq

end Saltpack.Proofs

