/-
  The armor reader stack, stage 4: the BaseX decoder stream (`dRead`) as a layer
  over the filtering reader, and `readAll`.

  Meaning of a decoder state: the pending output, then the block-by-block
  strict decoding (`Basex.decodePrefix`: up to the first block that fails) of
  the buffered characters followed by the characters the filter can still hand
  out — all blocks when a clean end is possible, the whole blocks only when it
  is not; a clean end remains possible when the filter allows one and every
  block decodes.

  Core Lean only.
-/
import Saltpack.Proofs.StackFilter

namespace Saltpack.Proofs
open Saltpack Saltpack.Stream

theorem cblock_le {e : Basex.Enc} (he : e.WF) : e.charBlockLen ≤ 8 * e.blockLen := by
  have h := (he.enc_least e.blockLen (Nat.le_refl _)).2
  rw [he.enc_full] at h
  rcases h with h | h
  · omega
  · have h1 : 2 ^ (e.charBlockLen - 1) ≤ e.base ^ (e.charBlockLen - 1) :=
      Nat.pow_le_pow_left he.base_gt _
    have h2 : (256 : Nat) ^ e.blockLen = 2 ^ (8 * e.blockLen) := by
      rw [show (256 : Nat) = 2 ^ 8 from rfl, ← Nat.pow_mul]
    rw [h2] at h
    have := (Nat.pow_lt_pow_iff_right (a := 2) (by omega)).mp (Nat.lt_of_le_of_lt h1 h)
    omega

theorem basexErr_err (x : Basex.Err) : ∃ z, basexErr x = .err z := by
  cases x with
  | corrupt p => exact ⟨_, rfl⟩
  | badLen => exact ⟨_, rfl⟩

/-- the number of characters a `Read(p)` with `len(p) = cap` asks for at most -/
def nnOf (par : Armor.Params) (cap : Nat) : Nat :=
  let nn0 := cap / par.enc.blockLen * par.enc.charBlockLen
  let nn1 := if nn0 < par.enc.charBlockLen then par.enc.charBlockLen else nn0
  if nn1 > dBufSize par.enc then dBufSize par.enc else nn1

theorem nnOf_ge (par : Armor.Params) (he : par.enc.WF) (cap : Nat) : par.enc.charBlockLen ≤ nnOf par cap := by
  have hB : par.enc.charBlockLen ≤ 8192 * par.enc.blockLen :=
    Nat.le_trans (cblock_le he) (Nat.mul_le_mul_right _ (by decide))
  unfold nnOf dBufSize
  simp only
  split
  · split
    · exact hB
    · exact Nat.le_refl _
  · split
    · exact hB
    · exact Nat.le_of_not_lt (by assumption)

/-! ## the blocks of `dRead` -/

/-- decode `nDec` buffered characters and hand out the result -/
def dEmit (par : Armor.Params) (cap : Nat) (d2 : DState) (nDec : Nat) : Bytes × Option RErr × DState :=
  let nOut := par.enc.decLen nDec
  let (dec, de) := Basex.decodePrefix par.enc (nDec + 1) (d2.buf.take nDec)
  let err' : Option RErr := de.map basexErr
  let rest := d2.buf.drop nDec
  if nOut > cap then
    let ret := dec.take cap
    let d3 := { d2 with err := err', out := dec.drop cap, buf := rest }
    if ret.isEmpty && err'.isNone && cap != 0 then ([], some .eof, d3) else (ret, err', d3)
  else
    let d3 := { d2 with err := err', buf := rest }
    if dec.isEmpty && err'.isNone && cap != 0 then ([], some .eof, d3) else (dec, err', d3)

/-- what `dRead` does after filling its buffer -/
def dDecode (par : Armor.Params) (cap : Nat) (d1 : DState) : Bytes × Option RErr × DState :=
  let (eof, d2) : Bool × DState := match d1.err with
    | some .eof => (true, { d1 with err := none })
    | _ => (false, d1)
  if eof && d2.buf.isEmpty then ([], some .eof, { d2 with err := some .eof })
  else match d2.err with
  | some e => ([], some e, d2)
  | none => dEmit par cap d2 (if eof then d2.buf.length else d2.buf.length / par.enc.charBlockLen * par.enc.charBlockLen)

theorem dRead_out (par : Armor.Params) (expect : Armor.Expect) (cap : Nat) (d : DState) (he : d.err = none)
    (ho : d.out ≠ []) : dRead par expect cap d = (d.out.take cap, none, { d with out := d.out.drop cap }) := by
  unfold dRead
  rw [he]
  have : (!d.out.isEmpty) = true := by simp [ho]
  simp only [this, if_true]

theorem dRead_fill (par : Armor.Params) (expect : Armor.Expect) (cap : Nat) (d : DState) (he : d.err = none)
    (ho : d.out = []) :
    dRead par expect cap d = dDecode par cap (dFill par expect (nnOf par cap) (nnOf par cap + 2) d) := by
  unfold dRead
  rw [he]
  have : ¬ (!d.out.isEmpty) = true := by simp [ho]
  simp only [this]
  rfl

theorem dDecode_none (par : Armor.Params) (cap : Nat) (d1 : DState) (h : d1.err = none) :
    dDecode par cap d1 = dEmit par cap d1 (d1.buf.length / par.enc.charBlockLen * par.enc.charBlockLen) := by
  unfold dDecode
  rw [h]
  simp only [Bool.false_and, Bool.false_eq_true, if_false, h]

theorem dDecode_err (par : Armor.Params) (cap : Nat) (d1 : DState) (z : Err) (h : d1.err = some (.err z)) :
    dDecode par cap d1 = ([], some (.err z), d1) := by
  unfold dDecode
  rw [h]
  simp only [Bool.false_and, Bool.false_eq_true, if_false, h]

theorem dDecode_eof_empty (par : Armor.Params) (cap : Nat) (d1 : DState) (h : d1.err = some .eof) (hb : d1.buf = []) :
    dDecode par cap d1 = ([], some .eof, { d1 with err := some .eof }) := by
  unfold dDecode
  rw [h]
  simp [hb]

theorem dDecode_eof (par : Armor.Params) (cap : Nat) (d1 : DState) (h : d1.err = some .eof) (hb : d1.buf ≠ []) :
    dDecode par cap d1 = dEmit par cap { d1 with err := none } d1.buf.length := by
  unfold dDecode
  rw [h]
  simp [hb]

/-! ## `decodePrefix` -/

/-- `Basex.decodePrefix` with its natural fuel: the bytes of the blocks decoded
    before the first bad block, and the error of that block (if any) -/
def dP (e : Basex.Enc) (s : Bytes) : Bytes × Option Basex.Err := Basex.decodePrefix e (s.length + 1) s

theorem length_drop_lt {α : Type} (s : List α) (n : Nat) (hn : 0 < n) (h0 : s ≠ []) : (s.drop n).length < s.length := by
  rw [List.length_drop]
  exact Nat.sub_lt (List.length_pos_iff.mpr h0) hn

theorem decodePrefix_fuel (e : Basex.Enc) (hN : 0 < e.charBlockLen) : ∀ (fuel fuel' : Nat) (s : Bytes),
    s.length < fuel → s.length < fuel' → Basex.decodePrefix e fuel s = Basex.decodePrefix e fuel' s := by
  intro fuel
  induction fuel with
  | zero => intro fuel' s h; omega
  | succ f ih =>
    intro fuel' s h h'
    cases fuel' with
    | zero => omega
    | succ f' =>
      by_cases h0 : s = []
      · subst h0; simp [Basex.decodePrefix]
      · have hl := length_drop_lt s e.charBlockLen hN h0
        rw [Basex.decodePrefix, Basex.decodePrefix, ih f' (s.drop e.charBlockLen)
          (Nat.lt_of_lt_of_le hl (Nat.le_of_lt_succ h)) (Nat.lt_of_lt_of_le hl (Nat.le_of_lt_succ h'))]

theorem dP_nil (e : Basex.Enc) : dP e [] = ([], none) := by
  simp [dP, Basex.decodePrefix]

theorem dP_step (e : Basex.Enc) (hN : 0 < e.charBlockLen) (s : Bytes) (h0 : s ≠ []) :
    dP e s =
      match Basex.decode e.strict (s.take e.charBlockLen) with
      | .error x => ([], some x)
      | .ok b => (b ++ (dP e (s.drop e.charBlockLen)).1, (dP e (s.drop e.charBlockLen)).2) := by
  have hse : s.isEmpty = false := by cases s with
    | nil => exact absurd rfl h0
    | cons _ _ => rfl
  have hl := length_drop_lt s e.charBlockLen hN h0
  unfold dP
  rw [Basex.decodePrefix]
  simp only [hse, Bool.false_eq_true, if_false]
  rw [decodePrefix_fuel e hN s.length ((s.drop e.charBlockLen).length + 1) _ hl (Nat.lt_succ_self _)]
  cases Basex.decode e.strict (s.take e.charBlockLen) with
  | error x => rfl
  | ok b => rfl

theorem dP_append (e : Basex.Enc) (hN : 0 < e.charBlockLen) : ∀ (k : Nat) (A B : Bytes),
    A.length = k * e.charBlockLen →
    dP e (A ++ B) =
      match dP e A with
      | (p, some x) => (p, some x)
      | (p, none) => (p ++ (dP e B).1, (dP e B).2) := by
  intro k
  induction k with
  | zero =>
    intro A B h
    have : A = [] := List.length_eq_zero_iff.mp (by simpa using h)
    subst this
    simp [dP_nil]
  | succ k ih =>
    intro A B h
    have hge : e.charBlockLen ≤ A.length := by rw [h, Nat.succ_mul]; exact Nat.le_add_left _ _
    have hA0 : A ≠ [] := List.length_pos_iff.mp (Nat.lt_of_lt_of_le hN hge)
    have hAB0 : A ++ B ≠ [] := by simp [hA0]
    have h1 : (A ++ B).take e.charBlockLen = A.take e.charBlockLen := List.take_append_of_le_length hge
    have h2 : (A ++ B).drop e.charBlockLen = A.drop e.charBlockLen ++ B := List.drop_append_of_le_length hge
    have h3 : (A.drop e.charBlockLen).length = k * e.charBlockLen := by
      rw [List.length_drop, h, Nat.succ_mul, Nat.add_sub_cancel]
    rw [dP_step e hN (A ++ B) hAB0, h1, h2, ih _ B h3, dP_step e hN A hA0]
    cases Basex.decode e.strict (A.take e.charBlockLen) with
    | error x => rfl
    | ok b =>
      simp only
      rcases dP e (A.drop e.charBlockLen) with ⟨p, _ | x⟩
      · simp [List.append_assoc]
      · rfl

theorem dP_decS (e : Basex.Enc) (hN : 0 < e.charBlockLen) (s : Bytes) (h : AllDig e s) :
    (∀ y, decS e s = some y → dP e s = (y, none)) ∧ (decS e s = none → ∃ p x, dP e s = (p, some x)) :=
  decodePrefix_spec e hN (s.length + 1) s h (Nat.lt_succ_self _)

/-- the whole blocks of a string -/
def fullBlocks (e : Basex.Enc) (s : Bytes) : Bytes := s.take (s.length / e.charBlockLen * e.charBlockLen)

theorem fullBlocks_append (e : Basex.Enc) (hN : 0 < e.charBlockLen) (k : Nat) (A W : Bytes)
    (hA : A.length = k * e.charBlockLen) : fullBlocks e (A ++ W) = A ++ fullBlocks e W := by
  unfold fullBlocks
  have h1 : (A ++ W).length / e.charBlockLen * e.charBlockLen =
      A.length + W.length / e.charBlockLen * e.charBlockLen := by
    rw [List.length_append, hA, Nat.add_comm, Nat.add_mul_div_right _ _ hN, Nat.add_mul, Nat.add_comm]
  rw [h1, List.take_length_add_append]

/-- the most that can be decoded from the characters `s`: all blocks
    (`complete`: a clean end is possible, so a short final block counts), or
    the whole blocks only; in both cases up to the first block that fails -/
def decMaxOf (e : Basex.Enc) (complete : Bool) (s : Bytes) : Bytes :=
  if complete then (dP e s).1 else (dP e (fullBlocks e s)).1

theorem decMaxOf_blocks (e : Basex.Enc) (hN : 0 < e.charBlockLen) (k : Nat) (A W : Bytes) (fl : Bool)
    (hA : A.length = k * e.charBlockLen) :
    decMaxOf e fl (A ++ W) =
      match dP e A with
      | (p, some _) => p
      | (p, none) => p ++ decMaxOf e fl W := by
  unfold decMaxOf
  cases fl with
  | true =>
    simp only [if_true]
    rw [dP_append e hN k A W hA]
    rcases dP e A with ⟨p, _ | x⟩ <;> rfl
  | false =>
    simp only [Bool.false_eq_true, if_false]
    rw [fullBlocks_append e hN k A W hA, dP_append e hN k A _ hA]
    rcases dP e A with ⟨p, _ | x⟩ <;> rfl

theorem decMaxOf_nil (e : Basex.Enc) (fl : Bool) : decMaxOf e fl [] = [] := by
  unfold decMaxOf fullBlocks
  cases fl <;> simp [dP_nil]

/-! ## meaning of a decoder state -/

structure DInv (par : Armor.Params) (d : DState) : Prop where
  fil : FInv d.fil.f
  buf : AllDig par.enc d.buf
  err : d.err = none

/-- **the meaning of a state**: pending output, then the decoding of buffer ++ what the filter can still hand
    out (`decMaxOf`, all blocks iff the filter allows a clean end); a clean end stays possible when the filter
    allows one and that whole string decodes (`decS`) -/
def dMax (par : Armor.Params) (expect : Armor.Expect) (d : DState) : Bytes × Option FInfo :=
  (d.out ++ decMaxOf par.enc (filMax par expect d.fil).2.isSome (d.buf ++ (filMax par expect d.fil).1),
    if (decS par.enc (d.buf ++ (filMax par expect d.fil).1)).isSome then (filMax par expect d.fil).2 else none)

/-- the measure: pending output, buffered characters, raw text left -/
def dSize (d : DState) : Nat := d.out.length + d.buf.length + fRaw d.fil.f

/-- the decoder as a layer; at the clean end the framed decoder below is at end-of-stream -/
def decoderL (par : Armor.Params) (expect : Armor.Expect) : Layer DState FInfo where
  sem := dMax par expect
  inv := DInv par
  size := dSize
  info := fun d => (d.fil.f.hdr, d.fil.f.brand, d.fil.f.ftr)
  fin := fun d => d.fil.f.phase = .endOfStream

theorem filMax_end (par : Armor.Params) (expect : Armor.Expect) (s : FilState) (h : s.f.phase = .endOfStream) :
    filMax par expect s = ([], some (s.f.hdr, s.f.brand, s.f.ftr)) := by
  simp [filMax, fMax, h, filOfMax, Basex.filterSkip]

theorem dMax_clean (par : Armor.Params) (expect : Armor.Expect) (d : DState) (hi : FInv d.fil.f) (i : FInfo)
    (hs : (dMax par expect d).2 = some i) : d.fil.f.p.text.2 = .eof := by
  have hs' : (if (decS par.enc (d.buf ++ (filMax par expect d.fil).1)).isSome then (filMax par expect d.fil).2 else none)
      = some i := hs
  by_cases h1 : (decS par.enc (d.buf ++ (filMax par expect d.fil).1)).isSome = true
  · rw [if_pos h1] at hs'
    exact fMax_clean par expect d.fil.f hi i (filOfMax_clean par _ i hs')
  · rw [if_neg h1] at hs'
    cases hs'

/-! ## `dEmit` -/

theorem dEmit_spec (par : Armor.Params) (he : par.enc.WF) (cap : Nat) (hcap : 0 < cap) (d2 : DState) (nDec : Nat)
    (hb : AllDig par.enc d2.buf) (hn0 : 0 < nDec) (hn : nDec ≤ d2.buf.length) (hout : d2.out = [])
    (y : Bytes) (hy : decS par.enc (d2.buf.take nDec) = some y) :
    ∃ x out' d3, dEmit par cap d2 nDec = (x, none, d3) ∧ x ≠ [] ∧ y = x ++ out' ∧
      d3.fil = d2.fil ∧ d3.err = none ∧ d3.buf = d2.buf.drop nDec ∧ d3.out = out' := by
  have hA : AllDig par.enc (d2.buf.take nDec) := allDig_take _ hb
  have hAl : (d2.buf.take nDec).length = nDec := List.length_take_of_le hn
  have p1 := (decodePrefix_spec par.enc he.cblock_pos (nDec + 1) (d2.buf.take nDec) hA (by rw [hAl]; exact Nat.lt_succ_self _)).1
  have hAne : d2.buf.take nDec ≠ [] := List.length_pos_iff.mp (by rw [hAl]; exact hn0)
  have hyne : y ≠ [] := decS_ne_nil he _ hA hAne y hy
  have hcap' : (cap != 0) = true := by simp; omega
  unfold dEmit
  rw [p1 y hy]
  simp only [Option.map_none, Option.isNone_none, Bool.and_true, hcap']
  by_cases hgt : par.enc.decLen nDec > cap
  · rw [if_pos hgt]
    have htk : y.take cap ≠ [] := take_ne_nil y cap hcap hyne
    have : (y.take cap).isEmpty = false := by
      cases h : y.take cap with
      | nil => exact absurd h htk
      | cons _ _ => rfl
    simp only [this, Bool.false_eq_true, if_false]
    exact ⟨_, _, _, rfl, htk, (List.take_append_drop cap y).symm, rfl, rfl, rfl, rfl⟩
  · rw [if_neg hgt]
    have : y.isEmpty = false := by
      cases h : y with
      | nil => exact absurd h hyne
      | cons _ _ => rfl
    simp only [this, Bool.false_eq_true, if_false]
    exact ⟨y, [], _, rfl, hyne, by simp, rfl, rfl, rfl, hout⟩

theorem dEmit_bad (par : Armor.Params) (cap : Nat) (d2 : DState) (nDec : Nat) (hn : nDec ≤ d2.buf.length)
    (p : Bytes) (x : Basex.Err) (h : dP par.enc (d2.buf.take nDec) = (p, some x)) :
    ∃ x' z d3, dEmit par cap d2 nDec = (x', some (.err z), d3) ∧ x' <+: p := by
  have hAl : (d2.buf.take nDec).length = nDec := List.length_take_of_le hn
  unfold dP at h
  rw [hAl] at h
  obtain ⟨z, hz⟩ := basexErr_err x
  unfold dEmit
  rw [h]
  simp only [Option.map_some, hz, Option.isNone_some, Bool.and_false, Bool.false_and, Bool.false_eq_true, if_false]
  split
  · exact ⟨_, _, _, rfl, List.take_prefix _ _⟩
  · exact ⟨_, _, _, rfl, List.prefix_refl _⟩

/-! ## `dFill` -/

theorem dFill_stop (par : Armor.Params) (expect : Armor.Expect) (nn fuel : Nat) (d : DState)
    (h : ¬ (d.buf.length < par.enc.charBlockLen ∧ d.err.isNone = true)) : dFill par expect nn fuel d = d := by
  cases fuel with
  | zero => rfl
  | succ f => rw [dFill, if_neg h]

theorem dFill_go (par : Armor.Params) (expect : Armor.Expect) (nn fuel : Nat) (d : DState)
    (h : d.buf.length < par.enc.charBlockLen ∧ d.err.isNone = true) :
    dFill par expect nn (fuel + 1) d =
      dFill par expect nn fuel
        { d with fil := (filRead par expect (nn - d.buf.length) (fuelOf d.fil.f.p + 4) d.fil).2.2,
                 buf := d.buf ++ (filRead par expect (nn - d.buf.length) (fuelOf d.fil.f.p + 4) d.fil).1,
                 err := (filRead par expect (nn - d.buf.length) (fuelOf d.fil.f.p + 4) d.fil).2.1 } := by
  rw [dFill, if_pos h]

/-- the outcome of the fill loop, in terms of the meaning of the filter below -/
def FillOK (par : Armor.Params) (expect : Armor.Expect) (d d1 : DState) : Prop :=
  d1.out = d.out ∧
  ((d1.err = none ∧ par.enc.charBlockLen ≤ d1.buf.length ∧ FInv d1.fil.f ∧
      ∃ xs, d1.buf = d.buf ++ xs ∧ AllDig par.enc xs ∧ fRaw d1.fil.f + xs.length ≤ fRaw d.fil.f ∧
        filMax par expect d.fil = (xs ++ (filMax par expect d1.fil).1, (filMax par expect d1.fil).2)) ∨
   (d1.err = some .eof ∧ d1.fil.f.phase = .endOfStream ∧ FInv d1.fil.f ∧
      ∃ xs, d1.buf = d.buf ++ xs ∧ AllDig par.enc xs ∧ fRaw d1.fil.f + xs.length ≤ fRaw d.fil.f ∧
        filMax par expect d.fil = (xs, some (d1.fil.f.hdr, d1.fil.f.brand, d1.fil.f.ftr))) ∨
   (∃ z, d1.err = some (.err z) ∧ (filMax par expect d.fil).2 = none))

/-- raw text left after two rounds of the fill loop that delivered `x`, then `xs` -/
theorem raw_chain {r1 xs rs x r0 : Nat} (h1 : r1 + xs ≤ rs) (h2 : rs + x ≤ r0) : r1 + (x + xs) ≤ r0 := by omega

theorem dFill_spec (par : Armor.Params) (expect : Armor.Expect) (nn : Nat) (hnn : par.enc.charBlockLen ≤ nn) :
    ∀ (fuel : Nat) (d : DState), FInv d.fil.f → AllDig par.enc d.buf → d.err = none →
    par.enc.charBlockLen < fuel + d.buf.length →
    FillOK par expect d (dFill par expect nn fuel d) := by
  intro fuel
  induction fuel with
  | zero =>
    intro d hi hb he hf
    rw [dFill_stop par expect nn 0 d (by omega)]
    exact ⟨rfl, Or.inl ⟨he, by omega, hi, [], by simp, allDig_nil _, by simp, by simp⟩⟩
  | succ fuel ih =>
    intro d hi hb he hf
    by_cases hc : d.buf.length < par.enc.charBlockLen ∧ d.err.isNone = true
    · rw [dFill_go par expect nn fuel d hc]
      have hx := filRead_allDig par expect (nn - d.buf.length) (fuelOf d.fil.f.p + 4) d.fil
      rcases hr : filRead par expect (nn - d.buf.length) (fuelOf d.fil.f.p + 4) d.fil with ⟨x, e, s'⟩
      have hstep := filRead_step' par expect (nn - d.buf.length) (Nat.sub_pos_of_lt (Nat.lt_of_lt_of_le hc.1 hnn)) d.fil hi x e s' hr
      rw [hr] at hx
      simp only
      cases hstep with
      | data a1 a2 a3 a4 =>
        simp only [filterL] at a2 a3 a4
        have hxpos : 0 < x.length := List.length_pos_iff.mpr a1
        obtain ⟨o1, o2⟩ := ih { d with fil := s', buf := d.buf ++ x, err := none } a2 (allDig_append hb hx) rfl
          (by rw [List.length_append]; exact fuel_chain hf hxpos)
        refine ⟨o1, ?_⟩
        rcases o2 with ⟨b1, b2, b3, xs, b4, b5, b6, b7⟩ | ⟨b1, b2, b3, xs, b4, b5, b6, b7⟩ | ⟨z, b1, b2⟩
        · refine Or.inl ⟨b1, b2, b3, x ++ xs, by rw [b4, List.append_assoc], allDig_append hx b5, ?_, ?_⟩
          · rw [List.length_append]; exact raw_chain b6 a3
          · rw [a4]; simp only at b7; rw [b7, List.append_assoc]
        · refine Or.inr (Or.inl ⟨b1, b2, b3, x ++ xs, by rw [b4, List.append_assoc], allDig_append hx b5, ?_, ?_⟩)
          · rw [List.length_append]; exact raw_chain b6 a3
          · rw [a4]; simp only at b7; rw [b7]
        · exact Or.inr (Or.inr ⟨z, b1, by rw [a4]; exact b2⟩)
      | eof a1 a2 =>
        rw [dFill_stop par expect nn fuel _ (by simp)]
        have hraw : fRaw s'.f = 0 := by simp [fRaw, a1.1.atEnd a1.2]
        exact ⟨rfl, Or.inr (Or.inl ⟨rfl, a1.2, a1.1, [], by simp, allDig_nil _, by simp [hraw], a2⟩)⟩
      | @err _ z _ a1 a2 =>
        rw [dFill_stop par expect nn fuel _ (by simp)]
        exact ⟨rfl, Or.inr (Or.inr ⟨z, rfl, a2⟩)⟩
    · rw [dFill_stop par expect nn (fuel + 1) d hc]
      have : par.enc.charBlockLen ≤ d.buf.length := by
        rw [he] at hc; simp at hc; exact hc
      exact ⟨rfl, Or.inl ⟨he, this, hi, [], by simp, allDig_nil _, by simp, by simp⟩⟩

/-! ## one call -/

theorem dRead_step_out (par : Armor.Params) (expect : Armor.Expect) (cap : Nat) (hcap : 0 < cap) (d : DState)
    (hi : DInv par d) (ho : d.out ≠ []) (x : Bytes) (e : Option RErr) (d' : DState)
    (h : dRead par expect cap d = (x, e, d')) : (decoderL par expect).Step d x e d' := by
  rw [dRead_out par expect cap d hi.err ho] at h
  simp only [Prod.mk.injEq] at h
  obtain ⟨rfl, rfl, rfl⟩ := h
  refine .data (take_ne_nil _ _ hcap ho) ⟨hi.fil, hi.buf, hi.err⟩ ?_ ?_
  · show dSize { d with out := d.out.drop cap } + (d.out.take cap).length ≤ dSize d
    have hl := congrArg List.length (List.take_append_drop cap d.out)
    rw [List.length_append] at hl
    simp only [dSize]
    omega
  · show dMax par expect d = _
    simp only [decoderL, dMax]
    rw [← List.append_assoc, List.take_append_drop]

/-- handing out `x` of the bytes `y = x ++ out'` decoded from `n` buffered characters does not increase the measure -/
theorem dSize_emit (d d1 d3 : DState) (x out' y xs : Bytes) (n : Nat) (ho : d.out = []) (hbuf : d1.buf = d.buf ++ xs)
    (hraw : fRaw d1.fil.f + xs.length ≤ fRaw d.fil.f) (hy : y = x ++ out') (hyn : y.length ≤ n) (hn : n ≤ d1.buf.length)
    (h3 : d3.fil = d1.fil) (hb3 : d3.buf = d1.buf.drop n) (ho3 : d3.out = out') : dSize d3 + x.length ≤ dSize d := by
  have h1 := congrArg List.length hy
  have h2 := congrArg List.length hbuf
  have h4 := congrArg List.length (List.take_append_drop n d1.buf)
  rw [List.length_append] at h1 h2 h4
  rw [List.length_take_of_le hn] at h4
  simp only [dSize, h3, hb3, ho3, ho, List.length_nil]
  omega

theorem dRead_step_fill (par : Armor.Params) (he : par.enc.WF) (expect : Armor.Expect) (cap : Nat) (hcap : 0 < cap)
    (d : DState) (hi : DInv par d) (ho : d.out = []) (x : Bytes) (e : Option RErr) (d' : DState)
    (h : dRead par expect cap d = (x, e, d')) : (decoderL par expect).Step d x e d' := by
  rw [dRead_fill par expect cap d hi.err ho] at h
  have hnn := nnOf_ge par he cap
  have hfill := dFill_spec par expect (nnOf par cap) hnn (nnOf par cap + 2) d hi.fil hi.buf hi.err (by omega)
  generalize dFill par expect (nnOf par cap) (nnOf par cap + 2) d = d1 at h hfill
  have hN := he.cblock_pos
  obtain ⟨o1, o2⟩ := hfill
  have hsem0 : (decoderL par expect).sem d =
      (decMaxOf par.enc (filMax par expect d.fil).2.isSome (d.buf ++ (filMax par expect d.fil).1),
        if (decS par.enc (d.buf ++ (filMax par expect d.fil).1)).isSome then (filMax par expect d.fil).2 else none) := by
    simp only [decoderL, dMax]; rw [ho]; rfl
  rcases o2 with ⟨b1, b2, b3, xs, b5, b6, b7, b8⟩ | ⟨b1, b2, b3, xs, b5, b6, b7, b8⟩ | ⟨z, b1, b2⟩
  · -- at least one whole block buffered: decode the whole blocks `A`, keep `rest`
    rw [dDecode_none par cap d1 b1] at h
    have hbuf : AllDig par.enc d1.buf := by rw [b5]; exact allDig_append hi.buf b6
    have hk : 0 < d1.buf.length / par.enc.charBlockLen := Nat.div_pos b2 hN
    have hn : d1.buf.length / par.enc.charBlockLen * par.enc.charBlockLen ≤ d1.buf.length := Nat.div_mul_le_self _ _
    generalize d1.buf.length / par.enc.charBlockLen = k at h hk hn
    have hn0 : 0 < k * par.enc.charBlockLen := Nat.mul_pos hk hN
    generalize hnd : k * par.enc.charBlockLen = nDec at h hn0 hn
    have hAl : (d1.buf.take nDec).length = k * par.enc.charBlockLen := by rw [hnd]; exact List.length_take_of_le hn
    have hW : d.buf ++ (filMax par expect d.fil).1 = d1.buf.take nDec ++ (d1.buf.drop nDec ++ (filMax par expect d1.fil).1) := by
      rw [b8, ← List.append_assoc, ← List.append_assoc, ← b5, List.take_append_drop]
    have hfl : (filMax par expect d.fil).2 = (filMax par expect d1.fil).2 := by rw [b8]
    rw [hW, hfl, decMaxOf_blocks par.enc hN _ _ _ _ hAl, decS_append par.enc hN _ _ _ hAl] at hsem0
    obtain ⟨q1, q2⟩ := dP_decS par.enc hN _ (allDig_take nDec hbuf)
    cases hdec : decS par.enc (d1.buf.take nDec) with
    | none =>
      obtain ⟨p, bx, hp⟩ := q2 hdec
      obtain ⟨x', z, d3, e3, pre⟩ := dEmit_bad par cap d1 _ hn p bx hp
      rw [e3] at h
      simp only [Prod.mk.injEq] at h
      obtain ⟨rfl, rfl, rfl⟩ := h
      rw [hp, hdec] at hsem0
      exact .err (by rw [hsem0]; exact pre) (by rw [hsem0]; rfl)
    | some y =>
      obtain ⟨x', out', d3, e3, r1, r2, r3, r4, r5, r6⟩ := dEmit_spec par he cap hcap d1 _ hbuf hn0 hn (by rw [o1, ho]) y hdec
      rw [e3] at h
      simp only [Prod.mk.injEq] at h
      obtain ⟨rfl, rfl, rfl⟩ := h
      have hylen := decS_length_le he _ (allDig_take _ hbuf) y hdec
      refine .data r1 ⟨by rw [r3]; exact b3, by rw [r5]; exact allDig_drop _ hbuf, r4⟩ ?_ ?_
      · rw [hAl, hnd] at hylen
        exact dSize_emit d d1 d3 x' out' y xs nDec ho b5 b7 r2 hylen hn r3 r5 r6
      · rw [hsem0, q1 y hdec, hdec]
        simp only [decoderL, dMax, r3, r5, r6, r2, List.append_assoc, Option.bind_some, Option.isSome_map]
  · -- the filter reported a clean EOF: decode everything that is buffered
    have hbuf : AllDig par.enc d1.buf := by rw [b5]; exact allDig_append hi.buf b6
    rw [b8, ← b5] at hsem0
    simp only [Option.isSome_some, decMaxOf, if_true] at hsem0
    obtain ⟨q1, q2⟩ := dP_decS par.enc hN _ hbuf
    by_cases hb0 : d1.buf = []
    · rw [dDecode_eof_empty par cap d1 b1 hb0] at h
      simp only [Prod.mk.injEq] at h
      obtain ⟨rfl, rfl, rfl⟩ := h
      refine .eof b2 ?_
      rw [hsem0, hb0, dP_nil, decS_nil]
      rfl
    · rw [dDecode_eof par cap d1 b1 hb0] at h
      have hlen : 0 < d1.buf.length := List.length_pos_iff.mpr hb0
      have htk : ({ d1 with err := none } : DState).buf.take d1.buf.length = d1.buf := List.take_length
      cases hdec : decS par.enc d1.buf with
      | none =>
        obtain ⟨p, bx, hp⟩ := q2 hdec
        obtain ⟨x', z, d3, e3, pre⟩ := dEmit_bad par cap { d1 with err := none } d1.buf.length (Nat.le_refl _) p bx
          (by rw [htk]; exact hp)
        rw [e3] at h
        simp only [Prod.mk.injEq] at h
        obtain ⟨rfl, rfl, rfl⟩ := h
        rw [hp, hdec] at hsem0
        exact .err (by rw [hsem0]; exact pre) (by rw [hsem0]; rfl)
      | some y =>
        obtain ⟨x', out', d3, e3, r1, r2, r3, r4, r5, r6⟩ := dEmit_spec par he cap hcap { d1 with err := none }
          d1.buf.length hbuf hlen (Nat.le_refl _) (by show d1.out = []; rw [o1, ho]) y (by rw [htk]; exact hdec)
        rw [e3] at h
        simp only [Prod.mk.injEq] at h
        obtain ⟨rfl, rfl, rfl⟩ := h
        have hylen := decS_length_le he _ hbuf y hdec
        have hd3buf : d3.buf = [] := by rw [r5]; exact List.drop_length
        have hfil3 : d3.fil = d1.fil := r3
        refine .data r1 ⟨by rw [hfil3]; exact b3, by rw [hd3buf]; exact allDig_nil _, r4⟩
          (dSize_emit d d1 d3 x' out' y xs d1.buf.length ho b5 b7 r2 hylen (Nat.le_refl _) r3 r5 r6) ?_
        · rw [hsem0, q1 y hdec, hdec]
          simp only [decoderL, dMax, hfil3, hd3buf, r6, filMax_end par expect d1.fil b2]
          simp [decMaxOf, dP_nil, decS_nil, r2]
  · -- the filter reported an error
    rw [dDecode_err par cap d1 z b1] at h
    simp only [Prod.mk.injEq] at h
    obtain ⟨rfl, rfl, rfl⟩ := h
    exact .err List.nil_prefix (by rw [hsem0, b2]; simp)

theorem dRead_step (par : Armor.Params) (he : par.enc.WF) (expect : Armor.Expect) (cap : Nat) (hcap : 0 < cap)
    (d : DState) (hi : DInv par d) (x : Bytes) (e : Option RErr) (d' : DState)
    (h : dRead par expect cap d = (x, e, d')) : (decoderL par expect).Step d x e d' := by
  by_cases ho : d.out = []
  · exact dRead_step_fill par he expect cap hcap d hi ho x e d' h
  · exact dRead_step_out par expect cap hcap d hi ho x e d' h

/-! ## reading to the end -/

/-- `readAll` is the read loop with the terminal condition translated (`none` = clean EOF) -/
theorem readAll_of_readLoop (par : Armor.Params) (expect : Armor.Expect) (caps : List Nat) :
    ∀ (fuel k : Nat) (d : DState) (acc r : Bytes) (c : RErr) (d' : DState),
    readLoop (dRead par expect) caps fuel k d acc = (r, some c, d') →
    readAll par expect caps fuel k d acc = (r, (match c with | .eof => none | .err z => some z), d') := by
  intro fuel
  induction fuel with
  | zero => intro k d acc r c d' h; simp [readLoop] at h
  | succ fuel ih =>
    intro k d acc r c d' h
    rw [readLoop] at h
    rw [readAll]
    rcases hr : dRead par expect (caps.getD (k % caps.length) 1) d with ⟨x, e, d1⟩
    rw [hr] at h
    cases e with
    | none => exact ih _ _ _ _ _ _ h
    | some c0 =>
      simp only [Prod.mk.injEq, Option.some.injEq] at h
      obtain ⟨rfl, rfl, rfl⟩ := h
      cases c0 <;> rfl

/-- **reading the decoder to the end** with any positive buffer sizes: the same outcome for every fuel above
    `dSize d` (so a reported error is never the fuel running out); a prefix of the meaning is released; the end is
    clean exactly when the meaning allows it, and then everything was released and the frame is held -/
theorem readAll_spec (par : Armor.Params) (he : par.enc.WF) (expect : Armor.Expect) (caps : List Nat)
    (hpos : ∀ c ∈ caps, 0 < c) (d : DState) (hi : DInv par d) (k : Nat) (acc : Bytes) :
    ∃ r oe d', (∀ fuel, dSize d < fuel → readAll par expect caps fuel k d acc = (acc ++ r, oe, d')) ∧
      r <+: (dMax par expect d).1 ∧ ((dMax par expect d).2 = none → ∃ z, oe = some z) ∧
      (∀ i, (dMax par expect d).2 = some i → oe = none ∧ r = (dMax par expect d).1 ∧
        (d'.fil.f.hdr, d'.fil.f.brand, d'.fil.f.ftr) = i ∧ d'.fil.f.phase = .endOfStream) := by
  obtain ⟨r, c, d', g1, g2, g3, g4⟩ := (decoderL par expect).readLoop_spec (dRead par expect)
    (fun cap hcap d hi => dRead_step par he expect cap hcap d hi) caps hpos (dSize d + 1) d hi (Nat.lt_succ_self _) k acc
  refine ⟨r, _, d', fun fuel hf => readAll_of_readLoop par expect caps fuel k d acc _ c d' (g1 fuel hf), g2, ?_, ?_⟩
  · intro hn
    obtain ⟨z, rfl⟩ := g3 hn
    exact ⟨z, rfl⟩
  · intro i hs
    obtain ⟨rfl, g⟩ := g4 i hs
    exact ⟨rfl, g⟩

/-! ## concrete checks -/

/-- "h.0", then `n` empty deliveries, then "0.f." -/
def exEmpties (n : Nat) : Source := [([104, 46, 48], none)] ++ List.replicate n ([], none) ++ [([48, 46, 102, 46], none)]

-- a few empty deliveries inside the BODY are harmless …
example : (readAll Armor.params62 none [1] 60 0 (newDecoder (exEmpties 3)) []).1 = [0] ∧
    (readAll Armor.params62 none [1] 60 0 (newDecoder (exEmpties 3)) []).2.1 = none := by decide +kernel
-- … but 45 of them exhaust the loop bound `nn + 2` of the MODEL's `dFill` (the Go loop is
-- unbounded): the model then reports a clean EOF with nothing released.  A limitation of the
-- model, outside `SrcOK`.
example : (readAll Armor.params62 none [1] 60 0 (newDecoder (exEmpties 45)) []).1 = [] ∧
    (readAll Armor.params62 none [1] 60 0 (newDecoder (exEmpties 45)) []).2.1 = none := by decide +kernel

end Saltpack.Proofs

