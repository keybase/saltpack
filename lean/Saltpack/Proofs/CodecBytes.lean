/-
  The byte-level front end (`Model/Front.lean`): what `Front.read*` can return for ANY byte
  string.  A successful read is `Codec`'s, settled, or (when `Codec` says unmodelled) `Wire`'s;
  its tail is a clean end or a plain decode error, never an `Err.panic` — the `htail`
  hypothesis of the receivers' no-panic theorems, for every byte string.
-/
import Saltpack.Model.Front
import Saltpack.Proofs.NoPanic

namespace Saltpack.Proofs
open Saltpack

/-- the tails a front end produces -/
def TailPlain (t : Tail) : Prop := t = .eof ∨ t = .err .decodeError

theorem TailPlain.no_panic {t : Tail} (h : TailPlain t) : ∀ e, t = .err e → Err.isPanic e = false := by
  intro e he
  rcases h with h | h
  · rw [h] at he; cases he
  · rw [h] at he; cases he; rfl

/-- the detached-signature reads a front end produces -/
def SigReadPlain (sr : Sign.SigRead) : Prop := ∀ e, sr = .none e → e = .unexpectedEOF ∨ e = .decodeError

theorem SigReadPlain.no_panic {sr : Sign.SigRead} (h : SigReadPlain sr) : ∀ e, sr = .none e → Err.isPanic e = false := by
  intro e he
  rcases h e he with h | h <;> rw [h] <;> rfl

/-! ### `orWire` -/

theorem orWire_ok {α : Type} {c : Except String α} {w : Unit → Wire.Front α} {x : α}
    (h : Front.orWire c w = .ok x) :
    c = .ok x ∨ ∃ why, c = .error why ∧ w () = .ok x := by
  unfold Front.orWire at h
  cases c with
  | ok y => simp at h; exact Or.inl (by rw [h])
  | error why =>
    right
    refine ⟨why, rfl, ?_⟩
    cases hw : w () with
    | ok y => simp [hw] at h; rw [h]
    | unmodelled e => simp [hw] at h

theorem orWire_error {α : Type} {c : Except String α} {w : Unit → Wire.Front α} {why : String}
    (h : Front.orWire c w = .error why) :
    c = .error why ∧ ∃ why', w () = .unmodelled why' := by
  unfold Front.orWire at h
  cases c with
  | ok y => simp at h
  | error w' =>
    cases hw : w () with
    | ok y => simp [hw] at h
    | unmodelled e => simp [hw] at h; exact ⟨by rw [h], e, rfl⟩

theorem orWire_of_codec {α : Type} {c : Except String α} {w : Unit → Wire.Front α} {x : α}
    (h : c = .ok x) : Front.orWire c w = .ok x := by
  subst h; rfl

theorem orWire_of_wire {α : Type} {c : Except String α} {w : Unit → Wire.Front α} {x : α} {why : String}
    (hc : c = .error why) (hw : w () = .ok x) : Front.orWire c w = .ok x := by
  subst hc; simp [Front.orWire, hw]

theorem orWire_error_iff {α : Type} {c : Except String α} {w : Unit → Wire.Front α} {why : String} :
    Front.orWire c w = .error why ↔ c = .error why ∧ ∃ why', w () = .unmodelled why' := by
  refine ⟨orWire_error, ?_⟩
  rintro ⟨rfl, why', hw⟩
  simp [Front.orWire, hw]

/-! ### `settle` -/

theorem settle_cases {η β : Type} (decH : Codec.Dec η) (decB : η → Option (Codec.Dec β)) (fin : η → β → Bool) (msg : Bytes)
    (c : Except String (HeaderRead η × PStream β)) :
    Front.settle decH decB fin msg c = c ∨
    ∃ hr ps, c = .ok (hr, ps) ∧ ps.tail = .err .decodeError ∧
      Front.settle decH decB fin msg c = .ok (hr, ⟨ps.items, .eof⟩) := by
  unfold Front.settle
  split
  · split
    · rename_i ht
      split
      · split
        · exact Or.inr ⟨_, _, rfl, ht.1, rfl⟩
        · exact Or.inl rfl
      · exact Or.inl rfl
    · exact Or.inl rfl
  · exact Or.inl rfl

theorem settle_ok {η β : Type} {decH : Codec.Dec η} {decB : η → Option (Codec.Dec β)} {fin : η → β → Bool} {msg : Bytes}
    {c : Except String (HeaderRead η × PStream β)} {hr : HeaderRead η} {ps : PStream β}
    (h : Front.settle decH decB fin msg c = .ok (hr, ps)) :
    ∃ ps0, c = .ok (hr, ps0) ∧ ps.items = ps0.items ∧ (ps.tail = ps0.tail ∨ ps.tail = .eof) := by
  rcases settle_cases decH decB fin msg c with e | ⟨hr0, ps0, hc, _, e⟩
  · exact ⟨ps, e.symm.trans h, rfl, Or.inl rfl⟩
  · cases e.symm.trans h
    exact ⟨ps0, hc, rfl, Or.inr rfl⟩

theorem settle_error {η β : Type} {decH : Codec.Dec η} {decB : η → Option (Codec.Dec β)} {fin : η → β → Bool} {msg : Bytes}
    {c : Except String (HeaderRead η × PStream β)} {w : String} :
    Front.settle decH decB fin msg c = .error w ↔ c = .error w := by
  rcases settle_cases decH decB fin msg c with e | ⟨hr0, ps0, hc, _, e⟩
  · rw [e]
  · rw [e, hc]
    exact ⟨nofun, nofun⟩

theorem settle_of_eof {η β : Type} {decH : Codec.Dec η} {decB : η → Option (Codec.Dec β)} {fin : η → β → Bool} {msg : Bytes}
    {hr : HeaderRead η} {items : List (Option β)} :
    Front.settle decH decB fin msg (.ok (hr, ⟨items, .eof⟩)) = .ok (hr, ⟨items, .eof⟩) := by
  rcases settle_cases decH decB fin msg (.ok (hr, ⟨items, .eof⟩)) with e | ⟨_, _, hc, ht, _⟩
  · exact e
  · cases hc
    cases ht

/-! ### `Codec` first, settled: the shape of `Front.readEnc`, `readSigncrypt`, `readSig` -/

/-- `front_of_codec` where both alternatives for the tail coincide -/
theorem front_of_codec_eof {η β : Type} {decH : Codec.Dec η} {decB : η → Option (Codec.Dec β)} {fin : η → β → Bool}
    {msg : Bytes} {c : Except String (HeaderRead η × PStream β)} {w : Unit → Wire.Front (HeaderRead η × PStream β)}
    {hr : HeaderRead η} {items : List (Option β)} (h : c = .ok (hr, ⟨items, .eof⟩)) :
    Front.orWire (Front.settle decH decB fin msg c) w = .ok (hr, ⟨items, .eof⟩) := by
  subst h
  exact orWire_of_codec settle_of_eof

theorem front_of_codec {η β : Type} {decH : Codec.Dec η} {decB : η → Option (Codec.Dec β)} {fin : η → β → Bool}
    {msg : Bytes} {c : Except String (HeaderRead η × PStream β)} {w : Unit → Wire.Front (HeaderRead η × PStream β)}
    {hr : HeaderRead η} {ps : PStream β} (h : c = .ok (hr, ps)) :
    ∃ ps', Front.orWire (Front.settle decH decB fin msg c) w = .ok (hr, ps') ∧ ps'.items = ps.items ∧
      (ps'.tail = ps.tail ∨ ps'.tail = .eof) := by
  rcases settle_cases decH decB fin msg c with e | ⟨hr0, ps0, hc, _, e⟩
  · exact ⟨ps, orWire_of_codec (e.trans h), rfl, Or.inl rfl⟩
  · cases hc.symm.trans h
    exact ⟨_, orWire_of_codec e, rfl, Or.inr rfl⟩

theorem codecDetached_ok {sigMsg : Bytes} {hr : HeaderRead SigHeader} {sr : Sign.SigRead}
    (h : Front.codecDetached sigMsg = .ok (hr, sr)) :
    ∃ d, Codec.splitDetached sigMsg = .ok (hr, d) ∧ sr = Front.detSig d := by
  unfold Front.codecDetached at h
  split at h
  · rename_i hr' d hsd
    cases h
    exact ⟨d, hsd, rfl⟩
  · cases h

theorem codecDetached_of_ok {sigMsg : Bytes} {hr : HeaderRead SigHeader} {d : Codec.DetSig}
    (h : Codec.splitDetached sigMsg = .ok (hr, d)) : Front.codecDetached sigMsg = .ok (hr, Front.detSig d) := by
  unfold Front.codecDetached; rw [h]

theorem codecDetached_error {sigMsg : Bytes} {why : String} :
    Front.codecDetached sigMsg = .error why ↔ Codec.splitDetached sigMsg = .error why := by
  unfold Front.codecDetached
  constructor
  · intro h
    split at h
    · cases h
    · rename_i w hw; cases h; exact hw
  · intro h; rw [h]

/-! ### tails of `Wire.split` -/

theorem wire_tailOf_plain (stop : Option Msgpack.PErr) : TailPlain (Wire.tailOf stop) := by
  cases stop with
  | none => exact Or.inl rfl
  | some e => cases e <;> simp [Wire.tailOf, TailPlain]

theorem wire_split_tail {η β : Type} (viewH : Msgpack.Val → Option η) (viewB : η → Msgpack.Val → Option β)
    (msg : Bytes) (hr : HeaderRead η) (ps : PStream β)
    (h : Wire.split viewH viewB msg = .ok (hr, ps)) : TailPlain ps.tail := by
  unfold Wire.split at h
  split at h
  · cases h
  · cases h; exact Or.inl rfl
  · split at h
    · cases h
    · dsimp only at h
      split at h
      · cases h
      · cases h; exact wire_tailOf_plain _
    · cases h; exact Or.inl rfl

theorem wire_readBytesObj_error {b r : Bytes} {e : Err} (h : Wire.readBytesObj b = .ok (.error e, r)) :
    e = .unexpectedEOF ∨ e = .decodeError := by
  unfold Wire.readBytesObj at h
  split at h
  · cases h; exact Or.inl rfl
  · cases h; exact Or.inr rfl
  · split at h <;> cases h
    exact Or.inr rfl

theorem wire_splitDetached_plain (sigMsg : Bytes) (hr : HeaderRead SigHeader) (sr : Sign.SigRead)
    (h : Wire.splitDetached sigMsg = .ok (hr, sr)) : SigReadPlain sr := by
  unfold Wire.splitDetached at h
  split at h
  · cases h
  · cases h; intro e he; cases he; exact Or.inl rfl
  · split at h
    · cases h
    · split at h
      · cases h
      · rename_i hrd
        cases h; intro e' he'; cases he'; exact wire_readBytesObj_error hrd
      · cases h; intro e he; cases he

/-! ### tails of `Codec.blocks` / `Codec.split` -/

/-- induction along the walk of `Codec.blocks`: a packet decodes and the walk goes on; or the typed read
    fails — the input ended, or a decode error, where the generic read of the same position decides -/
theorem blocks_ok_induction {β : Type} (d : Codec.Dec β) {motive : Nat → Bytes → PStream β → Prop}
    (more : ∀ fuel b x rest ps, d b = .ok (x, rest) → Codec.blocks d fuel rest = .ok ps → motive fuel rest ps →
      motive (fuel + 1) b ⟨some x :: ps.items, ps.tail⟩)
    (ended : ∀ fuel b, d b = .error .eof → motive (fuel + 1) b ⟨[], .eof⟩)
    (object : ∀ fuel b w y, d b = .error (.err w) → Codec.generic b = .ok y → motive (fuel + 1) b ⟨[none], .eof⟩)
    (truncated : ∀ fuel b w, d b = .error (.err w) → Codec.generic b = .error .eof →
      motive (fuel + 1) b ⟨[], .err .decodeError⟩)
    (refused : ∀ fuel b w w', d b = .error (.err w) → Codec.generic b = .error (.err w') →
      motive (fuel + 1) b ⟨[], .err .decodeError⟩) :
    ∀ (fuel : Nat) (b : Bytes) (ps : PStream β), Codec.blocks d fuel b = .ok ps → motive fuel b ps
  | 0, _, _, h => by simp [Codec.blocks] at h
  | fuel + 1, b, ps, h => by
    simp only [Codec.blocks] at h
    cases hd : d b with
    | ok xr =>
      obtain ⟨x, rest⟩ := xr
      simp only [hd] at h
      cases hb : Codec.blocks d fuel rest with
      | error w => simp [hb] at h
      | ok ps' =>
        simp only [hb] at h
        cases h
        exact more fuel b x rest ps' hd hb (blocks_ok_induction d more ended object truncated refused fuel rest ps' hb)
    | error e =>
      cases e with
      | eof => simp only [hd] at h; cases h; exact ended fuel b hd
      | unmodelled w => simp [hd] at h
      | err w =>
        simp only [hd] at h
        cases hg : Codec.generic b with
        | ok y => simp only [hg] at h; cases h; exact object fuel b w y hd hg
        | error e' =>
          cases e' with
          | eof => simp only [hg] at h; cases h; exact truncated fuel b w hd hg
          | unmodelled w' => simp [hg] at h
          | err w' => simp only [hg] at h; cases h; exact refused fuel b w w' hd hg

theorem codec_blocks_tail {β : Type} (dec : Codec.Dec β) (fuel : Nat) (b : Bytes) (ps : PStream β)
    (h : Codec.blocks dec fuel b = .ok ps) : TailPlain ps.tail :=
  blocks_ok_induction dec (motive := fun _ _ ps => TailPlain ps.tail)
    (fun _ _ _ _ _ _ _ ih => ih) (fun _ _ _ => Or.inl rfl) (fun _ _ _ _ _ _ => Or.inl rfl)
    (fun _ _ _ _ _ => Or.inr rfl) (fun _ _ _ _ _ _ => Or.inr rfl) fuel b ps h

/-- with fuel beyond the input length and packet decodes that consume at least one byte, the loop
    itself never gives up: one packet decode (typed, or generic after a typed error) did -/
theorem blocks_unmodelled_provenance {β : Type} (dec : Codec.Dec β)
    (hprog : ∀ b x r, dec b = .ok (x, r) → r.length < b.length) :
    ∀ (fuel : Nat) (b : Bytes) (w : String), b.length < fuel → Codec.blocks dec fuel b = .error w →
      ∃ b' : Bytes, b'.length ≤ b.length ∧
        (dec b' = .error (.unmodelled w) ∨ (∃ why, dec b' = .error (.err why)) ∧ Codec.generic b' = .error (.unmodelled w))
  | 0, b, w, hf, _ => by omega
  | fuel + 1, b, w, hf, h => by
    unfold Codec.blocks at h
    split at h
    · rename_i x rest hd
      split at h
      · cases h
      · rename_i w' hrec
        cases h
        have := hprog _ _ _ hd
        obtain ⟨b', hl, hb'⟩ := blocks_unmodelled_provenance dec hprog fuel rest w (by omega) hrec
        exact ⟨b', by omega, hb'⟩
    · cases h
    · rename_i w' hd
      cases h
      exact ⟨b, Nat.le_refl _, Or.inl hd⟩
    · rename_i why hd
      split at h
      · cases h
      · rename_i w' hg
        cases h
        exact ⟨b, Nat.le_refl _, Or.inr ⟨⟨why, hd⟩, hg⟩⟩
      · cases h

theorem codec_split_ok {η β : Type} {decH : Codec.Dec η} {decB : η → Option (Codec.Dec β)} {msg : Bytes}
    {hr : HeaderRead η} {ps : PStream β} (h : Codec.split decH decB msg = .ok (hr, ps)) :
    ∃ rest, Codec.readHeader decH msg = .ok (hr, rest) ∧
      (ps = ⟨[], .eof⟩ ∨
       ∃ hb hd d, hr = .ok hb hd ∧ decB hd = some d ∧ Codec.blocks d (rest.length + 1) rest = .ok ps) := by
  unfold Codec.split at h
  split at h
  · cases h
  · rename_i hb hd rest hrh
    split at h
    · cases h; exact ⟨rest, hrh, Or.inl rfl⟩
    · rename_i d hdb
      split at h
      · cases h
      · rename_i ps' hps
        cases h
        exact ⟨rest, hrh, Or.inr ⟨hb, hd, d, rfl, hdb, hps⟩⟩
  · rename_i hr' rest _ hrh
    cases h; exact ⟨rest, hrh, Or.inl rfl⟩

theorem codec_split_tail {η β : Type} (decH : Codec.Dec η) (decB : η → Option (Codec.Dec β))
    (msg : Bytes) (hr : HeaderRead η) (ps : PStream β)
    (h : Codec.split decH decB msg = .ok (hr, ps)) : TailPlain ps.tail := by
  obtain ⟨rest, _, rfl | ⟨_, _, d, _, _, hb⟩⟩ := codec_split_ok h
  · exact Or.inl rfl
  · exact codec_blocks_tail d _ _ _ hb

theorem detSig_plain (d : Codec.DetSig) : SigReadPlain (Front.detSig d) := by
  intro e he
  cases d <;> simp [Front.detSig] at he
  · exact Or.inl he.symm
  · exact Or.inr he.symm

/-! ### the four front ends -/

theorem front_ok {η β : Type} {decH : Codec.Dec η} {decB : η → Option (Codec.Dec β)} {fin : η → β → Bool}
    {msg : Bytes} {c : Except String (HeaderRead η × PStream β)} {w : Unit → Wire.Front (HeaderRead η × PStream β)}
    {hr : HeaderRead η} {ps : PStream β} (h : Front.orWire (Front.settle decH decB fin msg c) w = .ok (hr, ps)) :
    (∃ ps0, c = .ok (hr, ps0) ∧ ps.items = ps0.items ∧ (ps.tail = ps0.tail ∨ ps.tail = .eof)) ∨
    ∃ why, c = .error why ∧ w () = .ok (hr, ps) := by
  rcases orWire_ok h with hc | ⟨why, hc, hw⟩
  · exact Or.inl (settle_ok hc)
  · exact Or.inr ⟨why, settle_error.mp hc, hw⟩

theorem front_tail {η β : Type} {decH : Codec.Dec η} {decB : η → Option (Codec.Dec β)} {fin : η → β → Bool}
    {viewH : Msgpack.Val → Option η} {viewB : η → Msgpack.Val → Option β} {msg : Bytes}
    {hr : HeaderRead η} {ps : PStream β}
    (h : Front.orWire (Front.settle decH decB fin msg (Codec.split decH decB msg))
      (fun _ => Wire.split viewH viewB msg) = .ok (hr, ps)) : TailPlain ps.tail := by
  rcases front_ok h with ⟨ps0, hc, _, ht | ht⟩ | ⟨_, _, hw⟩
  · rw [ht]; exact codec_split_tail decH decB msg hr ps0 hc
  · exact Or.inl ht
  · exact wire_split_tail viewH viewB msg hr ps hw

theorem readDetached_plain (sigMsg : Bytes) (hr : HeaderRead SigHeader) (sr : Sign.SigRead)
    (h : Front.readDetached sigMsg = .ok (hr, sr)) : SigReadPlain sr := by
  rcases orWire_ok h with hc | ⟨_, _, hw⟩
  · obtain ⟨d, _, rfl⟩ := codecDetached_ok hc
    exact detSig_plain _
  · exact wire_splitDetached_plain sigMsg hr sr hw

/-! ### the byte-level receivers unfolded -/

theorem dec_openBytes_ok {P : Prims} {valid : Validator} {kr : Keyring} {msg : Bytes} {r : Decrypt.Result}
    (h : Decrypt.openBytes P valid kr msg = .ok r) :
    ∃ hr ps, Front.readEnc msg = .ok (hr, ps) ∧ r = Decrypt.openStream P valid kr hr ps := by
  unfold Decrypt.openBytes at h
  split at h
  · cases h
  · rename_i hr ps hrd
    cases h; exact ⟨hr, ps, hrd, rfl⟩

theorem sc_openBytes_ok {P : Prims} {kr : Keyring} {res : Signcrypt.Resolver} {msg : Bytes} {r : Signcrypt.Result}
    (h : Signcrypt.openBytes P kr res msg = .ok r) :
    ∃ hr ps, Front.readSigncrypt msg = .ok (hr, ps) ∧ r = Signcrypt.openStream P kr res hr ps := by
  unfold Signcrypt.openBytes at h
  split at h
  · cases h
  · rename_i hr ps hrd
    cases h; exact ⟨hr, ps, hrd, rfl⟩

theorem sig_verifyBytes_ok {P : Prims} {valid : Validator} {kr : Keyring} {msg : Bytes} {r : Sign.Result}
    (h : Sign.verifyBytes P valid kr msg = .ok r) :
    ∃ hr ps, Front.readSig msg = .ok (hr, ps) ∧ r = Sign.verifyStream P valid kr hr ps := by
  unfold Sign.verifyBytes at h
  split at h
  · cases h
  · rename_i hr ps hrd
    cases h; exact ⟨hr, ps, hrd, rfl⟩

theorem sig_verifyDetachedBytes_ok {P : Prims} {valid : Validator} {kr : Keyring} {sigMsg msg : Bytes}
    {r : Except Err Bytes} (h : Sign.verifyDetachedBytes P valid kr sigMsg msg = .ok r) :
    ∃ hr sr, Front.readDetached sigMsg = .ok (hr, sr) ∧ r = Sign.verifyDetached P valid kr hr sr msg := by
  unfold Sign.verifyDetachedBytes at h
  split at h
  · cases h
  · rename_i hr sr hrd
    cases h; exact ⟨hr, sr, hrd, rfl⟩

theorem dec_openBytes_of_read {P : Prims} {valid : Validator} {kr : Keyring} {msg : Bytes}
    {hr : HeaderRead EncHeader} {ps : PStream EncBlock} (h : Front.readEnc msg = .ok (hr, ps)) :
    Decrypt.openBytes P valid kr msg = .ok (Decrypt.openStream P valid kr hr ps) := by
  unfold Decrypt.openBytes; rw [h]

theorem sc_openBytes_of_read {P : Prims} {kr : Keyring} {res : Signcrypt.Resolver} {msg : Bytes}
    {hr : HeaderRead EncHeader} {ps : PStream SigncryptBlock} (h : Front.readSigncrypt msg = .ok (hr, ps)) :
    Signcrypt.openBytes P kr res msg = .ok (Signcrypt.openStream P kr res hr ps) := by
  unfold Signcrypt.openBytes; rw [h]

theorem sig_verifyBytes_of_read {P : Prims} {valid : Validator} {kr : Keyring} {msg : Bytes}
    {hr : HeaderRead SigHeader} {ps : PStream SigBlock} (h : Front.readSig msg = .ok (hr, ps)) :
    Sign.verifyBytes P valid kr msg = .ok (Sign.verifyStream P valid kr hr ps) := by
  unfold Sign.verifyBytes; rw [h]

theorem sig_verifyDetachedBytes_of_read {P : Prims} {valid : Validator} {kr : Keyring} {sigMsg msg : Bytes}
    {hr : HeaderRead SigHeader} {sr : Sign.SigRead} (h : Front.readDetached sigMsg = .ok (hr, sr)) :
    Sign.verifyDetachedBytes P valid kr sigMsg msg = .ok (Sign.verifyDetached P valid kr hr sr msg) := by
  unfold Sign.verifyDetachedBytes; rw [h]

/-! ### all-at-once result = streaming result without error -/

theorem dec_openAll_ok {P : Prims} {valid : Validator} {kr : Keyring} {hr : HeaderRead EncHeader}
    {ps : PStream EncBlock} {m : MKI} {pt : Bytes} (h : Decrypt.openAll P valid kr hr ps = .ok (m, pt)) :
    (Decrypt.openStream P valid kr hr ps).err = none ∧ (Decrypt.openStream P valid kr hr ps).released = pt ∧
    (Decrypt.openStream P valid kr hr ps).mki = some m := by
  unfold Decrypt.openAll at h
  generalize Decrypt.openStream P valid kr hr ps = r at h
  obtain ⟨mk, rel, err, calls⟩ := r
  cases err with
  | some e => cases h
  | none =>
    cases mk with
    | none => cases h
    | some k => cases h; exact ⟨rfl, rfl, rfl⟩

theorem sc_openAll_ok {P : Prims} {kr : Keyring} {res : Signcrypt.Resolver} {hr : HeaderRead EncHeader}
    {ps : PStream SigncryptBlock} {snd : Option Bytes} {pt : Bytes}
    (h : Signcrypt.openAll P kr res hr ps = .ok (snd, pt)) :
    (Signcrypt.openStream P kr res hr ps).err = none ∧ (Signcrypt.openStream P kr res hr ps).released = pt ∧
    (Signcrypt.openStream P kr res hr ps).sender = snd := by
  unfold Signcrypt.openAll at h
  generalize Signcrypt.openStream P kr res hr ps = r at h
  obtain ⟨sg, rel, err, calls⟩ := r
  cases err with
  | some e => cases h
  | none => cases h; exact ⟨rfl, rfl, rfl⟩

theorem sig_verifyAll_ok {P : Prims} {valid : Validator} {kr : Keyring} {hr : HeaderRead SigHeader}
    {ps : PStream SigBlock} {k m : Bytes} (h : Sign.verifyAll P valid kr hr ps = .ok (k, m)) :
    (Sign.verifyStream P valid kr hr ps).err = none ∧ (Sign.verifyStream P valid kr hr ps).released = m ∧
    (Sign.verifyStream P valid kr hr ps).signer = some k := by
  unfold Sign.verifyAll at h
  generalize Sign.verifyStream P valid kr hr ps = r at h
  obtain ⟨sg, rel, err⟩ := r
  cases err with
  | some e => cases h
  | none =>
    cases sg with
    | none => cases h
    | some k => cases h; exact ⟨rfl, rfl, rfl⟩

end Saltpack.Proofs
