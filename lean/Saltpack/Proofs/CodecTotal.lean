/-
  WHEN does `Model/Codec.lean` answer `unmodelled`?  One invariant `Sp k N d`, proved for every decoder
  by the term that follows its definition: on inputs of at most `N` bytes a successful run leaves a rest
  at least `k` bytes shorter, and an answer `unmodelled w` carries one of the three documented reasons
  (`Doc w`) — never `"fuel"`.

  One rule per combinator: `Sp.andThen` for a `do` step, `Sp.nilOr` for `TryDecodeAsNil`, `Sp.ite`, `Sp.map`,
  the leaves `Sp.pure`, `Sp.bad`, `Sp.fail_doc`.  `Sp.bind` and `Sp.tryNil` hand the continuation the SHORTER
  input; only the fuel lemmas (CodecTotalGen.lean) need that: every loop step reads a byte, so
  `fuelFor b = 2·|b| + 256` is never exhausted.
-/
import Saltpack.Proofs.Codec

namespace Saltpack.Proofs.CodecP
open Saltpack Saltpack.Msgpack Saltpack.Codec

/-- the documented reasons for `unmodelled` (header of Model/Codec.lean); `"fuel"` is NOT one -/
inductive Doc : String → Prop where
  | containerTwice : Doc "container field repeated in map form"
  | repeatedKey : Doc "generic map: a repeated key whose first value is not a scalar"
  | twoTimes : Doc "generic map with two timestamp keys"

theorem Doc.ne_fuel {w : String} (h : Doc w) : w ≠ "fuel" := by
  cases h <;> simp only [ne_eq, String.reduceEq, not_false_eq_true]

/-- "spends `k`, with provenance": see the file head -/
def Sp {α : Type} (k N : Nat) (d : Dec α) : Prop :=
  ∀ b : Bytes, b.length ≤ N →
    (∀ x r, d b = .ok (x, r) → r.length + k ≤ b.length) ∧ (∀ w, d b = .error (.unmodelled w) → Doc w)

namespace Sp

/-- with the default proof `k'` is read off the expected type: `(h : Sp 1 N d).mono : Sp 0 N d` -/
theorem mono {α : Type} {k N k' : Nat} {d : Dec α} (h : Sp k N d) (hk : k' ≤ k := by decide) : Sp k' N d :=
  fun b hb => ⟨fun x r e => Nat.le_trans (Nat.add_le_add_left hk _) ((h b hb).1 x r e), (h b hb).2⟩

theorem anti {α : Type} {k N N' : Nat} {d : Dec α} (h : Sp k N d) (hN : N' ≤ N) : Sp k N' d :=
  fun b hb => h b (Nat.le_trans hb hN)

theorem prim {α : Type} {k N : Nat} {d : Dec α}
    (h : ∀ b, match d b with | .ok (_, r) => r.length + k ≤ b.length | .error e => e = .eof) : Sp k N d := by
  intro b _
  have := h b
  refine ⟨fun x r e => ?_, fun w e => ?_⟩ <;> rw [e] at this
  · exact this
  · cases this

theorem pure {α : Type} {N : Nat} (a : α) : Sp 0 N (Pure.pure a : Dec α) :=
  prim fun b => Nat.le_refl b.length

theorem failing {α : Type} {k N : Nat} {e : DErr} (h : ∀ w, e = .unmodelled w → Doc w) : Sp k N (Codec.fail e : Dec α) := by
  intro b _
  refine ⟨fun x r e' => (by cases e'), fun w e' => h w ?_⟩
  cases e'; rfl

theorem fail_eof {α : Type} {k N : Nat} : Sp k N (fail .eof : Dec α) :=
  failing fun _ e => by cases e

theorem bad {α : Type} {k N : Nat} (why : String) : Sp k N (Codec.bad why : Dec α) :=
  failing fun _ e => by cases e

theorem fail_doc {α : Type} {k N : Nat} {w : String} (h : Doc w) : Sp k N (Codec.fail (.unmodelled w) : Dec α) :=
  failing fun _ e => by cases e; exact h

/-- The rule for a `do` block.  The continuation runs on what the first step left: an input
    shorter by the `k₁` bytes that step consumed (this is what keeps the fuel of the loops
    sufficient), and it owes the rest `k - k₁` of the consumption.  The subtraction is truncated: a first
    step that consumes more than is asked (`k₁ > k`) leaves no debt, so the rule also weakens. -/
theorem bind {α β : Type} {k₁ k N : Nat} {d : Dec α} {f : α → Dec β} (hd : Sp k₁ N d)
    (hf : ∀ x N', N' + k₁ ≤ N → Sp (k - k₁) N' (f x)) : Sp k N (d >>= f) := by
  intro b hb
  obtain ⟨h1, h2⟩ := hd b hb
  rw [bind_run]
  cases hdb : d b with
  | error e =>
    refine ⟨fun x r e' => (by cases e'), fun w e' => ?_⟩
    cases e'; exact h2 w hdb
  | ok p =>
    obtain ⟨a, r0⟩ := p
    have hl := h1 a r0 hdb
    obtain ⟨g1, g2⟩ := hf a r0.length (by omega) r0 (Nat.le_refl _)
    exact ⟨fun x r e => (by have := g1 x r e; omega), g2⟩

/-- the same, for a continuation that is fine on all of `N` (every step but those of the fuel lemmas) -/
theorem andThen {α β : Type} {k₁ k N : Nat} {d : Dec α} {f : α → Dec β} (hd : Sp k₁ N d)
    (hf : ∀ x, Sp (k - k₁) N (f x)) : Sp k N (d >>= f) :=
  hd.bind fun x _ h => (hf x).anti (Nat.le_of_add_right_le h)

/-- `TryDecodeAsNil` consumes a byte exactly when it answers `true` -/
theorem tryNil {β : Type} {k N : Nat} {a b : Dec β} (ht : ∀ N', N' + 1 ≤ N → Sp (k - 1) N' a) (hf : Sp k N b) :
    Sp k N (Codec.tryNil >>= fun x => if x = true then a else b) := by
  intro b hb
  rw [bind_run]
  cases b with
  | nil => exact ⟨fun x r e => (by cases e), fun w e => (by cases e)⟩
  | cons x t =>
    by_cases hx : x = 0xc0
    · subst hx
      rw [tryNil_c0]
      simp only [List.length_cons, if_true] at hb ⊢
      obtain ⟨g1, g2⟩ := ht t.length (by omega) t (Nat.le_refl _)
      exact ⟨fun x r e => (by have := g1 x r e; omega), g2⟩
    · rw [tryNil_other x t hx]
      exact hf (x :: t) hb

theorem nilOr {β : Type} {k N : Nat} {a b : Dec β} (ht : Sp (k - 1) N a) (hf : Sp k N b) :
    Sp k N (Codec.tryNil >>= fun x => if x = true then a else b) :=
  tryNil (fun _ h => ht.anti (Nat.le_of_succ_le h)) hf

theorem map {α β : Type} {k N : Nat} {d : Dec α} (g : α → β) (hd : Sp k N d) : Sp k N (g <$> d) :=
  map_eq_pure_bind g d ▸ hd.andThen fun _ => (pure _).mono (Nat.le_of_eq (Nat.sub_self k))

theorem discard {α : Type} {k N : Nat} {d : Dec α} (hd : Sp k N d) : Sp k N (Functor.discard d) :=
  map _ hd

theorem ite {α : Type} {k N : Nat} {c : Prop} [Decidable c] {a b : Dec α} (ha : Sp k N a) (hb : Sp k N b) :
    Sp k N (if c then a else b) := by
  by_cases h : c
  · rw [if_pos h]; exact ha
  · rw [if_neg h]; exact hb

end Sp

/-! ### primitives -/

theorem readn1_sp {N : Nat} : Sp 1 N readn1 :=
  .prim fun | [] => rfl | _ :: _ => Nat.le_refl _

theorem peek1_sp {N : Nat} : Sp 0 N peek1 :=
  .prim fun | [] => rfl | _ :: _ => Nat.le_refl _

/-- `tryNil` as a plain step: in `genMap` its answer is tested only after two other tests, so the rule
    `Sp.tryNil` for `if (← tryNil) then … else …` does not apply there -/
theorem tryNil_sp {N : Nat} : Sp 0 N Codec.tryNil :=
  .prim fun
    | [] => rfl
    | x :: t => by
      by_cases hx : x = 0xc0
      · rw [hx, tryNil_c0]; exact Nat.le_succ _
      · rw [tryNil_other x t hx]; exact Nat.le_refl _

theorem readx_sp {N : Nat} (n : Nat) : Sp 0 N (readx n) :=
  .prim fun b => by
    unfold readx takeN
    by_cases h : b.length < n
    · rw [if_pos h]; rfl
    · rw [if_neg h]; exact Nat.le_trans (Nat.le_of_eq List.length_drop) (Nat.sub_le ..)

theorem readBE_sp {N : Nat} (w : Nat) : Sp 0 N (readBE w) :=
  .prim fun b => by
    unfold readBE readLen takeN
    by_cases h : b.length < w
    · rw [if_pos h]; rfl
    · rw [if_neg h]; exact Nat.le_trans (Nat.le_of_eq List.length_drop) (Nat.sub_le ..)

/-! ### the byte-level decoders, each by the rules along its definition -/

theorem lenBytes_sp {N : Nat} (c : Nat) : Sp 0 N (lenBytes c) :=
  .ite (readBE_sp 1) <| .ite (readBE_sp 2) <| .ite (readBE_sp 4) (.pure _)

theorem lenArr_sp {N : Nat} (c : Nat) : Sp 0 N (lenArr c) :=
  .ite (readBE_sp 2) <| .ite (readBE_sp 4) (.pure _)

theorem lenMap_sp {N : Nat} (c : Nat) : Sp 0 N (lenMap c) :=
  .ite (readBE_sp 2) <| .ite (readBE_sp 4) (.pure _)

theorem readArrayStart_sp {N : Nat} : Sp 1 N readArrayStart :=
  .andThen readn1_sp fun _ => lenArr_sp _

theorem readMapStart_sp {N : Nat} : Sp 1 N readMapStart :=
  .andThen readn1_sp fun _ => lenMap_sp _

theorem nonNeg_sp {N : Nat} (bits w : Nat) : Sp 0 N (nonNeg bits w) :=
  .andThen (readBE_sp w) fun _ => .ite (.pure _) (.bad _)

theorem decodeUint64_sp {N : Nat} : Sp 1 N decodeUint64 :=
  .andThen readn1_sp fun _ =>
    .ite (readBE_sp 1) <| .ite (readBE_sp 2) <| .ite (readBE_sp 4) <| .ite (readBE_sp 8) <|
    .ite (nonNeg_sp 8 1) <| .ite (nonNeg_sp 16 2) <| .ite (nonNeg_sp 32 4) <| .ite (nonNeg_sp 64 8) <|
    .ite (.pure _) <| .ite (.bad _) (.bad _)

theorem readInt_sp {N : Nat} (f : Nat → Int) (w : Nat) : Sp 0 N (readInt f w) :=
  .andThen (readBE_sp w) fun _ => .pure _

theorem decodeInt64_sp {N : Nat} : Sp 1 N decodeInt64 :=
  .andThen readn1_sp fun _ =>
    .ite (readInt_sp _ 1) <| .ite (readInt_sp _ 2) <| .ite (readInt_sp _ 4) <| .ite (readInt_sp _ 8) <|
    .ite (readInt_sp _ 1) <| .ite (readInt_sp _ 2) <| .ite (readInt_sp _ 4) <| .ite (readInt_sp _ 8) <|
    .ite (.pure _) <| .ite (.pure _) (.bad _)

theorem decodeBool_sp {N : Nat} : Sp 1 N decodeBool :=
  .andThen readn1_sp fun _ => .ite (.pure _) <| .ite (.pure _) (.bad _)

theorem u8elem_sp {N : Nat} : Sp 1 N u8elem :=
  .nilOr (.pure _) (.andThen decodeUint64_sp fun _ => .ite (.pure _) (.bad _))

theorem u8loop_sp : ∀ (n : Nat) (acc : Bytes) {N : Nat}, Sp 0 N (u8loop n acc)
  | 0, _, _ => .pure _
  | n + 1, _, _ => .andThen u8elem_sp fun _ => u8loop_sp n _

theorem decodeBytes_sp {N : Nat} : Sp 1 N decodeBytes := by
  refine .andThen peek1_sp fun bd => ?_
  split
  · exact .andThen readn1_sp fun _ => .andThen (lenBytes_sp _) fun _ => readx_sp _
  · exact .andThen readArrayStart_sp fun _ => u8loop_sp _ _
  · exact .bad _

theorem sliceLen_sp {N : Nat} : Sp 1 N sliceLen := by
  refine .andThen peek1_sp fun bd => ?_
  split
  · exact readArrayStart_sp
  · exact .andThen readMapStart_sp fun _ => .pure _
  · exact .bad _

theorem decBytesField_sp {N : Nat} : Sp 1 N decBytesField := by
  refine .andThen peek1_sp fun bd => ?_
  split
  · exact decodeBytes_sp
  · exact .andThen sliceLen_sp fun _ => u8loop_sp _ _

theorem decodeFloat64_sp {N : Nat} : Sp 1 N decodeFloat64 :=
  .andThen peek1_sp fun _ =>
    .ite (.andThen readn1_sp fun _ => .andThen (readx_sp 4) fun _ => .pure _) <|
    .ite (.andThen readn1_sp fun _ => .andThen (readx_sp 8) fun _ => .pure _)
      (.andThen decodeInt64_sp fun _ => .pure _)

theorem extLen_sp {N : Nat} (c : Nat) : Sp 0 N (extLen c) :=
  .ite (.pure _) <| .ite (.pure _) <| .ite (.pure _) <| .ite (.pure _) <| .ite (.pure _) <|
  .ite (readBE_sp 1) <| .ite (readBE_sp 2) (readBE_sp 4)

theorem readKey_sp {N : Nat} (f : Nat → GKey) (w : Nat) : Sp 0 N (readKey f w) :=
  .andThen (readBE_sp w) fun _ => .pure _

end Saltpack.Proofs.CodecP
