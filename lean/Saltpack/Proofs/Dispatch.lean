/-
  The dispatcher `ClassifyEncryptedStreamAndMakeDecoder` (Model/Dispatch.lean):
  its decoders over a cleanly ending reader are the byte-level receivers of
  Model/Front.lean, and over the bufio machine it is the pure dispatcher on the
  bytes and the final condition the reader delivers.
-/
import Saltpack.Model.Dispatch
import Saltpack.Proofs.Bufio
import Saltpack.Proofs.ClassifyLemmas
import Saltpack.Proofs.CodecBytes

namespace Saltpack.Proofs.DispatchP
open Saltpack Saltpack.Classify Saltpack.Dispatch Saltpack.Stream Saltpack.Bufio BufioP

variable (P : Prims)

theorem mt_distinct : mtEncryption ≠ mtSigncryption ∧ mtAttached ≠ mtEncryption ∧ mtAttached ≠ mtSigncryption ∧
    mtDetached ≠ mtEncryption ∧ mtDetached ≠ mtSigncryption := by decide

theorem build_enc (kr : Keyring) (res : Signcrypt.Resolver) (arm : Bool) (b : Bytes) (v : Version) (all : Bytes) (e : End) :
    build P kr res (.ok (arm, b, mtEncryption, v)) all e =
      ⟨arm, mtEncryption, v, if arm then dearmor62DecryptStream P kr all e else decryptStream P kr all e⟩ := by
  simp [build]

theorem build_sc (kr : Keyring) (res : Signcrypt.Resolver) (arm : Bool) (b : Bytes) (v : Version) (all : Bytes) (e : End) :
    build P kr res (.ok (arm, b, mtSigncryption, v)) all e =
      ⟨arm, mtSigncryption, v,
        if arm then dearmor62SigncryptOpenStream P kr res all e else signcryptOpenStream P kr res all e⟩ := by
  have h : mtSigncryption ≠ mtEncryption := fun h => mt_distinct.1 h.symm
  simp [build, h]

theorem build_other (kr : Keyring) (res : Signcrypt.Resolver) (arm : Bool) (b : Bytes) (t : Int) (v : Version) (all : Bytes)
    (e : End) (h1 : t ≠ mtEncryption) (h2 : t ≠ mtSigncryption) :
    build P kr res (.ok (arm, b, t, v)) all e = refuse .wrongMessageType := by
  simp [build, h1, h2]

/-! ### the decoders over a cleanly ending reader are the byte-level receivers of `Front` -/

theorem withEnd_eof {β : Type} (ps : PStream β) : withEnd .eof ps = ps := by
  unfold withEnd; rfl

theorem withEnd_err {β : Type} (ps : PStream β) :
    (withEnd .err ps).items = ps.items ∧
    (withEnd .err ps).tail = (match ps.tail with | .eof => .err .decodeError | t => t) := by
  unfold withEnd
  cases h : ps.tail <;> simp [h]

theorem decryptStream_eof (kr : Keyring) (msg : Bytes) :
    decryptStream P kr msg .eof = outEnc (Decrypt.openBytes P knownMajor kr msg) := by
  unfold decryptStream
  cases h : Front.readEnc msg with
  | error w => unfold Decrypt.openBytes; rw [h]; rfl
  | ok p =>
    obtain ⟨hr, ps⟩ := p
    rw [dec_openBytes_of_read h]
    simp only [withEnd_eof]
    rfl

theorem signcryptOpenStream_eof (kr : Keyring) (res : Signcrypt.Resolver) (msg : Bytes) :
    signcryptOpenStream P kr res msg .eof = outSc (Signcrypt.openBytes P kr res msg) := by
  unfold signcryptOpenStream
  cases h : Front.readSigncrypt msg with
  | error w => unfold Signcrypt.openBytes; rw [h]; rfl
  | ok p =>
    obtain ⟨hr, ps⟩ := p
    rw [sc_openBytes_of_read h]
    simp only [withEnd_eof]
    rfl

/-- armor-open, then the byte-level receiver on the payload -/
def armoredEnc (kr : Keyring) (text : Bytes) : Out :=
  match Armor.open62 (some mtEncryption) text with
  | .error e => .armorFail e
  | .ok o => outEnc (Decrypt.openBytes P knownMajor kr o.payload)

def armoredSc (kr : Keyring) (res : Signcrypt.Resolver) (text : Bytes) : Out :=
  match Armor.open62 (some mtEncryption) text with
  | .error e => .armorFail e
  | .ok o => outSc (Signcrypt.openBytes P kr res o.payload)

theorem dearmor62DecryptStream_eof (kr : Keyring) (text : Bytes) :
    dearmor62DecryptStream P kr text .eof = armoredEnc P kr text := by
  unfold dearmor62DecryptStream armoredEnc
  cases Armor.open62 (some mtEncryption) text with
  | error e => rfl
  | ok o => exact decryptStream_eof P kr o.payload

theorem dearmor62SigncryptOpenStream_eof (kr : Keyring) (res : Signcrypt.Resolver) (text : Bytes) :
    dearmor62SigncryptOpenStream P kr res text .eof = armoredSc P kr res text := by
  unfold dearmor62SigncryptOpenStream armoredSc
  cases Armor.open62 (some mtEncryption) text with
  | error e => rfl
  | ok o => exact signcryptOpenStream_eof P kr res o.payload

theorem refuse_out (e : Err) : (refuse e).out = .fail e ∧ (refuse e).msgType = Gen.c_sp_MessageTypeUnknown := ⟨rfl, rfl⟩

/-! ### the dispatcher over the bufio machine -/

theorem dispatchM_state (kr : Keyring) (res : Signcrypt.Resolver) (cap fuel : Nat) (s : BState) (hi : Inv s)
    (hsz : 0 < s.size) (hcap : 0 < cap) (hfuel : (view s).1.length + 1 ≤ fuel)
    (hcase : s.size ≤ (view s).1.length ∨ ((view s).2 = .src .eof ∧ StickyInv s)) :
    dispatchM P kr res cap fuel s = dispatchEnd P kr res s.size (view s).1 (End.of (view s).2) := by
  obtain ⟨hi1, hv1, hr, -⟩ := classify_view s hi hsz hcase
  obtain ⟨hd1, hd2⟩ := drain_view cap hcap fuel (classifyStreamM s).2 [] hi1 (by rw [hv1]; exact hfuel)
  rw [hv1] at hd1 hd2
  unfold dispatchM dispatchEnd
  generalize hcs : classifyStreamM s = r at hr hd1 hd2
  obtain ⟨v, s1⟩ := r
  simp only at hr hd1 hd2 ⊢
  subst hr
  simp only
  generalize hdr : drain cap fuel s1 [] = dr at hd1 hd2
  obtain ⟨a, e, s2⟩ := dr
  simp only [List.nil_append] at hd1 hd2 ⊢
  subst hd1 hd2
  rfl

theorem dispatchM_state_cond (kr : Keyring) (res : Signcrypt.Resolver) (cap fuel : Nat) (s : BState) (hi : Inv s)
    (hshort : (view s).1.length < s.size) (hc : (view s).2 ≠ .src .eof) :
    dispatchM P kr res cap fuel s = refuse .notASaltpackMessage := by
  have := classify_reports_cond s hi hshort hc
  unfold dispatchM
  generalize hcs : classifyStreamM s = r at this
  obtain ⟨v, s1⟩ := r
  simp only at this ⊢
  subst this
  rfl

theorem dispatchM_state_error (kr : Keyring) (res : Signcrypt.Resolver) (cap fuel : Nat) (s : BState) (hi : Inv s)
    (all : Bytes) (x : Err) (hv : view s = (all, .src (.err x))) (hshort : all.length < s.size) :
    dispatchM P kr res cap fuel s = refuse .notASaltpackMessage :=
  dispatchM_state_cond P kr res cap fuel s hi (by rw [hv]; exact hshort) (by rw [hv]; nofun)

end Saltpack.Proofs.DispatchP
