/-
  What it takes to read the ring round-trip theorems (Proofs/RingRT.lean) for the library's
  OWN keyring (Model/Basic.lean), and the facts about `basic.EphemeralKeyCreator`.

  Standing hypotheses on the basic keyring `k`:
    `WF k`        public keys in the map are pairwise distinct — an invariant of
                  every sequence of imports (`importAll_empty_wf`), not an assumption
                  about the caller;
    `Honest P k`  every stored public key is the public key of its secret — true
                  of `GenerateBoxKey`; `ImportBoxKey(pub, sec)` stores whatever it
                  is given, so for imported keys this is the caller's obligation
                  (excluded point: `C01Basic` shows what a dishonest entry does).
  `order` is the order in which `GetAllBoxSecretKeys` iterates the Go map in the
  run at hand: any permutation of the entries.
-/
import Saltpack.Proofs.Basic
import Saltpack.Proofs.RingRT
import Saltpack.Proofs.RoundTripSig
import Saltpack.Proofs.Calls
import Saltpack.Proofs.WireRT

namespace Saltpack.Proofs.BasicRing
open Saltpack Saltpack.Basic Saltpack.Proofs.RTSig Saltpack.Encrypt

/-! ### bookkeeping between the entries of the map and the list of secrets -/

theorem mem_secs_of_perm {k : Basic.Keyring} {order : List SecretKey} (hperm : order.Perm k.encKeys) {s : Bytes} :
    s ∈ order.map (·.sec) ↔ s ∈ k.encKeys.map (·.sec) := by
  simp only [List.mem_map]
  constructor
  · rintro ⟨e, he, rfl⟩; exact ⟨e, hperm.mem_iff.1 he, rfl⟩
  · rintro ⟨e, he, rfl⟩; exact ⟨e, hperm.mem_iff.2 he, rfl⟩

/-- what holds of the secret of every entry holds of every secret in iteration order -/
theorem of_secs {k : Basic.Keyring} {order : List SecretKey} (hperm : order.Perm k.encKeys) {p : Bytes → Prop}
    (h : ∀ e ∈ k.encKeys, p e.sec) : ∀ s ∈ order.map (·.sec), p s := by
  intro s hs
  obtain ⟨e, he, rfl⟩ := List.mem_map.1 hs
  exact h e (hperm.mem_iff.1 he)

theorem entry_of_sec {P : Prims} {k : Basic.Keyring} (hh : Honest P k) {s : Bytes} (hs : s ∈ k.encKeys.map (·.sec)) :
    (⟨P.boxPub s, s⟩ : SecretKey) ∈ k.encKeys := by
  obtain ⟨e, he, rfl⟩ := List.mem_map.1 hs
  have := hh e he
  obtain ⟨p, s⟩ := e
  simp only at this
  subst this
  exact he

theorem importAll_subset {k : Basic.Keyring} (es : List SecretKey) {e : SecretKey}
    (h : e ∈ (k.importAll es).encKeys) : e ∈ k.encKeys ∨ e ∈ es := by
  induction es generalizing k with
  | nil => exact Or.inl h
  | cons a rest ih =>
    rcases ih h with h' | h'
    · rcases mapInsert_mem h' with rfl | h''
      · exact Or.inr List.mem_cons_self
      · exact Or.inl h''
    · exact Or.inr (List.mem_cons_of_mem _ h')

theorem mapGet_importAll_isSome (k : Basic.Keyring) (es : List SecretKey) {e : SecretKey} (he : e ∈ es) :
    ∃ e', mapGet (k.importAll es).encKeys e.pub = some e' ∧ e' ∈ es ∧ e'.pub = e.pub := by
  rw [mapGet_importAll]
  cases hf : es.reverse.find? (fun e' => e'.pub == e.pub) with
  | some e' =>
    refine ⟨e', rfl, List.mem_reverse.1 (List.mem_of_find?_eq_some hf), ?_⟩
    have := List.find?_some hf
    exact bytes_beq_iff.1 this
  | none =>
    have := List.find?_eq_none.1 hf e (List.mem_reverse.2 he)
    simp at this

/-! ## C01: encryption -/

/-- `enc_roundtrip_seal_ring` for a basic keyring.  `hlen` (true of every `basic.PublicKey`):
    `LookupBoxSecretKey` copies each kid into a 32-byte array, so kids of other lengths are
    looked up under another name than the faithful keyring uses. -/
theorem enc_roundtrip_basic_ring (P : Prims) (hP : P.Lawful) (bs : Nat) (hbs : 0 < bs)
    (v : Version) (hv : v = v1 ∨ v = v2)
    (sender : Option Bytes) (rs : List Recipient) (eph payloadKey pt : Bytes)
    (hpk : payloadKey.length = 32)
    (hnamed : ∀ s, sender = some s → P.boxPub s ≠ P.boxPub eph)
    (hpub : ∀ r ∈ rs, r.hidden = false → r.pub ≠ [])
    (hlen : ∀ r ∈ rs, r.hidden = false → r.pub.length = 32)
    (k : Basic.Keyring) (hwf : WF k) (hh : Honest P k) (order : List SecretKey) (hperm : order.Perm k.encKeys)
    (i : Nat) (hi : i < rs.length) (sk : Bytes) (hmem : (⟨P.boxPub sk, sk⟩ : SecretKey) ∈ k.encKeys)
    (hsk : (rs.getD i default).pub = P.boxPub sk)
    (hns : RingNoSpuriousOpen P v eph payloadKey rs (k.encKeys.map (·.sec)))
    (h : EncHeader) (hb : Bytes) (blks : List EncBlock)
    (hseal : sealPackets P bs v sender rs eph payloadKey pt = .ok (h, hb, blks)) :
    ∃ i' sk', i' < rs.length ∧ (⟨P.boxPub sk', sk'⟩ : SecretKey) ∈ k.encKeys ∧
      (rs.getD i' default).pub = P.boxPub sk' ∧
      Decrypt.openAll P knownMajor (k.toRing order) (.ok hb h) ⟨blks.map some, .eof⟩ =
        .ok (mkiOf P sender rs eph i' sk', pt) := by
  have hmem' : sk ∈ order.map (·.sec) := (mem_secs_of_perm hperm).2 (List.mem_map.2 ⟨_, hmem, rfl⟩)
  have hns' : RingNoSpuriousOpen P v eph payloadKey rs (order.map (·.sec)) :=
    fun s hs => hns s ((mem_secs_of_perm hperm).1 hs)
  obtain ⟨i', sk', hi', hsk', hpe, hopen⟩ := enc_roundtrip_seal_ring P hP bs hbs v hv sender rs eph payloadKey pt
    hpk hnamed hpub (order.map SecretKey.sec) i hi sk hmem' hsk hns' h hb blks hseal
  refine ⟨i', sk', hi', entry_of_sec hh ((mem_secs_of_perm hperm).1 hsk'), hpe, ?_⟩
  rw [dec_openAll_ok_eq P hwf hh hperm knownMajor hb h _
    (hdr32_of_sealPackets P hP bs hv sender rs eph payloadKey pt h hb blks hseal hlen)]
  exact hopen

/-! ## C03: signcryption -/

theorem sc_hdr_ephemeral (P : Prims) (bs : Nat) (sender : Option Bytes) (rs : List Signcrypt.Recipient)
    (eph payloadKey pt : Bytes) (h : EncHeader) (hb : Bytes) (blks : List SigncryptBlock)
    (hseal : Signcrypt.sealPackets P bs sender rs eph payloadKey pt = .ok (h, hb, blks)) :
    h.ephemeral = P.boxPub eph := by
  obtain ⟨hh, _, _⟩ := RTSig.sc_sealPackets_inv P bs sender rs eph payloadKey pt h hb blks hseal
  rw [hh]; rfl

/-- the ephemeral key and the sender's signing key of a sealed header have 32 bytes, so the
    basic keyring returns them as the faithful keyring does -/
theorem sc_open_sealed_toRing (P : Prims) (hP : P.Lawful) (bs : Nat)
    (sender : Option Bytes) (rs : List Signcrypt.Recipient) (eph payloadKey pt : Bytes)
    (h : EncHeader) (hb : Bytes) (blks : List SigncryptBlock)
    (hseal : Signcrypt.sealPackets P bs sender rs eph payloadKey pt = .ok (h, hb, blks))
    (k : Basic.Keyring) (order : List SecretKey) (res : Signcrypt.Resolver)
    (hopen : Signcrypt.openAll P (faithfulKeyring P (order.map (·.sec))) res (.ok hb h) ⟨blks.map some, .eof⟩ =
      .ok (sender.map P.sigPub, pt)) :
    Signcrypt.openAll P (k.toRing order) res (.ok hb h) ⟨blks.map some, .eof⟩ = .ok (sender.map P.sigPub, pt) := by
  refine sc_openAll_toRing P k order res hb h ?_ _ _ pt ?_ hopen
  · rw [sc_hdr_ephemeral P bs sender rs eph payloadKey pt h hb blks hseal]
    exact hP.pub_len eph
  · intro key hkey
    cases sender with
    | none => cases hkey
    | some s => cases hkey; exact hP.sigPub_len s

/-! ## C05 / C07: signatures -/

/-- `LookupSigningPublicKey` of a basic keyring "knows" every 32-byte signer key
    — whatever was or was not imported with `ImportSigningKey` -/
theorem basic_knows_signer (P : Prims) (hP : P.Lawful) (k : Basic.Keyring) (order : List SecretKey) (signer : Bytes) :
    (k.toRing order).lookupSigningPublicKey (P.sigPub signer) = some (P.sigPub signer) :=
  toRing_lookupSig k order (hP.sigPub_len signer)

/-- a basic keyring never answers `noSenderKey`: its lookup never returns nil -/
theorem basic_lookupSig_ne_none (k : Basic.Keyring) (order : List SecretKey) (kid : Bytes) :
    (k.toRing order).lookupSigningPublicKey kid ≠ none := (toRing_never_nil k order kid).2.2

/-! ## C18: basic.EphemeralKeyCreator / generateBoxKey -/

theorem createEphemeralKey_ok_iff (P : Prims) (src : Rand.Source) (sk : SecretKey) (rest : Rand.Source) :
    createEphemeralKey P src = .ok (sk, rest) ↔
      ∃ s, Rand.readFull 32 src = some (s, rest) ∧ sk = ⟨P.boxPub s, s⟩ := by
  unfold createEphemeralKey generateBoxKey
  cases hr : Rand.readFull 32 src with
  | none => simp
  | some p =>
    obtain ⟨s, rest'⟩ := p
    simp only [Except.ok.injEq, Prod.mk.injEq, Option.some.injEq, newSecretKey]
    constructor
    · rintro ⟨rfl, rfl⟩; exact ⟨s, ⟨rfl, rfl⟩, rfl⟩
    · rintro ⟨s', ⟨rfl, rfl⟩, rfl⟩; exact ⟨rfl, rfl⟩

theorem createEphemeralKey_spec (P : Prims) (src : Rand.Source) (sk : SecretKey) (rest : Rand.Source)
    (h : createEphemeralKey P src = .ok (sk, rest)) :
    sk.sec.length = 32 ∧ sk.pub = P.boxPub sk.sec ∧
    ∃ n, n ≤ src.length ∧ rest = src.drop n ∧ sk.sec = (((src.take n).map (·.data)).flatten).take 32 := by
  obtain ⟨s, hr, rfl⟩ := (createEphemeralKey_ok_iff P src sk rest).1 h
  obtain ⟨hl, n, hn, hrest, hs⟩ := readFull_spec 32 src s rest hr
  exact ⟨hl, rfl, n, hn, hrest, hs⟩

theorem createEphemeralKey_fail_iff (P : Prims) (src : Rand.Source) :
    Rand.readFull 32 src = none ↔ createEphemeralKey P src = .error .ioError := by
  unfold createEphemeralKey generateBoxKey
  cases Rand.readFull 32 src with
  | none => simp
  | some p => simp

theorem createEphemeralKey_error_is_io (P : Prims) (src : Rand.Source) (e : Err)
    (h : createEphemeralKey P src = .error e) : e = .ioError ∧ Rand.readFull 32 src = none := by
  unfold createEphemeralKey generateBoxKey at h
  cases hr : Rand.readFull 32 src with
  | none => rw [hr] at h; simp only [Except.error.injEq] at h; exact ⟨h.symm, rfl⟩
  | some p => rw [hr] at h; cases h

/-! ## in terms of the sequence of imports -/

theorem importAll_empty_subset (es : List SecretKey) {e : SecretKey}
    (h : e ∈ (Basic.Keyring.empty.importAll es).encKeys) : e ∈ es :=
  (importAll_subset es h).resolve_left (fun h' => nomatch h')

/-- the round trip on the import history (honest pairs, any order, re-imports included);
    `hns` speaks of the entries the imports LEFT in the map only -/
theorem enc_roundtrip_basic_imports (P : Prims) (hP : P.Lawful) (bs : Nat) (hbs : 0 < bs)
    (v : Version) (hv : v = v1 ∨ v = v2)
    (sender : Option Bytes) (rs : List Recipient) (eph payloadKey pt : Bytes)
    (hpk : payloadKey.length = 32)
    (hnamed : ∀ s, sender = some s → P.boxPub s ≠ P.boxPub eph)
    (hpub : ∀ r ∈ rs, r.hidden = false → r.pub ≠ [])
    (hlen : ∀ r ∈ rs, r.hidden = false → r.pub.length = 32)
    (es : List SecretKey) (hes : ∀ e ∈ es, e.pub = P.boxPub e.sec)
    (i : Nat) (hi : i < rs.length) (himp : ∃ e ∈ es, e.pub = (rs.getD i default).pub)
    (order : List SecretKey) (hperm : order.Perm (Basic.Keyring.empty.importAll es).encKeys)
    (hns : RingNoSpuriousOpen P v eph payloadKey rs ((Basic.Keyring.empty.importAll es).encKeys.map (·.sec)))
    (h : EncHeader) (hb : Bytes) (blks : List EncBlock)
    (hseal : sealPackets P bs v sender rs eph payloadKey pt = .ok (h, hb, blks)) :
    ∃ i' sk', i' < rs.length ∧ (⟨P.boxPub sk', sk'⟩ : SecretKey) ∈ (Basic.Keyring.empty.importAll es).encKeys ∧
      (rs.getD i' default).pub = P.boxPub sk' ∧
      Decrypt.openAll P knownMajor ((Basic.Keyring.empty.importAll es).toRing order) (.ok hb h) ⟨blks.map some, .eof⟩ =
        .ok (mkiOf P sender rs eph i' sk', pt) := by
  have hh := importAll_honest (empty_honest P) es hes
  obtain ⟨e, he, hepub⟩ := himp
  obtain ⟨e', hget, _, he'pub⟩ := mapGet_importAll_isSome Basic.Keyring.empty es he
  have he'k := (mapGet_mem hget).1
  exact enc_roundtrip_basic_ring P hP bs hbs v hv sender rs eph payloadKey pt hpk hnamed hpub hlen _
    (importAll_empty_wf es) hh order hperm i hi e'.sec (entry_of_sec hh (List.mem_map.2 ⟨e', he'k, rfl⟩))
    (by rw [← hepub, ← he'pub, hh e' he'k]) hns h hb blks hseal

end Saltpack.Proofs.BasicRing
