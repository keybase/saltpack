/-
  The armored entry points are compositions: the sender armors the binary message
  (`Armor.seal62 typ brand (sealWith …)`); the receiver dearmors with frame validation for
  the expected type (`Armor.open62 (some typ)`), then runs the binary receiver on the
  payload.  So the armored round trips are `open_seal` (`open62 ∘ seal62 = id` on payload
  and brand) composed with the byte-level round trips of RingRT / WireRT.
-/
import Saltpack.Proofs.ArmorRT
import Saltpack.Proofs.RingRT
import Saltpack.Proofs.WireRT

namespace Saltpack.Proofs
open Saltpack Saltpack.Armor

theorem open_seal_wrong_type (typ typ' : Int) (ht : Armorable typ) (ht' : Armorable typ') (hne : typ ≠ typ')
    (brand : Bytes) (hb : BrandOK brand) (payload : Bytes) :
    ∃ e, open62 (some typ') (seal62 typ brand payload) = .error e := by
  obtain ⟨body', heq, hv1, _, _, _⟩ := seal_is_variant typ ht brand hb payload
  obtain ⟨e, he⟩ := parse_wrong_type typ typ' ht ht' hne brand _ hb hv1
  refine ⟨e, ?_⟩
  rw [heq, open62_text]
  unfold open62 openPure
  have h1 : ¬ ((header typ brand).length ≥ frameLim) := by
    have := hv1.lim; unfold frameLim; omega
  simp only [splitAt1_append _ _ _ (valid_ne_period _ hv1.valid), toASCII_valid _ hv1.valid, if_neg h1, he]

/-- `EncryptArmor62Seal` ∘ `Dearmor62DecryptOpen`, any keyring holding a recipient's key -/
theorem enc_armored_roundtrip_ring (P : Prims) (hP : P.Lawful) (bs : Nat) (hbs : 0 < bs) (hbs32 : bs + 16 < 2 ^ 32)
    (v : Version) (hv : v = v1 ∨ v = v2)
    (sender : Option Bytes) (rs : List Encrypt.Recipient) (eph payloadKey pt : Bytes)
    (hpk : payloadKey.length = 32)
    (hnamed : ∀ s, sender = some s → P.boxPub s ≠ P.boxPub eph)
    (hpub : ∀ r ∈ rs, r.hidden = false → r.pub ≠ [])
    (sks : List Bytes) (i : Nat) (hi : i < rs.length) (sk : Bytes) (hmem : sk ∈ sks)
    (hsk : (rs.getD i default).pub = P.boxPub sk)
    (hns : RingNoSpuriousOpen P v eph payloadKey rs sks)
    (L : Nat) (hL : ∀ r ∈ rs, r.pub.length ≤ L) (hsmall : 145 + rs.length * (L + 63) < 2 ^ 32)
    (brand : Bytes) (hbr : BrandOK brand)
    (msg : Bytes) (hmsg : Encrypt.sealWith P bs v sender rs eph payloadKey pt = .ok msg) :
    ∃ r hr ps, open62 (some mtEncryption) (seal62 mtEncryption brand msg) = .ok r ∧
      r.payload = msg ∧ r.brand = brand ∧
      Wire.splitEnc r.payload = .ok (hr, ps) ∧
      ∃ i' sk', i' < rs.length ∧ sk' ∈ sks ∧ (rs.getD i' default).pub = P.boxPub sk' ∧
        Decrypt.openAll P knownMajor (faithfulKeyring P sks) hr ps = .ok (mkiOf P sender rs eph i' sk', pt) := by
  obtain ⟨hr, ps, hsplit, hopen⟩ := enc_roundtrip_bytes_ring P hP bs hbs hbs32 v hv sender rs eph payloadKey pt hpk
    hnamed hpub sks i hi sk hmem hsk hns L hL hsmall msg hmsg
  exact ⟨_, hr, ps, open_seal mtEncryption (Or.inl rfl) brand hbr msg, rfl, rfl, hsplit, hopen⟩

/-- …the keyring holding exactly the recipient's key -/
theorem enc_armored_roundtrip (P : Prims) (hP : P.Lawful) (bs : Nat) (hbs : 0 < bs) (hbs32 : bs + 16 < 2 ^ 32)
    (v : Version) (hv : v = v1 ∨ v = v2)
    (sender : Option Bytes) (rs : List Encrypt.Recipient) (eph payloadKey pt : Bytes)
    (hpk : payloadKey.length = 32)
    (hnamed : ∀ s, sender = some s → P.boxPub s ≠ P.boxPub eph)
    (hpub : ∀ r ∈ rs, r.hidden = false → r.pub ≠ [])
    (hblocks : (Encrypt.chunkPlan v bs pt).length < 2 ^ 64 - 1)
    (i : Nat) (hi : i < rs.length) (sk : Bytes) (hsk : (rs.getD i default).pub = P.boxPub sk)
    (hns : NoSpuriousOpen P v eph payloadKey rs i sk)
    (L : Nat) (hL : ∀ r ∈ rs, r.pub.length ≤ L) (hsmall : 145 + rs.length * (L + 63) < 2 ^ 32)
    (brand : Bytes) (hbr : BrandOK brand)
    (msg : Bytes) (hmsg : Encrypt.sealWith P bs v sender rs eph payloadKey pt = .ok msg) :
    ∃ r hr ps, open62 (some mtEncryption) (seal62 mtEncryption brand msg) = .ok r ∧
      r.payload = msg ∧ r.brand = brand ∧
      Wire.splitEnc r.payload = .ok (hr, ps) ∧
      Decrypt.openAll P knownMajor (faithfulKeyring P [sk]) hr ps =
        .ok ({ senderKey := P.boxPub (sender.getD eph), senderIsAnon := sender.isNone,
               receiverKey := sk, receiverIsAnon := (rs.getD i default).hidden,
               namedReceivers := (rs.filter (fun r => !r.hidden)).map (·.pub),
               numAnonReceivers := if (rs.getD i default).hidden then (rs.filter (·.hidden)).length else 0 }, pt) := by
  obtain ⟨hr, ps, hsplit, hopen⟩ := enc_roundtrip_bytes P hP bs hbs hbs32 v hv sender rs eph payloadKey pt hpk
    hnamed hpub hblocks i hi sk hsk hns L hL hsmall msg hmsg
  exact ⟨_, hr, ps, open_seal mtEncryption (Or.inl rfl) brand hbr msg, rfl, rfl, hsplit, hopen⟩

/-- `SignArmor62` ∘ `Dearmor62Verify` -/
theorem sign_armored_roundtrip (P : Prims) (hP : P.Lawful) (bs : Nat) (hbs : 0 < bs) (hbs32 : bs < 2 ^ 32)
    (v : Version) (hv : v = v1 ∨ v = v2) (signer nonce msg : Bytes) (hn : nonce.length + 92 < 2 ^ 32)
    (kr : Keyring) (hk : kr.lookupSigningPublicKey (P.sigPub signer) = some (P.sigPub signer))
    (brand : Bytes) (hbr : BrandOK brand)
    (out : Bytes) (hout : Sign.attachedWith P bs v signer nonce msg = .ok out) :
    ∃ r hr ps, open62 (some mtAttached) (seal62 mtAttached brand out) = .ok r ∧
      r.payload = out ∧ r.brand = brand ∧
      Wire.splitSig r.payload = .ok (hr, ps) ∧
      Sign.verifyAll P knownMajor kr hr ps = .ok (P.sigPub signer, msg) := by
  obtain ⟨hr, ps, hsplit, hver⟩ := sign_roundtrip_bytes P hP bs hbs hbs32 v hv signer nonce msg hn kr hk out hout
  exact ⟨_, hr, ps, open_seal mtAttached (Or.inr (Or.inl rfl)) brand hbr out, rfl, rfl, hsplit, hver⟩

end Saltpack.Proofs
