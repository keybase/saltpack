/-
  The armor reader stack, stage 1: one call of the punctuated reader, `pReadUntil` (ReadUntilPunctuation) and
  `consumeUntilEOF` in terms of the LOGICAL text `(t, c)` of the punctuated reader (`PState.text`), whose
  terminal condition `c` is the clean EOF or a non-EOF error of the underlying reader.

  Hypotheses on the script (counterexamples at the end of the file): no EMPTY data-only delivery before the
  first condition (`SrcPre`: `ReadUntilPunctuation` turns a `(0, nil)` read into `io.ErrUnexpectedEOF`,
  `consumeUntilEOF` into `io.EOF`); after a clean EOF only `([], EOF)` follows (`SrcOK`: a condition that comes
  WITHOUT data is not remembered, and the stack does call `Read` again after an EOF).
-/
import Saltpack.Proofs.PunctAll

namespace Saltpack.Proofs
open Saltpack Saltpack.Stream

/-! ## well-behaved scripts -/

/-- every non-terminal delivery carries data, and after the first condition
    only `([], EOF)` follows -/
def SrcOK : Source → Prop
  | [] => True
  | (d, none) :: rest => d ≠ [] ∧ SrcOK rest
  | (_, some _) :: rest => ∀ x ∈ rest, x = (([], some RErr.eof) : Bytes × Option RErr)

theorem srcOK_of_allEof : ∀ (rest : Source), (∀ x ∈ rest, x = (([], some RErr.eof) : Bytes × Option RErr)) → SrcOK rest := by
  intro rest
  induction rest with
  | nil => intro _; trivial
  | cons hd tl _ =>
    intro h
    have h1 := h hd (by simp)
    subst h1
    exact fun x hx => h x (by simp [hx])

theorem srcText_of_allEof : ∀ (rest : Source), (∀ x ∈ rest, x = (([], some RErr.eof) : Bytes × Option RErr)) →
    srcText rest = ([], .eof) := by
  intro rest h
  cases rest with
  | nil => rfl
  | cons hd tl =>
    have h1 := h hd (by simp)
    subst h1
    rfl

theorem srcOK_srcRead (cap : Nat) (src : Source) (h : SrcOK src) : SrcOK (srcRead cap src).2.2 := by
  cases src with
  | nil => trivial
  | cons hd rest =>
    obtain ⟨d0, e0⟩ := hd
    by_cases hc : d0.length ≤ cap
    · simp only [srcRead, if_pos hc]
      cases e0 with
      | none => exact h.2
      | some e => exact srcOK_of_allEof rest h
    · simp only [srcRead, if_neg hc]
      have hne : d0.drop cap ≠ [] := by
        intro h0
        have := congrArg List.length h0
        simp at this
        omega
      cases e0 with
      | none => exact ⟨hne, h.2⟩
      | some e => exact h

theorem srcOK_tail (src : Source) (h : SrcOK src) : SrcOK src.tail := by
  cases src with
  | nil => trivial
  | cons hd rest =>
    obtain ⟨d0, e0⟩ := hd
    cases e0 with
    | none => exact h.2
    | some e => exact srcOK_of_allEof rest h

/-- every data-only delivery BEFORE the first condition carries data; nothing
    is required of what follows the first condition -/
def SrcPre : Source → Prop
  | [] => True
  | (d, none) :: rest => d ≠ [] ∧ SrcPre rest
  | (_, some _) :: _ => True

theorem srcPre_of_srcOK : ∀ (src : Source), SrcOK src → SrcPre src := by
  intro src
  induction src with
  | nil => intro _; trivial
  | cons hd rest ih =>
    obtain ⟨d, e⟩ := hd
    cases e with
    | none => intro h; exact ⟨h.1, ih h.2⟩
    | some x => intro _; trivial

theorem srcPre_srcRead (cap : Nat) (src : Source) (h : SrcPre src)
    (he : (srcRead cap src).2.1 = none) : SrcPre (srcRead cap src).2.2 := by
  cases src with
  | nil => trivial
  | cons hd rest =>
    obtain ⟨d0, e0⟩ := hd
    by_cases hc : d0.length ≤ cap
    · simp only [srcRead, if_pos hc] at he ⊢
      subst he
      exact h.2
    · simp only [srcRead, if_neg hc]
      have hne : d0.drop cap ≠ [] := by
        intro h0
        have := congrArg List.length h0
        simp at this
        omega
      cases e0 with
      | none => exact ⟨hne, h.2⟩
      | some e => trivial

theorem eof_ne_punct : RErr.eof ≠ punctErr := by
  intro h; cases h

theorem srcText_tail_of_srcOK (src : Source) (h : SrcOK src) (ht : (srcText src).1 = []) :
    srcText src.tail = ([], .eof) := by
  cases src with
  | nil => rfl
  | cons hd rest =>
    obtain ⟨d0, e0⟩ := hd
    cases e0 with
    | none => exact absurd (List.append_eq_nil_iff.mp ht).1 h.1
    | some x => exact srcText_of_allEof rest h

/-! ## the clean end of the text is sticky -/

/-- reachable state over a well-behaved script whose text ends in a clean EOF -/
structure PClean (s : PState) : Prop where
  wf : s.WF
  src : SrcOK s.src
  eof : s.text.2 = .eof

theorem pProc_frame (cap : Nat) (src : Bytes) (used : Bool) (s1 : PState) :
    (pProc cap src used s1).2.2.src = s1.src ∧ (pProc cap src used s1).2.2.errNextRead = s1.errNextRead := by
  unfold pProc
  -- four cases (period found or not, remainder or fresh delivery); `simp` settles those without a period,
  -- in the other two the `if` on the rest of the segment only touches `thisSegment` / `errThisSegment`
  cases findIdx Armor.period src <;> cases used <;> simp
  all_goals
    split <;> exact ⟨rfl, rfl⟩

theorem pProc_src (cap : Nat) (src : Bytes) (used : Bool) (s1 : PState) : (pProc cap src used s1).2.2.src = s1.src :=
  (pProc_frame cap src used s1).1

theorem pProc_errNext (cap : Nat) (src : Bytes) (used : Bool) (s1 : PState) :
    (pProc cap src used s1).2.2.errNextRead = s1.errNextRead :=
  (pProc_frame cap src used s1).2

theorem pRead_src_cases (cap : Nat) (s : PState) :
    (pRead cap s).2.2.src = s.src ∨ (pRead cap s).2.2.src = (srcRead cap s.src).2.2 := by
  by_cases h1 : s.thisSegment = []
  · by_cases h2 : s.nextSegment = []
    · cases h3 : s.errNextRead with
      | some x => left; rw [pRead_sticky cap s x h1 h2 h3]
      | none =>
        right
        rw [pRead_src cap s h1 h2 h3]
        cases (srcRead cap s.src).2.1 with
        | none => simp only; rw [pProc_src]
        | some e' =>
          simp only
          split
          · rfl
          · rw [pProc_src]
    · left; rw [pRead_next cap s h1 h2, pProc_src]
  · left
    rw [pRead_this cap s h1]
    split <;> rfl

theorem srcText_length_le (src : Source) : (srcText src).1.length ≤ srcCost src := by
  induction src with
  | nil => simp [srcText, srcCost]
  | cons hd rest ih =>
    obtain ⟨d, e⟩ := hd
    cases e with
    | none => simp only [srcText, srcCost, List.length_append]; omega
    | some x => simp only [srcText, srcCost]; omega

/-- the logical text is shorter than the call budget the model uses: `fuelOf` counts every delivery's length + 2,
    the two buffers and 8, the text at most the deliveries' lengths, the buffers and one period -/
theorem ptext_length_lt_fuelOf (s : PState) : s.text.1.length + 6 < fuelOf s := by
  have h2 : s.tail.1.length ≤ srcCost s.src := by
    unfold PState.tail
    cases s.errNextRead with
    | some e => exact Nat.zero_le _
    | none => exact srcText_length_le s.src
  have h3 : s.buf.length ≤ s.thisSegment.length + s.nextSegment.length + 1 := by
    unfold PState.buf
    simp only [List.length_append]
    split
    · exact Nat.le_of_eq (Nat.add_right_comm _ _ _)
    · exact Nat.le_succ_of_le (Nat.le_refl _)
  have h4 := srcCost_le_fuel s.src
  show (s.buf ++ s.tail.1).length + 6 < _
  rw [List.length_append]
  unfold fuelOf
  omega

theorem pRead_clean (cap : Nat) (hcap : 0 < cap) (s : PState) (hi : PClean s)
    (d : Bytes) (e : Option RErr) (s1 : PState) (h : pRead cap s = (d, e, s1)) :
    PClean s1 ∧ d.length ≤ cap ∧ Armor.period ∉ d ∧
    ((e = none ∧ d ≠ [] ∧ s.text.1 = d ++ s1.text.1) ∨
     (e = some punctErr ∧ s.text.1 = d ++ Armor.period :: s1.text.1) ∨
     (e = some .eof ∧ d = [] ∧ s.text.1 = [] ∧ s1.text.1 = [])) := by
  obtain ⟨w, l, n, c⟩ := pRead_step cap hcap s hi.wf d e s1 h
  have hsrc : SrcOK s1.src := by
    have := pRead_src_cases cap s
    rw [h] at this
    rcases this with h' | h'
    · simp only at h'; rw [h']; exact hi.src
    · simp only at h'; rw [h']; exact srcOK_srcRead cap _ hi.src
  rcases c with ⟨rfl, c1, c2, _, c4⟩ | ⟨rfl, c1, c2, _⟩ | ⟨rfl, c1, c2, c3⟩
  · refine ⟨⟨w, hsrc, by rw [c2, hi.eof]⟩, l, n, Or.inl ⟨rfl, ?_, c1⟩⟩
    intro hd
    obtain ⟨_, _, rest, hr⟩ := c4 hd
    have := hi.src
    rw [hr] at this
    exact this.1 rfl
  · exact ⟨⟨w, hsrc, by rw [c2, hi.eof]⟩, l, n, Or.inr (Or.inl ⟨rfl, c1⟩)⟩
  · -- terminal: the condition is the clean EOF and it is sticky
    have he : s.text.2 = .eof := hi.eof
    have hbuf : s.buf = [] := by
      simp only [PState.text, List.append_eq_nil_iff] at c2
      exact c2.1
    have htl : s.tail.1 = [] := by
      simp only [PState.text, List.append_eq_nil_iff] at c2
      exact c2.2
    have hs1 : s1.text = ([], .eof) := by
      cases hn : s.errNextRead with
      | some x =>
        -- the remembered condition: the state does not change
        rw [hn] at c3
        simp only [Option.isSome_some, if_true] at c3
        rw [c3]
        exact Prod.ext c2 he
      | none =>
        -- one script entry consumed: only `([], EOF)` entries can follow
        rw [hn] at c3
        simp only [Option.isSome_none, Bool.false_eq_true, if_false] at c3
        have htail : s.tail = srcText s.src := by rw [PState.tail, hn]
        rw [htail] at htl
        have ht' : s1.tail = srcText s.src.tail := by rw [c3]; rfl
        have hb' : s1.buf = s.buf := by rw [c3]; rfl
        show (s1.buf ++ s1.tail.1, s1.tail.2) = _
        rw [hb', hbuf, ht', srcText_tail_of_srcOK s.src hi.src htl]
        rfl
    refine ⟨⟨w, hsrc, by rw [hs1]⟩, l, n, Or.inr (Or.inr ⟨by rw [he], c1, c2, by rw [hs1]⟩)⟩

/-! ## the invariant of the punctuated reader used by the stack -/

/-- reachable state of the punctuated reader over a script that is well behaved
    up to its first condition; when that condition is the clean EOF, the script
    is well behaved throughout (`SrcOK`) -/
structure PInv (s : PState) : Prop where
  wf : s.WF
  notPunct : s.text.2 ≠ punctErr
  clean : s.text.2 = .eof → SrcOK s.src
  fault : s.errNextRead = none → SrcPre s.src

theorem pRead_fault_inv (cap : Nat) (hcap : 0 < cap) (s : PState) (hf : s.errNextRead = none → SrcPre s.src)
    (hnp : s.text.2 ≠ punctErr) (d : Bytes) (e : Option RErr) (s1 : PState) (h : pRead cap s = (d, e, s1))
    (he : e = none ∨ e = some punctErr) : s1.errNextRead = none → SrcPre s1.src := by
  by_cases h1 : s.thisSegment = []
  · by_cases h2 : s.nextSegment = []
    · cases h3 : s.errNextRead with
      | some x =>
        rw [pRead_sticky cap s x h1 h2 h3] at h
        simp only [Prod.mk.injEq] at h
        obtain ⟨_, _, rfl⟩ := h
        intro h'; rw [h3] at h'; cases h'
      | none =>
        have hpre := hf h3
        rw [pRead_src cap s h1 h2 h3] at h
        rcases hr : srcRead cap s.src with ⟨d0, e0, src'⟩
        rw [hr] at h
        cases e0 with
        | none =>
          simp only at h
          have hs1 : s1 = (pProc cap d0 false { s with src := src' }).2.2 := by rw [h]
          intro _
          rw [hs1, pProc_src]
          have := srcPre_srcRead cap s.src hpre (by rw [hr])
          rw [hr] at this
          exact this
        | some e' =>
          simp only at h
          by_cases hd0 : d0.isEmpty = true
          · rw [if_pos hd0] at h
            simp only [Prod.mk.injEq] at h
            obtain ⟨_, rfl, _⟩ := h
            exfalso
            rcases he with he | he
            · cases he
            · simp only [Option.some.injEq] at he
              apply hnp
              have hsp := (srcRead_spec cap hcap s.src d0 (some e') src' hr).2.2.2 e' rfl
              simp only [PState.text, PState.tail, h3, hsp.1, he]
          · rw [if_neg hd0] at h
            have hs1 : s1 = (pProc cap d0 false { s with src := src', errNextRead := some e' }).2.2 := by rw [h]
            intro h'
            rw [hs1, pProc_errNext] at h'
            cases h'
    · rw [pRead_next cap s h1 h2] at h
      have hs1 : s1 = (pProc cap s.nextSegment true { s with nextSegment := [] }).2.2 := by rw [h]
      intro h'
      rw [hs1, pProc_errNext] at h'
      rw [hs1, pProc_src]
      exact hf h'
  · rw [pRead_this cap s h1] at h
    split at h
    · simp only [Prod.mk.injEq] at h
      obtain ⟨_, _, rfl⟩ := h
      exact hf
    · simp only [Prod.mk.injEq] at h
      obtain ⟨_, _, rfl⟩ := h
      exact hf

theorem pRead_ok (cap : Nat) (hcap : 0 < cap) (s : PState) (hi : PInv s)
    (d : Bytes) (e : Option RErr) (s1 : PState) (h : pRead cap s = (d, e, s1)) :
    d.length ≤ cap ∧ Armor.period ∉ d ∧
    ((e = none ∧ d ≠ [] ∧ s.text.1 = d ++ s1.text.1 ∧ s1.text.2 = s.text.2 ∧ PInv s1) ∨
     (e = some punctErr ∧ s.text.1 = d ++ Armor.period :: s1.text.1 ∧ s1.text.2 = s.text.2 ∧ PInv s1) ∨
     (e = some s.text.2 ∧ d = [] ∧ s.text.1 = [] ∧ (s.text.2 = .eof → PInv s1 ∧ s1.text = ([], .eof)))) := by
  by_cases hc : s.text.2 = .eof
  · have hp : PClean s := ⟨hi.wf, hi.clean hc, hc⟩
    obtain ⟨w, l, n, c⟩ := pRead_clean cap hcap s hp d e s1 h
    refine ⟨l, n, ?_⟩
    have hw : PInv s1 :=
      ⟨w.wf, by rw [w.eof]; exact eof_ne_punct, fun _ => w.src, fun _ => srcPre_of_srcOK _ w.src⟩
    rcases c with ⟨c0, c1, c2⟩ | ⟨c0, c2⟩ | ⟨c0, c1, c2, c3⟩
    · exact Or.inl ⟨c0, c1, c2, by rw [w.eof, hc], hw⟩
    · exact Or.inr (Or.inl ⟨c0, c2, by rw [w.eof, hc], hw⟩)
    · refine Or.inr (Or.inr ⟨by rw [c0, hc], c1, c2, fun _ => ⟨hw, ?_⟩⟩)
      have := w.eof
      exact Prod.ext c3 this
  · obtain ⟨w, l, n, c⟩ := pRead_step cap hcap s hi.wf d e s1 h
    refine ⟨l, n, ?_⟩
    rcases c with ⟨c0, c1, c2, _, c4⟩ | ⟨c0, c1, c2, _⟩ | ⟨c0, c1, c2, _⟩
    · have hinv : PInv s1 := ⟨w, by rw [c2]; exact hi.notPunct, fun h' => absurd (by rw [← c2]; exact h') hc,
        pRead_fault_inv cap hcap s hi.fault hi.notPunct d e s1 h (Or.inl c0)⟩
      refine Or.inl ⟨c0, ?_, c1, c2, hinv⟩
      intro hd
      obtain ⟨_, hn, rest, hr⟩ := c4 hd
      have := hi.fault hn
      rw [hr] at this
      exact this.1 rfl
    · have hinv : PInv s1 := ⟨w, by rw [c2]; exact hi.notPunct, fun h' => absurd (by rw [← c2]; exact h') hc,
        pRead_fault_inv cap hcap s hi.fault hi.notPunct d e s1 h (Or.inr c0)⟩
      exact Or.inr (Or.inl ⟨c0, c1, c2, hinv⟩)
    · exact Or.inr (Or.inr ⟨c0, c1, c2, fun h' => absurd h' hc⟩)

theorem pInv_init (src : Source) (c : RErr) (T : Bytes) (hT : srcText src = (T, c)) (hc : c ≠ punctErr)
    (hpre : SrcPre src) (hok : c = .eof → SrcOK src) : PInv { src := src } :=
  ⟨pWF_init src, by rw [ptext_init, hT]; exact hc, fun h => hok (by rw [ptext_init, hT] at h; exact h), fun _ => hpre⟩

/-! ## `ReadUntilPunctuation` -/

/-- one more call that added `x > 0` bytes to the `b` collected so far leaves enough fuel -/
theorem fuel_chain {n fuel b x : Nat} (hf : n < fuel + 1 + b) (hx : 0 < x) : n < fuel + (b + x) := by omega

theorem pReadUntil_succ (lim fuel : Nat) (s : PState) (acc : Bytes) :
    pReadUntil lim (fuel + 1) s acc =
      match (pRead 4096 s).2.1 with
      | none =>
        if (acc ++ (pRead 4096 s).1).length ≥ lim then (.error (.err .overflow), (pRead 4096 s).2.2)
        else if (pRead 4096 s).1.isEmpty then (.error (.err .unexpectedEOF), (pRead 4096 s).2.2)
        else pReadUntil lim fuel (pRead 4096 s).2.2 (acc ++ (pRead 4096 s).1)
      | some (.err .punctuated) =>
        if (acc ++ (pRead 4096 s).1).length ≥ lim then (.error (.err .overflow), (pRead 4096 s).2.2)
        else (.ok (acc ++ (pRead 4096 s).1), (pRead 4096 s).2.2)
      | some .eof => (.error (.err .unexpectedEOF), (pRead 4096 s).2.2)
      | some (.err x) => (.error (.err x), (pRead 4096 s).2.2) := by
  rw [pReadUntil]
  rcases pRead 4096 s with ⟨d, e, s1⟩
  rfl

/-- **`ReadUntilPunctuation(lim)`** over a text `(t, c)`:
    * `t = a ++ '.' :: rest`, no period in `a`: `acc ++ a` when shorter than
      `lim` (leaving `(rest, c)`), else `ErrOverflow`;
    * no period in `t`: some error (`ErrOverflow`, `io.ErrUnexpectedEOF`, or
      the fault `c` of the source) — never a result. -/
theorem pReadUntil_spec (lim : Nat) : ∀ (fuel : Nat) (s : PState) (acc : Bytes), PInv s →
    acc.length < lim → lim < fuel + acc.length →
    (∀ a rest, s.text.1 = a ++ Armor.period :: rest → Armor.period ∉ a →
      ((acc ++ a).length < lim →
        ∃ s1, pReadUntil lim fuel s acc = (.ok (acc ++ a), s1) ∧ PInv s1 ∧ s1.text = (rest, s.text.2)) ∧
      (lim ≤ (acc ++ a).length → ∃ s1, pReadUntil lim fuel s acc = (.error (.err .overflow), s1))) ∧
    (Armor.period ∉ s.text.1 → ∃ z s1, pReadUntil lim fuel s acc = (.error (.err z), s1)) := by
  intro fuel
  induction fuel with
  | zero => intro s acc _ h1 h2; omega
  | succ fuel ih =>
    intro s acc hi hacc hfuel
    rw [pReadUntil_succ]
    rcases hp : pRead 4096 s with ⟨d, e, s'⟩
    obtain ⟨_, n, c⟩ := pRead_ok 4096 (by decide) s hi d e s' hp
    simp only
    rcases c with ⟨rfl, c1, c2, c3, hi'⟩ | ⟨rfl, c2, c3, hi'⟩ | ⟨rfl, c1, c2, _⟩
    · -- more data
      have hdpos : 0 < d.length := List.length_pos_iff.mpr c1
      have hde : d.isEmpty = false := by cases d with
        | nil => exact absurd rfl c1
        | cons _ _ => rfl
      simp only [hde, Bool.false_eq_true, if_false]
      by_cases hov : (acc ++ d).length ≥ lim
      · rw [if_pos hov]
        constructor
        · intro a rest ht ha
          rw [c2] at ht
          obtain ⟨a', h1, _⟩ := firstSplit_prefix _ d s'.text.1 a rest ht n
          refine ⟨fun hlt => ?_, fun _ => ⟨s', rfl⟩⟩
          rw [h1, ← List.append_assoc, List.length_append] at hlt
          exact absurd (Nat.lt_of_le_of_lt (Nat.le_trans hov (Nat.le_add_right _ _)) hlt) (Nat.lt_irrefl _)
        · intro _
          exact ⟨_, s', rfl⟩
      · rw [if_neg hov]
        obtain ⟨ih1, ih2⟩ := ih s' (acc ++ d) hi' (Nat.not_le.mp hov)
          (by rw [List.length_append]; exact fuel_chain hfuel hdpos)
        constructor
        · intro a rest ht ha
          rw [c2] at ht
          obtain ⟨a', h1, h2⟩ := firstSplit_prefix _ d s'.text.1 a rest ht n
          have := ih1 a' rest h2 (fun hm => ha (by rw [h1]; simp [hm]))
          rw [h1, ← List.append_assoc, ← c3]
          exact this
        · intro hnp
          rw [c2] at hnp
          exact ih2 (fun hm => hnp (by simp [hm]))
    · -- punctuated
      simp only [punctErr]
      constructor
      · intro a rest ht ha
        rw [c2] at ht
        obtain ⟨h1, h2⟩ := firstSplit_unique _ d s'.text.1 a rest ht n ha
        subst h1
        refine ⟨fun hlt => ⟨s', ?_, hi', ?_⟩, fun hge => ⟨s', ?_⟩⟩
        · rw [if_neg (Nat.not_le.mpr hlt)]
        · exact Prod.ext h2 c3
        · rw [if_pos hge]
      · intro hnp
        exfalso; apply hnp; rw [c2]; simp
    · -- the terminal condition
      subst c1
      constructor
      · intro a rest ht _
        rw [c2] at ht
        simp at ht
      · intro _
        have hnp := hi.notPunct
        split
        · rename_i heq; cases heq
        · rename_i heq
          simp only [Option.some.injEq] at heq
          exact absurd heq hnp
        · exact ⟨_, s', rfl⟩
        · exact ⟨_, s', rfl⟩

/-- the call made by the framed decoder -/
theorem pReadUntil_frame (s : PState) (hi : PInv s) :
    (∀ a rest, s.text.1 = a ++ Armor.period :: rest → Armor.period ∉ a →
      (a.length < Armor.frameLim →
        ∃ s1, pReadUntil Armor.frameLim (Armor.frameLim + 2) s [] = (.ok a, s1) ∧ PInv s1 ∧ s1.text = (rest, s.text.2)) ∧
      (Armor.frameLim ≤ a.length →
        ∃ s1, pReadUntil Armor.frameLim (Armor.frameLim + 2) s [] = (.error (.err .overflow), s1))) ∧
    (Armor.period ∉ s.text.1 →
      ∃ z s1, pReadUntil Armor.frameLim (Armor.frameLim + 2) s [] = (.error (.err z), s1)) :=
  pReadUntil_spec Armor.frameLim (Armor.frameLim + 2) s [] hi (by decide) (Nat.lt_add_of_pos_right (by decide))

/-! ## `consumeUntilEOF` -/

theorem consume_succ (par : Armor.Params) (fuel : Nat) (s : PState) :
    consumeUntilEOF par (fuel + 1) s =
      match (pRead 4096 s).2.1 with
      | some x => (x, (pRead 4096 s).2.2)
      | none =>
        if (pRead 4096 s).1.isEmpty then (.eof, (pRead 4096 s).2.2)
        else if !((pRead 4096 s).1.all (Armor.validByte par)) then (.err .trailingGarbage, (pRead 4096 s).2.2)
        else consumeUntilEOF par fuel (pRead 4096 s).2.2 := by
  rw [consumeUntilEOF]
  rcases pRead 4096 s with ⟨d, e, s1⟩
  rfl

/-- the trailing text is acceptable: no further period, valid bytes only -/
def trailOK (par : Armor.Params) (r3 : Bytes) : Prop := Armor.period ∉ r3 ∧ r3.all (Armor.validByte par) = true

instance (par : Armor.Params) (r3 : Bytes) : Decidable (trailOK par r3) := by unfold trailOK; exact inferInstance

theorem trailOK_append (par : Armor.Params) (d t : Bytes) (hp : Armor.period ∉ d) (hv : d.all (Armor.validByte par) = true) :
    trailOK par (d ++ t) ↔ trailOK par t := by
  unfold trailOK
  rw [List.all_append, hv, Bool.true_and]
  constructor
  · rintro ⟨h1, h2⟩
    exact ⟨fun hm => h1 (List.mem_append_right _ hm), h2⟩
  · rintro ⟨h1, h2⟩
    refine ⟨fun hm => ?_, h2⟩
    rcases List.mem_append.mp hm with hm | hm
    · exact hp hm
    · exact h1 hm

theorem trailOK_append_bad (par : Armor.Params) (d t : Bytes) (hv : d.all (Armor.validByte par) = false) :
    ¬ trailOK par (d ++ t) := by
  rintro ⟨_, h2⟩
  rw [List.all_append, hv] at h2
  cases h2

/-- **`consumeUntilEOF`** over a text `(t, c)`: `io.EOF` exactly when `c` is the
    clean EOF and `t` has no period and only valid bytes; otherwise an error
    (`ErrPunctuated`, `ErrTrailingGarbage`, or the fault `c`) -/
theorem consume_spec (par : Armor.Params) : ∀ (fuel : Nat) (s : PState), PInv s → s.text.1.length < fuel →
    ((trailOK par s.text.1 ∧ s.text.2 = .eof) →
      ∃ s1, consumeUntilEOF par fuel s = (.eof, s1) ∧ PInv s1 ∧ s1.text = ([], .eof)) ∧
    (¬ (trailOK par s.text.1 ∧ s.text.2 = .eof) → ∃ z s1, consumeUntilEOF par fuel s = (.err z, s1)) := by
  intro fuel
  induction fuel with
  | zero => intro s _ h; omega
  | succ fuel ih =>
    intro s hi hfuel
    rw [consume_succ]
    rcases hp : pRead 4096 s with ⟨d, e, s'⟩
    obtain ⟨_, n, c⟩ := pRead_ok 4096 (by decide) s hi d e s' hp
    simp only
    rcases c with ⟨rfl, c1, c2, c3, hi'⟩ | ⟨rfl, c2, c3, hi'⟩ | ⟨rfl, c1, c2, c3⟩
    · have hde : d.isEmpty = false := by cases d with
        | nil => exact absurd rfl c1
        | cons _ _ => rfl
      have hdpos : 0 < d.length := List.length_pos_iff.mpr c1
      simp only [hde, Bool.false_eq_true, if_false]
      rw [c2, List.length_append] at hfuel
      have hih := ih s' hi' (Nat.lt_of_lt_of_le (Nat.lt_add_of_pos_left hdpos) (Nat.le_of_lt_succ hfuel))
      rw [c2, ← c3]
      by_cases hv : d.all (Armor.validByte par) = true
      · simp only [hv, Bool.not_true, Bool.false_eq_true, if_false]
        rw [trailOK_append par d _ n hv]
        exact hih
      · have hv' : d.all (Armor.validByte par) = false := Bool.eq_false_iff.mpr hv
        simp only [hv', Bool.not_false, if_true]
        exact ⟨fun h => absurd h.1 (trailOK_append_bad par d _ hv'), fun _ => ⟨_, s', rfl⟩⟩
    · constructor
      · rintro ⟨⟨h1, _⟩, _⟩
        exfalso; apply h1; rw [c2]; simp
      · intro _; exact ⟨_, s', rfl⟩
    · constructor
      · rintro ⟨_, h3⟩
        obtain ⟨w, t⟩ := c3 h3
        rw [h3]
        exact ⟨s', rfl, w, t⟩
      · intro hn
        cases hc : s.text.2 with
        | eof =>
          exfalso; apply hn
          rw [c2]
          exact ⟨⟨by simp, rfl⟩, hc⟩
        | err z => exact ⟨z, s', rfl⟩

/-! ## concrete checks: why the hypotheses are needed -/

-- "ab." delivered after an EMPTY read: `ReadUntilPunctuation` reports unexpected EOF …
example : (pReadUntil 10 12 { src := [([], none), ([97, 98, 46], none)] } []).1 = .error (.err .unexpectedEOF) := by decide +kernel
-- … whereas without the empty read it returns "ab"
example : (pReadUntil 10 12 { src := [([97, 98, 46], none)] } []).1 = .ok [97, 98] := by decide +kernel
-- an empty read makes `consumeUntilEOF` stop with EOF before the garbage `!`
example : (consumeUntilEOF Armor.params62 9 { src := [([], none), ([33], none)] }).1 = .eof := by decide +kernel
example : (consumeUntilEOF Armor.params62 9 { src := [([33], none)] }).1 = .err .trailingGarbage := by decide +kernel
-- a bare EOF is not remembered: the next call reads on
example : (consumeUntilEOF Armor.params62 9 (consumeUntilEOF Armor.params62 9 { src := [([], some .eof), ([33], none)] }).2).1
    = .err .trailingGarbage := by decide +kernel

end Saltpack.Proofs
