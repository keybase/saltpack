/-
  Sender-side facts for the encryption round trip: what `receiverEntries`,
  `macKeysSender`, `header` and the seal functions produce, pointwise; sender and
  receiver derive the same MAC key; the receiver accepts a block the sender
  made; the receiver's walks over the receiver list.
-/
import Saltpack.Model.Encrypt
import Saltpack.Model.Decrypt
import Saltpack.Proofs.ChunkPlan
import Saltpack.Proofs.Receiver

namespace Saltpack.Proofs
open Saltpack Saltpack.Encrypt

/-! ### comparing byte strings

  Stated for `Bytes` so that the `LawfulBEq` instance of `List UInt8` is found
  here, once, and not at every use. -/

theorem bytes_beq_iff {a b : Bytes} : (a == b) = true ↔ a = b := beq_iff_eq

theorem bytes_beq_true {a b : Bytes} (h : a = b) : (a == b) = true := bytes_beq_iff.2 h

theorem bytes_beq_rfl (a : Bytes) : (a == a) = true := bytes_beq_iff.2 rfl

theorem bytes_eq_of_beq {a b : Bytes} (h : (a == b) = true) : a = b := bytes_beq_iff.1 h

theorem bytes_beq_false {a b : Bytes} (h : a ≠ b) : (a == b) = false :=
  Bool.eq_false_iff.2 (fun hb => h (bytes_beq_iff.1 hb))

theorem bytes_bne_self (a : Bytes) : (a != a) = false := by
  rw [bne, bytes_beq_rfl a]
  rfl

/-! ### versions and nonces -/

theorem knownVersion_of {v : Version} (hv : v = v1 ∨ v = v2) : knownVersion v = true := by
  rcases hv with rfl | rfl <;> decide

theorem knownMajor_of {v : Version} (hv : v = v1 ∨ v = v2) : knownMajor v = true := by
  rcases hv with rfl | rfl <;> decide

theorem major_of {v : Version} (hv : v = v1 ∨ v = v2) :
    (v.major = 1 ∧ v = v1) ∨ (v.major = 2 ∧ v.major ≠ 1 ∧ v = v2 ∧ v ≠ v1) := by
  rcases hv with rfl | rfl
  · left; exact ⟨rfl, rfl⟩
  · right; exact ⟨rfl, by decide, rfl, by decide⟩

theorem payloadKeyBox_ok {v : Version} (hv : v = v1 ∨ v = v2) (j : Nat) :
    ∃ n, Nonce.payloadKeyBox v j = .ok n := by
  cases h : Nonce.payloadKeyBox v j with
  | ok n => exact ⟨n, rfl⟩
  | error e =>
    rcases major_of hv with ⟨h1, _⟩ | ⟨h2, h1, _, _⟩
    · simp [Nonce.payloadKeyBox, h1] at h
    · simp [Nonce.payloadKeyBox, h2] at h

theorem payloadHash_ok (P : Prims) {v : Version} (hv : v = v1 ∨ v = v2) (hh n ct : Bytes) (f : Bool) :
    ∃ ph, payloadHash P v hh n ct f = .ok ph := by
  cases h : payloadHash P v hh n ct f with
  | ok n => exact ⟨n, rfl⟩
  | error e =>
    rcases major_of hv with ⟨h1, _⟩ | ⟨h2, h1, _, _⟩
    · simp [payloadHash, h1] at h
    · simp [payloadHash, h2] at h

theorem payloadHash_v1_flag (P : Prims) {v : Version} (h1 : v.major = 1) (hh n ct : Bytes) (f f' : Bool) :
    payloadHash P v hh n ct f = payloadHash P v hh n ct f' := by
  simp [payloadHash, h1]

/-! ### the receiver list of the header -/

/-- the key id the sender writes for a recipient -/
def kidSpec (r : Recipient) : Option Bytes := if r.hidden then none else some r.pub

theorem receiverEntries_spec (P : Prims) {v : Version} (hv : v = v1 ∨ v = v2) (eph pk : Bytes) :
    ∀ (rs : List Recipient) (k : Nat),
      ∃ es, receiverEntries P v eph pk rs k = .ok es ∧ es.length = rs.length ∧
        ∀ j (hj : j < rs.length), ∃ n, Nonce.payloadKeyBox v (k + j) = .ok n ∧
          es[j]? = some ⟨kidSpec rs[j], P.box eph rs[j].pub n pk⟩ := by
  intro rs
  induction rs with
  | nil => intro k; exact ⟨[], rfl, rfl, by intro j hj; simp at hj⟩
  | cons r rs ih =>
    intro k
    obtain ⟨es, he, hl, hp⟩ := ih (k + 1)
    obtain ⟨n, hn⟩ := payloadKeyBox_ok hv k
    refine ⟨⟨kidSpec r, P.box eph r.pub n pk⟩ :: es, ?_, by simp [hl], ?_⟩
    · simp [receiverEntries, hn, he, kidSpec]
    · intro j hj
      cases j with
      | zero => exact ⟨n, hn, rfl⟩
      | succ j =>
        obtain ⟨n', hn', hj'⟩ := hp j (Nat.lt_of_succ_lt_succ hj)
        refine ⟨n', ?_, hj'⟩
        rw [show k + (j + 1) = k + 1 + j from Nat.add_right_comm k j 1]
        exact hn'

/-! ### MAC keys -/

theorem macKeySender_ok (P : Prims) {v : Version} (hv : v = v1 ∨ v = v2) (idx : Nat)
    (secret eSecret pub hh : Bytes) : ∃ m, macKeySender P v idx secret eSecret pub hh = .ok m := by
  cases h : macKeySender P v idx secret eSecret pub hh with
  | ok n => exact ⟨n, rfl⟩
  | error e =>
    rcases hv with rfl | rfl
    · simp [macKeySender] at h
    · simp [macKeySender, v2_ne_v1] at h

theorem macKeysSender_spec (P : Prims) {v : Version} (hv : v = v1 ∨ v = v2) (secret eSecret hh : Bytes) :
    ∀ (rs : List Recipient) (k : Nat),
      ∃ mks, macKeysSender P v secret eSecret hh rs k = .ok mks ∧ mks.length = rs.length ∧
        ∀ j (hj : j < rs.length), ∃ m, macKeySender P v (k + j) secret eSecret rs[j].pub hh = .ok m ∧
          mks[j]? = some m := by
  intro rs
  induction rs with
  | nil => intro k; exact ⟨[], rfl, rfl, by intro j hj; simp at hj⟩
  | cons r rs ih =>
    intro k
    obtain ⟨mks, he, hl, hp⟩ := ih (k + 1)
    obtain ⟨m, hm⟩ := macKeySender_ok P hv k secret eSecret r.pub hh
    refine ⟨m :: mks, ?_, by simp [hl], ?_⟩
    · simp [macKeysSender, hm, he]
    · intro j hj
      cases j with
      | zero => exact ⟨m, hm, rfl⟩
      | succ j =>
        obtain ⟨m', hm', hj'⟩ := hp j (Nat.lt_of_succ_lt_succ hj)
        refine ⟨m', ?_, hj'⟩
        rw [show k + (j + 1) = k + 1 + j from Nat.add_right_comm k j 1]
        exact hm'

theorem macKey_agree (P : Prims) (hP : P.Lawful) {v : Version} (hv : v = v1 ∨ v = v2) (idx : Nat)
    (secret eSecret sk hh m : Bytes)
    (hm : macKeySender P v idx secret eSecret (P.boxPub sk) hh = .ok m) :
    ∃ log, Decrypt.macKeyReceiver P v idx sk (P.boxPub secret) (P.boxPub eSecret) hh = (log, .ok m) := by
  have h2 : (Decrypt.macKeyReceiver P v idx sk (P.boxPub secret) (P.boxPub eSecret) hh).2 = .ok m := by
    rcases hv with rfl | rfl
    · simp only [macKeySender, if_true] at hm
      cases hm
      simp only [Decrypt.macKeyReceiver, show v1.major = 1 from rfl, if_true]
      simp only [macKeySingle, Prims.box, hP.dh_comm secret sk]
    · simp only [macKeySender, if_neg v2_ne_v1, if_true] at hm
      cases hm
      simp only [Decrypt.macKeyReceiver, show v2.major = 2 from rfl, if_true]
      simp only [macKeySingle, Prims.box, hP.dh_comm secret sk, hP.dh_comm eSecret sk]
      rw [if_neg (by decide)]
  cases hr : Decrypt.macKeyReceiver P v idx sk (P.boxPub secret) (P.boxPub eSecret) hh with
  | mk log r =>
    rw [hr] at h2
    exact ⟨log, by rw [← h2]⟩

/-! ### payload packets -/

theorem block_accept (P : Prims) (hP : P.Lawful) {v : Version}
    (st : Decrypt.State) (mks : List Bytes) (hver : st.version = v)
    (hmk : mks[st.position]? = some st.macKey)
    (idx : Nat) (c : Bytes) (f : Bool) (b : EncBlock)
    (hb : blockStruct P v st.payloadKey st.headerHash mks idx c f = .ok b)
    (h1 : v.major = 1 → (c = [] ↔ f = true))
    (hck : checkChunkState v c.length idx f = .ok ()) :
    Dec.step P st b (idx + 1) = .ok c ∧ Decrypt.blockFinal v b = f := by
  unfold blockStruct at hb
  split at hb
  · cases hb
  · rename_i hbn
    simp only [] at hb
    split at hb
    · cases hb
    · rename_i ph hph
      cases hb
      have hfin : Decrypt.blockFinal v
          ⟨mks.map (fun k => payloadAuthenticator P k ph), P.sbSeal st.payloadKey (Nonce.chunkSecretBox idx) c, f⟩ = f := by
        unfold Decrypt.blockFinal
        by_cases hm : v.major = 1
        · simp only [hm, if_true, hP.sb_len]
          have := h1 hm
          cases f
          · have hc : c ≠ [] := fun h => Bool.noConfusion (this.1 h)
            have : 0 < c.length := List.length_pos_iff.mpr hc
            simp; omega
          · have hc : c = [] := this.2 rfl
            simp [hc]
        · simp only [hm, if_false]
      refine ⟨?_, hfin⟩
      unfold Dec.step
      rw [hver, hfin]
      have hph' : payloadHash P st.version st.headerHash (Nonce.chunkSecretBox idx)
          (P.sbSeal st.payloadKey (Nonce.chunkSecretBox idx) c) f = .ok ph := by rw [hver]; exact hph
      have hauth : (mks.map (fun k => payloadAuthenticator P k ph))[st.position]? =
          some (payloadAuthenticator P st.macKey ph) := by
        rw [List.getElem?_map, hmk]; rfl
      have hbn' : (!blockNumberOK idx) = false := by simpa using hbn
      simp only [Decrypt.processBlock, Nat.add_sub_cancel, hbn', hph', hauth, hP.sb_open_seal, hck,
        bytes_bne_self, Bool.false_eq_true, if_false]


/-! ### the receiver's view of the receiver list -/

theorem mem_visibleIndices {es : List RecvKeys} {j : Nat} :
    j ∈ Decrypt.visibleIndices es ↔ ∃ e k, es[j]? = some e ∧ e.kid = some k ∧ k ≠ [] := by
  unfold Decrypt.visibleIndices
  simp only [List.mem_map, List.mem_filter]
  constructor
  · rintro ⟨⟨e, j'⟩, ⟨hm, hp⟩, rfl⟩
    rw [List.mem_zipIdx_iff_getElem?] at hm
    simp only at hp
    split at hp
    · rename_i k hk
      exact ⟨e, k, hm, hk, by simpa using hp⟩
    · cases hp
  · rintro ⟨e, k, he, hk, hne⟩
    refine ⟨(e, j), ⟨List.mem_zipIdx_iff_getElem?.2 he, ?_⟩, rfl⟩
    simp [hk, hne]

theorem zipIdx_filter_map_fst {α γ : Type} (p : α → Bool) (f : α → γ) :
    ∀ (l : List α) (k : Nat),
      ((l.zipIdx k).filter (fun q => p q.1)).map (fun q => f q.1) = (l.filter p).map f := by
  intro l
  induction l with
  | nil => intro k; rfl
  | cons a l ih =>
    intro k
    simp only [List.zipIdx_cons, List.filter_cons]
    split
    · simp [ih (k + 1)]
    · exact ih (k + 1)

/-- the test inside `Decrypt.visibleIndices` ("carries a non-empty key id"), as
    a function of the key-id field -/
def visK (o : Option Bytes) : Bool := match o with | some k => !k.isEmpty | none => false

/-- `Decrypt.isHidden`, as a function of the key-id field -/
def hidK (o : Option Bytes) : Bool := (o.getD []).isEmpty

theorem hidK_kidSpec {r : Recipient} (hne : r.hidden = false → r.pub ≠ []) : hidK (kidSpec r) = r.hidden := by
  cases hh : r.hidden with
  | true => simp [hidK, kidSpec, hh]
  | false => simp [hidK, kidSpec, hh, hne hh]

/-- the list `processHeader` reports as `MKI.namedReceivers` (the key ids at the
    visible indices) is the non-empty key ids of the entries, in order -/
theorem named_eq (es : List RecvKeys) :
    (Decrypt.visibleIndices es).map (fun i => Decrypt.kidOf (es.getD i default)) =
      ((es.map (·.kid)).filter visK).map (·.getD []) := by
  have h1 : (Decrypt.visibleIndices es).map (fun i => Decrypt.kidOf (es.getD i default)) =
      ((es.zipIdx 0).filter (fun q => visK q.1.kid)).map (fun q => Decrypt.kidOf q.1) := by
    unfold Decrypt.visibleIndices
    rw [List.map_map]
    apply List.map_congr_left
    intro q hq
    have hq' := (List.mem_filter.1 hq).1
    obtain ⟨e, j⟩ := q
    rw [List.mem_zipIdx_iff_getElem?] at hq'
    simp [List.getD_eq_getElem?_getD, hq']
  rw [h1, zipIdx_filter_map_fst (fun e : RecvKeys => visK e.kid) Decrypt.kidOf es 0, List.filter_map,
    List.map_map]
  rfl

theorem hiddenCount_eq (es : List RecvKeys) :
    (es.filter Decrypt.isHidden).length = ((es.map (·.kid)).filter hidK).length := by
  rw [List.filter_map, List.length_map]
  rfl

theorem named_of_spec (rs : List Recipient) (hpub : ∀ r ∈ rs, r.hidden = false → r.pub ≠ []) :
    ((rs.map kidSpec).filter visK).map (·.getD []) = (rs.filter (fun r => !r.hidden)).map (·.pub) := by
  induction rs with
  | nil => rfl
  | cons r rs ih =>
    have ih' := ih (fun r' hr' => hpub r' (List.mem_cons_of_mem _ hr'))
    cases hh : r.hidden with
    | true =>
      have hvis : ¬ (visK (kidSpec r) = true) := by simp [visK, kidSpec, hh]
      rw [List.map_cons, List.filter_cons_of_neg hvis, List.filter_cons_of_neg (by simp [hh]), ih']
    | false =>
      have hne := hpub r List.mem_cons_self hh
      have hvis : visK (kidSpec r) = true := by simp [visK, kidSpec, hh, hne]
      have hget : (kidSpec r).getD [] = r.pub := by simp [kidSpec, hh]
      rw [List.map_cons, List.filter_cons_of_pos hvis, List.map_cons, hget,
        List.filter_cons_of_pos (by simp [hh]), List.map_cons, ih']

theorem hiddenCount_of_spec (rs : List Recipient) (hpub : ∀ r ∈ rs, r.hidden = false → r.pub ≠ []) :
    ((rs.map kidSpec).filter hidK).length = (rs.filter (·.hidden)).length := by
  induction rs with
  | nil => rfl
  | cons r rs ih =>
    have ih' := ih (fun r' hr' => hpub r' (List.mem_cons_of_mem _ hr'))
    cases hh : r.hidden with
    | true =>
      have hhid : hidK (kidSpec r) = true := by simp [hidK, kidSpec, hh]
      rw [List.map_cons, List.filter_cons_of_pos hhid, List.filter_cons_of_pos (by simp [hh]),
        List.length_cons, List.length_cons, ih']
    | false =>
      have hne := hpub r List.mem_cons_self hh
      have hhid : ¬ (hidK (kidSpec r) = true) := by simp [hidK, kidSpec, hh, hne]
      rw [List.map_cons, List.filter_cons_of_neg hhid, List.filter_cons_of_neg (by simp [hh]), ih']

/-! ### `tryHiddenOne` / `tryHidden`

  One key against the entries `es`, numbered from `k`: the walk tries the
  hidden entries in order and stops at the first box the key opens. -/

theorem tryHiddenOne_hit (P : Prims) (v : Version) (sk eph pk : Bytes) (hpk : pk.length = 32) :
    ∀ (es : List RecvKeys) (k i : Nat) (r : RecvKeys), es[i]? = some r → Decrypt.isHidden r = true →
      (∃ n, Nonce.payloadKeyBox v (k + i) = .ok n ∧ P.unbox sk eph n r.box = some pk) →
      (∀ j r', j < i → es[j]? = some r' → Decrypt.isHidden r' = true →
        ∃ n, Nonce.payloadKeyBox v (k + j) = .ok n ∧ P.unbox sk eph n r'.box = none) →
      ∃ log, Decrypt.tryHiddenOne P v sk eph (es.zipIdx k) = (log, .ok (some (pk, k + i))) := by
  intro es
  induction es with
  | nil => intro k i r hr; simp at hr
  | cons e es ih =>
    intro k i r hr hhid hopen hbefore
    rw [List.zipIdx_cons]
    cases i with
    | zero =>
      cases hr
      obtain ⟨n, hn, ho⟩ := hopen
      rw [Nat.add_zero] at hn ⊢
      refine ⟨[KeyCall.sharedUnbox sk eph n e.box], ?_⟩
      simp only [Decrypt.tryHiddenOne, hhid, if_true, hn, ho]
      simp [hpk]
    | succ i =>
      have hsucc : ∀ j, k + (j + 1) = k + 1 + j := fun j => Nat.add_right_comm k j 1
      rw [hsucc i] at hopen
      rw [hsucc i]
      obtain ⟨log, hlog⟩ := ih (k + 1) i r hr hhid hopen (fun j r' hj hr' hh' => by
        have := hbefore (j + 1) r' (Nat.succ_lt_succ hj) hr' hh'
        rwa [hsucc] at this)
      cases hh : Decrypt.isHidden e with
      | true =>
        obtain ⟨n, hn, ho⟩ := hbefore 0 e (Nat.succ_pos i) rfl hh
        rw [Nat.add_zero] at hn
        exact ⟨KeyCall.sharedUnbox sk eph n e.box :: log, by
          simp only [Decrypt.tryHiddenOne, hh, if_true, hn, ho, hlog]⟩
      | false =>
        exact ⟨log, by simp only [Decrypt.tryHiddenOne, hh, hlog, Bool.false_eq_true, if_false]⟩

theorem tryHiddenOne_miss (P : Prims) (v : Version) (sk eph : Bytes) :
    ∀ (es : List RecvKeys) (k : Nat),
      (∀ j r, es[j]? = some r → Decrypt.isHidden r = true →
        ∃ n, Nonce.payloadKeyBox v (k + j) = .ok n ∧ P.unbox sk eph n r.box = none) →
      ∃ log, Decrypt.tryHiddenOne P v sk eph (es.zipIdx k) = (log, .ok none) := by
  intro es
  induction es with
  | nil => intro _ _; exact ⟨[], rfl⟩
  | cons e es ih =>
    intro k h
    rw [List.zipIdx_cons]
    have hsucc : ∀ j, k + (j + 1) = k + 1 + j := fun j => Nat.add_right_comm k j 1
    obtain ⟨log, hlog⟩ := ih (k + 1) (fun j r hr hh' => by
      have := h (j + 1) r hr hh'
      rwa [hsucc] at this)
    cases hh : Decrypt.isHidden e with
    | true =>
      obtain ⟨n, hn, ho⟩ := h 0 e rfl hh
      rw [Nat.add_zero] at hn
      exact ⟨KeyCall.sharedUnbox sk eph n e.box :: log, by
        simp only [Decrypt.tryHiddenOne, hh, if_true, hn, ho, hlog]⟩
    | false =>
      exact ⟨log, by simp only [Decrypt.tryHiddenOne, hh, hlog, Bool.false_eq_true, if_false]⟩

theorem tryHidden_miss (P : Prims) (h : EncHeader) (eph : Bytes) :
    ∀ (sks : List Bytes),
      (∀ s ∈ sks, ∃ log, Decrypt.tryHiddenOne P h.version s eph h.receivers.zipIdx = (log, .ok none)) →
      ∃ log, Decrypt.tryHidden P h eph sks = (log, .ok none) := by
  intro sks
  induction sks with
  | nil => intro _; exact ⟨[], rfl⟩
  | cons s sks ih =>
    intro hh
    obtain ⟨log1, h1⟩ := hh s List.mem_cons_self
    obtain ⟨log2, h2⟩ := ih (fun s' hs' => hh s' (List.mem_cons_of_mem _ hs'))
    exact ⟨(KeyCall.precompute s eph :: log1) ++ log2, by simp only [Decrypt.tryHidden, h1, h2]⟩

/-! ### what sealing tells us -/

theorem checkReceivers_inv {rs : List Recipient} (h : checkReceivers rs = .ok ()) :
    rs ≠ [] ∧ (rs.map (·.pub)).Nodup := by
  unfold checkReceivers at h
  by_cases h1 : rs.isEmpty = true
  · rw [if_pos h1] at h; cases h
  rw [if_neg h1] at h
  by_cases h2 : rs.length > Gen.c_sp_maxReceiverCount.toNat
  · rw [if_pos h2] at h; cases h
  rw [if_neg h2] at h
  by_cases h3 : (rs.map (·.pub)).Nodup
  · exact ⟨fun h0 => h1 (by rw [h0]; rfl), h3⟩
  · rw [if_neg h3] at h; cases h

theorem sealPacketsPlan_inv (P : Prims) (v : Version) (sender : Option Bytes) (rs : List Recipient)
    (eph pk : Bytes) (plan : List (Bytes × Bool)) (h : EncHeader) (hb : Bytes) (blks : List EncBlock)
    (hseal : sealPacketsPlan P v sender rs eph pk plan = .ok (h, hb, blks)) :
    checkReceivers rs = .ok () ∧ header P v sender eph pk rs = .ok h ∧
      ∃ mks, macKeysSender P v (sender.getD eph) eph (P.hash hb) rs 0 = .ok mks ∧
        blockStructs P v pk (P.hash hb) mks plan 0 = .ok blks := by
  unfold sealPacketsPlan at hseal
  split at hseal
  · cases hseal
  · split at hseal
    · cases hseal
    · rename_i hcr
      split at hseal
      · cases hseal
      · rename_i h' hh
        simp only [] at hseal
        split at hseal
        · cases hseal
        · rename_i mks hm
          split at hseal
          · cases hseal
          · rename_i blks' hbl
            cases hseal
            exact ⟨hcr, hh, mks, hm, hbl⟩

/-- `sealPackets` is `sealPacketsPlan` at the Go sender's own plan -/
theorem sealPackets_inv (P : Prims) (bs : Nat) (v : Version) (sender : Option Bytes) (rs : List Recipient)
    (eph pk pt : Bytes) (h : EncHeader) (hb : Bytes) (blks : List EncBlock)
    (hseal : sealPackets P bs v sender rs eph pk pt = .ok (h, hb, blks)) :
    checkReceivers rs = .ok () ∧ header P v sender eph pk rs = .ok h ∧
      ∃ mks, macKeysSender P v (sender.getD eph) eph (P.hash hb) rs 0 = .ok mks ∧
        blockStructs P v pk (P.hash hb) mks (chunkPlan v bs pt) 0 = .ok blks :=
  sealPacketsPlan_inv P v sender rs eph pk (chunkPlan v bs pt) h hb blks hseal

theorem header_spec (P : Prims) {v : Version} (hv : v = v1 ∨ v = v2) (sender : Option Bytes)
    (eph pk : Bytes) (rs : List Recipient) (h : EncHeader)
    (hhdr : header P v sender eph pk rs = .ok h) :
    h.formatName = Gen.c_sp_FormatName ∧ h.version = v ∧ h.typ = mtEncryption ∧
    h.ephemeral = P.boxPub eph ∧
    h.senderSecretbox = P.sbSeal pk Nonce.senderKeySecretBox (P.boxPub (sender.getD eph)) ∧
    h.receivers.length = rs.length ∧
    (∀ j (hj : j < rs.length), ∃ n, Nonce.payloadKeyBox v j = .ok n ∧
      h.receivers[j]? = some ⟨kidSpec rs[j], P.box eph rs[j].pub n pk⟩) ∧
    h.receivers.map (·.kid) = rs.map kidSpec := by
  obtain ⟨es, he, hl, hp⟩ := receiverEntries_spec P hv eph pk rs 0
  unfold header at hhdr
  simp only [he] at hhdr
  cases hhdr
  refine ⟨rfl, rfl, rfl, rfl, rfl, hl, ?_, ?_⟩
  · intro j hj
    obtain ⟨n, hn, hj'⟩ := hp j hj
    exact ⟨n, by rwa [Nat.zero_add] at hn, hj'⟩
  · apply List.ext_getElem?
    intro j
    by_cases hj : j < rs.length
    · obtain ⟨n, _, hj'⟩ := hp j hj
      simp only [List.getElem?_map]
      rw [hj', List.getElem?_eq_getElem hj]
      rfl
    · simp only [List.getElem?_map]
      rw [List.getElem?_eq_none (hl ▸ Nat.le_of_not_lt hj), List.getElem?_eq_none (Nat.le_of_not_lt hj)]
      rfl

theorem unbox_box (P : Prims) (hP : P.Lawful) (sk eph n m : Bytes) :
    P.unbox sk (P.boxPub eph) n (P.box eph (P.boxPub sk) n m) = some m := by
  simp only [Prims.unbox, Prims.box, hP.dh_comm eph sk, hP.sb_open_seal]

theorem kidSpec_visible {r : Recipient} {k : Bytes} (h : kidSpec r = some k) :
    r.hidden = false ∧ r.pub = k := by
  unfold kidSpec at h
  cases hh : r.hidden with
  | true => simp [hh] at h
  | false => simpa [hh] using h

end Saltpack.Proofs
