/-
  The strict reference decoder `SpecDecode` (the run-time oracle of C08), layer W:
  `XMsg.parse b = ok m → m.render = b` and `m.WF → XMsg.parse m.render = ok m`.
  Here: `strictObjects`, the typed readers, the header split, the common header
  fields; packets and whole messages are in SpecDecodeMsg.lean.  The namespace
  `SDW` (SpecDecode, layer W) is kept by all later SpecDecode* files.
-/
import Saltpack.Model.SpecDecode
import Saltpack.Proofs.MsgpackRT

namespace Saltpack.Proofs.SDW
open Saltpack Saltpack.Msgpack Saltpack.SpecDecode Saltpack.Proofs
open Saltpack.Spec hiding encode

/-! ### MessagePack layer -/

theorem strictObjects_sound {b : Bytes} {vs : List Val} (h : strictObjects b = .ok vs) :
    vs.flatMap encode = b := by
  unfold strictObjects at h
  generalize parseAll (b.length + 1) b = pr at h
  obtain ⟨vs', stop⟩ := pr
  cases stop with
  | some e => simp at h
  | none =>
    simp only at h
    split at h
    · rename_i heq
      injection h with h
      subst h
      exact eq_of_beq heq
    · cases h

theorem strictObjects_complete (vs : List Val) (hv : ∀ v ∈ vs, ValWF v) :
    strictObjects (vs.flatMap encode) = .ok vs := by
  unfold strictObjects
  rw [parseAll_encode vs hv _ (by omega)]
  simp

theorem strictOne_sound {b : Bytes} {v : Val} (h : strictOne b = .ok v) : encode v = b := by
  unfold strictOne at h
  split at h
  · cases h
  · rename_i v' heq
    injection h with h
    subst h
    have := strictObjects_sound heq
    simpa using this
  · cases h

theorem strictOne_complete (v : Val) (hv : ValWF v) : strictOne (encode v) = .ok v := by
  have := strictObjects_complete [v] (by simpa using hv)
  simp only [List.flatMap_cons, List.flatMap_nil, List.append_nil] at this
  unfold strictOne
  rw [this]

/-! ### typed readers -/

theorem if_error_ok {α : Type} {c : Prop} [Decidable c] {e : String} {x : R α} {v : α} :
    (if c then .error e else x) = .ok v ↔ ¬ c ∧ x = .ok v := by
  by_cases hc : c <;> simp [hc]

theorem if_ok_error {α : Type} {c : Prop} [Decidable c] {e : String} {x : R α} {v : α} :
    (if c then x else .error e) = .ok v ↔ c ∧ x = .ok v := by
  by_cases hc : c <;> simp [hc]

theorem asBin_ok {w : String} {v : Val} {b : Bytes} : asBin w v = .ok b ↔ v = .bin b :=
  ⟨fun h => by cases v <;> cases h <;> rfl, fun h => by rw [h]; rfl⟩

theorem asBinLen_ok {w : String} {n : Nat} {v : Val} {b : Bytes} :
    asBinLen w n v = .ok b ↔ v = .bin b ∧ b.length = n := by
  unfold asBinLen
  constructor
  · intro h
    split at h
    · cases h
    · rename_i b' hb'
      split at h
      · cases h
        exact ⟨asBin_ok.1 hb', ‹_›⟩
      · cases h
  · rintro ⟨rfl, h⟩
    simp [asBin, h]

theorem asBool_ok {w : String} {v : Val} {b : Bool} : asBool w v = .ok b ↔ v = .bool b :=
  ⟨fun h => by cases v <;> cases h <;> rfl, fun h => by rw [h]; rfl⟩

theorem mapR_cons_ok {α β : Type} {f : α → R β} {a : α} {as : List α} {l' : List β}
    (h : mapR f (a :: as) = .ok l') : ∃ b bs, f a = .ok b ∧ mapR f as = .ok bs ∧ l' = b :: bs := by
  rw [mapR] at h
  split at h
  · cases h
  · split at h
    · cases h
    · cases h
      exact ⟨_, _, ‹_›, ‹_›, rfl⟩

theorem mapR_sound {α β : Type} (f : α → R β) (g : β → α) (p : β → Prop)
    (hfg : ∀ a b, f a = .ok b → g b = a ∧ p b) :
    ∀ (l : List α) (l' : List β), mapR f l = .ok l' → l'.map g = l ∧ ∀ b ∈ l', p b := by
  intro l
  induction l with
  | nil => intro l' h; cases h; exact ⟨rfl, nofun⟩
  | cons a as ih =>
    intro l' h
    obtain ⟨b, bs, hb, hbs, rfl⟩ := mapR_cons_ok h
    obtain ⟨h1, h2⟩ := ih bs hbs
    obtain ⟨e1, e2⟩ := hfg a b hb
    exact ⟨by rw [List.map_cons, e1, h1], List.forall_mem_cons.2 ⟨e2, h2⟩⟩

theorem mapR_complete {α β : Type} (f : α → R β) (g : β → α) :
    ∀ (l' : List β), (∀ b ∈ l', f (g b) = .ok b) → mapR f (l'.map g) = .ok l' := by
  intro l'
  induction l' with
  | nil => intro _; rfl
  | cons b bs ih =>
    intro h
    rw [List.map_cons, mapR, h b (by simp), ih (fun x hx => h x (by simp [hx]))]

theorem mapR_length {α β : Type} (f : α → R β) :
    ∀ (l : List α) (l' : List β), mapR f l = .ok l' → l'.length = l.length := by
  intro l
  induction l with
  | nil => intro l' h; cases h; rfl
  | cons a as ih =>
    intro l' h
    obtain ⟨_, bs, _, hbs, rfl⟩ := mapR_cons_ok h
    exact congrArg (· + 1) (ih bs hbs)

/-! ### the header split -/

theorem encode_bin (b : Bytes) : encode (.bin b) = encBin b := by rw [encode]

theorem splitMsg_sound {msg : Bytes} {fields packets : List Val}
    (h : splitMsg msg = .ok (fields, packets)) : joinMsg fields packets = msg := by
  unfold splitMsg at h
  split at h
  · cases h
  · cases h
  · rename_i hd pk hobj
    split at h
    · cases h
    · rename_i hb hbin
      obtain rfl := asBin_ok.1 hbin
      rw [← strictObjects_sound hobj, List.flatMap_cons, encode_bin]
      cases hone : strictOne hb with
      | error e => rw [hone] at h; cases h
      | ok v =>
        rw [hone] at h
        cases v <;> cases h
        rw [← strictOne_sound hone]
        rfl

theorem splitMsg_complete (fields packets : List Val)
    (hf : ValWF (.arr fields)) (hlen : (encode (.arr fields)).length < 2 ^ 32)
    (hp : ∀ v ∈ packets, ValWF v) :
    splitMsg (joinMsg fields packets) = .ok (fields, packets) := by
  have h1 : joinMsg fields packets = (Val.bin (encode (.arr fields)) :: packets).flatMap encode := by
    rw [List.flatMap_cons, encode_bin]; rfl
  have h2 := strictObjects_complete (Val.bin (encode (.arr fields)) :: packets) (by
    intro v hv
    rcases List.mem_cons.1 hv with rfl | hv
    · exact ValWF.bin _ hlen
    · exact hp v hv)
  unfold splitMsg
  rw [h1, h2]
  simp only [asBin]
  rw [strictOne_complete _ hf]

/-- the four `XMsg.parse` are this `match` on `splitMsg` with one shared matcher, so the statement
    unifies with each of them -/
theorem parse_ok {α : Type} {ofVals : List Val → List Val → R α} {msg : Bytes} {m : α}
    (h : (match splitMsg msg with | .error e => (.error e : R α) | .ok (f, p) => ofVals f p) = .ok m) :
    ∃ f p, joinMsg f p = msg ∧ ofVals f p = .ok m := by
  split at h
  · cases h
  · exact ⟨_, _, splitMsg_sound ‹_›, h⟩

/-! ### the common header fields -/

theorem ofCommon_sound {mode : Int} {fields rest : List Val} {major : Int}
    (h : ofCommon mode fields = .ok (major, rest)) :
    fields = commonVals major mode ++ rest ∧ (major = 1 ∨ major = 2) := by
  unfold ofCommon at h
  split at h
  · simp only [if_error_ok, ne_eq, Decidable.not_not, Except.ok.injEq, Prod.mk.injEq] at h
    obtain ⟨rfl, hm, rfl, rfl, rfl, rfl⟩ := h
    exact ⟨rfl, hm⟩
  · cases h

theorem ofCommon_complete (mode major : Int) (rest : List Val) (hm : major = 1 ∨ major = 2) :
    ofCommon mode (commonVals major mode ++ rest) = .ok (major, rest) := by
  simp [commonVals, ofCommon, hm]

end Saltpack.Proofs.SDW
