/-
  punctuatedReader (Model/Stream.lean `pRead`) as a REFINEMENT of "the logical
  text, cut at periods": whatever the sizes of the caller's buffers and however
  the underlying reader fragments its deliveries, the reader hands out exactly
  the text up to the next period, then `punctErr`, then continues after the
  period; at the end of the text it reports the source's condition.
-/
import Saltpack.Model.Stream

namespace Saltpack.Proofs
open Saltpack Saltpack.Stream

/-! ## the abstraction -/

/-- all data a script still delivers up to its first condition, and that
    condition (`.eof` when the script just runs out) -/
def srcText : Source → Bytes × RErr
  | [] => ([], .eof)
  | (d, none) :: rest => (d ++ (srcText rest).1, (srcText rest).2)
  | (d, some e) :: _ => (d, e)

/-- number of `Read` calls the script can absorb: one per byte and one per entry -/
def srcCost : Source → Nat
  | [] => 0
  | (d, _) :: rest => d.length + 1 + srcCost rest

/-- what the reader has buffered, logically: the rest of the current segment,
    the period that ends it (if one was found), the unscanned remainder -/
def _root_.Saltpack.Stream.PState.buf (s : PState) : Bytes :=
  s.thisSegment ++ (if s.errThisSegment = some punctErr then [Armor.period] else []) ++ s.nextSegment

/-- what is still to come from below: nothing but the remembered condition
    (D6: an error that came with data is kept in `errNextRead`), else the script -/
def _root_.Saltpack.Stream.PState.tail (s : PState) : Bytes × RErr :=
  match s.errNextRead with
  | some e => ([], e)
  | none => srcText s.src

/-- the LOGICAL remaining input of a reader state: text and terminal condition -/
def _root_.Saltpack.Stream.PState.text (s : PState) : Bytes × RErr := (s.buf ++ s.tail.1, s.tail.2)

/-- bound on the number of further calls that report no condition -/
def _root_.Saltpack.Stream.PState.cost (s : PState) : Nat := s.thisSegment.length + s.nextSegment.length + srcCost s.src

/-- what holds of the segment buffers of every reachable state -/
structure _root_.Saltpack.Stream.PState.WF (s : PState) : Prop where
  /-- the segment being handed out was scanned: no period in it -/
  noPeriod : Armor.period ∉ s.thisSegment
  /-- the only deferred condition of a segment is "punctuated" -/
  errThis : s.errThisSegment = none ∨ s.errThisSegment = some punctErr
  /-- … and it is pending only while the segment is -/
  errThisEmpty : s.thisSegment = [] → s.errThisSegment = none

theorem pWF_init (src : Source) : ({ src := src } : PState).WF :=
  ⟨by simp, Or.inl rfl, fun _ => rfl⟩

theorem ptext_init (src : Source) : ({ src := src } : PState).text = srcText src := by
  simp [PState.text, PState.buf, PState.tail]

theorem pcost_init (src : Source) : ({ src := src } : PState).cost = srcCost src := by
  simp [PState.cost]

theorem srcCost_eq (src : Source) : srcCost src = (src.map (fun p => p.1.length)).sum + src.length := by
  induction src with
  | nil => rfl
  | cons hd rest ih => obtain ⟨d, e⟩ := hd; simp [srcCost, ih]; omega

theorem srcCost_le_fuel (src : Source) : srcCost src ≤ (src.map (fun p => p.1.length + 2)).sum := by
  induction src with
  | nil => exact Nat.le_refl _
  | cons hd rest ih => exact Nat.add_le_add (Nat.le_succ _) ih

theorem cost_lt_fuelOf (s : PState) : s.cost < fuelOf s := by
  have := srcCost_le_fuel s.src
  unfold PState.cost fuelOf
  omega

/-! ## the source -/

theorem srcRead_spec (cap : Nat) (hcap : 0 < cap) (src : Source) (d : Bytes) (e : Option RErr) (src' : Source)
    (h : srcRead cap src = (d, e, src')) :
    d.length ≤ cap ∧ srcCost src' + d.length ≤ srcCost src ∧
    (e = none → srcText src = (d ++ (srcText src').1, (srcText src').2) ∧
      (d = [] → src = ([], none) :: src')) ∧
    (∀ x, e = some x → srcText src = (d, x) ∧ src' = src.tail) := by
  match src with
  | [] =>
    cases h
    exact ⟨Nat.zero_le _, Nat.le_refl _, fun hx => absurd hx (Option.some_ne_none _),
      fun x hx => by cases hx; exact ⟨rfl, rfl⟩⟩
  | (d0, e0) :: rest =>
    rw [srcRead] at h
    by_cases hc : d0.length ≤ cap
    · rw [if_pos hc] at h
      cases h
      refine ⟨hc, ?_, ?_, ?_⟩
      · rw [srcCost, Nat.add_comm]
        exact Nat.add_le_add_right (Nat.le_add_right _ 1) _
      · rintro rfl
        exact ⟨rfl, by rintro rfl; rfl⟩
      · rintro x rfl
        exact ⟨rfl, rfl⟩
    · rw [if_neg hc] at h
      cases h
      refine ⟨List.length_take_le cap d0, ?_, fun _ => ⟨?_, fun h0 => ?_⟩,
        fun x hx => absurd hx.symm (Option.some_ne_none x)⟩
      · have hl := congrArg List.length (List.take_append_drop cap d0)
        rw [List.length_append] at hl
        simp only [srcCost]
        rw [← hl]
        exact Nat.le_of_eq (by ac_rfl)
      · cases e0 <;> simp only [srcText, ← List.append_assoc, List.take_append_drop]
      · -- a full buffer of a longer delivery is not empty
        rcases List.take_eq_nil_iff.mp h0 with h | rfl
        · exact absurd h (Nat.ne_of_gt hcap)
        · exact absurd (Nat.zero_le _) hc

/-! ## scanning for the period -/

theorem findIdx_cons_self (c : UInt8) (xs : Bytes) : findIdx c (c :: xs) = some 0 := by
  rw [findIdx, if_pos (beq_self_eq_true c)]

theorem findIdx_cons_ne (c x : UInt8) (xs : Bytes) (h : x ≠ c) :
    findIdx c (x :: xs) = (findIdx c xs).map (· + 1) := by
  rw [findIdx, if_neg (mt beq_iff_eq.mp h)]

theorem findIdx_some (c : UInt8) : ∀ (l : Bytes) (i : Nat), findIdx c l = some i →
    l = l.take i ++ c :: l.drop (i + 1) ∧ c ∉ l.take i ∧ i < l.length := by
  intro l
  induction l with
  | nil => nofun
  | cons x xs ih =>
    intro i h
    by_cases hx : x = c
    · subst hx
      rw [findIdx_cons_self] at h
      cases h
      exact ⟨rfl, List.not_mem_nil, Nat.zero_lt_succ _⟩
    · rw [findIdx_cons_ne c x xs hx] at h
      obtain ⟨j, hj, rfl⟩ := Option.map_eq_some_iff.mp h
      obtain ⟨h1, h2, h3⟩ := ih j hj
      exact ⟨congrArg (x :: ·) h1, fun hm => (List.mem_cons.mp hm).elim (fun h => hx h.symm) h2,
        Nat.succ_lt_succ h3⟩

theorem findIdx_none (c : UInt8) : ∀ (l : Bytes), findIdx c l = none → c ∉ l := by
  intro l
  induction l with
  | nil => exact fun _ => List.not_mem_nil
  | cons x xs ih =>
    intro h hm
    by_cases hx : x = c
    · subst hx
      rw [findIdx_cons_self] at h
      cases h
    · rw [findIdx_cons_ne c x xs hx] at h
      exact (List.mem_cons.mp hm).elim (fun h => hx h.symm) (ih (Option.map_eq_none_iff.mp h))

/-! ## `pRead` by cases -/

/-- the common tail of `pRead`: scan `src` for the period and hand out -/
def pProc (cap : Nat) (src : Bytes) (used : Bool) (s1 : PState) : Bytes × Option RErr × PState :=
  let (seg, found, s2) : Bytes × Bool × PState :=
    match findIdx Armor.period src with
    | some i => (src.take i, true, { s1 with nextSegment := src.drop (i + 1) })
    | none => (src, false, s1)
  let (out, s3) : Bytes × PState :=
    if used then (seg.take cap, { s2 with thisSegment := seg.drop cap }) else (seg, s2)
  if found then
    if !s3.thisSegment.isEmpty then (out, none, { s3 with errThisSegment := some punctErr })
    else (out, some punctErr, s3)
  else (out, none, s3)

theorem pRead_this (cap : Nat) (s : PState) (h : s.thisSegment ≠ []) :
    pRead cap s =
      if (s.thisSegment.drop cap).isEmpty then
        (s.thisSegment.take cap, s.errThisSegment, { s with thisSegment := [], errThisSegment := none })
      else (s.thisSegment.take cap, none, { s with thisSegment := s.thisSegment.drop cap }) := by
  have h' : (!s.thisSegment.isEmpty) = true := by simp [h]
  unfold pRead
  rw [if_pos h']

theorem pRead_next (cap : Nat) (s : PState) (h1 : s.thisSegment = []) (h2 : s.nextSegment ≠ []) :
    pRead cap s = pProc cap s.nextSegment true { s with nextSegment := [] } := by
  have h1' : ¬ (!s.thisSegment.isEmpty) = true := by simp [h1]
  have h2' : (!s.nextSegment.isEmpty) = true := by simp [h2]
  unfold pRead
  rw [if_neg h1', if_pos h2']
  rfl

theorem pRead_sticky (cap : Nat) (s : PState) (e : RErr) (h1 : s.thisSegment = []) (h2 : s.nextSegment = [])
    (h3 : s.errNextRead = some e) : pRead cap s = ([], some e, s) := by
  have h1' : ¬ (!s.thisSegment.isEmpty) = true := by simp [h1]
  have h2' : ¬ (!s.nextSegment.isEmpty) = true := by simp [h2]
  unfold pRead
  rw [if_neg h1', if_neg h2', h3]

theorem pRead_src (cap : Nat) (s : PState) (h1 : s.thisSegment = []) (h2 : s.nextSegment = [])
    (h3 : s.errNextRead = none) :
    pRead cap s =
      match (srcRead cap s.src).2.1 with
      | some e' =>
        if (srcRead cap s.src).1.isEmpty then ([], some e', { s with src := (srcRead cap s.src).2.2 })
        else pProc cap (srcRead cap s.src).1 false { s with src := (srcRead cap s.src).2.2, errNextRead := some e' }
      | none => pProc cap (srcRead cap s.src).1 false { s with src := (srcRead cap s.src).2.2 } := by
  have h1' : ¬ (!s.thisSegment.isEmpty) = true := by simp [h1]
  have h2' : ¬ (!s.nextSegment.isEmpty) = true := by simp [h2]
  unfold pRead
  rw [if_neg h1', if_neg h2', h3]
  rcases hr : srcRead cap s.src with ⟨d, e, src'⟩
  cases e with
  | none => rfl
  | some e' => cases d <;> rfl

/-- handing out the current segment (the first branch of `pRead`, see `pRead_this`) -/
def pHandOut (cap : Nat) (s : PState) : Bytes × Option RErr × PState :=
  if (s.thisSegment.drop cap).isEmpty then
    (s.thisSegment.take cap, s.errThisSegment, { s with thisSegment := [], errThisSegment := none })
  else (s.thisSegment.take cap, none, { s with thisSegment := s.thisSegment.drop cap })

theorem pProc_none (cap : Nat) (src : Bytes) (s1 : PState) (hf : findIdx Armor.period src = none)
    (h2 : s1.errThisSegment = none) :
    pProc cap src true s1 = pHandOut cap { s1 with thisSegment := src } := by
  obtain ⟨sr, nx, th, eT, eN⟩ := s1
  obtain rfl : eT = none := h2
  by_cases hd : src.drop cap = []
  · simp only [pProc, pHandOut, hf, hd, List.isEmpty_nil, if_true, if_false, Bool.false_eq_true]
  · simp only [pProc, pHandOut, hf, hd, List.isEmpty_iff, if_true, if_false, Bool.false_eq_true]

theorem pProc_some (cap : Nat) (src : Bytes) (s1 : PState) (i : Nat) (hf : findIdx Armor.period src = some i)
    (h2 : s1.errThisSegment = none) :
    pProc cap src true s1 = pHandOut cap
      { s1 with thisSegment := src.take i, errThisSegment := some punctErr, nextSegment := src.drop (i + 1) } := by
  obtain ⟨sr, nx, th, eT, eN⟩ := s1
  obtain rfl : eT = none := h2
  by_cases hd : (src.take i).drop cap = []
  · simp only [pProc, pHandOut, hf, hd, List.isEmpty_nil, if_true, if_false, Bool.not_true, Bool.false_eq_true]
  · simp only [pProc, pHandOut, hf, hd, List.isEmpty_iff, if_true, if_false, Bool.not_eq_eq_eq_not, Bool.not_true,
      List.isEmpty_eq_false_iff, ne_eq, not_false_eq_true]

theorem pProc_fresh (cap : Nat) (src : Bytes) (s1 : PState) (h1 : s1.thisSegment = []) (hl : src.length ≤ cap) :
    pProc cap src false s1 = pProc cap src true s1 := by
  obtain ⟨sr, nx, th, eT, eN⟩ := s1
  obtain rfl : th = [] := h1
  unfold pProc
  cases findIdx Armor.period src with
  | none => simp only [List.take_of_length_le hl, List.drop_of_length_le hl, if_true, if_false, Bool.false_eq_true]
  | some i =>
    have hl' : (src.take i).length ≤ cap := Nat.le_trans (List.length_take_le' i src) hl
    simp only [List.take_of_length_le hl', List.drop_of_length_le hl', if_true, if_false, Bool.false_eq_true]

/-! ## one call refines the logical text -/

theorem pbuf_none (s : PState) (h : s.errThisSegment = none) : s.buf = s.thisSegment ++ s.nextSegment := by
  rw [PState.buf, h, if_neg (Option.some_ne_none _).symm, List.append_nil]

theorem pbuf_punct (s : PState) (h : s.errThisSegment = some punctErr) :
    s.buf = s.thisSegment ++ Armor.period :: s.nextSegment := by
  rw [PState.buf, h, if_pos rfl, List.append_assoc]
  rfl

theorem pbuf_of_idle (s : PState) (hwf : s.WF) (h1 : s.thisSegment = []) : s.buf = s.nextSegment := by
  rw [pbuf_none s (hwf.errThisEmpty h1), h1]
  rfl

theorem pbuf_eq_nil (s : PState) (h : s.buf = []) : s.thisSegment = [] ∧ s.nextSegment = [] :=
  ⟨(List.append_eq_nil_iff.mp (List.append_eq_nil_iff.mp h).1).1, (List.append_eq_nil_iff.mp h).2⟩

theorem ptext_of_idle (s : PState) (hwf : s.WF) (h1 : s.thisSegment = []) (h2 : s.nextSegment = []) :
    s.text = s.tail := by
  rw [PState.text, pbuf_of_idle s hwf h1, h2]
  rfl

theorem ptext_of_buf (s s' : PState) (p : Bytes) (ht : s'.tail = s.tail) (hb : s.buf = p ++ s'.buf) :
    s.text.1 = p ++ s'.text.1 ∧ s'.text.2 = s.text.2 := by
  unfold PState.text
  rw [ht, hb, List.append_assoc]
  exact ⟨rfl, rfl⟩

/-- handing out cuts the data (and the period, when the segment ends with the data) off the
    buffer; each byte handed out is one unit of `cost` -/
theorem pHandOut_spec (cap : Nat) (hcap : 0 < cap) (s : PState) (hnp : Armor.period ∉ s.thisSegment)
    (he : s.errThisSegment = none ∨ s.errThisSegment = some punctErr)
    (d : Bytes) (e : Option RErr) (s' : PState) (h : pHandOut cap s = (d, e, s')) :
    s'.WF ∧ d.length ≤ cap ∧ Armor.period ∉ d ∧ s'.tail = s.tail ∧ s'.cost + d.length = s.cost ∧
    (d = [] → s.thisSegment = []) ∧
    ((e = none ∧ s.buf = d ++ s'.buf ∧ (d = [] → s.errThisSegment = none)) ∨
     (e = some punctErr ∧ s.buf = d ++ Armor.period :: s'.buf)) := by
  have hsplit := List.take_append_drop cap s.thisSegment
  have hlen := congrArg List.length hsplit
  rw [List.length_append] at hlen
  have hnil : s.thisSegment.take cap = [] → s.thisSegment = [] :=
    fun h0 => (List.take_eq_nil_iff.mp h0).resolve_left (Nat.ne_of_gt hcap)
  unfold pHandOut at h
  by_cases hd : s.thisSegment.drop cap = []
  · rw [if_pos (List.isEmpty_iff.mpr hd)] at h
    cases h
    rw [hd, List.append_nil] at hsplit
    rw [hd, List.length_nil] at hlen
    refine ⟨⟨List.not_mem_nil, Or.inl rfl, fun _ => rfl⟩, List.length_take_le cap _,
      fun hm => hnp (List.mem_of_mem_take hm), rfl, ?_, hnil, ?_⟩
    · simp only [PState.cost, List.length_nil, ← hlen, Nat.add_zero, Nat.zero_add]
      ac_rfl
    · rw [hsplit]
      rcases he with he | he
      · exact Or.inl ⟨he, pbuf_none s he, fun _ => he⟩
      · exact Or.inr ⟨he, pbuf_punct s he⟩
  · rw [if_neg (mt List.isEmpty_iff.mp hd)] at h
    cases h
    refine ⟨⟨fun hm => hnp (List.mem_of_mem_drop hm), he, fun h0 => absurd h0 hd⟩, List.length_take_le cap _,
      fun hm => hnp (List.mem_of_mem_take hm), rfl, ?_, hnil, Or.inl ⟨rfl, ?_, fun h0 => ?_⟩⟩
    · simp only [PState.cost, ← hlen]
      ac_rfl
    · simp only [PState.buf]
      rw [← List.append_assoc, ← List.append_assoc, hsplit]
    · rw [hnil h0] at hd
      exact absurd List.drop_nil hd

/-- what one call does, in terms of the logical text `s.text = (t, c)`:
    * no condition: `d` is cut off the front of `t` (and contains no period);
      progress is made (`cost` decreases; `d = []` only when the underlying
      reader itself delivered nothing and no condition);
    * `punctErr`: `d` and the period are cut off the front of `t`;
    * terminal: nothing was left (`t = []`), `d = []`, the condition is `c`; the
      state is unchanged when the condition had been remembered (`errNextRead`,
      D6), otherwise one script entry was consumed. -/
def StepOK (cap : Nat) (s : PState) (d : Bytes) (e : Option RErr) (s1 : PState) : Prop :=
  s1.WF ∧ d.length ≤ cap ∧ Armor.period ∉ d ∧
  ((e = none ∧ s.text.1 = d ++ s1.text.1 ∧ s1.text.2 = s.text.2 ∧ s1.cost < s.cost ∧
      (d = [] → s.buf = [] ∧ s.errNextRead = none ∧ ∃ rest, s.src = ([], none) :: rest)) ∨
   (e = some punctErr ∧ s.text.1 = d ++ Armor.period :: s1.text.1 ∧ s1.text.2 = s.text.2 ∧ s1.cost < s.cost) ∨
   (e = some s.text.2 ∧ d = [] ∧ s.text.1 = [] ∧
      s1 = (if s.errNextRead.isSome then s else { s with src := s.src.tail })))

/-- `pRead` hands out from a state `s2` with the buffer and tail of `s` and at most its `cost`:
    the state after loading a segment (`s2.thisSegment = []` only when the period came first, and
    dropping the period took one off `cost`) -/
theorem stepOK_of_handOut (cap : Nat) (hcap : 0 < cap) (s s2 : PState) (hnp : Armor.period ∉ s2.thisSegment)
    (he : s2.errThisSegment = none ∨ s2.errThisSegment = some punctErr)
    (hb : s.buf = s2.buf) (ht : s2.tail = s.tail) (hc : s2.cost ≤ s.cost)
    (hlt : s2.thisSegment = [] → s2.errThisSegment = some punctErr ∧ s2.cost < s.cost)
    (d : Bytes) (e : Option RErr) (s1 : PState) (h : pHandOut cap s2 = (d, e, s1)) : StepOK cap s d e s1 := by
  obtain ⟨w, l, n, t, c, q, r⟩ := pHandOut_spec cap hcap s2 hnp he d e s1 h
  have hcost : s1.cost < s.cost := by
    rw [← c] at hc hlt
    by_cases h0 : d = []
    · exact Nat.lt_of_le_of_lt (Nat.le_add_right _ _) (hlt (q h0)).2
    · exact Nat.lt_of_lt_of_le (Nat.lt_add_of_pos_right (List.length_pos_iff.mpr h0)) hc
  refine ⟨w, l, n, ?_⟩
  rcases r with ⟨rfl, r1, r2⟩ | ⟨rfl, r1⟩
  · obtain ⟨t1, t2⟩ := ptext_of_buf s s1 d (t.trans ht) (hb.trans r1)
    refine Or.inl ⟨rfl, t1, t2, hcost, fun h0 => ?_⟩
    have := (hlt (q h0)).1
    rw [r2 h0] at this
    cases this
  · obtain ⟨t1, t2⟩ := ptext_of_buf s s1 (d ++ [Armor.period]) (t.trans ht)
      (by rw [hb, r1, List.append_cons])
    rw [← List.append_cons] at t1
    exact Or.inr (Or.inl ⟨rfl, t1, t2, hcost⟩)

theorem pRead_step_this (cap : Nat) (hcap : 0 < cap) (s : PState) (hwf : s.WF) (hne : s.thisSegment ≠ [])
    (d : Bytes) (e : Option RErr) (s1 : PState) (h : pRead cap s = (d, e, s1)) : StepOK cap s d e s1 := by
  rw [pRead_this cap s hne] at h
  exact stepOK_of_handOut cap hcap s s hwf.noPeriod hwf.errThis rfl rfl (Nat.le_refl _)
    (fun h0 => absurd h0 hne) d e s1 h

theorem pRead_step_next (cap : Nat) (hcap : 0 < cap) (s : PState) (hwf : s.WF) (h1 : s.thisSegment = [])
    (h2 : s.nextSegment ≠ [])
    (d : Bytes) (e : Option RErr) (s1 : PState) (h : pRead cap s = (d, e, s1)) : StepOK cap s d e s1 := by
  rw [pRead_next cap s h1 h2] at h
  have he := hwf.errThisEmpty h1
  cases hf : findIdx Armor.period s.nextSegment with
  | none =>
    rw [pProc_none cap s.nextSegment { s with nextSegment := [] } hf he] at h
    refine stepOK_of_handOut cap hcap s { s with nextSegment := [], thisSegment := s.nextSegment }
      (findIdx_none _ _ hf) (Or.inl he) ?_ rfl ?_ (fun h0 => absurd h0 h2) d e s1 h
    · rw [pbuf_of_idle s hwf h1]
      refine Eq.symm (Eq.trans ?_ (List.append_nil _))
      exact pbuf_none _ he
    · simp only [PState.cost, h1, List.length_nil]
      rw [Nat.add_zero, Nat.zero_add]
      exact Nat.le_refl _
  | some i =>
    obtain ⟨hsplit, hnp, _⟩ := findIdx_some _ _ _ hf
    have hlen := congrArg List.length hsplit
    rw [List.length_append, List.length_cons] at hlen
    rw [pProc_some cap s.nextSegment { s with nextSegment := [] } i hf he] at h
    refine stepOK_of_handOut cap hcap s
      { s with thisSegment := s.nextSegment.take i, errThisSegment := some punctErr, nextSegment := s.nextSegment.drop (i + 1) }
      hnp (Or.inr rfl) ?_ rfl (Nat.le_of_lt ?hc) (fun _ => ⟨rfl, ?hc⟩) d e s1 h
    · rw [pbuf_of_idle s hwf h1]
      refine hsplit.trans (Eq.symm ?_)
      exact pbuf_punct _ rfl
    · simp only [PState.cost, h1, List.length_nil]
      rw [Nat.zero_add, hlen, ← Nat.add_assoc]
      exact Nat.add_lt_add_right (Nat.lt_succ_self _) _

theorem pRead_step_sticky (cap : Nat) (s : PState) (hwf : s.WF) (h1 : s.thisSegment = [])
    (h2 : s.nextSegment = []) (x : RErr) (h3 : s.errNextRead = some x)
    (d : Bytes) (e : Option RErr) (s1 : PState) (h : pRead cap s = (d, e, s1)) : StepOK cap s d e s1 := by
  rw [pRead_sticky cap s x h1 h2 h3] at h
  cases h
  have ht : s.text = ([], x) := by rw [ptext_of_idle s hwf h1 h2, PState.tail, h3]
  refine ⟨hwf, Nat.zero_le _, List.not_mem_nil, Or.inr (Or.inr ⟨?_, rfl, ?_, ?_⟩)⟩
  · rw [ht]
  · rw [ht]
  · rw [h3]
    rfl

/-- a delivery of data is processed as if it had been the remainder of an earlier one -/
theorem pRead_delivery (cap : Nat) (src src' : Source) (d0 : Bytes) (e0 : Option RErr)
    (hr : srcRead cap src = (d0, e0, src')) (hd : d0 ≠ []) (hl : d0.length ≤ cap) :
    pRead cap { src := src } = pRead cap { src := src', nextSegment := d0, errNextRead := e0 } := by
  rw [pRead_src cap { src := src } rfl rfl rfl, pRead_next cap { src := src', nextSegment := d0, errNextRead := e0 } rfl hd]
  simp only [hr]
  cases e0 with
  | none => exact pProc_fresh cap d0 _ rfl hl
  | some x =>
    simp only [List.isEmpty_iff, hd, if_false]
    exact pProc_fresh cap d0 _ rfl hl

theorem pRead_empty (cap : Nat) (src src' : Source) (e0 : Option RErr) (hr : srcRead cap src = ([], e0, src')) :
    pRead cap { src := src } = ([], e0, { src := src' }) := by
  rw [pRead_src cap { src := src } rfl rfl rfl]
  simp only [hr]
  cases e0 <;> rfl

theorem StepOK.of_text_eq (cap : Nat) (s s2 : PState) (ht : s2.text = s.text) (hc : s2.cost ≤ s.cost)
    (hb : s2.buf ≠ []) (d : Bytes) (e : Option RErr) (s1 : PState) (h : StepOK cap s2 d e s1) :
    StepOK cap s d e s1 := by
  obtain ⟨w, l, n, c⟩ := h
  refine ⟨w, l, n, ?_⟩
  rcases c with ⟨he, c1, c2, c3, c4⟩ | ⟨he, c1, c2, c3⟩ | ⟨_, _, c3, _⟩
  · rw [ht] at c1 c2
    exact Or.inl ⟨he, c1, c2, Nat.lt_of_lt_of_le c3 hc, fun h0 => absurd (c4 h0).1 hb⟩
  · rw [ht] at c1 c2
    exact Or.inr (Or.inl ⟨he, c1, c2, Nat.lt_of_lt_of_le c3 hc⟩)
  · exact absurd (List.append_eq_nil_iff.mp c3).1 hb

theorem pRead_step_src (cap : Nat) (hcap : 0 < cap) (s : PState) (hwf : s.WF) (h1 : s.thisSegment = [])
    (h2 : s.nextSegment = []) (h3 : s.errNextRead = none)
    (d : Bytes) (e : Option RErr) (s1 : PState) (h : pRead cap s = (d, e, s1)) : StepOK cap s d e s1 := by
  have hs : s.text = srcText s.src := by rw [ptext_of_idle s hwf h1 h2, PState.tail, h3]
  obtain ⟨src, nx, th, eT, eN⟩ := s
  obtain rfl : th = [] := h1
  obtain rfl : nx = [] := h2
  obtain rfl : eN = none := h3
  obtain rfl : eT = none := hwf.errThisEmpty rfl
  rcases hr : srcRead cap src with ⟨d0, e0, src'⟩
  obtain ⟨r1, r2, r3, r4⟩ := srcRead_spec cap hcap src d0 e0 src' hr
  by_cases hd : d0 = []
  · subst hd
    rw [pRead_empty cap src src' e0 hr] at h
    cases h
    refine ⟨pWF_init src', Nat.zero_le _, List.not_mem_nil, ?_⟩
    rw [hs, ptext_init]
    cases e with
    | none =>
      obtain ⟨t1, t2⟩ := r3 rfl
      refine Or.inl ⟨rfl, congrArg Prod.fst t1, (congrArg Prod.snd t1).symm, ?_, fun _ => ⟨rfl, rfl, src', t2 rfl⟩⟩
      rw [pcost_init, pcost_init, t2 rfl, srcCost]
      exact Nat.lt_add_of_pos_left (Nat.succ_pos _)
    | some x =>
      obtain ⟨t1, t2⟩ := r4 x rfl
      rw [t1, t2]
      exact Or.inr (Or.inr ⟨rfl, rfl, rfl, rfl⟩)
  · rw [pRead_delivery cap src src' d0 e0 hr hd r1] at h
    have w2 : ({ src := src', nextSegment := d0, errNextRead := e0 } : PState).WF :=
      ⟨List.not_mem_nil, Or.inl rfl, fun _ => rfl⟩
    refine StepOK.of_text_eq cap _ _ ?_ ?_ ?_ d e s1 (pRead_step_next cap hcap _ w2 rfl hd d e s1 h)
    · rw [hs, PState.text, pbuf_of_idle _ w2 rfl]
      cases e0 with
      | none => exact (r3 rfl).1.symm
      | some x => rw [(r4 x rfl).1]; exact congrArg (·, x) (List.append_nil d0)
    · rw [pcost_init]
      show 0 + d0.length + srcCost src' ≤ srcCost src
      rw [Nat.zero_add, Nat.add_comm]
      exact r2
    · rw [pbuf_of_idle _ w2 rfl]
      exact hd

theorem pRead_step (cap : Nat) (hcap : 0 < cap) (s : PState) (hwf : s.WF)
    (d : Bytes) (e : Option RErr) (s1 : PState) (h : pRead cap s = (d, e, s1)) : StepOK cap s d e s1 := by
  by_cases h1 : s.thisSegment = []
  · by_cases h2 : s.nextSegment = []
    · cases h3 : s.errNextRead with
      | none => exact pRead_step_src cap hcap s hwf h1 h2 h3 d e s1 h
      | some x => exact pRead_step_sticky cap s hwf h1 h2 x h3 d e s1 h
    · exact pRead_step_next cap hcap s hwf h1 h2 d e s1 h
  · exact pRead_step_this cap hcap s hwf h1 d e s1 h

theorem pRead_step_none (cap : Nat) (hcap : 0 < cap) (s : PState) (hwf : s.WF) (d : Bytes) (s1 : PState)
    (h : pRead cap s = (d, none, s1)) :
    s1.WF ∧ d.length ≤ cap ∧ Armor.period ∉ d ∧ s.text.1 = d ++ s1.text.1 ∧ s1.text.2 = s.text.2 ∧
    s1.cost < s.cost ∧ (d = [] → s.buf = [] ∧ s.errNextRead = none ∧ ∃ rest, s.src = ([], none) :: rest) := by
  obtain ⟨w, l, n, c⟩ := pRead_step cap hcap s hwf d none s1 h
  rcases c with ⟨_, c⟩ | ⟨c, _⟩ | ⟨c, _⟩
  · exact ⟨w, l, n, c⟩
  · cases c
  · cases c

theorem pRead_step_terminal (cap : Nat) (hcap : 0 < cap) (s : PState) (hwf : s.WF) (d : Bytes) (x : RErr)
    (s1 : PState) (h : pRead cap s = (d, some x, s1)) (hx : x ≠ punctErr) :
    s1.WF ∧ d = [] ∧ s.text = ([], x) ∧
    s1 = (if s.errNextRead.isSome then s else { s with src := s.src.tail }) := by
  obtain ⟨w, l, n, c⟩ := pRead_step cap hcap s hwf d (some x) s1 h
  rcases c with ⟨c, _⟩ | ⟨c, _⟩ | ⟨c1, c2, c3, c4⟩
  · cases c
  · exact absurd (Option.some.inj c) hx
  · have c1 := Option.some.inj c1
    exact ⟨w, c2, by rw [c1, ← c3], c4⟩

/-- "punctuated" is reported exactly at a period of the text — unless the
    source itself reports that very condition at the end of the text -/
theorem pRead_step_punct (cap : Nat) (hcap : 0 < cap) (s : PState) (hwf : s.WF) (d : Bytes)
    (s1 : PState) (h : pRead cap s = (d, some punctErr, s1)) :
    s1.WF ∧ d.length ≤ cap ∧ Armor.period ∉ d ∧
    ((s.text.1 = d ++ Armor.period :: s1.text.1 ∧ s1.text.2 = s.text.2 ∧ s1.cost < s.cost) ∨
     (d = [] ∧ s.text = ([], punctErr))) := by
  obtain ⟨w, l, n, c⟩ := pRead_step cap hcap s hwf d (some punctErr) s1 h
  rcases c with ⟨c, _⟩ | ⟨_, c⟩ | ⟨c1, c2, c3, c4⟩
  · cases c
  · exact ⟨w, l, n, Or.inl c⟩
  · have c1 := Option.some.inj c1
    exact ⟨w, l, n, Or.inr ⟨c2, by rw [c1, ← c3]⟩⟩

theorem pWF_pRead (cap : Nat) (hcap : 0 < cap) (s : PState) (hwf : s.WF) : (pRead cap s).2.2.WF :=
  (pRead_step cap hcap s hwf _ _ _ rfl).1

/-- a remembered condition (D6) and the end of the script are sticky -/
theorem pRead_terminal_sticky (cap cap' : Nat) (hcap : 0 < cap) (s : PState) (hwf : s.WF) (d : Bytes) (x : RErr)
    (s1 : PState) (h : pRead cap s = (d, some x, s1)) (hx : x ≠ punctErr)
    (hs : s.errNextRead.isSome ∨ s.src = []) : pRead cap' s1 = ([], some x, s1) := by
  obtain ⟨_, _, c3, c4⟩ := pRead_step_terminal cap hcap s hwf d x s1 h hx
  obtain ⟨hthis, hnext⟩ := pbuf_eq_nil s (List.append_eq_nil_iff.mp (congrArg Prod.fst c3)).1
  rw [ptext_of_idle s hwf hthis hnext, PState.tail] at c3
  cases he : s.errNextRead with
  | some y =>
    rw [he] at c3 c4
    cases c3
    cases c4
    exact pRead_sticky cap' s x hthis hnext he
  | none =>
    obtain ⟨src, nx, th, eT, eN⟩ := s
    obtain rfl : src = [] := hs.resolve_left (by rw [he]; exact Bool.false_ne_true)
    cases hthis
    cases hnext
    cases he
    cases c3
    cases c4
    rfl

/-! ## the layer theorem -/

/-- read with buffer sizes `caps` (cycled) until a condition is reported -/
def pReadSeg (caps : List Nat) : (fuel : Nat) → Nat → PState → Bytes → Bytes × Option RErr × PState
  | 0, _, s, acc => (acc, none, s)
  | fuel + 1, k, s, acc =>
    let cap := caps.getD (k % caps.length) 1
    let (d, e, s1) := pRead cap s
    match e with
    | none => pReadSeg caps fuel (k + 1) s1 (acc ++ d)
    | some x => (acc ++ d, some x, s1)

theorem pReadSeg_none (caps : List Nat) (fuel k : Nat) (s : PState) (acc d : Bytes) (s1 : PState)
    (h : pRead (caps.getD (k % caps.length) 1) s = (d, none, s1)) :
    pReadSeg caps (fuel + 1) k s acc = pReadSeg caps fuel (k + 1) s1 (acc ++ d) := by
  rw [pReadSeg, h]

theorem pReadSeg_some (caps : List Nat) (fuel k : Nat) (s : PState) (acc d : Bytes) (x : RErr) (s1 : PState)
    (h : pRead (caps.getD (k % caps.length) 1) s = (d, some x, s1)) :
    pReadSeg caps (fuel + 1) k s acc = (acc ++ d, some x, s1) := by
  rw [pReadSeg, h]

theorem capsGetD_pos (caps : List Nat) (hpos : ∀ c ∈ caps, 0 < c) (i : Nat) : 0 < caps.getD i 1 := by
  rw [List.getD_eq_getElem?_getD]
  cases h : caps[i]? with
  | none => simp
  | some c => exact hpos c (List.mem_of_getElem? h)

theorem firstSplit_prefix {α : Type} (p : α) : ∀ (d t1 a rest : List α), d ++ t1 = a ++ p :: rest → p ∉ d →
    ∃ a', a = d ++ a' ∧ t1 = a' ++ p :: rest := by
  intro d
  induction d with
  | nil => intro t1 a rest h _; exact ⟨a, rfl, by simpa using h⟩
  | cons x d ih =>
    intro t1 a rest h hp
    simp only [List.mem_cons, not_or] at hp
    cases a with
    | nil =>
      simp only [List.cons_append, List.nil_append, List.cons.injEq] at h
      exact absurd h.1.symm hp.1
    | cons y a =>
      simp only [List.cons_append, List.cons.injEq] at h
      obtain ⟨a', h1, h2⟩ := ih t1 a rest h.2 hp.2
      exact ⟨a', by rw [h.1, h1]; rfl, h2⟩

theorem firstSplit_unique {α : Type} (p : α) (d t1 a rest : List α) (h : d ++ p :: t1 = a ++ p :: rest)
    (hd : p ∉ d) (ha : p ∉ a) : d = a ∧ t1 = rest := by
  obtain ⟨a', h1, h2⟩ := firstSplit_prefix p d (p :: t1) a rest h hd
  cases a' with
  | nil =>
    simp only [List.nil_append, List.cons.injEq, true_and] at h2
    exact ⟨by simpa using h1.symm, h2⟩
  | cons z a' =>
    simp only [List.cons_append, List.cons.injEq] at h2
    exfalso
    apply ha
    rw [h1, ← h2.1]
    simp

theorem pReadSeg_aux (caps : List Nat) (hpos : ∀ c ∈ caps, 0 < c) :
    ∀ (fuel k : Nat) (s : PState) (acc : Bytes), s.WF → s.cost < fuel →
    (∀ a rest, s.text.1 = a ++ Armor.period :: rest → Armor.period ∉ a →
      ∃ s1, pReadSeg caps fuel k s acc = (acc ++ a, some punctErr, s1) ∧ s1.WF ∧
        s1.text = (rest, s.text.2) ∧ s1.cost < s.cost) ∧
    (Armor.period ∉ s.text.1 →
      ∃ s1, pReadSeg caps fuel k s acc = (acc ++ s.text.1, some s.text.2, s1) ∧ s1.WF ∧ s1.buf = []) := by
  intro fuel
  induction fuel with
  | zero => intro k s acc _ h; exact absurd h (Nat.not_lt_zero _)
  | succ fuel ih =>
    intro k s acc hwf hfuel
    have hcap := capsGetD_pos caps hpos (k % caps.length)
    rcases hp : pRead (caps.getD (k % caps.length) 1) s with ⟨d, e, s'⟩
    obtain ⟨w, l, n, c⟩ := pRead_step _ hcap s hwf d e s' hp
    rcases c with ⟨rfl, c1, c2, c3, _⟩ | ⟨rfl, c1, c2, c3⟩ | ⟨rfl, c1, c2, c3⟩
    · -- no condition: continue
      obtain ⟨ih1, ih2⟩ := ih (k + 1) s' (acc ++ d) w (Nat.lt_of_lt_of_le c3 (Nat.le_of_lt_succ hfuel))
      rw [pReadSeg_none caps fuel k s acc d s' hp, c1]
      constructor
      · intro a rest ht ha
        obtain ⟨a', h1, h2⟩ := firstSplit_prefix _ d s'.text.1 a rest ht n
        obtain ⟨s1, e1, e2, e3, e4⟩ := ih1 a' rest h2 (fun hm => ha (by rw [h1]; exact List.mem_append_right d hm))
        exact ⟨s1, by rw [e1, h1, List.append_assoc], e2, by rw [e3, c2], Nat.lt_trans e4 c3⟩
      · intro hnp
        obtain ⟨s1, e1, e2, e3⟩ := ih2 (fun hm => hnp (List.mem_append_right d hm))
        exact ⟨s1, by rw [e1, c2, List.append_assoc], e2, e3⟩
    · -- punctuated
      rw [pReadSeg_some caps fuel k s acc d _ s' hp, c1]
      constructor
      · intro a rest ht ha
        obtain ⟨h1, h2⟩ := firstSplit_unique _ d s'.text.1 a rest ht n ha
        exact ⟨s', by rw [h1], w, by rw [← h2, ← c2], c3⟩
      · intro hnp
        exact absurd (List.mem_append_right d List.mem_cons_self) hnp
    · -- terminal
      rw [pReadSeg_some caps fuel k s acc d _ s' hp, c1, c2]
      constructor
      · intro a rest ht _
        exact absurd (List.append_eq_nil_iff.mp ht.symm).2 (List.cons_ne_nil _ _)
      · intro _
        have hbuf : s.buf = [] := (List.append_eq_nil_iff.mp c2).1
        refine ⟨s', rfl, w, ?_⟩
        rw [c3, apply_ite PState.buf]
        exact (ite_self s.buf).trans hbuf

/-- **the layer theorem**: reading with any positive buffer sizes and enough fuel (`fuelOf s` is enough,
    `cost_lt_fuelOf`) yields exactly the text before the first period and then `punctErr`, or, when no period
    is left, the whole text and then its condition -/
theorem pReadSeg_eq (caps : List Nat) (hpos : ∀ c ∈ caps, 0 < c) (s : PState) (hwf : s.WF)
    (fuel : Nat) (hfuel : s.cost < fuel) (k : Nat) (t : Bytes) (c : RErr) (ht : s.text = (t, c)) :
    (∀ a rest, t = a ++ Armor.period :: rest → Armor.period ∉ a →
      ∃ s1, pReadSeg caps fuel k s [] = (a, some punctErr, s1) ∧ s1.WF ∧ s1.text = (rest, c) ∧
        s1.cost < s.cost) ∧
    (Armor.period ∉ t →
      ∃ s1, pReadSeg caps fuel k s [] = (t, some c, s1) ∧ s1.WF ∧ s1.buf = []) := by
  obtain rfl : t = s.text.1 := by rw [ht]
  obtain rfl : c = s.text.2 := by rw [ht]
  exact pReadSeg_aux caps hpos fuel k s [] hwf hfuel

/-- two well-formed states with the same logical text read alike under any two positive buffer-size
    sequences; after a period their texts agree again, so the statement can be iterated segment by segment -/
theorem pReadSeg_independent_states (caps caps' : List Nat) (hpos : ∀ c ∈ caps, 0 < c)
    (hpos' : ∀ c ∈ caps', 0 < c) (s s' : PState) (hwf : s.WF) (hwf' : s'.WF) (htext : s.text = s'.text)
    (fuel fuel' : Nat) (hfuel : s.cost < fuel) (hfuel' : s'.cost < fuel') (k k' : Nat) :
    (pReadSeg caps fuel k s []).1 = (pReadSeg caps' fuel' k' s' []).1 ∧
    (pReadSeg caps fuel k s []).2.1 = (pReadSeg caps' fuel' k' s' []).2.1 ∧
    (pReadSeg caps fuel k s []).2.2.WF ∧ (pReadSeg caps' fuel' k' s' []).2.2.WF ∧
    (Armor.period ∈ s.text.1 →
      (pReadSeg caps fuel k s []).2.1 = some punctErr ∧
      (pReadSeg caps fuel k s []).2.2.text = (pReadSeg caps' fuel' k' s' []).2.2.text) ∧
    (Armor.period ∉ s.text.1 →
      (pReadSeg caps fuel k s []).1 = s.text.1 ∧ (pReadSeg caps fuel k s []).2.1 = some s.text.2) := by
  obtain ⟨a1, a2⟩ := pReadSeg_eq caps hpos s hwf fuel hfuel k s.text.1 s.text.2 rfl
  obtain ⟨b1, b2⟩ := pReadSeg_eq caps' hpos' s' hwf' fuel' hfuel' k' s.text.1 s.text.2 htext.symm
  -- `Classical.em` rather than `by_cases`: synthesising `Decidable (_ ∈ _)` here is slow to check
  rcases Classical.em (Armor.period ∈ s.text.1) with hp | hp
  · obtain ⟨a, rest, hsplit, ha⟩ := List.eq_append_cons_of_mem hp
    obtain ⟨s1, e1, w1, t1, _⟩ := a1 a rest hsplit ha
    obtain ⟨s1', e1', w1', t1', _⟩ := b1 a rest hsplit ha
    rw [e1, e1']
    exact ⟨rfl, rfl, w1, w1', fun _ => ⟨rfl, by rw [t1, t1']⟩, fun h => absurd hp h⟩
  · obtain ⟨s1, e1, w1, _⟩ := a2 hp
    obtain ⟨s1', e1', w1', _⟩ := b2 hp
    rw [e1, e1']
    exact ⟨rfl, rfl, w1, w1', fun h => absurd h hp, fun _ => ⟨rfl, rfl⟩⟩

theorem pReadSeg_independent (src src' : Source) (h : srcText src = srcText src')
    (caps caps' : List Nat) (hpos : ∀ c ∈ caps, 0 < c) (hpos' : ∀ c ∈ caps', 0 < c)
    (fuel fuel' : Nat) (hfuel : srcCost src < fuel) (hfuel' : srcCost src' < fuel') :
    (pReadSeg caps fuel 0 { src := src } []).1 = (pReadSeg caps' fuel' 0 { src := src' } []).1 ∧
    (pReadSeg caps fuel 0 { src := src } []).2.1 = (pReadSeg caps' fuel' 0 { src := src' } []).2.1 ∧
    (pReadSeg caps fuel 0 { src := src } []).2.2.WF ∧ (pReadSeg caps' fuel' 0 { src := src' } []).2.2.WF ∧
    (Armor.period ∈ (srcText src).1 →
      (pReadSeg caps fuel 0 { src := src } []).2.2.text = (pReadSeg caps' fuel' 0 { src := src' } []).2.2.text) := by
  have := pReadSeg_independent_states caps caps' hpos hpos' { src := src } { src := src' } (pWF_init src) (pWF_init src')
    (by rw [ptext_init, ptext_init, h]) fuel fuel' (by rw [pcost_init]; exact hfuel) (by rw [pcost_init]; exact hfuel') 0 0
  obtain ⟨h1, h2, h3, h4, h5, _⟩ := this
  exact ⟨h1, h2, h3, h4, fun hp => (h5 (by rw [ptext_init]; exact hp)).2⟩

/-! ## concrete checks -/

/-- "ab.cd" delivered as "a" | "b.c" | "d"+EOF -/
def punctExSrc : Source := [([97], none), ([98, 46, 99], none), ([100], some .eof)]
/-- the same text in one delivery, EOF separately -/
def punctExSrc' : Source := [([97, 98, 46, 99, 100], none), ([], none), ([], some .eof)]

example : srcText punctExSrc = ([97, 98, 46, 99, 100], .eof) ∧ srcText punctExSrc' = srcText punctExSrc := by decide +kernel

-- first segment "ab" + punctuated, for one-byte and seven-byte buffers and both fragmentations
example : (pReadSeg [1] 9 0 { src := punctExSrc } []).1 = [97, 98] ∧
    (pReadSeg [1] 9 0 { src := punctExSrc } []).2.1 = some punctErr ∧
    (pReadSeg [7] 9 0 { src := punctExSrc } []).1 = [97, 98] ∧
    (pReadSeg [7] 9 0 { src := punctExSrc } []).2.1 = some punctErr ∧
    (pReadSeg [2, 1, 3] 9 0 { src := punctExSrc' } []).1 = [97, 98] ∧
    (pReadSeg [2, 1, 3] 9 0 { src := punctExSrc' } []).2.1 = some punctErr := by decide +kernel

-- second segment "cd" + EOF, continuing from the states reached above
example : (pReadSeg [1] 9 0 (pReadSeg [1] 9 0 { src := punctExSrc } []).2.2 []).1 = [99, 100] ∧
    (pReadSeg [1] 9 0 (pReadSeg [1] 9 0 { src := punctExSrc } []).2.2 []).2.1 = some .eof ∧
    (pReadSeg [7] 9 0 (pReadSeg [7] 9 0 { src := punctExSrc } []).2.2 []).1 = [99, 100] ∧
    (pReadSeg [7] 9 0 (pReadSeg [7] 9 0 { src := punctExSrc } []).2.2 []).2.1 = some .eof ∧
    (pReadSeg [2, 1, 3] 9 0 (pReadSeg [2, 1, 3] 9 0 { src := punctExSrc' } []).2.2 []).1 = [99, 100] ∧
    (pReadSeg [2, 1, 3] 9 0 (pReadSeg [2, 1, 3] 9 0 { src := punctExSrc' } []).2.2 []).2.1 = some .eof := by decide +kernel

-- D6: data that comes WITH an error is handed out first, the error by the next
-- call, and it is then sticky (the rest of the script is never read)
example :
    let s0 : PState := { src := [([97, 98], some (.err .overflow)), ([120], none)] }
    let r1 := pRead 7 s0
    let r2 := pRead 7 r1.2.2
    let r3 := pRead 7 r2.2.2
    (r1.1, r1.2.1) = ([97, 98], none) ∧ (r2.1, r2.2.1) = ([], some (.err .overflow)) ∧
    (r3.1, r3.2.1) = ([], some (.err .overflow)) := by decide +kernel

-- … whereas an error that comes WITHOUT data is passed through and NOT
-- remembered: a later call reads on (so after the terminal condition the
-- behaviour depends on how the source attached the error to the data)
example :
    let s0 : PState := { src := [([], some (.err .overflow)), ([120], none)] }
    let r1 := pRead 7 s0
    let r2 := pRead 7 r1.2.2
    (r1.1, r1.2.1) = ([], some (.err .overflow)) ∧ (r2.1, r2.2.1) = ([120], none) := by decide +kernel

-- a source that itself reports "punctuated" is indistinguishable from a period
example : ((pRead 7 { src := [([], some punctErr)] }).1, (pRead 7 { src := [([], some punctErr)] }).2.1) =
    ([], some punctErr) := by decide +kernel

end Saltpack.Proofs
