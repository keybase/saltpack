/-
  The receivers' stream-logic and authenticity theorems (Receiver.lean, Authentic.lean) carried to
  the BYTE level: once the front end has read `msg` and the receiver accepted the header, the
  byte-level result IS the packet-level run (`…_bytes_run`), from a state that meets what the
  reductions ask of it (`…_state_ok`).
-/
import Saltpack.Proofs.CodecBytes
import Saltpack.Proofs.Receiver
import Saltpack.Proofs.Authentic
import Saltpack.Proofs.ModeSeparation

namespace Saltpack.Proofs
open Saltpack

/-! ## decryption -/

theorem dec_bytes_run (P : Prims) (valid : Validator) (kr : Keyring) (msg hb : Bytes) (h : EncHeader)
    (ps : PStream EncBlock) (hread : Front.readEnc msg = .ok (.ok hb h, ps))
    (log : List KeyCall) (st : Decrypt.State)
    (hhdr : Decrypt.processHeader P valid kr (P.hash hb) h = (log, .ok st)) :
    Decrypt.openBytes P valid kr msg =
      .ok ⟨some st.mki, (Decrypt.run P st ps.items ps.tail 1).bytes, (Decrypt.run P st ps.items ps.tail 1).err, log⟩ := by
  rw [dec_openBytes_of_read hread]
  simp [Decrypt.openStream, hhdr]

theorem dec_state_ok (P : Prims) (hP : P.Lawful) (valid : Validator) (hvalid : ValidatorOK valid) (kr : Keyring)
    (hb : Bytes) (h : EncHeader) (log : List KeyCall) (st : Decrypt.State)
    (hhdr : Decrypt.processHeader P valid kr (P.hash hb) h = (log, .ok st)) :
    (st.version.major = 1 ∨ st.version.major = 2) ∧ st.headerHash = P.hash hb ∧ st.headerHash.length = 64 := by
  obtain ⟨hv, hh⟩ := dec_processHeader_fields P valid kr _ h log st hhdr
  refine ⟨?_, hh, by rw [hh]; exact hP.hash_len hb⟩
  rw [hv]
  exact hvalid _ (enc_gate P valid kr _ h log st hhdr).2.1

/-! ## signcryption -/

theorem sc_bytes_run (P : Prims) (kr : Keyring) (res : Signcrypt.Resolver) (msg hb : Bytes) (h : EncHeader)
    (ps : PStream SigncryptBlock) (hread : Front.readSigncrypt msg = .ok (.ok hb h, ps))
    (log : List KeyCall) (st : Signcrypt.State)
    (hhdr : Signcrypt.processHeader P kr res (P.hash hb) h = (log, .ok st)) :
    Signcrypt.openBytes P kr res msg =
      .ok ⟨st.sender, (Signcrypt.run P st ps.items ps.tail 1).bytes, (Signcrypt.run P st ps.items ps.tail 1).err, log⟩ := by
  rw [sc_openBytes_of_read hread]
  simp [Signcrypt.openStream, hhdr]

theorem sc_state_ok (P : Prims) (hP : P.Lawful) (kr : Keyring) (res : Signcrypt.Resolver)
    (hb : Bytes) (h : EncHeader) (log : List KeyCall) (st : Signcrypt.State)
    (hhdr : Signcrypt.processHeader P kr res (P.hash hb) h = (log, .ok st)) :
    st.headerHash = P.hash hb ∧ st.headerHash.length = 64 := by
  have hh := sc_processHeader_headerHash P kr res _ h log st hhdr
  exact ⟨hh, by rw [hh]; exact hP.hash_len hb⟩

/-! ## attached signatures

  `NewVerifyStream` accepts the header when `validate` passes and the keyring
  knows the signer; the packet loop then runs from `⟨h.version, P.hash hb, pk⟩`. -/

theorem sig_bytes_run (P : Prims) (valid : Validator) (hvalid : ValidatorOK valid) (kr : Keyring) (msg hb : Bytes)
    (h : SigHeader) (ps : PStream SigBlock) (hread : Front.readSig msg = .ok (.ok hb h, ps))
    (hval : Sign.validate valid h mtAttached = .ok ()) (pk : Bytes)
    (hpk : kr.lookupSigningPublicKey h.senderPublic = some pk) :
    Sign.verifyBytes P valid kr msg =
      .ok ⟨some pk, (Sign.run P ⟨h.version, P.hash hb, pk⟩ ps.items ps.tail 1).bytes,
            (Sign.run P ⟨h.version, P.hash hb, pk⟩ ps.items ps.tail 1).err⟩ := by
  rw [sig_verifyBytes_of_read hread]
  have hm := hvalid _ (sig_validate_ok valid h _ hval).2.1
  have hc : (h.version.major != 1 && h.version.major != 2) = false := by
    rcases hm with e | e <;> simp [e]
  simp [Sign.verifyStream, hval, hpk, hc]

end Saltpack.Proofs
