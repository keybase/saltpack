/-
  The sender streams over a faulting writer (Model/SenderStream.lean): one-step
  lemmas about the go-codec encoder and the block emission, generic in the
  underlying writer `wr : ω → Bytes → Bool × ω` observed through
  `obs : ω → Bytes` (the bytes it has accepted so far); chunk plans and their
  bytes; the dead states.
-/
import Saltpack.Model.SenderStream
import Saltpack.Proofs.StreamLemmas

namespace Saltpack.Proofs.SenderP
open Saltpack Saltpack.Sender

/-- what the theorems need to know about an underlying writer: `obs` (the bytes
    it has accepted) grows by exactly the bytes of a successful `Write`, and by
    some PREFIX of them (possibly none, possibly all) by a failing one — the
    io.Writer contract `(n, err)`, `0 ≤ n ≤ len(p)`.  (A short write without
    error is excluded: `ok` says a successful write took everything.) -/
structure ObsWriter {ω : Type} (wr : ω → Bytes → Bool × ω) (obs : ω → Bytes) : Prop where
  ok : ∀ w p w', wr w p = (true, w') → obs w' = obs w ++ p
  fail : ∀ w p w', wr w p = (false, w') → ∃ q, q <+: p ∧ obs w' = obs w ++ q

theorem wr_write_cases (w : Wr) (p : Bytes) :
    ((w.write p).1 = true ∧ (w.write p).2.out = w.out ++ [p] ∧ (w.write p).2.faults = w.faults) ∨
    ((w.write p).1 = false ∧ (w.write p).2.out = w.out ++ [p.take (w.part.headD 0)] ∧
      (w.write p).2.faults = w.faults + 1) := by
  unfold Wr.write
  cases w.sink with
  | nil => exact .inl ⟨rfl, rfl, rfl⟩
  | cons f rest =>
    cases f with
    | true => exact .inr ⟨rfl, rfl, rfl⟩
    | false => exact .inl ⟨rfl, rfl, rfl⟩

theorem wr_obs : ObsWriter Wr.write Wr.bytes := by
  constructor <;> intro w p w' h
  · rcases wr_write_cases w p with ⟨_, h2, _⟩ | ⟨h1, _⟩
    · rw [h] at h2
      show w'.out.flatten = _
      rw [h2]
      simp [Wr.bytes]
    · rw [h] at h1; cases h1
  · rcases wr_write_cases w p with ⟨h1, _⟩ | ⟨_, h2, _⟩
    · rw [h] at h1; cases h1
    · rw [h] at h2
      refine ⟨p.take (w.part.headD 0), List.take_prefix _ _, ?_⟩
      show w'.out.flatten = _
      rw [h2]
      simp [Wr.bytes]

section generic
variable {ω : Type} (wr : ω → Bytes → Bool × ω) (obs : ω → Bytes)

/-! ## `writePieces` and `Encode` -/

theorem take_flatten_prefix {α : Type} (ps : List (List α)) (k : Nat) : (ps.take k).flatten <+: ps.flatten := by
  refine ⟨(ps.drop k).flatten, ?_⟩
  rw [← List.flatten_append, List.take_append_drop]

theorem writePieces_cons (p : Bytes) (ps : List Bytes) (w : ω) :
    writePieces wr (p :: ps) w =
      match wr w p with
      | (true, w') => writePieces wr ps w'
      | (false, w') => (false, w') := rfl

theorem writePieces_one (p : Bytes) (w : ω) :
    writePieces wr [p] w = wr w p := by
  rw [writePieces_cons]
  rcases wr w p with ⟨ok, w'⟩
  cases ok <;> rfl

theorem writePieces_append (qs : List Bytes) : ∀ (ps : List Bytes) (w : ω),
    writePieces wr (ps ++ qs) w =
      if (writePieces wr ps w).1 then writePieces wr qs (writePieces wr ps w).2 else (false, (writePieces wr ps w).2) := by
  intro ps
  induction ps with
  | nil => intro w; rfl
  | cons p ps ih =>
    intro w
    rw [List.cons_append, writePieces_cons, writePieces_cons]
    cases wr w p with
    | mk ok w' =>
      cases ok with
      | true => exact ih w'
      | false => rfl

theorem writePieces_obs (hw : ObsWriter wr obs) : ∀ (ps : List Bytes) (w : ω),
    ∃ q, q <+: ps.flatten ∧ obs (writePieces wr ps w).2 = obs w ++ q ∧
      ((writePieces wr ps w).1 = true → q = ps.flatten) := by
  intro ps
  induction ps with
  | nil => intro w; exact ⟨[], by simp [writePieces]⟩
  | cons p ps ih =>
    intro w
    unfold writePieces
    cases h : wr w p with
    | mk ok w' =>
      cases ok with
      | true =>
        obtain ⟨q, hq, ho, hall⟩ := ih w'
        refine ⟨p ++ q, ?_, ?_, fun ht => by simp [hall ht]⟩
        · simp only [List.flatten_cons]
          exact (List.prefix_append_right_inj p).2 hq
        · simp only [ho, hw.ok w p w' h, List.append_assoc]
      | false =>
        obtain ⟨q, hq, ho⟩ := hw.fail w p w' h
        refine ⟨q, ?_, ho, by simp⟩
        simp only [List.flatten_cons]
        exact hq.trans (List.prefix_append _ _)

theorem encode_failed (pieces : Bytes → List Bytes) (c : Codec ω) (b : Bytes) (h : c.failed = true) :
    Codec.encode wr pieces c b = (false, c) := by
  simp [Codec.encode, h]

theorem encode_obs (hw : ObsWriter wr obs) (pieces : Bytes → List Bytes) (hp : ∀ b, (pieces b).flatten = b)
    (c : Codec ω) (b : Bytes) :
    ∃ q, q <+: b ∧ obs (Codec.encode wr pieces c b).2.w = obs c.w ++ q ∧
      ((Codec.encode wr pieces c b).1 = true → q = b) := by
  unfold Codec.encode
  split
  · exact ⟨[], List.nil_prefix, (List.append_nil _).symm, fun h => by cases h⟩
  · obtain ⟨q, hq, ho, hall⟩ := writePieces_obs wr obs hw (pieces b) c.w
    rw [hp b] at hq hall
    exact ⟨q, hq, ho, hall⟩

theorem encode_flag (pieces : Bytes → List Bytes) (c : Codec ω) (b : Bytes) (h : c.failed = false) :
    (Codec.encode wr pieces c b).2.failed = !(Codec.encode wr pieces c b).1 := by
  simp [Codec.encode, h]

theorem encode_failed_mono (pieces : Bytes → List Bytes) (c : Codec ω) (b : Bytes) (h : c.failed = true) :
    (Codec.encode wr pieces c b).2.failed = true := by
  rw [encode_failed wr pieces c b h]; exact h

theorem encode_false_failed (pieces : Bytes → List Bytes) (c : Codec ω) (b : Bytes)
    (h : (Codec.encode wr pieces c b).1 = false) : (Codec.encode wr pieces c b).2.failed = true := by
  unfold Codec.encode at h ⊢
  by_cases hf : c.failed = true
  · simp [hf]
  · simp only [hf, Bool.false_eq_true, if_false] at h ⊢
    simp [h]

theorem encode_true_healthy (pieces : Bytes → List Bytes) (c : Codec ω) (b : Bytes)
    (h : (Codec.encode wr pieces c b).1 = true) : c.failed = false ∧ (Codec.encode wr pieces c b).2.failed = false := by
  unfold Codec.encode at h ⊢
  by_cases hf : c.failed = true
  · simp [hf] at h
  · simp only [hf, Bool.false_eq_true, if_false] at h ⊢
    simp [h]

/-! ## one block -/

/-- the two ways `encryptBlock` / `signBlock` / `signcryptBlock` can go.  Stopped
    before `Encode` — a read-state panic, a refusal of the packet function, an
    assertion panic —: only the block is gone from the buffer.  Or `Encode` of the
    packet: the counter advances iff it succeeds.  `err` is untouched. -/
theorem emitBlock_eq (cfg : Cfg) (f : Bool) (st : PSt ω) :
    (∃ e, emitBlock wr cfg f st = (some e, { st with buf := st.buf.drop cfg.bs }) ∧
      (readPanics cfg.v1shape f cfg.bs (st.buf.take cfg.bs).length (st.buf.drop cfg.bs).length = true ∨
       cfg.pkt st.n (st.buf.take cfg.bs) f = .error e ∨
       assertPanics cfg.v1shape cfg.assertExtra f (st.buf.take cfg.bs).length st.n = true)) ∨
    (∃ b, cfg.pkt st.n (st.buf.take cfg.bs) f = .ok b ∧
      readPanics cfg.v1shape f cfg.bs (st.buf.take cfg.bs).length (st.buf.drop cfg.bs).length = false ∧
      assertPanics cfg.v1shape cfg.assertExtra f (st.buf.take cfg.bs).length st.n = false ∧
      emitBlock wr cfg f st =
        ((if (Codec.encode wr cfg.pieces st.codec b).1 then none else some .ioError),
         { st with buf := st.buf.drop cfg.bs, codec := (Codec.encode wr cfg.pieces st.codec b).2,
                   n := if (Codec.encode wr cfg.pieces st.codec b).1 then st.n + 1 else st.n })) := by
  unfold emitBlock
  simp only []
  cases readPanics cfg.v1shape f cfg.bs (st.buf.take cfg.bs).length (st.buf.drop cfg.bs).length with
  | true => exact .inl ⟨_, rfl, .inl rfl⟩
  | false =>
    cases cfg.pkt st.n (st.buf.take cfg.bs) f with
    | error e => exact .inl ⟨e, rfl, .inr (.inl rfl)⟩
    | ok b =>
      cases assertPanics cfg.v1shape cfg.assertExtra f (st.buf.take cfg.bs).length st.n with
      | true => exact .inl ⟨_, rfl, .inr (.inr rfl)⟩
      | false =>
        refine .inr ⟨b, rfl, rfl, rfl, ?_⟩
        dsimp only
        cases Codec.encode wr cfg.pieces st.codec b with
        | mk ok c' => cases ok <;> rfl

theorem emit_buf (cfg : Cfg) (f : Bool) (st : PSt ω) : (emitBlock wr cfg f st).2.buf = st.buf.drop cfg.bs := by
  rcases emitBlock_eq wr cfg f st with ⟨e, h, _⟩ | ⟨b, _, _, _, h⟩ <;> rw [h]

theorem emit_err (cfg : Cfg) (f : Bool) (st : PSt ω) : (emitBlock wr cfg f st).2.err = st.err := by
  rcases emitBlock_eq wr cfg f st with ⟨e, h, _⟩ | ⟨b, _, _, _, h⟩ <;> rw [h]

/-- `Close`: the final block at once (Version2 shape, or nothing buffered); or
    the flush fails; or the flush leaves something buffered (a panic, never from
    a settled state); or the flush, then the empty final block -/
theorem close_cases (cfg : Cfg) (st : PSt ω) :
    ((cfg.v1shape = false ∨ st.buf = []) ∧ st.close wr cfg = emitBlock wr cfg true st) ∨
    (cfg.v1shape = true ∧ st.buf ≠ [] ∧
      ((∃ e, (emitBlock wr cfg false st).1 = some e ∧ st.close wr cfg = emitBlock wr cfg false st) ∨
       ((emitBlock wr cfg false st).1 = none ∧ (emitBlock wr cfg false st).2.buf ≠ [] ∧
          st.close wr cfg = (some (.panic "Close"), (emitBlock wr cfg false st).2)) ∨
       ((emitBlock wr cfg false st).1 = none ∧ (emitBlock wr cfg false st).2.buf = [] ∧
          st.close wr cfg = emitBlock wr cfg true (emitBlock wr cfg false st).2))) := by
  unfold PSt.close
  by_cases hv : cfg.v1shape = true
  · rw [if_pos hv]
    by_cases hgt : st.buf.length > 0
    · refine .inr ⟨hv, fun h => by rw [h] at hgt; exact Nat.lt_irrefl _ hgt, ?_⟩
      rw [if_pos hgt]
      cases emitBlock wr cfg false st with
      | mk r st1 =>
        cases r with
        | some e => exact .inl ⟨e, rfl, rfl⟩
        | none =>
          dsimp only
          by_cases hg1 : st1.buf.length > 0
          · rw [if_pos hg1]
            exact .inr (.inl ⟨rfl, fun h => by rw [h] at hg1; exact Nat.lt_irrefl _ hg1, rfl⟩)
          · rw [if_neg hg1]
            exact .inr (.inr ⟨rfl, List.length_eq_zero_iff.mp (Nat.eq_zero_of_not_pos hg1), rfl⟩)
    · rw [if_neg hgt]
      dsimp only
      rw [if_neg hgt]
      exact .inl ⟨.inr (List.length_eq_zero_iff.mp (Nat.eq_zero_of_not_pos hgt)), rfl⟩
  · rw [if_neg hv]
    exact .inl ⟨.inl (Bool.eq_false_iff.mpr hv), rfl⟩

end generic

/-! ## chunk plans and their bytes -/

theorem planBytes_cons_ok (pkt : Nat → Bytes → Bool → Except Err Bytes) (c : Bytes) (f : Bool)
    (rest : List (Bytes × Bool)) (i : Nat) (B : Bytes) :
    planBytes pkt ((c, f) :: rest) i = .ok B ↔
      ∃ b r, pkt i c f = .ok b ∧ planBytes pkt rest (i + 1) = .ok r ∧ B = b ++ r := by
  simp only [planBytes]
  cases pkt i c f <;> cases planBytes pkt rest (i + 1) <;> simp [eq_comm]

theorem planBytes_append (pkt : Nat → Bytes → Bool → Except Err Bytes) : ∀ (a b : List (Bytes × Bool)) (i : Nat) (B : Bytes),
    planBytes pkt (a ++ b) i = .ok B ↔
      ∃ A B', planBytes pkt a i = .ok A ∧ planBytes pkt b (i + a.length) = .ok B' ∧ B = A ++ B' := by
  intro a
  induction a with
  | nil => intro b i B; simp [planBytes]
  | cons x a ih =>
    intro b i B
    obtain ⟨c, f⟩ := x
    simp only [List.cons_append, planBytes_cons_ok, ih, List.length_cons, Nat.add_right_comm i a.length 1,
      ← Nat.add_assoc]
    constructor
    · rintro ⟨x, _, hx, ⟨A, B', hA, hB, rfl⟩, rfl⟩
      exact ⟨x ++ A, B', ⟨x, A, hx, hA, rfl⟩, hB, (List.append_assoc _ _ _).symm⟩
    · rintro ⟨_, B', ⟨x, A, hx, hA, rfl⟩, hB, rfl⟩
      exact ⟨x, A ++ B', hx, ⟨A, B', hA, hB, rfl⟩, List.append_assoc _ _ _⟩

theorem planBytes_snoc (pkt : Nat → Bytes → Bool → Except Err Bytes) (a : List (Bytes × Bool)) (c : Bytes) (f : Bool)
    (A b : Bytes) (h1 : planBytes pkt a 0 = .ok A) (h2 : pkt a.length c f = .ok b) :
    planBytes pkt (a ++ [(c, f)]) 0 = .ok (A ++ b) :=
  (planBytes_append pkt a [(c, f)] 0 (A ++ b)).2
    ⟨A, b, h1, (planBytes_cons_ok pkt c f [] _ b).2 ⟨b, [], by rwa [Nat.zero_add], rfl, (List.append_nil b).symm⟩, rfl⟩

theorem planBytes_prefix (pkt : Nat → Bytes → Bool → Except Err Bytes) (a plan : List (Bytes × Bool)) (B : Bytes)
    (hpre : a <+: plan) (h : planBytes pkt plan 0 = .ok B) : ∃ A, planBytes pkt a 0 = .ok A ∧ A <+: B := by
  obtain ⟨b, rfl⟩ := hpre
  obtain ⟨A, B', h1, _, rfl⟩ := (planBytes_append pkt a b 0 B).1 h
  exact ⟨A, h1, List.prefix_append _ _⟩

/-- the bytes of the packets of a plan up to the first refused packet number -/
def planOkBytes (pkt : Nat → Bytes → Bool → Except Err Bytes) : List (Bytes × Bool) → Nat → Bytes
  | [], _ => []
  | (c, f) :: rest, i =>
    match pkt i c f with
    | .ok b => b ++ planOkBytes pkt rest (i + 1)
    | .error _ => []

theorem planOkBytes_append (pkt : Nat → Bytes → Bool → Except Err Bytes) : ∀ (a b : List (Bytes × Bool)) (i : Nat) (A : Bytes),
    planBytes pkt a i = .ok A → planOkBytes pkt (a ++ b) i = A ++ planOkBytes pkt b (i + a.length) := by
  intro a
  induction a with
  | nil => intro b i A h; cases h; rfl
  | cons x a ih =>
    intro b i A h
    obtain ⟨c, f⟩ := x
    obtain ⟨x, R, hx, hR, rfl⟩ := (planBytes_cons_ok pkt c f a i A).1 h
    simp only [List.cons_append, planOkBytes, hx, ih b (i + 1) R hR, List.length_cons, List.append_assoc,
      Nat.add_right_comm i a.length 1, ← Nat.add_assoc]

theorem planOkBytes_of_ok (pkt : Nat → Bytes → Bool → Except Err Bytes) (pl : List (Bytes × Bool)) (i : Nat) (B : Bytes)
    (h : planBytes pkt pl i = .ok B) : planOkBytes pkt pl i = B := by
  have := planOkBytes_append pkt pl [] i B h
  simpa [planOkBytes] using this

theorem stuck_of_refused (pkt : Nat → Bytes → Bool → Except Err Bytes) (a plan : List (Bytes × Bool)) (A : Bytes)
    (c : Bytes) (f : Bool) (e : Err) (hA : planBytes pkt a 0 = .ok A) (hr : pkt a.length c f = .error e)
    (hpre : a ++ [(c, f)] <+: plan) :
    planOkBytes pkt plan 0 = A ∧ ∀ B, planBytes pkt plan 0 ≠ .ok B := by
  obtain ⟨r, rfl⟩ := hpre
  constructor
  · rw [List.append_assoc, planOkBytes_append pkt a _ 0 A hA]
    simp [planOkBytes, hr]
  · intro B hB
    rw [List.append_assoc] at hB
    obtain ⟨_, B', _, h2, _⟩ := (planBytes_append pkt a _ 0 B).1 hB
    simp [planBytes, hr] at h2

theorem chunkPlan_blocks (v : Version) (bs : Nat) (hb : 0 < bs) (E : List Bytes) (R : Bytes)
    (hfull : ∀ e ∈ E, e.length = bs) (hR : R ≠ []) :
    Encrypt.chunkPlan v bs (E.flatten ++ R) = E.map (·, false) ++ Encrypt.chunkPlan v bs R := by
  unfold Encrypt.chunkPlan
  simp only [chunks_blocks bs hb E R hfull]
  by_cases hv : v = v1
  · simp only [if_pos hv, List.map_append, List.append_assoc]
  · rcases List.eq_nil_or_concat (chunks bs R) with h0 | ⟨init, last, h1⟩
    · -- `chunks bs R` flattens to `R`, which is not empty
      have := chunks_flatten bs R
      rw [h0] at this
      exact absurd this.symm hR
    · rw [List.concat_eq_append] at h1
      simp only [if_neg hv, h1, ← List.append_assoc]
      simp

theorem chunkPlan_short (v : Version) (bs : Nat) (buf : Bytes) (hbound : buf.length ≤ bs) :
    Encrypt.chunkPlan v bs buf =
      if v = v1 then (if buf = [] then [] else [(buf, false)]) ++ [([], true)] else [(buf, true)] := by
  unfold Encrypt.chunkPlan
  by_cases h0 : buf = []
  · subst h0; simp [chunks_nil]
  · simp [chunks_short bs _ h0 hbound, h0]

theorem nonfinal_prefix (v : Version) (bs : Nat) (hb : 0 < bs) (E : List Bytes) (R : Bytes)
    (hfull : ∀ e ∈ E, e.length = bs) (hR : R ≠ []) :
    E.map (·, false) <+: Encrypt.chunkPlan v bs (E.flatten ++ R) :=
  ⟨_, (chunkPlan_blocks v bs hb E R hfull hR).symm⟩

theorem settled_plan (v : Version) (bs : Nat) (hb : 0 < bs) (E : List Bytes) (buf : Bytes)
    (hfull : ∀ e ∈ E, e.length = bs) (hbound : buf.length ≤ bs) (hne : buf = [] → E = []) :
    Encrypt.chunkPlan v bs (E.flatten ++ buf) =
      E.map (·, false) ++
        if v = v1 then (if buf = [] then [] else [(buf, false)]) ++ [([], true)] else [(buf, true)] := by
  by_cases h0 : buf = []
  · rw [hne h0, List.flatten_nil, List.nil_append, chunkPlan_short v bs buf hbound]
    rfl
  · rw [chunkPlan_blocks v bs hb E buf hfull h0, chunkPlan_short v bs buf hbound]

/-! ## after a fault: the dead states -/

section dead
variable {ω : Type} (wr : ω → Bytes → Bool × ω) (obs : ω → Bytes)

/-- a packet function refuses by packet NUMBER only (`numBlocks.check()`; the
    version panics of the real packet functions do not depend on the block either) -/
def IndexFail (pkt : Nat → Bytes → Bool → Except Err Bytes) : Prop :=
  ∀ i c f e, pkt i c f = .error e → ∀ c' f', ∃ e', pkt i c' f' = .error e'

/-- the stream can never write again: the encoder has failed, or the packet
    number is refused -/
def Dead (cfg : Cfg) (st : PSt ω) : Prop :=
  st.codec.failed = true ∨ ∀ c f, ∃ e, cfg.pkt st.n c f = .error e

theorem dead_emit (cfg : Cfg) (f : Bool) (st : PSt ω) (hd : Dead cfg st) :
    (emitBlock wr cfg f st).1 ≠ none ∧ (emitBlock wr cfg f st).2.codec = st.codec ∧
    Dead cfg (emitBlock wr cfg f st).2 := by
  rcases emitBlock_eq wr cfg f st with ⟨e, h, _⟩ | ⟨b, hb, _, _, h⟩
  · rw [h]
    exact ⟨nofun, rfl, hd⟩
  · -- a packet exists, so it is the encoder that has failed: `Encode` does nothing
    have hf : st.codec.failed = true := by
      rcases hd with hd | hd
      · exact hd
      · obtain ⟨e, he⟩ := hd (st.buf.take cfg.bs) f
        rw [hb] at he
        cases he
    rw [h, encode_failed wr cfg.pieces st.codec b hf]
    exact ⟨nofun, rfl, Or.inl hf⟩

theorem dead_writeLoop (cfg : Cfg) (len fuel : Nat) (st : PSt ω) (hd : Dead cfg st) :
    (writeLoop wr cfg len fuel st).2.2.codec = st.codec ∧ Dead cfg (writeLoop wr cfg len fuel st).2.2 := by
  fun_induction writeLoop wr cfg len fuel st with
  | case1 st => exact ⟨rfl, hd⟩
  | case2 fuel st hgt e st' he =>
    obtain ⟨_, h2, h3⟩ := dead_emit wr cfg false st hd
    rw [he] at h2 h3
    split <;> exact ⟨h2, h3⟩
  | case3 fuel st hgt st' he ih =>
    have h1 := (dead_emit wr cfg false st hd).1
    rw [he] at h1
    exact absurd rfl h1
  | case4 fuel st hgt => exact ⟨rfl, hd⟩

theorem dead_write_codec (cfg : Cfg) (st : PSt ω) (p : Bytes) (hd : Dead cfg st) :
    (st.write wr cfg p).2.2.codec = st.codec ∧ Dead cfg (st.write wr cfg p).2.2 := by
  unfold PSt.write
  split
  · exact ⟨rfl, hd⟩
  · exact dead_writeLoop wr cfg p.length _ { st with buf := st.buf ++ p } hd

theorem dead_writes_codec (cfg : Cfg) : ∀ (ps : List Bytes) (st : PSt ω), Dead cfg st →
    (PSt.writes wr cfg st ps).2.codec = st.codec ∧ Dead cfg (PSt.writes wr cfg st ps).2 := by
  intro ps
  induction ps with
  | nil => intro st hd; exact ⟨rfl, hd⟩
  | cons p ps ih =>
    intro st hd
    obtain ⟨h1, h2⟩ := dead_write_codec wr cfg st p hd
    obtain ⟨h3, h4⟩ := ih _ h2
    exact ⟨h3.trans h1, h4⟩

theorem dead_close_codec (cfg : Cfg) (st : PSt ω) (hd : Dead cfg st) :
    (st.close wr cfg).1 ≠ none ∧ (st.close wr cfg).2.codec = st.codec ∧ Dead cfg (st.close wr cfg).2 := by
  have h1 := dead_emit wr cfg false st hd
  rcases close_cases wr cfg st with ⟨_, h⟩ | ⟨_, _, ⟨e, _, h⟩ | ⟨hn, _⟩ | ⟨hn, _⟩⟩
  · rw [h]
    exact dead_emit wr cfg true st hd
  · rw [h]
    exact h1
  · exact absurd hn h1.1
  · exact absurd hn h1.1

end dead

end Saltpack.Proofs.SenderP
