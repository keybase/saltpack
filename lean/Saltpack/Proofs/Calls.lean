/-
  What long-term key objects are asked to do, and freshness / fail-closed
  randomness.
-/
import Saltpack.Model.Decrypt
import Saltpack.Model.Signcrypt
import Saltpack.Model.Sign
import Saltpack.Model.Encrypt
import Saltpack.Proofs.Receiver
import Saltpack.Proofs.RandBytes

namespace Saltpack.Proofs
open Saltpack

/-! ## the calls a receiver may make on long-term keys -/

/-- the only nonces under which a long-term box secret key ever opens a box:
    the V1 constant, or the `saltpack_recipsb` prefix followed by a 64-bit index
    — a function of the recipient *index*, never of message bytes -/
def PayloadKeyNonce (n : Bytes) : Prop := n = Nonce.payloadKeyBoxV1 ∨ ∃ i : Nat, n = Nonce.payloadKeyBoxV2 i

/-- what a decrypting receiver may ask of long-term keys -/
def DecCallOK : KeyCall → Prop
  | .unbox _ _ n _ => PayloadKeyNonce n
  | .sharedUnbox _ _ n _ => PayloadKeyNonce n
  | .box _ _ _ m => m = zeros 32
  | .precompute _ _ => True
  | .sharedBox _ _ _ _ => False
  | .sign _ _ => False

theorem Calls.payloadKeyBox_ok {v : Version} {i : Nat} {n : Bytes}
    (h : Nonce.payloadKeyBox v i = .ok n) : PayloadKeyNonce n := by
  unfold Nonce.payloadKeyBox at h
  split at h
  · cases h; exact Or.inl rfl
  · split at h
    · cases h; exact Or.inr ⟨i, rfl⟩
    · cases h

/-- every call of a log satisfies `p` -/
def Calls.All (p : KeyCall → Prop) (l : List KeyCall) : Prop := ∀ c ∈ l, p c

theorem Calls.All.nil {p : KeyCall → Prop} : Calls.All p [] := fun _ h => absurd h List.not_mem_nil

theorem Calls.All.cons {p : KeyCall → Prop} {c : KeyCall} {l : List KeyCall} (hc : p c) (hl : Calls.All p l) :
    Calls.All p (c :: l) := by
  intro x hx
  rcases List.mem_cons.mp hx with rfl | hx
  · exact hc
  · exact hl x hx

theorem Calls.All.append {p : KeyCall → Prop} {l l' : List KeyCall} (h : Calls.All p l) (h' : Calls.All p l') :
    Calls.All p (l ++ l') := by
  intro x hx
  rcases List.mem_append.mp hx with hx | hx
  · exact h x hx
  · exact h' x hx

/-- every call of a log is admissible -/
def Calls.AllOK (l : List KeyCall) : Prop := ∀ c ∈ l, DecCallOK c

theorem Calls.AllOK.append {l l' : List KeyCall} (h : Calls.AllOK l) (h' : Calls.AllOK l') : Calls.AllOK (l ++ l') :=
  Calls.All.append h h'

/-! ## what the senders take from the randomness source -/

theorem Calls.readFull_zero (src : Rand.Source) : Rand.readFull 0 src = some ([], src) := by
  cases src <;> rfl

theorem readFull_spec (n : Nat) (src : Rand.Source) (b : Bytes) (rest : Rand.Source)
    (h : Rand.readFull n src = some (b, rest)) :
    b.length = n ∧ ∃ k, k ≤ src.length ∧ rest = src.drop k ∧
      b = (((src.take k).map (·.data)).flatten).take n := by
  induction src generalizing n b with
  | nil =>
    cases n with
    | zero =>
      rw [Calls.readFull_zero] at h
      cases h
      exact ⟨rfl, 0, Nat.le_refl _, rfl, rfl⟩
    | succ n => simp [Rand.readFull] at h
  | cons r src ih =>
    cases n with
    | zero =>
      rw [Calls.readFull_zero] at h
      cases h
      exact ⟨rfl, 0, Nat.zero_le _, rfl, rfl⟩
    | succ n =>
      rcases readFull_cons_ok h with ⟨rfl, hl, rfl⟩ | ⟨more, hg, _, _, hrec, rfl⟩
      · exact ⟨hl, 1, by simp, rfl, by simp⟩
      · have hlt : r.data.length < n + 1 := by
          rw [List.length_take] at hg
          omega
        have hgot : r.data.take (n + 1) = r.data := List.take_of_length_le (by omega)
        rw [hgot] at hrec ⊢
        obtain ⟨hl, k, hk, hr, hb⟩ := ih _ _ hrec
        refine ⟨by rw [List.length_append, hl]; omega, k + 1, by simp; omega, by simpa using hr, ?_⟩
        simp only [List.take_succ_cons, List.map_cons, List.flatten_cons]
        rw [List.take_append, List.take_of_length_le (by omega : r.data.length ≤ n + 1), ← hb]

theorem readFull_fail_closed (n : Nat) (src : Rand.Source) (k : Nat) (hk : k < src.length)
    (herr : (src[k]'hk).err = true)
    (hshort : ((src.take (k + 1)).map (·.data.length)).sum < n) :
    Rand.readFull n src = none := by
  induction src generalizing n k with
  | nil => simp at hk
  | cons r src ih =>
    cases n with
    | zero => simp at hshort
    | succ n =>
      simp only [List.take_succ_cons, List.map_cons, List.sum_cons] at hshort
      rw [Rand.readFull]
      have hgot : r.data.take (n + 1) = r.data := List.take_of_length_le (by omega)
      rw [hgot]
      rw [if_neg (by omega)]
      cases k with
      | zero =>
        simp only [List.getElem_cons_zero] at herr
        rw [if_pos herr]
      | succ k =>
        simp only [List.getElem_cons_succ] at herr
        rw [ih (n + 1 - r.data.length) k (by simpa using hk) herr (by omega)]
        split
        · rfl
        · split <;> rfl

theorem readFull_short (n : Nat) (src : Rand.Source)
    (hshort : (src.map (·.data.length)).sum < n) : Rand.readFull n src = none := by
  induction src generalizing n with
  | nil =>
    cases n with
    | zero => simp at hshort
    | succ n => rfl
  | cons r src ih =>
    cases n with
    | zero => simp at hshort
    | succ n =>
      simp only [List.map_cons, List.sum_cons] at hshort
      rw [Rand.readFull]
      have hgot : r.data.take (n + 1) = r.data := List.take_of_length_le (by omega)
      rw [hgot]
      rw [if_neg (by omega)]
      rw [ih (n + 1 - r.data.length) (by omega)]
      split
      · rfl
      · split <;> rfl

/-- the unread rest is a suffix of the source: consecutive operations consume
    disjoint consecutive segments -/
theorem sealRand_draws (P : Prims) (bs : Nat) (v : Version) (sender : Option Bytes)
    (rs : List Encrypt.Recipient) (eph : Encrypt.EphSource) (src : Rand.Source) (pt m : Bytes) (rest : Rand.Source)
    (h : Encrypt.sealRand P bs v sender rs eph src pt = .ok (m, rest)) :
    ∃ js src1 ephSec src2 pk,
      Encrypt.shuffleDraws (rs.length - 1) src (src.length + 1) = .ok (js, src1) ∧
      (match eph with
        | .given s => ephSec = s ∧ src2 = src1
        | .fromRand => Rand.readFull 32 src1 = some (ephSec, src2)
        | .fails => False) ∧
      Rand.readFull 32 src2 = some (pk, rest) ∧
      Encrypt.sealWith P bs v sender (Rand.shuffle js rs) ephSec pk pt = .ok m := by
  obtain ⟨js, ephSec, pk, hs, hseal⟩ := enc_sealRand_ok P bs v sender rs eph src pt m rest h
  obtain ⟨src1, src2, hsd, heph, hpk⟩ := sealSecrets_ok _ eph src js ephSec pk rest hs
  exact ⟨js, src1, ephSec, src2, pk, hsd, heph, hpk, hseal⟩

theorem attachedRand_draws (P : Prims) (bs : Nat) (v : Version) (signer : Bytes) (src : Rand.Source)
    (msg m : Bytes) (rest : Rand.Source)
    (h : Sign.attachedRand P bs v signer src msg = .ok (m, rest)) :
    ∃ n, Rand.readFull Sign.sigNonceLen src = some (n, rest) ∧ Sign.attachedWith P bs v signer n msg = .ok m := by
  unfold Sign.attachedRand at h
  split at h
  · cases h
  split at h
  · cases h
  rename_i n src' hr
  split at h
  · cases h
  rename_i m' hm
  cases h
  exact ⟨n, hr, hm⟩

/-- fail closed, end to end: if the payload-key read fails, `Seal` returns an
    error (nothing is emitted: the model returns no bytes at all) -/
theorem sealRand_fail_closed (P : Prims) (bs : Nat) (v : Version) (sender : Option Bytes)
    (rs : List Encrypt.Recipient) (s : Bytes) (src : Rand.Source) (pt : Bytes)
    (hsingle : rs.length = 1)
    (hfail : Rand.readFull 32 src = none) :
    ∃ e, Encrypt.sealRand P bs v sender rs (.given s) src pt = .error e := by
  unfold Encrypt.sealRand
  split
  · exact ⟨_, rfl⟩
  split
  · exact ⟨_, rfl⟩
  rw [hsingle]
  simp only [Nat.sub_self, Encrypt.shuffleDraws, hfail]
  exact ⟨_, rfl⟩

theorem payloadKeyBoxV2_inj (i j : Nat) (hi : i < 2 ^ 64) (hj : j < 2 ^ 64)
    (h : Nonce.payloadKeyBoxV2 i = Nonce.payloadKeyBoxV2 j) : i = j := by
  unfold Nonce.payloadKeyBoxV2 at h
  exact be64_inj i j hi hj (List.append_cancel_left h)

end Saltpack.Proofs
