/-
  The model of package `basic` (Model/Basic.lean) as a keyring of the receivers.
  `encKeys` is a Go map: an association list whose keys every import keeps distinct (`WF`).
  An HONEST keyring (every stored public key is the public key of its secret) answers, on
  32-byte kids, exactly like `faithfulKeyring P (order.map sec)` for EVERY iteration order
  `order` of the map; the receivers consult a keyring at a few arguments only, so what is
  proved of faithful keyrings holds of basic ones.
-/
import Saltpack.Model.Basic
import Saltpack.Proofs.RingRT
import Saltpack.Proofs.DecHeader

namespace Saltpack.Proofs.BasicRing
open Saltpack Saltpack.Basic Saltpack.Proofs.RTSig

/-! ## kidToPublicKey -/

theorem kid_length (kid : Bytes) : (kidToPublicKey kid).length = 32 := by
  simp [kidToPublicKey, zeros]

theorem kid_of_len32 {kid : Bytes} (h : kid.length = 32) : kidToPublicKey kid = kid := by
  unfold kidToPublicKey
  rw [List.take_append_of_le_length (by omega), List.take_of_length_le (by omega)]

theorem kid_idem (kid : Bytes) : kidToPublicKey (kidToPublicKey kid) = kidToPublicKey kid :=
  kid_of_len32 (kid_length kid)

theorem kid_short {kid : Bytes} (h : kid.length ≤ 32) :
    kidToPublicKey kid = kid ++ zeros (32 - kid.length) := by
  unfold kidToPublicKey zeros
  rw [List.take_append, List.take_of_length_le (by omega), List.take_replicate, Nat.min_eq_left (by omega)]

theorem kid_long {kid : Bytes} (h : 32 ≤ kid.length) : kidToPublicKey kid = kid.take 32 := by
  unfold kidToPublicKey
  rw [List.take_append_of_le_length h]

theorem kid_append_of_len32 {key : Bytes} (h : key.length = 32) (extra : Bytes) :
    kidToPublicKey (key ++ extra) = key := by
  unfold kidToPublicKey
  rw [List.append_assoc, List.take_append_of_le_length (by omega), List.take_of_length_le (by omega)]

/-! ## the association list is a map -/

/-- keys of the map are pairwise distinct -/
def MapWF (m : List SecretKey) : Prop := (m.map (·.pub)).Nodup

theorem mapInsert_mem {m : List SecretKey} {nk e : SecretKey} (h : e ∈ mapInsert m nk) : e = nk ∨ e ∈ m := by
  induction m with
  | nil => simp [mapInsert] at h; exact Or.inl h
  | cons a rest ih =>
    unfold mapInsert at h
    split at h
    · rcases List.mem_cons.1 h with h | h
      · exact Or.inl h
      · exact Or.inr (List.mem_cons_of_mem _ h)
    · rcases List.mem_cons.1 h with h | h
      · exact Or.inr (h ▸ List.mem_cons_self)
      · rcases ih h with h | h
        · exact Or.inl h
        · exact Or.inr (List.mem_cons_of_mem _ h)

theorem mapInsert_wf {m : List SecretKey} (nk : SecretKey) (h : MapWF m) : MapWF (mapInsert m nk) := by
  induction m with
  | nil => simp [mapInsert, MapWF]
  | cons a rest ih =>
    unfold MapWF at h ih ⊢
    rw [List.map_cons, List.nodup_cons] at h
    unfold mapInsert
    split
    · rename_i heq
      have heq : a.pub = nk.pub := bytes_beq_iff.1 heq
      rw [List.map_cons, List.nodup_cons, ← heq]
      exact h
    · rename_i hne
      have hne : a.pub ≠ nk.pub := by simpa using hne
      rw [List.map_cons, List.nodup_cons]
      refine ⟨?_, ih h.2⟩
      intro hmem
      obtain ⟨e, he, hea⟩ := List.mem_map.1 hmem
      rcases mapInsert_mem he with rfl | he'
      · exact hne hea.symm
      · exact h.1 (List.mem_map.2 ⟨e, he', hea⟩)

theorem mapGet_cons (a : SecretKey) (m : List SecretKey) (p : Bytes) :
    mapGet (a :: m) p = if a.pub == p then some a else mapGet m p := by
  unfold mapGet
  rw [List.find?_cons]
  cases a.pub == p <;> rfl

theorem mapGet_mapInsert (m : List SecretKey) (nk : SecretKey) (p : Bytes) :
    mapGet (mapInsert m nk) p = if nk.pub == p then some nk else mapGet m p := by
  induction m with
  | nil => exact mapGet_cons nk [] p
  | cons a rest ih =>
    unfold mapInsert
    cases ha : a.pub == nk.pub
    · rw [if_neg Bool.false_ne_true, mapGet_cons, mapGet_cons, ih]
      cases hp : a.pub == p
      · rfl
      · rw [if_pos rfl, if_pos rfl, if_neg (fun hn => by rw [bytes_beq_iff.1 hn, hp] at ha; cases ha)]
    · rw [if_pos rfl, mapGet_cons, mapGet_cons, bytes_beq_iff.1 ha]
      split <;> rfl

theorem mapGet_insert_same (m : List SecretKey) (nk : SecretKey) : mapGet (mapInsert m nk) nk.pub = some nk := by
  rw [mapGet_mapInsert, if_pos (bytes_beq_rfl _)]

theorem mapGet_insert_other (m : List SecretKey) (nk : SecretKey) {p : Bytes} (h : p ≠ nk.pub) :
    mapGet (mapInsert m nk) p = mapGet m p := by
  rw [mapGet_mapInsert, if_neg (fun hb => h (bytes_beq_iff.1 hb).symm)]

theorem mapGet_mem {m : List SecretKey} {p : Bytes} {e : SecretKey} (h : mapGet m p = some e) : e ∈ m ∧ e.pub = p := by
  unfold mapGet at h
  have := List.find?_some h
  exact ⟨List.mem_of_find?_eq_some h, bytes_beq_iff.1 this⟩

theorem mapGet_of_mem {m : List SecretKey} (hwf : MapWF m) {e : SecretKey} (he : e ∈ m) : mapGet m e.pub = some e := by
  induction m with
  | nil => cases he
  | cons a rest ih =>
    have hnd := List.nodup_cons.1 hwf
    rw [mapGet_cons]
    rcases List.mem_cons.1 he with rfl | he'
    · rw [if_pos (bytes_beq_rfl _)]
    · have hne : ¬ (a.pub == e.pub) = true := fun hb => hnd.1 (List.mem_map.2 ⟨e, he', (bytes_beq_iff.1 hb).symm⟩)
      rw [if_neg hne, ih hnd.2 he']

theorem mapGet_eq_some_iff {m : List SecretKey} (hwf : MapWF m) {p : Bytes} {e : SecretKey} :
    mapGet m p = some e ↔ e ∈ m ∧ e.pub = p :=
  ⟨mapGet_mem, fun ⟨he, hp⟩ => hp ▸ mapGet_of_mem hwf he⟩

theorem mapGet_eq_none_iff {m : List SecretKey} {p : Bytes} : mapGet m p = none ↔ ∀ e ∈ m, e.pub ≠ p := by
  unfold mapGet
  rw [List.find?_eq_none]
  exact ⟨fun h e he heq => h e he (bytes_beq_iff.2 heq), fun h e he hb => h e he (bytes_beq_iff.1 hb)⟩

/-- the keyring invariant: public keys in `encKeys` are pairwise distinct -/
def WF (k : Basic.Keyring) : Prop := MapWF k.encKeys

theorem empty_wf : WF Basic.Keyring.empty := List.nodup_nil

theorem importBoxKey_wf {k : Basic.Keyring} (pub sec : Bytes) (h : WF k) : WF (k.importBoxKey pub sec) :=
  mapInsert_wf _ h

theorem importAll_wf {k : Basic.Keyring} (es : List SecretKey) (h : WF k) : WF (k.importAll es) := by
  induction es generalizing k with
  | nil => exact h
  | cons e rest ih => exact ih (importBoxKey_wf e.pub e.sec h)

theorem importAll_empty_wf (es : List SecretKey) : WF (Basic.Keyring.empty.importAll es) := importAll_wf es empty_wf

theorem mapGet_importAll (k : Basic.Keyring) (es : List SecretKey) (p : Bytes) :
    mapGet (k.importAll es).encKeys p =
      match es.reverse.find? (fun e => e.pub == p) with
      | some e => some e
      | none => mapGet k.encKeys p := by
  induction es generalizing k with
  | nil => rfl
  | cons e rest ih =>
    rw [Basic.Keyring.importAll, ih, List.reverse_cons, List.find?_append]
    cases rest.reverse.find? (fun e => e.pub == p) with
    | some e' => rfl
    | none =>
      show mapGet (mapInsert k.encKeys e) p = _
      rw [mapGet_mapInsert, Option.none_or, List.find?_cons]
      cases e.pub == p <;> rfl

/-! ## LookupBoxSecretKey -/

theorem lookupFrom_spec (k : Basic.Keyring) (kids : List Bytes) (o : Nat) :
    (∃ (idx : Nat) (sk : SecretKey), ∃ (h : idx < kids.length),
        mapGet k.encKeys (kidToPublicKey kids[idx]) = some sk ∧
        (∀ j (hj : j < idx), mapGet k.encKeys (kidToPublicKey (kids[j]'(by omega))) = none) ∧
        k.lookupFrom kids o = (((idx + o : Nat) : Int), some sk)) ∨
    ((∀ kid ∈ kids, mapGet k.encKeys (kidToPublicKey kid) = none) ∧ k.lookupFrom kids o = (-1, none)) := by
  induction kids generalizing o with
  | nil => exact .inr ⟨fun _ h => (nomatch h), rfl⟩
  | cons kid rest ih =>
    rw [Basic.Keyring.lookupFrom]
    cases hg : mapGet k.encKeys (kidToPublicKey kid) with
    | some sk =>
      exact .inl ⟨0, sk, Nat.zero_lt_succ _, hg, fun j hj => (nomatch hj), by rw [Nat.zero_add]⟩
    | none =>
      rcases ih (o + 1) with ⟨idx, sk, h, h1, h2, h3⟩ | ⟨h1, h2⟩
      · refine .inl ⟨idx + 1, sk, Nat.succ_lt_succ h, h1, fun j hj => ?_, by rw [h3, Nat.add_right_comm]; rfl⟩
        cases j with
        | zero => exact hg
        | succ j => exact h2 j (Nat.lt_of_succ_lt_succ hj)
      · refine .inr ⟨fun kid' hk => ?_, h2⟩
        rcases List.mem_cons.1 hk with rfl | hk
        · exact hg
        · exact h1 kid' hk

/-! ## honest keyrings answer like the faithful keyring -/

/-- every stored public key is the public key of its secret (true of every key
    made by `GenerateBoxKey`; for `ImportBoxKey` it is the caller's business) -/
def Honest (P : Prims) (k : Basic.Keyring) : Prop := ∀ e ∈ k.encKeys, e.pub = P.boxPub e.sec

theorem empty_honest (P : Prims) : Honest P Basic.Keyring.empty := by intro e h; cases h

theorem importBoxKey_honest {P : Prims} {k : Basic.Keyring} (h : Honest P k) (sec : Bytes) :
    Honest P (k.importBoxKey (P.boxPub sec) sec) := by
  intro e he
  rcases mapInsert_mem he with rfl | he
  · rfl
  · exact h e he

theorem importAll_honest {P : Prims} {k : Basic.Keyring} (h : Honest P k) (es : List SecretKey)
    (hes : ∀ e ∈ es, e.pub = P.boxPub e.sec) : Honest P (k.importAll es) := by
  induction es generalizing k with
  | nil => exact h
  | cons e rest ih =>
    refine ih ?_ (fun e' he' => hes e' (List.mem_cons_of_mem _ he'))
    rw [hes e List.mem_cons_self]
    exact importBoxKey_honest h e.sec

theorem find?_congr_mem {α : Type} {l : List α} {p q : α → Bool} (h : ∀ a ∈ l, p a = q a) :
    l.find? p = l.find? q := by
  induction l with
  | nil => rfl
  | cons a rest ih =>
    rw [List.find?_cons, List.find?_cons, h a List.mem_cons_self,
      ih (fun b hb => h b (List.mem_cons_of_mem _ hb))]

theorem find_perm {m order : List SecretKey} (hwf : MapWF m) (hperm : order.Perm m) (p : Bytes) :
    order.find? (fun e => e.pub == p) = m.find? (fun e => e.pub == p) := by
  cases hf : order.find? (fun e => e.pub == p) with
  | some a =>
    have ha : a ∈ m := hperm.mem_iff.1 (List.mem_of_find?_eq_some hf)
    have hp : a.pub = p := by
      have := List.find?_some hf
      exact bytes_beq_iff.1 this
    exact ((mapGet_eq_some_iff hwf).2 ⟨ha, hp⟩).symm
  | none =>
    symm
    rw [List.find?_eq_none] at hf ⊢
    intro e he
    exact hf e (hperm.mem_iff.2 he)

theorem get_eq_find (P : Prims) {k : Basic.Keyring} (hwf : WF k) (hh : Honest P k) {order : List SecretKey}
    (hperm : order.Perm k.encKeys) {kid : Bytes} (hk : kid.length = 32) :
    (mapGet k.encKeys (kidToPublicKey kid)).map (·.sec) =
      (order.map (·.sec)).find? (fun s => P.boxPub s == kid) := by
  rw [kid_of_len32 hk, List.find?_map]
  have h1 : order.find? ((fun s => P.boxPub s == kid) ∘ (·.sec)) = order.find? (fun e => e.pub == kid) := by
    apply find?_congr_mem
    intro e he
    have := hh e (hperm.mem_iff.1 he)
    simp [this]
  rw [h1, find_perm hwf hperm kid]
  rfl

theorem lookupFrom_eq_faithful (P : Prims) {k : Basic.Keyring} (hwf : WF k) (hh : Honest P k) {order : List SecretKey}
    (hperm : order.Perm k.encKeys) (kids : List Bytes) (hk : ∀ kid ∈ kids, kid.length = 32) (o : Nat) :
    ((k.lookupFrom kids o).1, (k.lookupFrom kids o).2.map (·.sec)) =
      match (lookupList P (order.map (·.sec)) kids o).head? with
      | some (i, s) => (i, some s)
      | none => (-1, none) := by
  induction kids generalizing o with
  | nil => simp [Basic.Keyring.lookupFrom, lookupList]
  | cons kid rest ih =>
    have hget := get_eq_find P hwf hh hperm (hk kid List.mem_cons_self)
    unfold lookupList
    rw [List.zipIdx_cons, List.filterMap_cons]
    cases hg : mapGet k.encKeys (kidToPublicKey kid) with
    | some sk =>
      rw [hg] at hget
      simp only [Option.map_some] at hget
      simp [Basic.Keyring.lookupFrom, hg, ← hget]
    | none =>
      rw [hg] at hget
      simp only [Option.map_none] at hget
      simp only [← hget, Option.map_none]
      have hstep : k.lookupFrom (kid :: rest) o = k.lookupFrom rest (o + 1) := by
        simp [Basic.Keyring.lookupFrom, hg]
      rw [hstep]
      exact ih (fun kid' h' => hk kid' (List.mem_cons_of_mem _ h')) (o + 1)

theorem toRing_lookup_eq (P : Prims) {k : Basic.Keyring} (hwf : WF k) (hh : Honest P k) {order : List SecretKey}
    (hperm : order.Perm k.encKeys) (kids : List Bytes) (hk : ∀ kid ∈ kids, kid.length = 32) :
    (k.toRing order).lookupBoxSecretKey kids = (faithfulKeyring P (order.map (·.sec))).lookupBoxSecretKey kids := by
  rw [fk_lookup]
  exact lookupFrom_eq_faithful P hwf hh hperm kids hk 0

theorem toRing_import (k : Basic.Keyring) (order : List SecretKey) {kid : Bytes} (h : kid.length = 32) :
    (k.toRing order).importBoxEphemeralKey kid = some kid :=
  congrArg some (kid_of_len32 h)

theorem toRing_lookupPub (k : Basic.Keyring) (order : List SecretKey) {kid : Bytes} (h : kid.length = 32) :
    (k.toRing order).lookupBoxPublicKey kid = some kid :=
  congrArg some (kid_of_len32 h)

theorem toRing_lookupSig (k : Basic.Keyring) (order : List SecretKey) {kid : Bytes} (h : kid.length = 32) :
    (k.toRing order).lookupSigningPublicKey kid = some kid :=
  congrArg some (kid_of_len32 h)

theorem toRing_never_nil (k : Basic.Keyring) (order : List SecretKey) (kid : Bytes) :
    (k.toRing order).lookupBoxPublicKey kid ≠ none ∧ (k.toRing order).importBoxEphemeralKey kid ≠ none ∧
    (k.toRing order).lookupSigningPublicKey kid ≠ none :=
  ⟨Option.some_ne_none _, Option.some_ne_none _, Option.some_ne_none _⟩

theorem toRing_all (k : Basic.Keyring) (order : List SecretKey) :
    (k.toRing order).getAllBoxSecretKeys = order.map (·.sec) := rfl

/-! ## the receivers consult a keyring only at a few arguments -/

theorem tryVisible_congr (P : Prims) (kr1 kr2 : Saltpack.Keyring) (h : EncHeader) (eph : Bytes)
    (hl : kr1.lookupBoxSecretKey ((Decrypt.visibleIndices h.receivers).map (fun i => Decrypt.kidOf (h.receivers.getD i default))) =
          kr2.lookupBoxSecretKey ((Decrypt.visibleIndices h.receivers).map (fun i => Decrypt.kidOf (h.receivers.getD i default)))) :
    Decrypt.tryVisible P kr1 h eph = Decrypt.tryVisible P kr2 h eph := by
  unfold Decrypt.tryVisible
  simp only [hl]

/-- `LookupBoxPublicKey` matters on 32-byte sender keys only: `rawBoxKeyFromSlice` has
    refused other lengths before the lookup -/
theorem processHeader_congr (P : Prims) (valid : Validator) (kr1 kr2 : Saltpack.Keyring) (hh : Bytes) (h : EncHeader)
    (hi : kr1.importBoxEphemeralKey h.ephemeral = kr2.importBoxEphemeralKey h.ephemeral)
    (hl : kr1.lookupBoxSecretKey ((Decrypt.visibleIndices h.receivers).map (fun i => Decrypt.kidOf (h.receivers.getD i default))) =
          kr2.lookupBoxSecretKey ((Decrypt.visibleIndices h.receivers).map (fun i => Decrypt.kidOf (h.receivers.getD i default))))
    (ha : kr1.getAllBoxSecretKeys = kr2.getAllBoxSecretKeys)
    (hp : ∀ k, k.length = 32 → kr1.lookupBoxPublicKey k = kr2.lookupBoxPublicKey k) :
    Decrypt.processHeader P valid kr1 hh h = Decrypt.processHeader P valid kr2 hh h := by
  rw [processHeader_eq, processHeader_eq, hi]
  refine andThen_congr fun _ _ => andThen_congr fun eph _ => ?_
  rw [tryVisible_congr P kr1 kr2 h eph hl]
  refine andThen_congr fun vis _ => ?_
  have hf : findEntry P kr1 h eph vis = findEntry P kr2 h eph vis := by
    unfold findEntry
    rw [ha]
  rw [hf]
  -- the sender key is looked up only where the step before it, the length test, has succeeded
  refine andThen_congr fun r _ => andThen_congr fun senderKey _ => andThen_congr fun _ hlen => ?_
  cases hb : senderKey.length != 32 with
  | true => rw [hb] at hlen; cases hlen
  | false => rw [hp senderKey (by simpa using hb)]

/-- a header whose ephemeral key and visible key ids are 32 bytes long (every
    header a basic-key sender writes; any other field, and the packets, may be
    anything) -/
def Hdr32 (h : EncHeader) : Prop :=
  h.ephemeral.length = 32 ∧
  ∀ kid ∈ (Decrypt.visibleIndices h.receivers).map (fun i => Decrypt.kidOf (h.receivers.getD i default)), kid.length = 32

theorem dec_processHeader_eq (P : Prims) {k : Basic.Keyring} (hwf : WF k) (hh : Honest P k) {order : List SecretKey}
    (hperm : order.Perm k.encKeys) (valid : Validator) (hhash : Bytes) (h : EncHeader) (h32 : Hdr32 h) :
    Decrypt.processHeader P valid (k.toRing order) hhash h =
      Decrypt.processHeader P valid (faithfulKeyring P (order.map (·.sec))) hhash h :=
  processHeader_congr P valid (k.toRing order) (faithfulKeyring P (order.map SecretKey.sec)) hhash h
    (toRing_import k order h32.1) (toRing_lookup_eq P hwf hh hperm _ h32.2) (toRing_all k order)
    (fun _ hkid => toRing_lookupPub k order hkid)

theorem dec_openStream_ok_eq (P : Prims) {k : Basic.Keyring} (hwf : WF k) (hh : Honest P k) {order : List SecretKey}
    (hperm : order.Perm k.encKeys) (valid : Validator) (hb : Bytes) (h : EncHeader) (ps : PStream EncBlock)
    (h32 : Hdr32 h) :
    Decrypt.openStream P valid (k.toRing order) (.ok hb h) ps =
      Decrypt.openStream P valid (faithfulKeyring P (order.map (·.sec))) (.ok hb h) ps := by
  unfold Decrypt.openStream
  simp only []
  rw [dec_processHeader_eq P hwf hh hperm valid (P.hash hb) h h32]

theorem dec_openAll_ok_eq (P : Prims) {k : Basic.Keyring} (hwf : WF k) (hh : Honest P k) {order : List SecretKey}
    (hperm : order.Perm k.encKeys) (valid : Validator) (hb : Bytes) (h : EncHeader) (ps : PStream EncBlock)
    (h32 : Hdr32 h) :
    Decrypt.openAll P valid (k.toRing order) (.ok hb h) ps =
      Decrypt.openAll P valid (faithfulKeyring P (order.map (·.sec))) (.ok hb h) ps := by
  unfold Decrypt.openAll
  rw [dec_openStream_ok_eq P hwf hh hperm valid hb h ps h32]

theorem hdr32_of_header (P : Prims) (hP : P.Lawful) {v : Version} (hv : v = v1 ∨ v = v2) (sender : Option Bytes)
    (eph pk : Bytes) (rs : List Encrypt.Recipient) (h : EncHeader)
    (hhdr : Encrypt.header P v sender eph pk rs = .ok h)
    (hlen : ∀ r ∈ rs, r.hidden = false → r.pub.length = 32) : Hdr32 h := by
  obtain ⟨_, _, _, he, _, _, _, hkids⟩ := header_spec P hv sender eph pk rs h hhdr
  refine ⟨by rw [he]; exact hP.pub_len eph, ?_⟩
  intro kid hkid
  rw [named_eq, hkids] at hkid
  simp only [List.mem_map, List.mem_filter] at hkid
  obtain ⟨o, ⟨⟨r, hr, rfl⟩, hvis⟩, rfl⟩ := hkid
  cases hhid : r.hidden with
  | true => simp [kidSpec, hhid, visK] at hvis
  | false => simpa [kidSpec, hhid] using hlen r hr hhid

theorem hdr32_of_sealPackets (P : Prims) (hP : P.Lawful) (bs : Nat) {v : Version} (hv : v = v1 ∨ v = v2)
    (sender : Option Bytes) (rs : List Encrypt.Recipient) (eph pk pt : Bytes) (h : EncHeader) (hb : Bytes)
    (blks : List EncBlock) (hseal : Encrypt.sealPackets P bs v sender rs eph pk pt = .ok (h, hb, blks))
    (hlen : ∀ r ∈ rs, r.hidden = false → r.pub.length = 32) : Hdr32 h := by
  obtain ⟨_, hhdr, _⟩ := sealPackets_inv P bs v sender rs eph pk pt h hb blks hseal
  exact hdr32_of_header P hP hv sender eph pk rs h hhdr hlen

/-! ### signcryption -/

/-- what a keyring makes of the state reached by one that returns sender keys as they are -/
def lookupSender (kr : Saltpack.Keyring) (st : Signcrypt.State) : Except Err Signcrypt.State :=
  match st.sender with
  | none => .ok st
  | some k =>
    match kr.lookupSigningPublicKey k with
    | none => .error .noSenderKey
    | some spk => .ok { st with sender := some spk }

/-- `signcryptOpenStream.processHeader` hands the sender key to `LookupSigningPublicKey`
    whatever its length: a keyring that returns every sender key as it is determines the
    answer of every keyring that agrees with it on the ephemeral key and the box secrets -/
theorem sc_processHeader_eq_of_identity (P : Prims) (kr1 kr2 : Saltpack.Keyring) (res : Signcrypt.Resolver) (hh : Bytes)
    (h : EncHeader)
    (hi : kr1.importBoxEphemeralKey h.ephemeral = kr2.importBoxEphemeralKey h.ephemeral)
    (ha : kr1.getAllBoxSecretKeys = kr2.getAllBoxSecretKeys)
    (h2 : ∀ k, kr2.lookupSigningPublicKey k = some k) :
    Signcrypt.processHeader P kr1 res hh h =
      ((Signcrypt.processHeader P kr2 res hh h).1, (Signcrypt.processHeader P kr2 res hh h).2.bind (lookupSender kr1)) := by
  cases hv : Signcrypt.validate h with
  | error e =>
    unfold Signcrypt.processHeader
    rw [hv]
    rfl
  | ok u =>
    cases hie : kr2.importBoxEphemeralKey h.ephemeral with
    | none =>
      unfold Signcrypt.processHeader
      rw [hv]
      simp only []
      rw [hi, hie]
      rfl
    | some eph =>
      have scFindKey_congr : scFindKey P kr1 res h eph = scFindKey P kr2 res h eph := by
        unfold scFindKey
        rw [ha]
      rw [sc_processHeader_eq P kr2 res hh h hv eph hie,
        sc_processHeader_eq P kr1 res hh h hv eph (hi.trans hie), scFindKey_congr, ha]
      unfold scHeaderTail
      cases scFindKey P kr2 res h eph with
      | error e => rfl
      | ok o =>
        cases o with
        | none => rfl
        | some pk =>
          simp only []
          cases P.sbOpen pk Nonce.senderKeySecretBox h.senderSecretbox with
          | none => rfl
          | some senderKey =>
            simp only []
            cases hz : senderKey.all (· == 0) with
            | true => rfl
            | false =>
              rw [h2 senderKey]
              simp only [Bool.false_eq_true, if_false]
              unfold Except.bind lookupSender
              simp only []
              cases kr1.lookupSigningPublicKey senderKey <;> rfl

theorem sc_processHeader_transfer (P : Prims) (kr1 kr2 : Saltpack.Keyring) (res : Signcrypt.Resolver) (hh : Bytes)
    (h : EncHeader)
    (hi : kr1.importBoxEphemeralKey h.ephemeral = kr2.importBoxEphemeralKey h.ephemeral)
    (ha : kr1.getAllBoxSecretKeys = kr2.getAllBoxSecretKeys)
    (h2 : ∀ k, kr2.lookupSigningPublicKey k = some k)
    (log : List KeyCall) (r : Except Err Signcrypt.State)
    (hph : Signcrypt.processHeader P kr2 res hh h = (log, r))
    (h1 : ∀ st k, r = .ok st → st.sender = some k → kr1.lookupSigningPublicKey k = some k) :
    Signcrypt.processHeader P kr1 res hh h = (log, r) := by
  rw [sc_processHeader_eq_of_identity P kr1 kr2 res hh h hi ha h2, hph]
  cases r with
  | error e => rfl
  | ok st =>
    obtain ⟨pk, hhash, sender⟩ := st
    cases sender with
    | none => rfl
    | some key =>
      show (log, lookupSender kr1 ⟨pk, hhash, some key⟩) = _
      unfold lookupSender
      simp only []
      rw [h1 _ key rfl rfl]

theorem sc_openAll_transfer (P : Prims) (kr1 kr2 : Saltpack.Keyring) (res : Signcrypt.Resolver)
    (hr : HeaderRead EncHeader) (ps : PStream SigncryptBlock)
    (hi : ∀ hb h, hr = .ok hb h → kr1.importBoxEphemeralKey h.ephemeral = kr2.importBoxEphemeralKey h.ephemeral)
    (ha : kr1.getAllBoxSecretKeys = kr2.getAllBoxSecretKeys)
    (h2 : ∀ k, kr2.lookupSigningPublicKey k = some k)
    (s : Option Bytes) (pt : Bytes)
    (h1 : ∀ k, s = some k → kr1.lookupSigningPublicKey k = some k)
    (hopen : Signcrypt.openAll P kr2 res hr ps = .ok (s, pt)) :
    Signcrypt.openAll P kr1 res hr ps = .ok (s, pt) := by
  cases hr with
  | unreadable => exact hopen
  | undecodable b => exact hopen
  | ok hb h =>
    cases hph : Signcrypt.processHeader P kr2 res (P.hash hb) h with
    | mk log r =>
      cases r with
      | error e =>
        simp [Signcrypt.openAll, Signcrypt.openStream, hph] at hopen
      | ok st =>
        have hopen' := hopen
        simp only [Signcrypt.openAll, Signcrypt.openStream, hph] at hopen'
        have hsnd : st.sender = s := by
          split at hopen'
          · simp only [Except.ok.injEq, Prod.mk.injEq] at hopen'
            exact hopen'.1
          · cases hopen'
        have := sc_processHeader_transfer P kr1 kr2 res (P.hash hb) h (hi hb h rfl) ha h2 log (.ok st) hph
          (by
            intro st' k' hst hk'
            cases hst
            exact h1 k' (hsnd ▸ hk'))
        simp only [Signcrypt.openAll, Signcrypt.openStream, this]
        simp only [Signcrypt.openAll, Signcrypt.openStream, hph] at hopen
        exact hopen

/-! The same for a basic keyring against the faithful keyring of its secrets.
    (`SecretKey.sec`, not `(·.sec)`, where the faithful keyring is an explicit argument: the
    anonymous function is elaborated late, and until then the unifier compares the two
    `processHeader`s by unfolding them.) -/

theorem sc_processHeader_toRing_eq (P : Prims) (k : Basic.Keyring) (order : List SecretKey) (res : Signcrypt.Resolver)
    (hh : Bytes) (h : EncHeader) (he : h.ephemeral.length = 32) :
    Signcrypt.processHeader P (k.toRing order) res hh h =
      ((Signcrypt.processHeader P (faithfulKeyring P (order.map (·.sec))) res hh h).1,
       (Signcrypt.processHeader P (faithfulKeyring P (order.map (·.sec))) res hh h).2.map
         fun st => { st with sender := st.sender.map kidToPublicKey }) := by
  rw [sc_processHeader_eq_of_identity P (k.toRing order) (faithfulKeyring P (order.map SecretKey.sec)) res hh h
    (toRing_import k order he) (toRing_all k order) (fun _ => rfl)]
  cases (Signcrypt.processHeader P (faithfulKeyring P (order.map SecretKey.sec)) res hh h).2 with
  | error e => rfl
  | ok st =>
    obtain ⟨pk, hhash, sender⟩ := st
    cases sender <;> rfl

theorem sc_processHeader_toRing (P : Prims) (k : Basic.Keyring) (order : List SecretKey) (res : Signcrypt.Resolver)
    (hh : Bytes) (h : EncHeader) (he : h.ephemeral.length = 32) (log : List KeyCall) (r : Except Err Signcrypt.State)
    (hph : Signcrypt.processHeader P (faithfulKeyring P (order.map (·.sec))) res hh h = (log, r))
    (h1 : ∀ st key, r = .ok st → st.sender = some key → key.length = 32) :
    Signcrypt.processHeader P (k.toRing order) res hh h = (log, r) := by
  rw [sc_processHeader_toRing_eq P k order res hh h he, hph]
  cases r with
  | error e => rfl
  | ok st =>
    obtain ⟨pk, hhash, sender⟩ := st
    cases sender with
    | none => rfl
    | some key =>
      show (log, Except.ok (⟨pk, hhash, some (kidToPublicKey key)⟩ : Signcrypt.State)) = _
      rw [kid_of_len32 (h1 _ key rfl rfl)]

theorem sc_openAll_toRing (P : Prims) (k : Basic.Keyring) (order : List SecretKey) (res : Signcrypt.Resolver)
    (hb : Bytes) (h : EncHeader) (he : h.ephemeral.length = 32) (ps : PStream SigncryptBlock)
    (s : Option Bytes) (pt : Bytes) (hs : ∀ key, s = some key → key.length = 32)
    (hopen : Signcrypt.openAll P (faithfulKeyring P (order.map (·.sec))) res (.ok hb h) ps = .ok (s, pt)) :
    Signcrypt.openAll P (k.toRing order) res (.ok hb h) ps = .ok (s, pt) :=
  sc_openAll_transfer P (k.toRing order) (faithfulKeyring P (order.map SecretKey.sec)) res (.ok hb h) ps
    (fun _ _ heq => by cases heq; exact toRing_import k order he) (toRing_all k order) (fun _ => rfl) s pt
    (fun key hkey => toRing_lookupSig k order (hs key hkey)) hopen

end Saltpack.Proofs.BasicRing
