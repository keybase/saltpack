/-
  go-codec's typed decoding (Model/Codec.lean) on CANONICAL encodings: the receivers
  list, the two headers, the V1 / V2 encryption packets, the V2 signature packet, the
  outer header packet — each WITH the reserved extra trailing elements.  (The bridge
  to `Wire.split*` built on them: CodecBytesBridge.lean.)

  The depth budgets written as literals mirror Model/Codec.lean: `99` is what `topStruct`
  hands to `kStruct`, `98` what is left inside a V2 block (one level spent on the element
  slice), `97` what `decEncBlockV2` hands to `decAuthenticators`.
-/
import Saltpack.Proofs.CodecTypes
import Saltpack.Proofs.WireRT

namespace Saltpack.Proofs

/-- 64-bit signed range (what go-codec's `DecodeInt64` returns unchanged) -/
def InInt64 (i : Int) : Prop := -(2 ^ 63 : Int) ≤ i ∧ i < (2 ^ 63 : Int)

end Saltpack.Proofs

namespace Saltpack.Proofs.CodecP
open Saltpack Saltpack.Msgpack Saltpack.Codec Saltpack.Proofs.MsgpackRT

/-! ### slices of encoded elements -/

theorem sliceElems_encodeList {α β : Type} (elem : Dec α) (zero : α) (toVal : β → Val) (val : β → α) :
    ∀ (xs : List β),
    (∀ x ∈ xs, ∀ rest, ∃ y t, encode (toVal x) ++ rest = y :: t ∧ y ≠ 0xc0 ∧ elem (y :: t) = .ok (val x, rest)) →
    ∀ (acc : List α) (r : Bytes),
    sliceElems elem zero xs.length acc (encode.encodeList (xs.map toVal) ++ r) = .ok (acc.reverse ++ xs.map val, r)
  | [], _, acc, r => by
    rw [List.map_nil, encodeList_nil, List.length_nil, sliceElems]
    simp [pure_run]
  | x :: xs, hx, acc, r => by
    obtain ⟨y, t, e, ne, hel⟩ := hx x (by simp) (encode.encodeList (xs.map toVal) ++ r)
    rw [List.map_cons, encodeList_cons, List.append_assoc, List.length_cons, sliceElems, e,
      bind_ok (tryNil_other y t ne)]
    simp only [Bool.false_eq_true, if_false]
    rw [bind_ok hel, sliceElems_encodeList elem zero toVal val xs (fun z hz => hx z (by simp [hz])) (val x :: acc) r]
    simp

theorem kSliceOf_encode {α β : Type} (elem : Dec α) (zero : α) (toVal : β → Val) (val : β → α) (xs : List β)
    (hlen : xs.length < 2 ^ 32)
    (hx : ∀ x ∈ xs, ∀ rest, ∃ y t, encode (toVal x) ++ rest = y :: t ∧ y ≠ 0xc0 ∧ elem (y :: t) = .ok (val x, rest))
    (r : Bytes) :
    kSliceOf elem zero (encode (.arr (xs.map toVal)) ++ r) = .ok (xs.map val, r) := by
  rw [encode, List.append_assoc, List.length_map]
  obtain ⟨y, t, e, _, ct, _⟩ := arrHdr_obj xs.length hlen (encode.encodeList (xs.map toVal) ++ r)
  have hs := sliceLen_arr xs.length hlen (encode.encodeList (xs.map toVal) ++ r)
  rw [e] at hs
  rw [e, kSliceOf, bind_ok (peek1_cons _ _)]
  simp only [ct]
  rw [bind_ok hs, sliceElems_encodeList elem zero toVal val xs hx [] r]
  rfl

/-! ### the receivers list -/

theorem optBin_field (kid : Option Bytes) (hk : ∀ k, kid = some k → k.length < 2 ^ 32) (st : RecvKeys)
    (r : Bytes) :
    fieldVal (⟨strBytes "receiver_key_id", false, fun r => { r with kid := none },
      fun r => do let b ← decBytesField; pure { r with kid := some b }⟩ : Field RecvKeys) st (encode (optBin kid) ++ r)
      = .ok ({ st with kid := kid }, r) := by
  cases kid with
  | none => exact fieldVal_nil _ st r
  | some k =>
    exact fieldVal_bin _ _ _ (fun (s : RecvKeys) (b : Bytes) => ({ s with kid := some b } : RecvKeys)) st k (hk k rfl) r

theorem decReceiver_encode (fuel rem : Nat) (rk : RecvKeys) (hk : ∀ k, rk.kid = some k → k.length < 2 ^ 32)
    (hb : rk.box.length < 2 ^ 32) (r : Bytes) :
    decReceiver fuel rem (encode rk.toVal ++ r) = .ok (rk, r) := by
  have e1 : encode rk.toVal ++ r = encArrayHdr 2 ++ (encode (optBin rk.kid) ++ (encBin rk.box ++ r)) := by
    rw [RecvKeys.toVal, encode, List.append_assoc, encodeList_cons, encodeList_cons, encodeList_nil,
      List.append_assoc, List.append_nil]
    rfl
  rw [e1, decReceiver, kStruct_arr _ _ _ _ 2 (by decide)]
  rw [recvFields]
  rw [structArr_cons _ _ _ _ _ _ _ _ _ (optBin_field rk.kid hk zeroRecv _),
    structArr_cons _ _ _ _ _ _ _ _ _
      (fieldVal_bin _ _ _ (fun (s : RecvKeys) (b : Bytes) => ({ s with box := b } : RecvKeys)) _ rk.box hb r),
    structArr_zero]

theorem decReceivers_encode (fuel rem : Nat) (rs : List RecvKeys) (hlen : rs.length < 2 ^ 32)
    (hrs : ∀ rk ∈ rs, (∀ k, rk.kid = some k → k.length < 2 ^ 32) ∧ rk.box.length < 2 ^ 32) (r : Bytes) :
    kSliceOf (decReceiver fuel rem) zeroRecv (encode (.arr (rs.map RecvKeys.toVal)) ++ r) = .ok (rs, r) := by
  have := kSliceOf_encode (decReceiver fuel rem) zeroRecv RecvKeys.toVal id rs hlen (by
    intro rk hrk rest
    obtain ⟨y, t, e, ne, _, _⟩ := arrHdr_obj 2 (by decide)
      (encode.encodeList [optBin rk.kid, .bin rk.box] ++ rest)
    have e1 : encode rk.toVal ++ rest = y :: t := by
      rw [RecvKeys.toVal, encode, List.append_assoc]; exact e
    refine ⟨y, t, e1, ne, ?_⟩
    rw [← e1]
    exact decReceiver_encode fuel rem rk (hrs rk hrk).1 (hrs rk hrk).2 rest) r
  rw [List.map_id] at this
  exact this

/-! ### extras behind a top-level packet -/

/-- bounds on header extras: encodable, at most 99 deep -/
abbrev HeaderExtras := TopExtras

theorem fuel_extras (ex : List Val) (pre r : Bytes) :
    2 * (encode.encodeList ex).length + 1 ≤ fuelFor (pre ++ (encode.encodeList ex ++ r)) := by
  rw [fuelFor]; simp only [List.length_append]; omega

/-! ### the two headers -/

/-- the version pair as a sender writes it (no extras): any fuel will do -/
theorem decVersion_toVal (fuel rem : Nat) (ver : Version) (hma : InInt64 ver.major) (hmi : InInt64 ver.minor)
    (v0 : Version) (r : Bytes) : decVersion fuel rem v0 (encode ver.toVal ++ r) = .ok (ver, r) := by
  rw [Version.toVal, encode, List.append_assoc, decVersion, kStruct_arr _ _ _ _ _ (by show 2 < 2 ^ 32; decide)]
  show structArr fuel rem versionFields 2 v0 (encode.encodeList [.int ver.major, .int ver.minor] ++ r) = _
  rw [encodeList_cons, encodeList_cons, encodeList_nil, encode, encode, List.append_nil, List.append_assoc, versionFields,
    structArr_cons _ _ _ _ _ _ _ _ _
      (fieldVal_int _ _ _ (fun (v : Version) (i : Int) => ({ v with major := i } : Version)) v0 _ hma.1 hma.2 _),
    structArr_cons _ _ _ _ _ _ _ _ _
      (fieldVal_int _ _ _ (fun (v : Version) (i : Int) => ({ v with minor := i } : Version)) _ _ hmi.1 hmi.2 _),
    structArr_zero]

theorem fieldVal_vers {σ : Type} (fuel rem : Nat) (name : Bytes) (c : Bool) (zero : σ → σ)
    (get : σ → Version) (upd : σ → Version → σ) (st : σ) (ver : Version) (hma : InInt64 ver.major) (hmi : InInt64 ver.minor)
    (r : Bytes) :
    fieldVal ⟨name, c, zero, fun h => do let v ← decVersion fuel rem (get h); pure (upd h v)⟩ st (encode ver.toVal ++ r)
      = .ok (upd st ver, r) := by
  have hd := decVersion_toVal fuel rem ver hma hmi (get st) r
  have he : encode ver.toVal ++ r = encArrayHdr 2 ++ (encode.encodeList [.int ver.major, .int ver.minor] ++ r) := by
    rw [Version.toVal, encode, List.append_assoc]; rfl
  obtain ⟨x, t, e, ne, _, _⟩ := arrHdr_obj 2 (by decide) (encode.encodeList [.int ver.major, .int ver.minor] ++ r)
  rw [he, e] at hd
  rw [he, e, fieldVal_dec _ _ _ _ ne]
  show (decVersion fuel rem (get st) >>= fun v => pure (upd st v)) (x :: t) = _
  rw [bind_ok hd]; rfl

theorem decSigHeader_encode (h : SigHeader) (hf : h.formatName.length < 2 ^ 32)
    (hma : InInt64 h.version.major) (hmi : InInt64 h.version.minor) (ht : InInt64 h.typ)
    (hpk : h.senderPublic.length < 2 ^ 32) (hn : h.nonce.length < 2 ^ 32)
    (ex : List Val) (hex : TopExtras ex) (hlen : ex.length + 5 < 2 ^ 32) (r : Bytes) :
    decSigHeader (encode (.arr ([.str h.formatName, h.version.toVal, .int h.typ, .bin h.senderPublic, .bin h.nonce] ++ ex)) ++ r)
      = .ok (h, r) :=
  topStruct_encode (fields := sigHeaderFields)
    (vs := [.str h.formatName, h.version.toVal, .int h.typ, .bin h.senderPublic, .bin h.nonce]) (zero := zeroSigHeader)
    (fun fuel _ =>
      .cons (fieldVal_str _ _ _ (fun (s : SigHeader) (x : Bytes) => ({ s with formatName := x } : SigHeader)) zeroSigHeader h.formatName hf) <|
      .cons (fieldVal_vers fuel 99 _ _ _ (fun s : SigHeader => s.version)
        (fun (s : SigHeader) (v : Version) => ({ s with version := v } : SigHeader)) _ h.version hma hmi) <|
      .cons (fieldVal_int _ _ _ (fun (s : SigHeader) (i : Int) => ({ s with typ := i } : SigHeader)) _ h.typ ht.1 ht.2) <|
      .cons (fieldVal_bin _ _ _ (fun (s : SigHeader) (x : Bytes) => ({ s with senderPublic := x } : SigHeader)) _ h.senderPublic hpk) <|
      .cons (fieldVal_bin _ _ _ (fun (s : SigHeader) (x : Bytes) => ({ s with nonce := x } : SigHeader)) _ h.nonce hn) (.nil _))
    hex (by simp only [List.length_append, List.length_cons, List.length_nil]; omega) r

theorem fieldVal_receivers (fuel rem : Nat) (name : Bytes) (c : Bool) (rs : List RecvKeys) (hrl : rs.length < 2 ^ 32)
    (hrs : ∀ rk ∈ rs, (∀ k, rk.kid = some k → k.length < 2 ^ 32) ∧ rk.box.length < 2 ^ 32) (st : EncHeader) (r : Bytes) :
    fieldVal ⟨name, c, fun s => { s with receivers := [] },
        fun s => do let l ← kSliceOf (decReceiver fuel rem) zeroRecv; pure { s with receivers := l }⟩ st
      (encode (.arr (rs.map RecvKeys.toVal)) ++ r) = .ok ({ st with receivers := rs }, r) := by
  have hd := decReceivers_encode fuel rem rs hrl hrs r
  have he : encode (.arr (rs.map RecvKeys.toVal)) ++ r =
      encArrayHdr rs.length ++ (encode.encodeList (rs.map RecvKeys.toVal) ++ r) := by
    rw [encode, List.append_assoc, List.length_map]
  obtain ⟨x, t, e, ne, _, _⟩ := arrHdr_obj rs.length hrl (encode.encodeList (rs.map RecvKeys.toVal) ++ r)
  rw [he, e] at hd ⊢
  exact fieldVal_obj _ _ _ _ (fun (s : EncHeader) (l : List RecvKeys) => ({ s with receivers := l } : EncHeader)) st ne hd

theorem decEncHeader_encode (h : EncHeader) (hf : h.formatName.length < 2 ^ 32)
    (hma : InInt64 h.version.major) (hmi : InInt64 h.version.minor) (ht : InInt64 h.typ)
    (he : h.ephemeral.length < 2 ^ 32) (hs : h.senderSecretbox.length < 2 ^ 32)
    (hrl : h.receivers.length < 2 ^ 32)
    (hrs : ∀ rk ∈ h.receivers, (∀ k, rk.kid = some k → k.length < 2 ^ 32) ∧ rk.box.length < 2 ^ 32)
    (ex : List Val) (hex : TopExtras ex) (hlen : ex.length + 6 < 2 ^ 32) (r : Bytes) :
    decEncHeader (encode (.arr ([.str h.formatName, h.version.toVal, .int h.typ, .bin h.ephemeral, .bin h.senderSecretbox,
        .arr (h.receivers.map RecvKeys.toVal)] ++ ex)) ++ r) = .ok (h, r) :=
  topStruct_encode (fields := encHeaderFields)
    (vs := [.str h.formatName, h.version.toVal, .int h.typ, .bin h.ephemeral, .bin h.senderSecretbox,
      .arr (h.receivers.map RecvKeys.toVal)]) (zero := zeroEncHeader)
    (fun fuel _ =>
      .cons (fieldVal_str _ _ _ (fun (s : EncHeader) (x : Bytes) => ({ s with formatName := x } : EncHeader)) zeroEncHeader h.formatName hf) <|
      .cons (fieldVal_vers fuel 99 _ _ _ (fun s : EncHeader => s.version)
        (fun (s : EncHeader) (v : Version) => ({ s with version := v } : EncHeader)) _ h.version hma hmi) <|
      .cons (fieldVal_int _ _ _ (fun (s : EncHeader) (i : Int) => ({ s with typ := i } : EncHeader)) _ h.typ ht.1 ht.2) <|
      .cons (fieldVal_bin _ _ _ (fun (s : EncHeader) (x : Bytes) => ({ s with ephemeral := x } : EncHeader)) _ h.ephemeral he) <|
      .cons (fieldVal_bin _ _ _ (fun (s : EncHeader) (x : Bytes) => ({ s with senderSecretbox := x } : EncHeader)) _ h.senderSecretbox hs) <|
      .cons (fieldVal_receivers fuel 99 _ _ h.receivers hrl hrs _) (.nil _))
    hex (by simp only [List.length_append, List.length_cons, List.length_nil]; omega) r

/-! ### authenticators and the encryption packets -/

theorem pad32_of_len {a : Bytes} (h : a.length = 32) : pad32 a = a := by
  unfold pad32
  rw [List.take_append_of_le_length (by omega), List.take_of_length_le (by omega)]

theorem decAuthenticators_encode (fuel rem : Nat) (auths : List Bytes) (hlen : auths.length < 2 ^ 32)
    (h32 : ∀ a ∈ auths, a.length = 32) (r : Bytes) :
    decAuthenticators fuel rem (encode (.arr (auths.map .bin)) ++ r) = .ok (auths, r) := by
  have := kSliceOf_encode (decByteArray32 fuel rem) (zeros 32) Val.bin id auths hlen (by
    intro a ha rest
    obtain ⟨y, t, e, o⟩ := bytesObj_encBin a (by have := h32 a ha; omega) rest
    refine ⟨y, t, by rw [encode]; exact e, o.ne, ?_⟩
    rw [decByteArray32, bind_ok (peek1_cons _ _)]
    simp only [o.ct]
    rw [map_ok o.dec, pad32_of_len (h32 a ha)]
    rfl) r
  rw [List.map_id] at this
  exact this

/-- the authenticator element as `makeEncryptionBlock` writes it: nil for an empty list -/
def authsVal (auths : List Bytes) : Val := if auths.isEmpty then .nil else .arr (auths.map .bin)

theorem fieldVal_auths (fuel rem : Nat) (name : Bytes) (c : Bool) (auths : List Bytes) (hlen : auths.length < 2 ^ 32)
    (h32 : ∀ a ∈ auths, a.length = 32) (st : EncBlock) (r : Bytes) :
    fieldVal ⟨name, c, fun b => { b with auths := [] },
        fun b => do let a ← decAuthenticators fuel rem; pure { b with auths := a }⟩ st (encode (authsVal auths) ++ r)
      = .ok ({ st with auths := auths }, r) := by
  unfold authsVal
  cases auths with
  | nil => exact fieldVal_nil _ st r
  | cons a as =>
    have hd := decAuthenticators_encode fuel rem (a :: as) hlen h32 r
    have he : encode (.arr ((a :: as).map .bin)) ++ r =
        encArrayHdr (a :: as).length ++ (encode.encodeList ((a :: as).map .bin) ++ r) := by
      rw [encode, List.append_assoc, List.length_map]
    obtain ⟨x, t, e, ne, _, _⟩ := arrHdr_obj (a :: as).length hlen (encode.encodeList ((a :: as).map .bin) ++ r)
    simp only [List.isEmpty_cons, Bool.false_eq_true, if_false]
    rw [he, e] at hd ⊢
    exact fieldVal_obj _ _ _ _ (fun (b : EncBlock) (l : List Bytes) => ({ b with auths := l } : EncBlock)) st ne hd

theorem decEncBlockV1_encode (auths : List Bytes) (hal : auths.length < 2 ^ 32) (h32 : ∀ a ∈ auths, a.length = 32)
    (ct : Bytes) (hct : ct.length < 2 ^ 32) (ex : List Val) (hex : TopExtras ex) (hlen : ex.length + 2 < 2 ^ 32)
    (r : Bytes) :
    decEncBlockV1 (encode (.arr ([authsVal auths, .bin ct] ++ ex)) ++ r) = .ok (⟨auths, ct, false⟩, r) :=
  topStruct_encode (fields := encBlockV1Fields) (vs := [authsVal auths, .bin ct]) (zero := zeroEncBlock)
    (fun fuel _ =>
      .cons (fieldVal_auths fuel 99 _ _ auths hal h32 zeroEncBlock) <|
      .cons (fieldVal_bin _ _ _ (fun (b : EncBlock) (c : Bytes) => ({ b with ct := c } : EncBlock)) _ ct hct) (.nil _))
    hex (by simp only [List.length_append, List.length_cons, List.length_nil]; omega) r

/-! ### the V2 blocks (`CodecDecodeSelf` into `[]interface{}{&a, &b, &c}`) -/

theorem selfLoop_zero {σ : Type} (fuel : Nat) (ds : List (σ → Dec σ)) (st : σ) (b : Bytes) :
    selfLoop fuel ds 0 st b = .ok (st, b) := by
  cases ds <;> rfl

theorem selfLoop_cons {σ : Type} (fuel : Nat) (d : σ → Dec σ) (ds : List (σ → Dec σ)) (n : Nat) (st st' : σ)
    (x : UInt8) (t b' : Bytes) (ne : x ≠ 0xc0) (h : d st (x :: t) = .ok (st', b')) :
    selfLoop fuel (d :: ds) (n + 1) st (x :: t) = selfLoop fuel ds n st' b' := by
  rw [selfLoop, bind_ok (tryNil_other x t ne)]
  simp only [Bool.false_eq_true, if_false]
  rw [bind_ok h]

theorem selfLoop_cons_nil {σ : Type} (fuel : Nat) (d : σ → Dec σ) (ds : List (σ → Dec σ)) (n : Nat) (st : σ) (r : Bytes) :
    selfLoop fuel (d :: ds) (n + 1) st (0xc0 :: r) = selfLoop fuel ds n st r := by
  rw [selfLoop, bind_ok (tryNil_c0 r)]
  simp only [if_true]

theorem selfLoop_store {σ α : Type} (fuel : Nat) (D : Dec α) (upd : σ → α → σ) (ds : List (σ → Dec σ)) (n : Nat) (st : σ)
    {x : UInt8} {t r : Bytes} {a : α} (ne : x ≠ 0xc0) (hd : D (x :: t) = .ok (a, r)) :
    selfLoop fuel ((fun s => do let y ← D; pure (upd s y)) :: ds) (n + 1) st (x :: t) = selfLoop fuel ds n (upd st a) r :=
  selfLoop_cons fuel _ ds n st (upd st a) x t r ne (bind_ok hd)

theorem selfLoop_extras {σ : Type} (fuel : Nat) (ex : List Val) (hall : ∀ v ∈ ex, ValWF v) (st : σ) (r : Bytes)
    (hf : 2 * (encode.encodeList ex).length + 1 ≤ fuel) (hd : depth.depthList ex ≤ 98) :
    selfLoop fuel ([] : List (σ → Dec σ)) ex.length st (encode.encodeList ex ++ r) = .ok (st, r) := by
  cases ex with
  | nil => rw [encodeList_nil]; exact selfLoop_zero fuel [] st _
  | cons v vs =>
    have h := swallowN_encodeList (v :: vs) hall r fuel 98 hf hd
    rw [List.length_cons] at h
    rw [List.length_cons, selfLoop, bind_ok h]
    rfl

theorem topSelfer_arr {σ : Type} (decs : Nat → List (σ → Dec σ)) (zero : σ) (n : Nat) (hn : n < 2 ^ 32) (r : Bytes) :
    topSelfer decs zero (encArrayHdr n ++ r) =
      selfLoop (fuelFor (encArrayHdr n ++ r)) (decs (fuelFor (encArrayHdr n ++ r))) n zero r := by
  show (tryNil >>= fun c => if c = true then pure zero
      else sliceLen >>= fun m => selfLoop (fuelFor (encArrayHdr n ++ r)) (decs (fuelFor (encArrayHdr n ++ r))) m zero)
    (encArrayHdr n ++ r) = _
  rw [bind_ok (tryNil_arr n hn r)]
  simp only [Bool.false_eq_true, if_false]
  rw [bind_ok (sliceLen_arr n hn r)]

/-- extras behind a V2 block: encodable and at most 98 deep (one level is spent on the element slice) -/
structure SelfExtras (ex : List Val) : Prop where
  wf : ∀ v ∈ ex, ValWF v
  depth : depth.depthList ex ≤ 98

theorem topSelfer_encode {σ : Type} (decs : Nat → List (σ → Dec σ)) (zero st' : σ) (vals ex : List Val)
    (hex : SelfExtras ex) (hlen : (vals ++ ex).length < 2 ^ 32) (r : Bytes)
    (hfields : ∀ fuel r', selfLoop fuel (decs fuel) (vals ++ ex).length zero (encode.encodeList vals ++ r')
        = selfLoop fuel [] ex.length st' r') :
    topSelfer decs zero (encode (.arr (vals ++ ex)) ++ r) = .ok (st', r) := by
  rw [encode, List.append_assoc, topSelfer_arr _ _ _ hlen, encodeList_append, List.append_assoc]
  generalize hfu : fuelFor _ = fuel
  have hfuel : 2 * (encode.encodeList ex).length + 1 ≤ fuel := by
    rw [← hfu, ← List.append_assoc]; exact fuel_extras ex _ r
  rw [hfields fuel, selfLoop_extras fuel ex hex.wf st' r hfuel hex.depth]

theorem decSigBlockV2_encode (f : Bool) (sg ch : Bytes) (hsg : sg.length < 2 ^ 32) (hch : ch.length < 2 ^ 32)
    (ex : List Val) (hex : SelfExtras ex) (hlen : ex.length + 3 < 2 ^ 32) (r : Bytes) :
    decSigBlockV2 (encode (.arr ([.bool f, .bin sg, .bin ch] ++ ex)) ++ r) = .ok (⟨sg, ch, f⟩, r) := by
  have hl : ([Val.bool f, Val.bin sg, Val.bin ch] ++ ex).length = ex.length + 1 + 1 + 1 := by simp
  rw [decSigBlockV2]
  refine topSelfer_encode _ zeroSigBlock ⟨sg, ch, f⟩ _ ex hex (by rw [hl]; omega) r ?_
  intro fuel r'
  rw [hl, encodeList_cons, encodeList_cons, encodeList_cons, encodeList_nil, show encode (.bool f) = encBool f by rw [encode],
    show encode (.bin sg) = encBin sg by rw [encode], show encode (.bin ch) = encBin ch by rw [encode]]
  simp only [List.append_assoc, List.nil_append]
  obtain ⟨x0, e0, ⟨ne0, _, _⟩, hd0⟩ := boolObj f (encBin sg ++ (encBin ch ++ r'))
  obtain ⟨x1, t1, e1, o1⟩ := bytesObj_encBin sg hsg (encBin ch ++ r')
  obtain ⟨x2, t2, e2, o2⟩ := bytesObj_encBin ch hch r'
  rw [e0, selfLoop_store fuel decodeBool (fun (b : SigBlock) (y : Bool) => ({ b with final := y } : SigBlock)) _ _ _ ne0 hd0,
    e1, selfLoop_store fuel decBytesField (fun (b : SigBlock) (y : Bytes) => ({ b with sig := y } : SigBlock)) _ _ _ o1.ne
      ((decBytesField_of_bytes _ _ o1.ct).trans o1.dec),
    e2, selfLoop_store fuel decBytesField (fun (b : SigBlock) (y : Bytes) => ({ b with chunk := y } : SigBlock)) _ _ _ o2.ne
      ((decBytesField_of_bytes _ _ o2.ct).trans o2.dec)]

theorem decEncBlockV2_encode (f : Bool) (auths : List Bytes) (hal : auths.length < 2 ^ 32)
    (h32 : ∀ a ∈ auths, a.length = 32) (ct : Bytes) (hct : ct.length < 2 ^ 32)
    (ex : List Val) (hex : SelfExtras ex) (hlen : ex.length + 3 < 2 ^ 32) (r : Bytes) :
    decEncBlockV2 (encode (.arr ([.bool f, authsVal auths, .bin ct] ++ ex)) ++ r) = .ok (⟨auths, ct, f⟩, r) := by
  have hl : ([Val.bool f, authsVal auths, Val.bin ct] ++ ex).length = ex.length + 1 + 1 + 1 := by simp
  rw [decEncBlockV2]
  refine topSelfer_encode _ zeroEncBlock ⟨auths, ct, f⟩ _ ex hex (by rw [hl]; omega) r ?_
  intro fuel r'
  rw [hl, encodeList_cons, encodeList_cons, encodeList_cons, encodeList_nil, show encode (.bool f) = encBool f by rw [encode],
    show encode (.bin ct) = encBin ct by rw [encode]]
  simp only [List.append_assoc, List.nil_append]
  obtain ⟨x0, e0, ⟨ne0, _, _⟩, hd0⟩ := boolObj f (encode (authsVal auths) ++ (encBin ct ++ r'))
  obtain ⟨x2, t2, e2, o2⟩ := bytesObj_encBin ct hct r'
  rw [e0, selfLoop_store fuel decodeBool (fun (b : EncBlock) (y : Bool) => ({ b with final := y } : EncBlock)) _ _ _ ne0 hd0]
  -- the authenticators: nil for an empty list, else the array
  have hstep : selfLoop fuel
        [fun b => do let a ← decAuthenticators fuel 97; pure { b with auths := a },
         fun b => do let c ← decBytesField; pure { b with ct := c }] (ex.length + 1 + 1)
        ({ zeroEncBlock with final := f } : EncBlock) (encode (authsVal auths) ++ (encBin ct ++ r'))
      = selfLoop fuel [fun b => do let c ← decBytesField; pure { b with ct := c }] (ex.length + 1)
          ({ zeroEncBlock with final := f, auths := auths } : EncBlock) (encBin ct ++ r') := by
    unfold authsVal
    cases auths with
    | nil => exact selfLoop_cons_nil fuel _ _ _ _ _
    | cons a as =>
      simp only [List.isEmpty_cons, Bool.false_eq_true, if_false]
      have hd := decAuthenticators_encode fuel 97 (a :: as) hal h32 (encBin ct ++ r')
      have he : encode (.arr ((a :: as).map .bin)) ++ (encBin ct ++ r') =
          encArrayHdr (a :: as).length ++ (encode.encodeList ((a :: as).map .bin) ++ (encBin ct ++ r')) := by
        rw [encode, List.append_assoc, List.length_map]
      obtain ⟨x, t, e, ne, _, _⟩ := arrHdr_obj (a :: as).length hal
        (encode.encodeList ((a :: as).map .bin) ++ (encBin ct ++ r'))
      have hd' : decAuthenticators fuel 97 (x :: t) = .ok (a :: as, encBin ct ++ r') := by
        rw [← e, ← he]; exact hd
      rw [he, e]
      exact selfLoop_store fuel (decAuthenticators fuel 97)
        (fun (b : EncBlock) (l : List Bytes) => ({ b with auths := l } : EncBlock)) _ _ _ ne hd'
  rw [hstep, e2, selfLoop_store fuel decBytesField (fun (b : EncBlock) (y : Bytes) => ({ b with ct := y } : EncBlock)) _ _ _ o2.ne
    ((decBytesField_of_bytes _ _ o2.ct).trans o2.dec)]

/-! ### the outer header packet -/

theorem decBytesTop_headerPacket (hb : Bytes) (hl : hb.length < 2 ^ 32) (r : Bytes) :
    decBytesTop (headerPacket hb ++ r) = .ok (hb, r) := by
  obtain ⟨x, t, e, o⟩ := bytesObj_encBin hb hl r
  rw [headerPacket, e, decBytesTop, bind_ok (tryNil_other x t o.ne)]
  simp only [Bool.false_eq_true, if_false]
  exact o.dec

theorem readHeader_headerPacket {η : Type} (dec : Dec η) (hb : Bytes) (hl : hb.length < 2 ^ 32) (h : η) (r0 : Bytes)
    (hd : dec hb = .ok (h, r0)) (rest : Bytes) :
    Codec.readHeader dec (headerPacket hb ++ rest) = .ok (.ok hb h, rest) := by
  rw [Codec.readHeader, decBytesTop_headerPacket hb hl rest]
  simp only [hd]

end Saltpack.Proofs.CodecP
