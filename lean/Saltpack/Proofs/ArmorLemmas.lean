/-
  Lemmas about the string functions of Model/Armor (`splitAt1`, `trimSpace` via
  `trimRunes`, `collapse`, `splitSp`, `intercalateSp`) and about `filterSkip` and
  `spaceWords` on the base62 encoder's output.
-/
import Saltpack.Proofs.ArmorBytes

namespace Saltpack.Proofs
open Saltpack Saltpack.Armor

theorem mem_takeWhile_pos {α : Type} (p : α → Bool) : ∀ (l : List α) (c : α), c ∈ l.takeWhile p → p c = true := by
  intro l
  induction l with
  | nil => intro c h; simp at h
  | cons x xs ih =>
    intro c h
    rw [List.takeWhile_cons] at h
    split at h
    · rcases List.mem_cons.mp h with h | h
      · subst h; assumption
      · exact ih c h
    · simp at h

theorem splitAt1_append (c : UInt8) (a b : Bytes) (h : ∀ x ∈ a, x ≠ c) :
    splitAt1 c (a ++ c :: b) = some (a, b) := by
  induction a with
  | nil => simp [splitAt1]
  | cons x xs ih =>
    have hx : x ≠ c := h x (by simp)
    have ih' := ih (List.forall_mem_cons.mp h).2
    simp [splitAt1, hx, ih']

theorem valid_ne_period (a : Bytes) (h : ∀ x ∈ a, validByte params62 x = true) :
    ∀ x ∈ a, x ≠ period := by
  intro x hx he
  have := h x hx
  rw [he, period_invalid] at this
  exact absurd this (by simp)

theorem all_valid (a : Bytes) (h : ∀ x ∈ a, validByte params62 x = true) :
    a.all (validByte params62) = true := by
  simpa [List.all_eq_true] using h

theorem toASCII_valid (a : Bytes) (h : ∀ x ∈ a, validByte params62 x = true) :
    toASCII params62 a = .ok (trimSpace a) := by
  unfold toASCII
  rw [all_valid a h]
  rfl

theorem no_period (a : Bytes) (h : ∀ x ∈ a, validByte params62 x = true) :
    a.any (· == period) = false := by
  rw [Bool.eq_false_iff]
  intro hc
  simp only [List.any_eq_true, beq_iff_eq] at hc
  obtain ⟨x, hx, he⟩ := hc
  exact valid_ne_period a h x hx he

/-! ### trimSpace

`Armor.trimSpace` is `strings.TrimSpace` (Unicode white space, UTF-8 decoded from
both ends).  The generic lemmas are about `trimRunes`, of which the left and
the (reversed) right trimming are instances. -/

theorem u8_beq_false_of_lt (c k : UInt8) (hc : c < 128) (hk : 128 ≤ k) : (c == k) = false := by
  rw [beq_eq_false_iff_ne]
  intro h
  subst h
  rw [UInt8.lt_iff_toNat_lt] at hc
  rw [UInt8.le_iff_toNat_le] at hk
  omega

/-- the rune recognisers fire on bytes ≥ 0x80 only (`2a`, `2b`: first, second
    byte of a two-byte rune; `3a`–`3c`: of a three-byte rune) -/
structure HighOnly (s2 : UInt8 → UInt8 → Bool) (s3 : UInt8 → UInt8 → UInt8 → Bool) : Prop where
  h2a : ∀ c d, c < 128 → s2 c d = false
  h2b : ∀ c d, d < 128 → s2 c d = false
  h3a : ∀ c d e, c < 128 → s3 c d e = false
  h3b : ∀ c d e, d < 128 → s3 c d e = false
  h3c : ∀ c d e, e < 128 → s3 c d e = false

theorem isSp2_fst (c d : UInt8) (h : c < 128) : isSp2 c d = false := by
  simp [isSp2, u8_beq_false_of_lt c 0xC2 h (by decide)]

theorem isSp2_snd (c d : UInt8) (h : d < 128) : isSp2 c d = false := by
  simp [isSp2, u8_beq_false_of_lt d 0x85 h (by decide), u8_beq_false_of_lt d 0xA0 h (by decide)]

theorem isSp3_fst (c d e : UInt8) (h : c < 128) : isSp3 c d e = false := by
  simp [isSp3, u8_beq_false_of_lt c 0xE1 h (by decide), u8_beq_false_of_lt c 0xE2 h (by decide),
    u8_beq_false_of_lt c 0xE3 h (by decide)]

theorem isSp3_snd (c d e : UInt8) (h : d < 128) : isSp3 c d e = false := by
  simp [isSp3, u8_beq_false_of_lt d 0x9A h (by decide), u8_beq_false_of_lt d 0x80 h (by decide),
    u8_beq_false_of_lt d 0x81 h (by decide)]

theorem isSp3_trd (c d e : UInt8) (h : e < 128) : isSp3 c d e = false := by
  have hle : (decide (0x80 ≤ e)) = false := by
    rw [decide_eq_false_iff_not, UInt8.le_iff_toNat_le]
    rw [UInt8.lt_iff_toNat_lt] at h
    intro h'
    have : (128 : UInt8).toNat = 128 := rfl
    have : (0x80 : UInt8).toNat = 128 := rfl
    omega
  simp [isSp3, u8_beq_false_of_lt e 0x80 h (by decide), u8_beq_false_of_lt e 0xA8 h (by decide),
    u8_beq_false_of_lt e 0xA9 h (by decide), u8_beq_false_of_lt e 0xAF h (by decide),
    u8_beq_false_of_lt e 0x9F h (by decide), hle]

theorem highOnly_left : HighOnly isSp2 isSp3 :=
  ⟨isSp2_fst, isSp2_snd, isSp3_fst, isSp3_snd, isSp3_trd⟩

theorem highOnly_right : HighOnly (fun c d => isSp2 d c) (fun c d e => isSp3 e d c) :=
  ⟨fun c d h => isSp2_snd d c h, fun c d h => isSp2_fst d c h,
   fun c d e h => isSp3_trd e d c h, fun c d e h => isSp3_snd e d c h, fun c d e h => isSp3_fst e d c h⟩

theorem trimSpace_lt (c : UInt8) (h : isTrimSpace c = true) : c < 128 := by
  simp only [isTrimSpace, Bool.or_eq_true, beq_iff_eq] at h
  rcases h with ((((rfl | rfl) | rfl) | rfl) | rfl) | rfl <;> decide

section
variable {s2 : UInt8 → UInt8 → Bool} {s3 : UInt8 → UInt8 → UInt8 → Bool}

theorem trimRunes_cons_space (c : UInt8) (r : Bytes) (hc : isTrimSpace c = true) :
    trimRunes s2 s3 (c :: r) = trimRunes s2 s3 r := by
  cases r with
  | nil => simp [trimRunes, hc]
  | cons d r' =>
    cases r' with
    | nil => simp [trimRunes, hc]
    | cons e r'' => simp [trimRunes, hc]

theorem trimRunes_cons2 (c d : UInt8) (r : Bytes) (hc : isTrimSpace c = false) (h2 : s2 c d = true) :
    trimRunes s2 s3 (c :: d :: r) = trimRunes s2 s3 r := by
  cases r with
  | nil => simp [trimRunes, hc, h2]
  | cons e r'' => simp [trimRunes, hc, h2]

theorem trimRunes_cons3 (c d e : UInt8) (r : Bytes) (hc : isTrimSpace c = false) (h2 : s2 c d = false)
    (h3 : s3 c d e = true) : trimRunes s2 s3 (c :: d :: e :: r) = trimRunes s2 s3 r := by
  simp [trimRunes, hc, h2, h3]

theorem trimRunes_pre (p x : Bytes) (hp : ∀ c ∈ p, isTrimSpace c = true) :
    trimRunes s2 s3 (p ++ x) = trimRunes s2 s3 x := by
  induction p with
  | nil => rfl
  | cons c cs ih =>
    have hc : isTrimSpace c = true := hp c (by simp)
    rw [List.cons_append, trimRunes_cons_space _ _ hc]
    exact ih (List.forall_mem_cons.mp hp).2

theorem trimRunes_all (q : Bytes) (hq : ∀ c ∈ q, isTrimSpace c = true) : trimRunes s2 s3 q = [] := by
  have := trimRunes_pre (s2 := s2) (s3 := s3) q [] hq
  rw [List.append_nil] at this
  rw [this]; rfl

theorem trimRunes_keep (H : HighOnly s2 s3) (a : UInt8) (m : Bytes) (ha : isTrimSpace a = false) (h : a < 128) :
    trimRunes s2 s3 (a :: m) = a :: m := by
  cases m with
  | nil => simp [trimRunes, ha]
  | cons d r' =>
    cases r' with
    | nil => simp [trimRunes, ha, H.h2a a d h]
    | cons e r'' => simp [trimRunes, ha, H.h2a a d h, H.h3a a d e h]

theorem trimRunes_ascii (H : HighOnly s2 s3) (b : Bytes) (hb : ∀ c ∈ b, c < 128) :
    trimRunes s2 s3 b = b.dropWhile isTrimSpace := by
  induction b with
  | nil => rfl
  | cons c cs ih =>
    by_cases hc : isTrimSpace c = true
    · rw [trimRunes_cons_space _ _ hc, List.dropWhile_cons, if_pos hc]
      exact ih (List.forall_mem_cons.mp hb).2
    · have hc' : isTrimSpace c = false := by simpa using hc
      rw [trimRunes_keep H c cs hc' (hb c (by simp)), List.dropWhile_cons, if_neg hc]

/-- a tail whose first byte no recogniser accepts in second or third position:
    trimming stops inside `x` and keeps the tail, or eats all of `x` and goes on
    in the tail -/
theorem trimRunes_append (k : UInt8) (q : Bytes) (hb2 : ∀ c, s2 c k = false)
    (hb3 : ∀ c e, s3 c k e = false) (hc3 : ∀ c d, s3 c d k = false) (x : Bytes) :
    trimRunes s2 s3 (x ++ k :: q) = trimRunes s2 s3 x ++ k :: q ∨
    (trimRunes s2 s3 x = [] ∧ trimRunes s2 s3 (x ++ k :: q) = trimRunes s2 s3 (k :: q)) := by
  fun_induction trimRunes s2 s3 x with
  | case1 => exact Or.inr ⟨rfl, rfl⟩
  | case2 c r hc ih => rw [List.cons_append, trimRunes_cons_space _ _ hc]; exact ih
  | case3 c hc =>
    left
    have hc' : isTrimSpace c = false := by simpa using hc
    cases q with
    | nil => simp [trimRunes, hc', hb2 c]
    | cons e q' => simp [trimRunes, hc', hb2 c, hb3 c e]
  | case4 c hc d r' h2 ih =>
    have hc' : isTrimSpace c = false := by simpa using hc
    rw [List.cons_append, List.cons_append, trimRunes_cons2 _ _ _ hc' h2]
    exact ih
  | case5 c hc d h2 =>
    left
    have hc' : isTrimSpace c = false := by simpa using hc
    have h2' : s2 c d = false := by simpa using h2
    simp [trimRunes, hc', h2', hc3 c d]
  | case6 c hc d h2 e r'' h3 ih =>
    have hc' : isTrimSpace c = false := by simpa using hc
    have h2' : s2 c d = false := by simpa using h2
    rw [List.cons_append, List.cons_append, List.cons_append, trimRunes_cons3 _ _ _ _ hc' h2' h3]
    exact ih
  | case7 c hc d h2 e r'' h3 =>
    left
    have hc' : isTrimSpace c = false := by simpa using hc
    have h2' : s2 c d = false := by simpa using h2
    have h3' : s3 c d e = false := by simpa using h3
    simp [trimRunes, hc', h2', h3']

theorem trimRunes_post (H : HighOnly s2 s3) (q : Bytes) (hq : ∀ c ∈ q, isTrimSpace c = true) (x : Bytes) :
    trimRunes s2 s3 (x ++ q) = trimRunes s2 s3 x ++ q ∨
    (trimRunes s2 s3 x = [] ∧ trimRunes s2 s3 (x ++ q) = []) := by
  cases q with
  | nil => left; rw [List.append_nil, List.append_nil]
  | cons k q' =>
    have hk := trimSpace_lt k (hq k (by simp))
    have h := trimRunes_append k q' (fun c => H.h2b c k hk) (fun c e => H.h3b c k e hk)
      (fun c d => H.h3c c d k hk) x
    rw [trimRunes_all (k :: q') hq] at h
    exact h
end

theorem dropWhile_allT (p x : Bytes) (hp : ∀ c ∈ p, isTrimSpace c = true) :
    (p ++ x).dropWhile isTrimSpace = x.dropWhile isTrimSpace := by
  induction p with
  | nil => rfl
  | cons c cs ih =>
    have hc : isTrimSpace c = true := hp c (by simp)
    simp only [List.cons_append, List.dropWhile_cons, hc, if_true]
    exact ih (List.forall_mem_cons.mp hp).2

/-- **the model's `strings.TrimSpace` is ASCII trimming on ASCII strings** -/
theorem trimSpace_eq_ascii (b : Bytes) (hb : ∀ c ∈ b, c < 128) : trimSpace b = trimSpaceAscii b := by
  unfold trimSpace trimSpaceAscii trimLeft trimRightRev
  rw [trimRunes_ascii highOnly_left b hb, trimRunes_ascii highOnly_right]
  intro c hc
  rw [List.mem_reverse] at hc
  exact hb c ((List.dropWhile_sublist _).subset hc)

theorem trimSpaceAscii_decomp (b : Bytes) :
    ∃ p q, (∀ c ∈ p, isTrimSpace c = true ∧ c ∈ b) ∧ (∀ c ∈ q, isTrimSpace c = true ∧ c ∈ b) ∧
      b = p ++ trimSpaceAscii b ++ q := by
  refine ⟨b.takeWhile isTrimSpace,
    (((b.dropWhile isTrimSpace).reverse).takeWhile isTrimSpace).reverse, ?_, ?_, ?_⟩
  · intro c hc
    exact ⟨mem_takeWhile_pos _ _ _ hc, (List.takeWhile_sublist _).subset hc⟩
  · intro c hc
    rw [List.mem_reverse] at hc
    refine ⟨mem_takeWhile_pos _ _ _ hc, ?_⟩
    have h1 := (List.takeWhile_sublist _).subset hc
    rw [List.mem_reverse] at h1
    exact (List.dropWhile_sublist _).subset h1
  · unfold trimSpaceAscii
    rw [List.append_assoc, ← List.reverse_append, List.takeWhile_append_dropWhile,
      List.reverse_reverse, List.takeWhile_append_dropWhile]

theorem trimSpace_pre (p x : Bytes) (hp : ∀ c ∈ p, isTrimSpace c = true) :
    trimSpace (p ++ x) = trimSpace x := by
  unfold trimSpace trimLeft
  rw [trimRunes_pre p x hp]

theorem trimSpace_post (x q : Bytes) (hq : ∀ c ∈ q, isTrimSpace c = true) :
    trimSpace (x ++ q) = trimSpace x := by
  unfold trimSpace trimLeft trimRightRev
  rcases trimRunes_post highOnly_left q hq x with h | ⟨h1, h2⟩
  · rw [h, List.reverse_append, trimRunes_pre _ _ (by simpa using hq)]
  · rw [h1, h2]

theorem trimSpace_surround (p x q : Bytes) (hp : ∀ c ∈ p, isTrimSpace c = true)
    (hq : ∀ c ∈ q, isTrimSpace c = true) : trimSpace (p ++ x ++ q) = trimSpace x := by
  rw [trimSpace_post _ _ hq, trimSpace_pre _ _ hp]

theorem trimSpace_decomp (b : Bytes) (hb : ∀ c ∈ b, c < 128) :
    ∃ p q, (∀ c ∈ p, isTrimSpace c = true ∧ c ∈ b) ∧ (∀ c ∈ q, isTrimSpace c = true ∧ c ∈ b) ∧
      b = p ++ trimSpace b ++ q := by
  rw [trimSpace_eq_ascii b hb]
  exact trimSpaceAscii_decomp b

theorem trimRunes_suffix (s2 : UInt8 → UInt8 → Bool) (s3 : UInt8 → UInt8 → UInt8 → Bool) (x : Bytes) :
    trimRunes s2 s3 x <:+ x := by
  fun_induction trimRunes s2 s3 x with
  | case1 => exact List.suffix_refl _
  | case2 c r hc ih => exact ih.trans (List.suffix_cons _ _)
  | case3 c hc => exact List.suffix_refl _
  | case4 c hc d r' h2 ih => exact ih.trans ((List.suffix_cons _ _).trans (List.suffix_cons _ _))
  | case5 c hc d h2 => exact List.suffix_refl _
  | case6 c hc d h2 e r'' h3 ih =>
    exact ih.trans ((List.suffix_cons _ _).trans ((List.suffix_cons _ _).trans (List.suffix_cons _ _)))
  | case7 c hc d h2 e r'' h3 => exact List.suffix_refl _

theorem trimSpace_infix (b : Bytes) : ∃ p q, b = p ++ trimSpace b ++ q := by
  have h1 : trimLeft b <:+ b := trimRunes_suffix _ _ b
  have h2 : trimSpace b <+: trimLeft b := by
    rw [← List.reverse_suffix, trimSpace, List.reverse_reverse]
    exact trimRunes_suffix _ _ _
  obtain ⟨p, q, h⟩ := h2.isInfix.trans h1.isInfix
  exact ⟨p, q, h.symm⟩

theorem trimSpace_tight (a z : UInt8) (m : Bytes) (ha : isTrimSpace a = false) (hz : isTrimSpace z = false)
    (ha' : a < 128) (hz' : z < 128) :
    trimSpace (a :: (m ++ [z])) = a :: (m ++ [z]) := by
  unfold trimSpace trimLeft trimRightRev
  rw [trimRunes_keep highOnly_left a _ ha ha']
  have : (a :: (m ++ [z])).reverse = z :: (m.reverse ++ [a]) := by simp
  rw [this, trimRunes_keep highOnly_right z _ hz hz', ← this, List.reverse_reverse]

theorem trimSpace_single (a : UInt8) (ha : isTrimSpace a = false) (ha' : a < 128) : trimSpace [a] = [a] := by
  unfold trimSpace trimLeft trimRightRev
  rw [trimRunes_keep highOnly_left a _ ha ha']
  simp only [List.reverse_cons, List.reverse_nil, List.nil_append]
  rw [trimRunes_keep highOnly_right a _ ha ha']
  rfl

/-- a byte that is neither white space nor part of any white-space rune
    (`a2`, `b2`: as first, second byte of a two-byte rune; `a3`–`c3`: of a three-byte rune) -/
structure Inert (s2 : UInt8 → UInt8 → Bool) (s3 : UInt8 → UInt8 → UInt8 → Bool) (k : UInt8) : Prop where
  ns : isTrimSpace k = false
  a2 : ∀ d, s2 k d = false
  b2 : ∀ c, s2 c k = false
  a3 : ∀ d e, s3 k d e = false
  b3 : ∀ c e, s3 c k e = false
  c3 : ∀ c d, s3 c d k = false

section
variable {s2 : UInt8 → UInt8 → Bool} {s3 : UInt8 → UInt8 → UInt8 → Bool}

theorem trimRunes_inert_head {k : UInt8} (H : Inert s2 s3 k) (m : Bytes) :
    trimRunes s2 s3 (k :: m) = k :: m := by
  cases m with
  | nil => simp [trimRunes, H.ns]
  | cons d r' =>
    cases r' with
    | nil => simp [trimRunes, H.ns, H.a2 d]
    | cons e r'' => simp [trimRunes, H.ns, H.a2 d, H.a3 d e]

theorem trimRunes_inert_snoc {k : UInt8} (H : Inert s2 s3 k) (x : Bytes) :
    trimRunes s2 s3 (x ++ [k]) = trimRunes s2 s3 x ++ [k] := by
  rcases trimRunes_append k [] H.b2 H.b3 H.c3 x with h | ⟨h1, h2⟩
  · exact h
  · rw [h2, h1, trimRunes_inert_head H []]
    rfl

theorem trimRunes_head (x : Bytes) : ∀ a ∈ (trimRunes s2 s3 x).head?, isTrimSpace a = false := by
  fun_induction trimRunes s2 s3 x with
  | case1 => intro a h; simp at h
  | case2 c r hc ih => exact ih
  | case3 c hc => intro a h; simp at h; subst h; simpa using hc
  | case4 c hc d r' h2 ih => exact ih
  | case5 c hc d h2 => intro a h; simp at h; subst h; simpa using hc
  | case6 c hc d h2 e r'' h3 ih => exact ih
  | case7 c hc d h2 e r'' h3 => intro a h; simp at h; subst h; simpa using hc
end

/-- the first bytes of a binary saltpack message (bin8/16/32 tags) -/
def BinLead (k : UInt8) : Prop := k = 0xc4 ∨ k = 0xc5 ∨ k = 0xc6

theorem inert_left (k : UInt8) (h : BinLead k) : Inert isSp2 isSp3 k := by
  rcases h with rfl | rfl | rfl <;>
    exact ⟨rfl, fun _ => rfl, by intro c; simp [isSp2], fun _ _ => rfl,
      by intro c e; simp [isSp3], by intro c d; simp [isSp3]⟩

theorem inert_right (k : UInt8) (h : BinLead k) : Inert (fun c d => isSp2 d c) (fun c d e => isSp3 e d c) k :=
  have H := inert_left k h
  ⟨H.ns, H.b2, H.a2, fun d e => H.c3 e d, fun c e => H.b3 e c, fun c d => H.a3 d c⟩

theorem trimSpace_binlead (k : UInt8) (h : BinLead k) (y : Bytes) : ∃ z, trimSpace (k :: y) = k :: z := by
  unfold trimSpace trimLeft trimRightRev
  rw [trimRunes_inert_head (inert_left k h), List.reverse_cons, trimRunes_inert_snoc (inert_right k h)]
  exact ⟨_, by rw [List.reverse_append]; rfl⟩

theorem trimSpace_last (x : Bytes) : ∀ z ∈ (trimSpace x).getLast?, isTrimSpace z = false := by
  unfold trimSpace trimRightRev
  rw [List.getLast?_reverse]
  exact trimRunes_head _

/-- the "inside a run" state after reading `a` -/
def endState : Bool → Bytes → Bool
  | r, [] => r
  | _, c :: cs => endState (isFrameSpace c) cs

theorem collapseAux_append (a b : Bytes) : ∀ r : Bool,
    collapseAux r (a ++ b) = collapseAux r a ++ collapseAux (endState r a) b := by
  induction a with
  | nil => intro r; simp [collapseAux, endState]
  | cons c cs ih =>
    intro r
    by_cases hc : isFrameSpace c = true
    · cases r <;> simp [collapseAux, endState, hc, ih]
    · simp [collapseAux, endState, hc, ih]

theorem collapseAux_run (run b : Bytes) (hr : ∀ c ∈ run, isFrameSpace c = true) (hne : run ≠ []) (r : Bool) :
    collapseAux r (run ++ b) = (if r then [] else [space]) ++ collapseAux true b := by
  induction run generalizing r with
  | nil => exact absurd rfl hne
  | cons c cs ih =>
    have hc : isFrameSpace c = true := hr c (by simp)
    by_cases hcs : cs = []
    · subst hcs
      cases r <;> simp [collapseAux, hc]
    · have ih' := ih (List.forall_mem_cons.mp hr).2 hcs true
      cases r <;> simp [collapseAux, hc, ih']

theorem endState_run (run : Bytes) (hr : ∀ c ∈ run, isFrameSpace c = true) (hne : run ≠ []) (r : Bool) :
    endState r run = true := by
  induction run generalizing r with
  | nil => exact absurd rfl hne
  | cons c cs ih =>
    have hc : isFrameSpace c = true := hr c (by simp)
    by_cases hcs : cs = []
    · subst hcs; simp [endState, hc]
    · simp only [endState]
      exact ih (List.forall_mem_cons.mp hr).2 hcs _

theorem collapseAux_frameSpace (q : Bytes) (hq : ∀ c ∈ q, isFrameSpace c = true) :
    ∀ r : Bool, ∀ c ∈ collapseAux r q, isTrimSpace c = true := by
  induction q with
  | nil => intro r c h; simp [collapseAux] at h
  | cons x xs ih =>
    intro r c h
    have hx : isFrameSpace x = true := hq x (by simp)
    have ih' := ih (List.forall_mem_cons.mp hq).2
    cases r
    · simp only [collapseAux, hx, if_true, Bool.false_eq_true, if_false, List.mem_cons] at h
      rcases h with h | h
      · subst h; decide
      · exact ih' true c h
    · simp only [collapseAux, hx, if_true] at h
      exact ih' true c h

/-- the run state only decides whether a leading space is emitted, and
    `trimSpace` strips that space -/
theorem trim_collapseAux_state (x : Bytes) (r r' : Bool) :
    trimSpace (collapseAux r x) = trimSpace (collapseAux r' x) := by
  cases x with
  | nil => simp [collapseAux]
  | cons c cs =>
    have hsp : ∀ y : Bytes, trimSpace (space :: y) = trimSpace y := fun y =>
      trimSpace_pre [space] y (by simp; decide)
    by_cases hc : isFrameSpace c = true
    · cases r <;> cases r' <;> simp [collapseAux, hc, hsp]
    · simp [collapseAux, hc]

theorem trim_collapse_pre (p x : Bytes) (hp : ∀ c ∈ p, isFrameSpace c = true) (r : Bool) :
    trimSpace (collapseAux r (p ++ x)) = trimSpace (collapseAux r x) := by
  by_cases hne : p = []
  · subst hne; rfl
  · have hsp : ∀ c ∈ (if r then [] else [space] : Bytes), isTrimSpace c = true := by
      cases r
      · exact List.forall_mem_singleton.mpr rfl
      · exact fun c hc => absurd hc List.not_mem_nil
    rw [collapseAux_run p x hp hne r, trimSpace_pre _ _ hsp]
    exact trim_collapseAux_state x true r

theorem trim_collapse_post (x q : Bytes) (hq : ∀ c ∈ q, isFrameSpace c = true) (r : Bool) :
    trimSpace (collapseAux r (x ++ q)) = trimSpace (collapseAux r x) := by
  rw [collapseAux_append, trimSpace_post _ _ (collapseAux_frameSpace q hq _)]

theorem trim_collapse_surround (p x q : Bytes) (hp : ∀ c ∈ p, isFrameSpace c = true)
    (hq : ∀ c ∈ q, isFrameSpace c = true) :
    trimSpace (collapse (p ++ x ++ q)) = trimSpace (collapse x) := by
  unfold collapse
  rw [trim_collapse_post _ _ hq, trim_collapse_pre _ _ hp]

theorem trim_collapse_trim (b : Bytes) (hb : ∀ c ∈ b, c < 128)
    (h : ∀ c ∈ b, isTrimSpace c = true → isFrameSpace c = true) :
    trimSpace (collapse (trimSpace b)) = trimSpace (collapse b) := by
  obtain ⟨p, q, hp, hq, hb'⟩ := trimSpace_decomp b hb
  conv => rhs; rw [hb']
  rw [trim_collapse_surround p _ q (fun c hc => h c (hp c hc).2 (hp c hc).1)
    (fun c hc => h c (hq c hc).2 (hq c hc).1)]

theorem collapseAux_word (w : Bytes) (hw : ∀ c ∈ w, isFrameSpace c = false) (r : Bool) :
    collapseAux r w = w := by
  induction w generalizing r with
  | nil => simp [collapseAux]
  | cons c cs ih =>
    have hc : isFrameSpace c = false := hw c (by simp)
    simp [collapseAux, hc, ih (List.forall_mem_cons.mp hw).2]

theorem endState_word (w : Bytes) (hw : ∀ c ∈ w, isFrameSpace c = false) (hne : w ≠ []) (r : Bool) :
    endState r w = false := by
  induction w generalizing r with
  | nil => exact absurd rfl hne
  | cons c cs ih =>
    have hc : isFrameSpace c = false := hw c (by simp)
    by_cases hcs : cs = []
    · subst hcs; simp [endState, hc]
    · simp only [endState]
      exact ih (List.forall_mem_cons.mp hw).2 hcs _

theorem collapseAux_intercalate (ws : List Bytes) (hne : ws ≠ [])
    (hw : ∀ w ∈ ws, w ≠ [] ∧ ∀ c ∈ w, isFrameSpace c = false) (r : Bool) :
    collapseAux r (intercalateSp ws) = intercalateSp ws := by
  induction ws generalizing r with
  | nil => exact absurd rfl hne
  | cons w ws ih =>
    have hw1 := hw w (by simp)
    cases ws with
    | nil => simp [intercalateSp, collapseAux_word w hw1.2]
    | cons w' rest =>
      have ih' := ih (by simp) (List.forall_mem_cons.mp hw).2 true
      have hsp : isFrameSpace space = true := by decide
      simp only [intercalateSp, List.append_assoc, List.singleton_append]
      rw [collapseAux_append, collapseAux_word w hw1.2, endState_word w hw1.2 hw1.1]
      simp [collapseAux, hsp, ih']

theorem splitSp_go_word (w x cur : Bytes) (hw : ∀ c ∈ w, (c == space) = false) :
    splitSp.go (w ++ x) cur = splitSp.go x (w.reverse ++ cur) := by
  induction w generalizing cur with
  | nil => rfl
  | cons c cs ih =>
    have hc : (c == space) = false := hw c (by simp)
    simp only [List.cons_append, splitSp.go, hc, Bool.false_eq_true, if_false]
    rw [ih _ (List.forall_mem_cons.mp hw).2]
    simp

theorem splitSp_go_intercalate (w : Bytes) (ws : List Bytes) (cur : Bytes)
    (hw : ∀ v ∈ w :: ws, ∀ c ∈ v, (c == space) = false) :
    splitSp.go (intercalateSp (w :: ws)) cur = (cur.reverse ++ w) :: ws := by
  induction ws generalizing w cur with
  | nil =>
    have := splitSp_go_word w [] cur (hw w (by simp))
    simp only [List.append_nil] at this
    simp [intercalateSp, this, splitSp.go]
  | cons w' rest ih =>
    have ih' := ih w' [] (List.forall_mem_cons.mp hw).2
    simp only [intercalateSp, List.append_assoc, List.singleton_append]
    rw [splitSp_go_word w _ cur (hw w (by simp))]
    simp only [splitSp.go, beq_self_eq_true, if_true]
    rw [ih']
    simp

theorem splitSp_intercalate (w : Bytes) (ws : List Bytes)
    (hw : ∀ v ∈ w :: ws, ∀ c ∈ v, (c == space) = false) :
    splitSp (intercalateSp (w :: ws)) = w :: ws := by
  unfold splitSp
  rw [splitSp_go_intercalate w ws [] hw]
  simp

theorem mem_intercalateSp (ws : List Bytes) : ∀ c ∈ intercalateSp ws, c = space ∨ ∃ w ∈ ws, c ∈ w := by
  induction ws with
  | nil => intro c h; simp [intercalateSp] at h
  | cons w ws ih =>
    intro c h
    cases ws with
    | nil =>
      simp only [intercalateSp] at h
      exact Or.inr ⟨w, by simp, h⟩
    | cons w' rest =>
      simp only [intercalateSp, List.append_assoc, List.singleton_append, List.mem_append,
        List.mem_cons] at h
      rcases h with h | h | h
      · exact Or.inr ⟨w, by simp, h⟩
      · exact Or.inl h
      · rcases ih c h with h' | ⟨v, hv, hc⟩
        · exact Or.inl h'
        · exact Or.inr ⟨v, List.mem_cons_of_mem _ hv, hc⟩

theorem intercalateSp_cons_ne_nil (w : Bytes) (ws : List Bytes) (hw : w ≠ []) :
    intercalateSp (w :: ws) ≠ [] := by
  cases ws <;> simp [intercalateSp, hw]

theorem head?_intercalateSp (w : Bytes) (ws : List Bytes) (hw : w ≠ []) :
    (intercalateSp (w :: ws)).head? = w.head? := by
  cases w with
  | nil => exact absurd rfl hw
  | cons a m => cases ws <;> simp [intercalateSp]

theorem getLast?_append_ne (a b : Bytes) (h : b ≠ []) : (a ++ b).getLast? = b.getLast? := by
  cases b with
  | nil => exact absurd rfl h
  | cons x l => simp [List.getLast?_append, List.getLast?_cons]

theorem getLast?_intercalateSp (ws : List Bytes) (hw : ∀ w ∈ ws, w ≠ []) :
    ∀ z ∈ (intercalateSp ws).getLast?, ∃ w ∈ ws, z ∈ w := by
  induction ws with
  | nil => intro z h; simp [intercalateSp] at h
  | cons w ws ih =>
    intro z h
    cases ws with
    | nil =>
      simp only [intercalateSp] at h
      exact ⟨w, by simp, List.mem_of_getLast? h⟩
    | cons w' rest =>
      have hne : intercalateSp (w' :: rest) ≠ [] :=
        intercalateSp_cons_ne_nil w' rest (hw w' (by simp))
      simp only [intercalateSp, List.append_assoc] at h
      rw [getLast?_append_ne _ _ (by simp), getLast?_append_ne _ _ hne] at h
      obtain ⟨v, hv, hz⟩ := ih (List.forall_mem_cons.mp hw).2 z h
      exact ⟨v, List.mem_cons_of_mem _ hv, hz⟩

theorem dropWhile_id (y : Bytes) (h : ∀ a ∈ y.head?, isTrimSpace a = false) :
    y.dropWhile isTrimSpace = y := by
  cases y with
  | nil => rfl
  | cons a m =>
    have : isTrimSpace a = false := h a (by simp)
    simp [this]

theorem trimRunes_id {s2 : UInt8 → UInt8 → Bool} {s3 : UInt8 → UInt8 → UInt8 → Bool} (H : HighOnly s2 s3)
    (y : Bytes) (h : ∀ a ∈ y.head?, isTrimSpace a = false ∧ a < 128) : trimRunes s2 s3 y = y := by
  cases y with
  | nil => rfl
  | cons a m => exact trimRunes_keep H a m (h a (by simp)).1 (h a (by simp)).2

theorem trimSpace_id (x : Bytes) (h1 : ∀ a ∈ x.head?, isTrimSpace a = false ∧ a < 128)
    (h2 : ∀ z ∈ x.getLast?, isTrimSpace z = false ∧ z < 128) : trimSpace x = x := by
  unfold trimSpace trimLeft trimRightRev
  rw [trimRunes_id highOnly_left x h1, trimRunes_id highOnly_right x.reverse (by rw [List.head?_reverse]; exact h2),
    List.reverse_reverse]

theorem trimSpace_intercalate (ws : List Bytes)
    (hw : ∀ w ∈ ws, w ≠ [] ∧ ∀ c ∈ w, isTrimSpace c = false ∧ c < 128) :
    trimSpace (intercalateSp ws) = intercalateSp ws := by
  apply trimSpace_id
  · cases ws with
    | nil => intro a h; simp [intercalateSp] at h
    | cons w rest =>
      intro a h
      rw [head?_intercalateSp w rest (hw w (by simp)).1] at h
      exact (hw w (by simp)).2 a (List.mem_of_head? h)
  · intro z h
    obtain ⟨w, hw', hz⟩ := getLast?_intercalateSp ws (fun w h => (hw w h).1) z h
    exact (hw w hw').2 z hz

theorem encode_strict (e : Basex.Enc) (bs : Bytes) : Basex.encode e.strict bs = Basex.encode e bs := rfl

theorem encode_chars (e : Basex.Enc) (he : e.WF) (bs : Bytes) :
    ∀ c ∈ Basex.encode e bs, (e.digit? c).isSome = true := by
  intro c hc
  unfold Basex.encode at hc
  rw [List.mem_flatMap] at hc
  obtain ⟨blk, hblk, hc⟩ := hc
  unfold Basex.encodeBlock at hc
  rw [List.mem_map] at hc
  obtain ⟨d, hd, rfl⟩ := hc
  have hlen := (chunks_mem_length e.blockLen he.block_pos bs.length bs (Nat.le_refl _) blk hblk).2
  have hlt := (encodeBlock_value e he blk hlen).2 d hd
  rw [digit?_char he d hlt]
  rfl

theorem filterSkip_append (e : Basex.Enc) (a b : Bytes) :
    Basex.filterSkip e (a ++ b) = Basex.filterSkip e a ++ Basex.filterSkip e b := by
  unfold Basex.filterSkip
  exact List.filter_append ..

theorem filterSkip_run (run : Bytes) (hr : ∀ c ∈ run, isFrameSpace c = true) :
    Basex.filterSkip params62.enc run = [] := by
  unfold Basex.filterSkip
  rw [List.filter_eq_nil_iff]
  intro c hc
  have h1 : params62.enc.isSkip c = true := by rw [← frameSpace_iff_skip]; exact hr c hc
  simp [h1, skip_not_digit c h1]

theorem filterSkip_word (w : Bytes) (hw : ∀ c ∈ w, (params62.enc.digit? c).isSome = true) :
    Basex.filterSkip params62.enc w = w := by
  unfold Basex.filterSkip
  rw [List.filter_eq_self]
  intro c hc
  have := hw c hc
  simp [this]

theorem sep_frameSpace (b : Prop) [Decidable b] : isFrameSpace (if b then newline else space) = true := by
  split <;> decide

theorem filterSkip_spaceWords (ws : List Bytes)
    (hw : ∀ w ∈ ws, ∀ c ∈ w, (params62.enc.digit? c).isSome = true) (k : Nat) :
    Basex.filterSkip params62.enc (spaceWords params62 k ws) = ws.flatten := by
  induction ws generalizing k with
  | nil => simp [spaceWords, Basex.filterSkip]
  | cons w ws ih =>
    cases ws with
    | nil => simp [spaceWords, filterSkip_word w (hw w (by simp))]
    | cons w' rest =>
      have ih' := ih (List.forall_mem_cons.mp hw).2 (k + 1)
      simp only [spaceWords, filterSkip_append, ih', filterSkip_word w (hw w (by simp))]
      rw [filterSkip_run [_] (by intro c hc; rw [List.mem_singleton] at hc; subst hc; exact sep_frameSpace _)]
      simp

theorem valid_spaceWords (ws : List Bytes)
    (hw : ∀ w ∈ ws, ∀ c ∈ w, (params62.enc.digit? c).isSome = true) (k : Nat) :
    ∀ c ∈ spaceWords params62 k ws, validByte params62 c = true := by
  induction ws generalizing k with
  | nil => intro c h; simp [spaceWords] at h
  | cons w ws ih =>
    intro c h
    cases ws with
    | nil =>
      simp only [spaceWords] at h
      exact (digit_facts c (hw w (by simp) c h)).1
    | cons w' rest =>
      simp only [spaceWords, List.mem_append, List.mem_singleton] at h
      rcases h with (h | h) | h
      · exact (digit_facts c (hw w (by simp) c h)).1
      · subst h; exact frameSpace_valid _ (sep_frameSpace _)
      · exact ih (List.forall_mem_cons.mp hw).2 (k + 1) c h

end Saltpack.Proofs
