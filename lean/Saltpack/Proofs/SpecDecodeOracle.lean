/-
  The oracle entry points (`SpecDecode.encryption`, `.attached`, `.detached`),
  bytes in, verdict out: what an acceptance consists of (`*_ok_iff`), the
  reference sender's fields as well-formed wire fields, and the soundness of the
  encryption oracle (which Proofs/SpecDecodeModel.lean builds on).  The other
  end-to-end statements are put together in Props/C08Decode.lean.
-/
import Saltpack.Proofs.SpecDecodeSig
import Saltpack.Toy

namespace Saltpack.Proofs.SDW
open Saltpack Saltpack.Msgpack Saltpack.SpecDecode Saltpack.Proofs
open Saltpack.Spec hiding encode

section
variable (P : Prims)

/-! ### the reference sender's fields are well-formed wire fields -/

theorem layout_of_major {major : Int} (h : major = 1 ∨ major = 2) :
    ∃ layout : Nat, (layout = 1 ∨ layout = 2) ∧ major = layout := by
  rcases h with rfl | rfl
  · exact ⟨1, Or.inl rfl, rfl⟩
  · exact ⟨2, Or.inr rfl, rfl⟩

theorem major_of_layout {layout : Nat} (h : layout = 1 ∨ layout = 2) : (layout : Int) = 1 ∨ (layout : Int) = 2 := by
  rcases h with rfl | rfl
  · exact Or.inl rfl
  · exact Or.inr rfl

theorem planOK_len (layout : Nat) : ∀ (pl : List (Bytes × Bool)) (k : Nat), PlanOK layout k pl →
    ∀ x ∈ pl, x.1.length ≤ 1048576 := by
  intro pl
  induction pl with
  | nil => intro _ _ x hx; cases hx
  | cons a as ih =>
    intro k h x hx
    obtain ⟨c, f⟩ := a
    obtain ⟨h1, _, h3⟩ := h
    rcases List.mem_cons.1 hx with rfl | hx
    · exact h1
    · exact ih (k + 1) h3 x hx

theorem mem_zipIdx_map {α β : Type} (l : List α) (k : Nat) (g : α × Nat → β) (y : β)
    (hy : y ∈ (l.zipIdx k).map g) : ∃ a ∈ l, ∃ i, y = g (a, i) := by
  obtain ⟨⟨a, i⟩, hai, rfl⟩ := List.mem_map.1 hy
  exact ⟨a, (List.mem_zipIdx hai).2.2 ▸ List.getElem_mem _, i, rfl⟩

theorem specEncMsg_wf (hL : P.Lawful) (layout : Nat) (hl : layout = 1 ∨ layout = 2) (sender : Option Bytes)
    (recips : List (Bytes × Bool)) (eph pk : Bytes) (hpk : pk.length = 32) (pl : List (Bytes × Bool))
    (hpl : PlanOK layout 0 pl) (hn : recips.length < 2 ^ 32)
    (hh : (specEncHdr P layout sender (rsOf P recips) eph pk).headerBytes.length < 2 ^ 32) :
    EncMsgWF (specEncMsg P layout sender (rsOf P recips) eph pk pl) := by
  refine ⟨?_, hL.pub_len _, ?_, ?_, ?_, hh, ?_⟩
  · exact major_of_layout hl
  · show (P.sbSeal _ _ _).length = 48
    rw [hL.sb_len, hL.pub_len]
  · intro r hr
    obtain ⟨a, ha, i, rfl⟩ := mem_zipIdx_map _ _ _ _ hr
    obtain ⟨x, _, rfl⟩ := List.mem_map.1 ha
    refine ⟨?_, ?_⟩
    · show (P.sbSeal _ _ _).length = 48
      rw [hL.sb_len, hpk]
    · intro k hk
      cases hx : x.2 with
      | true => simp only [specEncRecv, hx] at hk; cases hk
      | false =>
        -- a visible recipient's key id is its public key
        simp only [specEncRecv, hx] at hk
        cases hk
        exact hL.pub_len _
  · show (List.map _ ((rsOf P recips).zipIdx)).length < _
    rw [List.length_map, List.length_zipIdx, rsOf, List.length_map]
    exact hn
  · intro p hp
    obtain ⟨a, ha, i, rfl⟩ := mem_zipIdx_map _ _ _ _ hp
    refine ⟨?_, ?_, ?_, ?_⟩
    · intro h1
      exact if_pos (Int.ofNat.inj h1)
    · exact List.forall_mem_map.2 fun k _ => by rw [List.length_take, hL.hmac_len]; rfl
    · show (List.map _ (List.map _ ((rsOf P recips).zipIdx))).length < _
      rw [List.length_map, List.length_map, List.length_zipIdx, rsOf, List.length_map]
      exact hn
    · show (P.sbSeal _ _ _).length < _
      rw [hL.sb_len]
      have := planOK_len layout pl 0 hpl a ha
      omega

/-! ### encryption, end to end -/

/-- the verdict line of the oracle for an accepted encryption message -/
def encSummary (m : EncMsg) (o : EncOpened) : String :=
  s!"plaintext={showB o.chunks.flatten} sender={showB o.senderPub} anon={o.senderPub == m.eph} recipients={",".intercalate (m.recvs.map (fun r => showKid r.kid))}"

theorem encryption_ok_iff (b : Bytes) (secrets : List Bytes) (s : String) :
    encryption P b secrets = .ok s ↔
      ∃ m o, EncMsg.parse b = .ok m ∧ m.check P secrets = .ok o ∧ s = encSummary m o := by
  unfold encryption
  constructor
  · intro h
    split at h
    · cases h
    · rename_i m hm
      split at h
      · cases h
      · rename_i o ho
        injection h with h
        exact ⟨m, o, hm, ho, h.symm⟩
  · rintro ⟨m, o, h1, h2, rfl⟩
    rw [h1]
    simp only
    rw [h2]
    rfl

theorem oracle_sound_encryption (hL : P.Lawful) (hC : OpenCanonical P) (b : Bytes) (secrets : List Bytes) (s : String)
    (h : encryption P b secrets = .ok s) :
    ∃ (m : EncMsg) (o : EncOpened) (layout : Nat), (layout = 1 ∨ layout = 2) ∧ m.major = layout ∧
      EncMsg.parse b = .ok m ∧ m.check P secrets = .ok o ∧ s = encSummary m o ∧ m.render = b ∧
      PlanOK layout 0 (planOf o.chunks m.pkts) ∧ (planOf o.chunks m.pkts).map (·.1) = o.chunks ∧
      (recipsOf secrets m.recvs).map (·.1) = secrets ∧
      ∀ ephSec senderSec, m.eph = P.boxPub ephSec → o.senderPub = P.boxPub senderSec →
        b = Spec.encodePlan P layout {} (some senderSec) (rsOf P (recipsOf secrets m.recvs)) ephSec
              o.payloadKey (planOf o.chunks m.pkts) := by
  obtain ⟨m, o, hp, hc, rfl⟩ := (encryption_ok_iff P b secrets s).1 h
  obtain ⟨hmaj, _, _, _, hpk⟩ := EncMsg.parse_fields hp
  have hr := EncMsg.parse_sound hp
  obtain ⟨layout, hl, hm⟩ := layout_of_major hmaj
  obtain ⟨rest, hks, _, _, _, hch⟩ := (enc_check_ok_iff P).1 hc
  rw [hm] at hch
  obtain ⟨hlen, hplan⟩ := encPkts_plan P layout _ _ _ _ _ _ hch
  refine ⟨m, o, layout, hl, hm, hp, hc, rfl, hr, hplan, map_fst_zipWith _ _ _ hlen,
    map_fst_zipWith _ _ _ (encRecvKeys_length P _ _ _ _ _ _ hks).1, ?_⟩
  intro ephSec senderSec he hs
  rw [spec_encodePlan_render P layout hl,
    ← enc_check_sound P hL hC m secrets o layout hl hm (fun p hp' => (hpk p hp').1) hc ephSec senderSec he hs, hr]

/-! ### signatures, end to end -/

theorem attached_ok_iff (nl : Nat) (b : Bytes) (s : String) :
    SpecDecode.attached P nl b = .ok s ↔
      ∃ m, AttMsg.parse b = .ok m ∧ m.check P nl = .ok () ∧
        s = s!"plaintext={showB m.plaintext} signer={showB m.signer}" := by
  unfold SpecDecode.attached
  constructor
  · intro h
    split at h
    · cases h
    · rename_i m hm
      split at h
      · cases h
      · rename_i o ho
        injection h with h
        exact ⟨m, hm, ho, h.symm⟩
  · rintro ⟨m, h1, h2, rfl⟩
    rw [h1]
    simp only
    rw [h2]

theorem detached_ok_iff (nl : Nat) (b msg : Bytes) (s : String) :
    SpecDecode.detached P nl b msg = .ok s ↔
      ∃ m, DetMsg.parse b = .ok m ∧ m.check P nl msg = .ok () ∧ s = s!"signer={showB m.signer}" := by
  unfold SpecDecode.detached
  constructor
  · intro h
    split at h
    · cases h
    · rename_i m hm
      split at h
      · cases h
      · rename_i o ho
        injection h with h
        exact ⟨m, hm, ho, h.symm⟩
  · rintro ⟨m, h1, h2, rfl⟩
    rw [h1]
    simp only
    rw [h2]

theorem specAttMsg_wf (hL : P.Lawful) (layout : Nat) (hl : layout = 1 ∨ layout = 2) (signer nonce : Bytes)
    (pl : List (Bytes × Bool)) (hpl : PlanOK layout 0 pl) (hn : nonce.length < 2 ^ 31) :
    AttMsgWF (specAttMsg P layout signer nonce pl) := by
  refine ⟨major_of_layout hl, hL.sigPub_len _, by show nonce.length < _; omega, ?_⟩
  · intro p hp
    obtain ⟨a, ha, i, rfl⟩ := mem_zipIdx_map _ _ _ _ hp
    refine ⟨?_, hL.sig_len _ _, ?_⟩
    · intro h1
      exact if_pos (Int.ofNat.inj h1)
    · show a.1.length < _
      have := planOK_len layout pl 0 hpl a ha
      omega

end

/-! ### non-vacuity of the hypotheses on the primitives -/

theorem toy_openCanonical : OpenCanonical Toy.prims := by
  intro k n c m h
  simp only [Toy.prims] at h
  split at h
  · rename_i hc
    injection h with h
    subst h
    show c = Toy.tag k n ++ c.drop 16
    rw [← hc.2, List.take_append_drop]
  · cases h

theorem toy_sigCanonical : SigCanonical Toy.prims := by
  intro s m sg h
  simp only [Toy.prims] at h ⊢
  exact eq_of_beq h

end Saltpack.Proofs.SDW
