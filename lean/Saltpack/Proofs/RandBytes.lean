/-
  The byte-level shuffle of the sender models (`Encrypt.shuffleDraws`, four bytes
  of the randomness source at a time) is the word-level `Rand.drawsFrom` that the
  uniformity theorems of Props/C19 are about; and `sealSecrets`, the randomness
  stage `Seal` and `SigncryptSeal` share (shuffle draws, ephemeral secret,
  payload key), with the header each `sealWith` then emits.
-/
import Saltpack.Model.Encrypt
import Saltpack.Model.Signcrypt
import Saltpack.Proofs.RandDraw
import Saltpack.Proofs.RandShuffle
import Saltpack.Proofs.Digits
import Saltpack.Proofs.Fields

namespace Saltpack.Proofs
open Saltpack Saltpack.Rand

/-- `c` successive `csprngUint32` reads: full reads of 4 bytes, each taken as a
    big-endian 32-bit word -/
def readWords : Nat → Source → Option (List Nat × Source)
  | 0, src => some ([], src)
  | c + 1, src =>
    match readFull 4 src with
    | none => none
    | some (b, src') =>
      match readWords c src' with
      | none => none
      | some (ws, rest) => some (natOfBytes b :: ws, rest)

theorem readFull_cons_ok {n : Nat} {r : RRead} {src : Source} {b : Bytes} {rest : Source}
    (h : readFull (n + 1) (r :: src) = some (b, rest)) :
    (b = r.data.take (n + 1) ∧ b.length = n + 1 ∧ rest = src) ∨
    ∃ more, (r.data.take (n + 1)).length ≠ n + 1 ∧ r.err = false ∧ (r.data.take (n + 1)).isEmpty = false ∧
      readFull (n + 1 - (r.data.take (n + 1)).length) src = some (more, rest) ∧
      b = r.data.take (n + 1) ++ more := by
  rw [readFull] at h
  by_cases hg : (r.data.take (n + 1)).length = n + 1
  · rw [if_pos hg] at h
    cases h
    exact .inl ⟨rfl, hg, rfl⟩
  · rw [if_neg hg] at h
    cases he : r.err with
    | true => rw [he, if_pos rfl] at h; cases h
    | false =>
      cases hemp : (r.data.take (n + 1)).isEmpty with
      | true => rw [he, hemp] at h; cases h
      | false =>
        rw [he, hemp] at h
        cases hrec : readFull (n + 1 - (r.data.take (n + 1)).length) src with
        | none => rw [hrec] at h; cases h
        | some p =>
          rw [hrec] at h
          cases h
          exact .inr ⟨p.1, hg, rfl, rfl, rfl, rfl⟩

theorem readFull_length (n : Nat) (src : Source) (b : Bytes) (rest : Source)
    (h : readFull n src = some (b, rest)) : b.length = n := by
  induction src generalizing n b with
  | nil =>
    cases n with
    | zero => cases h; rfl
    | succ n => cases h
  | cons r src ih =>
    cases n with
    | zero => cases h; rfl
    | succ n =>
      rcases readFull_cons_ok h with ⟨-, hl, -⟩ | ⟨more, -, -, -, hrec, rfl⟩
      · exact hl
      · have := ih _ _ hrec
        have hle : (r.data.take (n + 1)).length ≤ n + 1 := by
          rw [List.length_take]; omega
        rw [List.length_append, this]
        omega

theorem readWords_append (c1 c2 : Nat) (src mid rest : Source) (ws1 ws2 : List Nat)
    (h1 : readWords c1 src = some (ws1, mid)) (h2 : readWords c2 mid = some (ws2, rest)) :
    readWords (c1 + c2) src = some (ws1 ++ ws2, rest) := by
  induction c1 generalizing src ws1 with
  | zero =>
    rw [readWords] at h1
    cases h1
    simpa using h2
  | succ c1 ih =>
    rw [readWords] at h1
    split at h1
    · cases h1
    rename_i b src' hr
    split at h1
    · cases h1
    rename_i ws rest' hw
    cases h1
    have := ih _ _ hw
    rw [Nat.add_right_comm, readWords, hr]
    simp only [this, List.cons_append]

theorem u32n_append (n : Nat) (ws t x : List Nat) (r : Nat) (h : u32n n ws = some (r, t)) :
    u32n n (ws ++ x) = some (r, t ++ x) := by
  induction ws with
  | nil => simp [u32n] at h
  | cons w ws ih =>
    rw [u32n] at h
    rw [List.cons_append, u32n]
    cases hs : u32nStep n w with
    | none =>
      rw [hs] at h
      simp only at h ⊢
      exact ih h
    | some r' =>
      rw [hs] at h
      simp only at h ⊢
      cases h
      rfl

theorem draw_words (n : Nat) (src : Source) (fuel : Nat) (r : Nat) (rest : Source)
    (h : Encrypt.shuffleDraws.draw n src fuel = .ok (r, rest)) :
    ∃ c ws, 0 < c ∧ readWords c src = some (ws, rest) ∧ (∀ w ∈ ws, w < 2 ^ 32) ∧
      u32n n ws = some (r, []) := by
  induction fuel generalizing src with
  | zero =>
    rw [Encrypt.shuffleDraws.draw] at h
    cases h
  | succ fuel ih =>
    rw [Encrypt.shuffleDraws.draw] at h
    split at h
    · cases h
    rename_i b src' hr
    have hb : natOfBytes b < 2 ^ 32 := by
      have h1 := natOfBytes_lt b
      rw [readFull_length 4 src b src' hr] at h1
      exact h1
    split at h
    · rename_i r' hs
      cases h
      refine ⟨1, [natOfBytes b], Nat.one_pos, ?_, ?_, ?_⟩
      · rw [readWords, hr]
        simp only [readWords]
      · intro w hw
        rw [List.mem_singleton.mp hw]
        exact hb
      · rw [u32n, hs]
    · rename_i hs
      obtain ⟨c, ws, _, hw, hlt, hu⟩ := ih _ h
      refine ⟨c + 1, natOfBytes b :: ws, Nat.succ_pos _, ?_, ?_, ?_⟩
      · rw [readWords, hr]
        simp only [hw]
      · intro w hw'
        rcases List.mem_cons.mp hw' with rfl | hw'
        · exact hb
        · exact hlt w hw'
      · rw [u32n, hs]
        exact hu

theorem shuffleDraws_words (k : Nat) (src : Source) (fuel : Nat) (js : List Nat) (rest : Source)
    (h : Encrypt.shuffleDraws k src fuel = .ok (js, rest)) :
    ∃ c ws, readWords c src = some (ws, rest) ∧ (∀ w ∈ ws, w < 2 ^ 32) ∧
      drawsFrom k ws = some (js, []) := by
  induction k generalizing src js with
  | zero =>
    rw [Encrypt.shuffleDraws] at h
    cases h
    exact ⟨0, [], rfl, fun _ hw => absurd hw List.not_mem_nil, rfl⟩
  | succ k ih =>
    rw [Encrypt.shuffleDraws] at h
    split at h
    · cases h
    rename_i j src' hd
    split at h
    · cases h
    rename_i js' rest' hrec
    cases h
    obtain ⟨c1, ws1, _, hw1, hlt1, hu1⟩ := draw_words (k + 2) src fuel j src' hd
    obtain ⟨c2, ws2, hw2, hlt2, hu2⟩ := ih _ _ hrec
    refine ⟨c1 + c2, ws1 ++ ws2, readWords_append c1 c2 src src' rest ws1 ws2 hw1 hw2, ?_, ?_⟩
    · intro w hw
      rcases List.mem_append.mp hw with hw | hw
      · exact hlt1 w hw
      · exact hlt2 w hw
    · rw [drawsFrom, u32n_append (k + 2) ws1 [] ws2 j hu1]
      simp only [List.nil_append, hu2]

theorem shuffleDraws_valid (k : Nat) (src : Source) (fuel : Nat) (js : List Nat) (rest : Source)
    (h : Encrypt.shuffleDraws k src fuel = .ok (js, rest)) : ValidDraws k js := by
  obtain ⟨c, ws, -, hlt, hdf⟩ := shuffleDraws_words k src fuel js rest h
  exact RandDraw.drawsFrom_valid k ws js [] hlt hdf

/-! ## the randomness of `Seal` and `SigncryptSeal` -/

/-- the randomness `Seal` and `SigncryptSeal` consume before sealing, in this
    order: the shuffle draws for `n` recipients, the ephemeral secret, the
    payload key; with the unread source -/
def sealSecrets (n : Nat) (eph : Encrypt.EphSource) (src : Source) :
    Except Err (List Nat × Bytes × Bytes × Source) :=
  match Encrypt.shuffleDraws (n - 1) src (src.length + 1) with
  | .error e => .error e
  | .ok (js, src1) =>
    let ephR : Except Err (Bytes × Source) :=
      match eph with
      | .given s => .ok (s, src1)
      | .fails => .error .ioError
      | .fromRand => match readFull 32 src1 with
        | none => .error .ioError
        | some (s, src2) => .ok (s, src2)
    match ephR with
    | .error e => .error e
    | .ok (ephSec, src2) =>
      match readFull 32 src2 with
      | none => .error .ioError
      | some (pk, src3) => .ok (js, ephSec, pk, src3)

theorem enc_sealRand_eq (P : Prims) (bs : Nat) (v : Version) (sender : Option Bytes)
    (rs : List Encrypt.Recipient) (eph : Encrypt.EphSource) (src : Source) (pt : Bytes) :
    Encrypt.sealRand P bs v sender rs eph src pt =
      if !knownVersion v then .error .badVersion
      else match Encrypt.checkReceivers rs with
      | .error e => .error e
      | .ok () =>
        match sealSecrets rs.length eph src with
        | .error e => .error e
        | .ok (js, ephSec, pk, rest) =>
          match Encrypt.sealWith P bs v sender (shuffle js rs) ephSec pk pt with
          | .error e => .error e
          | .ok m => .ok (m, rest) := by
  unfold Encrypt.sealRand sealSecrets
  split
  · rfl
  cases Encrypt.checkReceivers rs with
  | error e => rfl
  | ok u =>
  cases Encrypt.shuffleDraws (rs.length - 1) src (src.length + 1) with
  | error e => rfl
  | ok p =>
    cases eph with
    | given s => dsimp only; cases readFull 32 p.2 <;> rfl
    | fails => rfl
    | fromRand =>
      dsimp only
      cases readFull 32 p.2 with
      | none => rfl
      | some q => dsimp only; cases readFull 32 q.2 <;> rfl

theorem sc_sealRand_eq (P : Prims) (bs : Nat) (sender : Option Bytes)
    (boxes syms : List Signcrypt.Recipient) (eph : Encrypt.EphSource) (src : Source) (pt : Bytes) :
    Signcrypt.sealRand P bs sender boxes syms eph src pt =
      match Signcrypt.checkReceivers boxes syms with
      | .error e => .error e
      | .ok () =>
        match sealSecrets (boxes ++ syms).length eph src with
        | .error e => .error e
        | .ok (js, ephSec, pk, rest) =>
          match Signcrypt.sealWith P bs sender (shuffle js (boxes ++ syms)) ephSec pk pt with
          | .error e => .error e
          | .ok m => .ok (m, rest) := by
  unfold Signcrypt.sealRand sealSecrets
  cases Signcrypt.checkReceivers boxes syms with
  | error e => rfl
  | ok u =>
  dsimp only
  cases Encrypt.shuffleDraws ((boxes ++ syms).length - 1) src (src.length + 1) with
  | error e => rfl
  | ok p =>
    cases eph with
    | given s => dsimp only; cases readFull 32 p.2 <;> rfl
    | fails => rfl
    | fromRand =>
      dsimp only
      cases readFull 32 p.2 with
      | none => rfl
      | some q => dsimp only; cases readFull 32 q.2 <;> rfl
theorem sealSecrets_ok (n : Nat) (eph : Encrypt.EphSource) (src : Source) (js : List Nat)
    (ephSec pk : Bytes) (rest : Source) (h : sealSecrets n eph src = .ok (js, ephSec, pk, rest)) :
    ∃ src1 src2, Encrypt.shuffleDraws (n - 1) src (src.length + 1) = .ok (js, src1) ∧
      (match eph with
        | .given s => ephSec = s ∧ src2 = src1
        | .fromRand => readFull 32 src1 = some (ephSec, src2)
        | .fails => False) ∧
      readFull 32 src2 = some (pk, rest) := by
  unfold sealSecrets at h
  split at h
  · cases h
  next js' src1 hsd =>
  cases eph with
  | given s =>
    dsimp only at h
    split at h
    · cases h
    next pk' src3 hpk =>
    cases h
    exact ⟨src1, src1, hsd, ⟨rfl, rfl⟩, hpk⟩
  | fails => cases h
  | fromRand =>
    dsimp only at h
    cases hr : readFull 32 src1 with
    | none => rw [hr] at h; cases h
    | some p =>
      rw [hr] at h
      dsimp only at h
      split at h
      · cases h
      next pk' src3 hpk =>
      cases h
      exact ⟨src1, p.2, hsd, hr, hpk⟩

theorem enc_sealRand_ok (P : Prims) (bs : Nat) (v : Version) (sender : Option Bytes)
    (rs : List Encrypt.Recipient) (eph : Encrypt.EphSource) (src : Source) (pt m : Bytes) (rest : Source)
    (h : Encrypt.sealRand P bs v sender rs eph src pt = .ok (m, rest)) :
    ∃ js ephSec pk, sealSecrets rs.length eph src = .ok (js, ephSec, pk, rest) ∧
      Encrypt.sealWith P bs v sender (shuffle js rs) ephSec pk pt = .ok m := by
  rw [enc_sealRand_eq] at h
  split at h
  · cases h
  split at h
  · cases h
  split at h
  · cases h
  next js ephSec pk rest' hs =>
  split at h
  · cases h
  next m' hm =>
  cases h
  exact ⟨js, ephSec, pk, hs, hm⟩

theorem sc_sealRand_ok (P : Prims) (bs : Nat) (sender : Option Bytes)
    (boxes syms : List Signcrypt.Recipient) (eph : Encrypt.EphSource) (src : Source) (pt m : Bytes) (rest : Source)
    (h : Signcrypt.sealRand P bs sender boxes syms eph src pt = .ok (m, rest)) :
    ∃ js ephSec pk, sealSecrets (boxes ++ syms).length eph src = .ok (js, ephSec, pk, rest) ∧
      Signcrypt.sealWith P bs sender (shuffle js (boxes ++ syms)) ephSec pk pt = .ok m := by
  rw [sc_sealRand_eq] at h
  split at h
  · cases h
  split at h
  · cases h
  next js ephSec pk rest' hs =>
  split at h
  · cases h
  next m' hm =>
  cases h
  exact ⟨js, ephSec, pk, hs, hm⟩

/-! ## the header `sealWith` emits -/

theorem sc_receiverEntries_kids (P : Prims) (eph pk : Bytes) (rs : List Signcrypt.Recipient) (i : Nat) :
    (Signcrypt.receiverEntries P eph pk rs i).length = rs.length := by
  induction rs generalizing i with
  | nil => rfl
  | cons r rs ih => simp [Signcrypt.receiverEntries, ih]

theorem sealWith_header (P : Prims) (bs : Nat) (v : Version) (sender : Option Bytes)
    (rs : List Encrypt.Recipient) (ephSec pk pt m : Bytes)
    (hm : Encrypt.sealWith P bs v sender rs ephSec pk pt = .ok m) :
    ∃ hd hb blks body,
      Encrypt.sealPackets P bs v sender rs ephSec pk pt = .ok (hd, hb, blks) ∧
      Encrypt.encodeBlocks v blks = .ok body ∧
      m = headerPacket hb ++ body ∧ hb = Msgpack.encode hd.toVal ∧
      Encrypt.receiverEntries P v ephSec pk rs 0 = .ok hd.receivers ∧
      hd.receivers.map (·.kid) = rs.map (fun r => if r.hidden then none else some r.pub) := by
  unfold Encrypt.sealWith at hm
  split at hm
  · cases hm
  rename_i hd hb blks hp
  split at hm
  · cases hm
  rename_i body hbody
  cases hm
  have hp' := hp
  unfold Encrypt.sealPackets at hp'
  split at hp'
  · cases hp'
  split at hp'
  · cases hp'
  split at hp'
  · cases hp'
  rename_i hd' hhd
  simp only at hp'
  split at hp'
  · cases hp'
  split at hp'
  · cases hp'
  cases hp'
  exact ⟨_, _, blks, body, hp, hbody, rfl, rfl, (fields_header_receivers P v sender ephSec pk rs hd hhd).1,
    enc_kid_slots P v sender ephSec pk rs hd hhd⟩

theorem sc_sealWith_header (P : Prims) (bs : Nat) (sender : Option Bytes)
    (rs : List Signcrypt.Recipient) (ephSec pk pt m : Bytes)
    (hm : Signcrypt.sealWith P bs sender rs ephSec pk pt = .ok m) :
    ∃ hd hb blks,
      Signcrypt.sealPackets P bs sender rs ephSec pk pt = .ok (hd, hb, blks) ∧
      m = headerPacket hb ++ Signcrypt.encodeBlocks blks ∧ hb = Msgpack.encode hd.toVal ∧
      hd.receivers = Signcrypt.receiverEntries P ephSec pk rs 0 := by
  unfold Signcrypt.sealWith at hm
  split at hm
  · cases hm
  rename_i hd hb blks hp
  cases hm
  have hp' := hp
  unfold Signcrypt.sealPackets at hp'
  split at hp'
  · cases hp'
  simp only at hp'
  split at hp'
  · cases hp'
  cases hp'
  exact ⟨_, _, blks, hp, rfl, rfl, rfl⟩

end Saltpack.Proofs
