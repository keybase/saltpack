/-
  Saltpack.Proofs.CodecTotalSplit — the stream level: `Codec.blocks` never exhausts its fuel
  (every packet decoder consumes a byte) and every `unmodelled w` answer of `Codec.split*` /
  `Front.read*` carries a documented reason.  Core Lean only.
-/
import Saltpack.Proofs.CodecTotalTypes
import Saltpack.Proofs.CodecBytes

namespace Saltpack.Proofs.CodecP
open Saltpack Saltpack.Msgpack Saltpack.Codec Saltpack.Proofs

/-- "every successful decode consumes at least one byte" — the hypothesis of
    `blocks_unmodelled_provenance` (Proofs/CodecBytes.lean) — for a decoder with `Sp 1` -/
theorem Sp.progress {α : Type} {d : Dec α} (h : ∀ N, Sp 1 N d) (b : Bytes) (x : α) (r : Bytes) (e : d b = .ok (x, r)) :
    r.length < b.length := by
  have := (h b.length b (Nat.le_refl _)).1 x r e; omega

theorem Sp.doc {α : Type} {k : Nat} {d : Dec α} (h : ∀ N, Sp k N d) (b : Bytes) (w : String)
    (e : d b = .error (.unmodelled w)) : Doc w :=
  (h b.length b (Nat.le_refl _)).2 w e

theorem blocks_doc {β : Type} (dec : Dec β) (hd : ∀ N, Sp 1 N dec) (fuel : Nat) (b : Bytes) (w : String)
    (hf : b.length < fuel) (h : blocks dec fuel b = .error w) : Doc w := by
  obtain ⟨b', _, hb'⟩ := blocks_unmodelled_provenance dec (Sp.progress hd) fuel b w hf h
  rcases hb' with h1 | ⟨_, h2⟩
  · exact Sp.doc hd b' w h1
  · exact Sp.doc generic_sp b' w h2

theorem readHeader_doc {η : Type} (dec : Dec η) (hd : ∀ N, Sp 1 N dec) (msg : Bytes) (w : String)
    (h : readHeader dec msg = .error w) : Doc w := by
  unfold readHeader at h
  split at h
  · rename_i w' h1; cases h; exact Sp.doc decBytesTop_sp msg w h1
  · cases h
  · split at h
    · rename_i w' h1; cases h; exact Sp.doc hd _ w h1
    · cases h
    · cases h

theorem split_doc {η β : Type} (decH : Dec η) (decB : η → Option (Dec β)) (hH : ∀ N, Sp 1 N decH)
    (hB : ∀ h d, decB h = some d → ∀ N, Sp 1 N d) (msg : Bytes) (w : String)
    (h : split decH decB msg = .error w) : Doc w := by
  unfold split at h
  split at h
  · rename_i w' h1; cases h; exact readHeader_doc decH hH msg w h1
  · split at h
    · cases h
    · rename_i d hd
      split at h
      · rename_i w' h1; cases h
        exact blocks_doc d (hB _ d hd) _ _ w (Nat.lt_succ_self _) h1
      · cases h
  · cases h

theorem splitEnc_doc (msg : Bytes) (w : String) (h : splitEnc msg = .error w) : Doc w := by
  refine split_doc _ _ decEncHeader_sp (fun hd d hdd => ?_) msg w h
  split at hdd
  · cases hdd; exact decEncBlock_sp _
  · cases hdd

theorem splitSigncrypt_doc (msg : Bytes) (w : String) (h : splitSigncrypt msg = .error w) : Doc w := by
  refine split_doc _ _ decEncHeader_sp (fun hd d hdd => ?_) msg w h
  cases hdd; exact decSigncryptBlock_sp

theorem splitSig_doc (msg : Bytes) (w : String) (h : splitSig msg = .error w) : Doc w := by
  refine split_doc _ _ decSigHeader_sp (fun hd d hdd => ?_) msg w h
  split at hdd
  · cases hdd; exact decSigBlock_sp _
  · cases hdd

theorem splitDetached_doc (msg : Bytes) (w : String) (h : splitDetached msg = .error w) : Doc w := by
  unfold splitDetached at h
  split at h
  · rename_i w' h1; cases h; exact readHeader_doc _ decSigHeader_sp msg w h1
  · split at h
    · cases h
    · cases h
    · rename_i w' h1; cases h; exact Sp.doc decBytesTop_sp _ w h1
    · cases h
  · cases h

theorem blocks_fuel_sufficient {β : Type} (dec : Dec β) (hd : ∀ N, Sp 1 N dec) (rest : Bytes) :
    blocks dec (rest.length + 1) rest ≠ .error "fuel" :=
  fun h => (blocks_doc dec hd _ rest _ (Nat.lt_succ_self _) h).ne_fuel rfl

/-! ### the front ends -/

theorem readEnc_doc (msg : Bytes) (w : String) (h : Front.readEnc msg = .error w) : Doc w :=
  splitEnc_doc msg w (settle_error.1 (orWire_error h).1)

theorem readSigncrypt_doc (msg : Bytes) (w : String) (h : Front.readSigncrypt msg = .error w) : Doc w :=
  splitSigncrypt_doc msg w (settle_error.1 (orWire_error h).1)

theorem readSig_doc (msg : Bytes) (w : String) (h : Front.readSig msg = .error w) : Doc w :=
  splitSig_doc msg w (settle_error.1 (orWire_error h).1)

theorem readDetached_doc (msg : Bytes) (w : String) (h : Front.readDetached msg = .error w) : Doc w :=
  splitDetached_doc msg w (codecDetached_error.1 (orWire_error h).1)

end Saltpack.Proofs.CodecP
