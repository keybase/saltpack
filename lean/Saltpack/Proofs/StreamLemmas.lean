/-
  Stream state machines of Model/Stream.lean: results do not depend on how output
  is split over Write calls / how chunks are drained by Read calls; bounded
  buffering; sticky errors.
-/
import Saltpack.Model.Stream
import Saltpack.Proofs.ChunkPlan
import Saltpack.Proofs.Basex

namespace Saltpack.Proofs
open Saltpack Saltpack.Stream

/-! ## plaintext bufferer of the three encoder streams -/

theorem drain_spec (bs : Nat) (hb : 0 < bs) : ∀ (fuel : Nat) (c : Chunker), c.bs = bs → c.buf.length ≤ fuel →
    (Chunker.drain fuel c).buf.length ≤ bs ∧ (Chunker.drain fuel c).bs = bs ∧
    (Chunker.drain fuel c).emitted.flatten ++ (Chunker.drain fuel c).buf = c.emitted.flatten ++ c.buf ∧
    ((∀ e ∈ c.emitted, e.length = bs) → ∀ e ∈ (Chunker.drain fuel c).emitted, e.length = bs) ∧
    (c.buf ≠ [] → (Chunker.drain fuel c).buf ≠ []) ∧
    (c.buf = [] → Chunker.drain fuel c = c) := by
  intro fuel
  induction fuel with
  | zero =>
    intro c hbs hf
    have : c.buf = [] := List.length_eq_zero_iff.mp (by omega)
    simp [Chunker.drain, this, hbs]
  | succ fuel ih =>
    intro c hbs hf
    unfold Chunker.drain
    by_cases hgt : c.buf.length > c.bs
    · rw [if_pos hgt]
      have hlen : (c.buf.drop c.bs).length = c.buf.length - c.bs := List.length_drop
      obtain ⟨h1, h2, h3, h4, h5, h6⟩ := ih { c with buf := c.buf.drop c.bs, emitted := c.emitted ++ [c.buf.take c.bs] } hbs
        (hlen ▸ Nat.sub_le_iff_le_add.mpr (Nat.le_trans hf (Nat.add_le_add_left (hbs ▸ hb) fuel)))
      refine ⟨h1, h2, ?_, fun hall => h4 fun e he => ?_, fun _ => h5 fun h0 => ?_, fun h0 => ?_⟩
      · rw [h3, List.flatten_append, List.flatten_singleton, List.append_assoc, List.take_append_drop]
      · rcases List.mem_append.mp he with he | he
        · exact hall e he
        · rw [List.mem_singleton.mp he, List.length_take, Nat.min_eq_left (Nat.le_of_lt hgt), hbs]
      · -- more than a block was buffered, so something is left
        have h0' : (c.buf.drop c.bs).length = 0 := congrArg List.length h0
        rw [hlen] at h0'
        exact Nat.not_le_of_gt hgt (Nat.sub_eq_zero_iff_le.mp h0')
      · rw [h0] at hgt; exact absurd hgt (Nat.not_lt_zero _)
    · rw [if_neg hgt]
      exact ⟨hbs ▸ Nat.le_of_not_gt hgt, hbs, rfl, fun h => h, fun h => h, fun _ => rfl⟩

theorem chunks_blocks {α : Type} (bs : Nat) (hb : 0 < bs) (E : List (List α)) (R : List α)
    (h : ∀ e ∈ E, e.length = bs) : chunks bs (E.flatten ++ R) = E ++ chunks bs R := by
  induction E with
  | nil => simp
  | cons e E ih =>
    rw [List.flatten_cons, List.append_assoc, chunks_append bs hb e _ (h e (by simp)),
      ih (fun x hx => h x (by simp [hx]))]
    rfl

/-- `T` is everything written so far: the emitted blocks, all of size `bs`, then the buffer, which holds at
    most one block and is empty only if nothing was ever emitted -/
structure ChInv (bs : Nat) (T : Bytes) (c : Chunker) : Prop where
  hbs : c.bs = bs
  cons : c.emitted.flatten ++ c.buf = T
  full : ∀ e ∈ c.emitted, e.length = bs
  bound : c.buf.length ≤ bs
  ne : c.buf = [] → c.emitted = []

theorem chInv_write (bs : Nat) (hb : 0 < bs) (T : Bytes) (c : Chunker) (h : ChInv bs T c) (p : Bytes) :
    ChInv bs (T ++ p) (c.write p) := by
  have hd := drain_spec bs hb (c.buf.length + p.length + 1) { c with buf := c.buf ++ p } h.hbs (by simp)
  obtain ⟨h1, h2, h3, h4, h5, h6⟩ := hd
  refine ⟨h2, ?_, h4 h.full, h1, ?_⟩
  · show (Chunker.drain _ _).emitted.flatten ++ (Chunker.drain _ _).buf = _
    rw [h3, ← h.cons]; simp
  · intro h0
    by_cases hbp : c.buf ++ p = []
    · have := h6 hbp
      unfold Chunker.write
      rw [this]
      apply h.ne
      simp at hbp
      exact hbp.1
    · exact absurd h0 (h5 hbp)

theorem foldl_write_inv {σ : Type} (write : σ → Bytes → σ) (I : Bytes → σ → Prop)
    (hstep : ∀ T s p, I T s → I (T ++ p) (write s p)) (ws : List Bytes) :
    ∀ (T : Bytes) (s : σ), I T s → I (T ++ ws.flatten) (ws.foldl write s) := by
  induction ws with
  | nil => intro T s h; rwa [List.flatten_nil, List.append_nil]
  | cons w ws ih =>
    intro T s h
    rw [List.foldl_cons, List.flatten_cons, ← List.append_assoc]
    exact ih _ _ (hstep T s w h)

theorem chInv_chunks (bs : Nat) (hb : 0 < bs) (T : Bytes) (c : Chunker) (h : ChInv bs T c) :
    chunks bs T = c.emitted ++ (if c.buf = [] then [] else [c.buf]) := by
  rw [← h.cons, chunks_blocks bs hb _ _ h.full]
  by_cases h0 : c.buf = []
  · rw [h0, chunks_nil]; simp
  · rw [chunks_short bs _ h0 h.bound, if_neg h0]

/-! ## chunkReader -/

/-- a scripted chunker: each entry is one `getNextChunk` result -/
def scriptNext : Source → Bytes × Option RErr × Source
  | [] => ([], some .eof, [])
  | (d, e) :: rest => (d, e, rest)

/-- what is still to be delivered: the pending chunk, then the chunks of the
    script up to and including the first entry that carries a condition -/
def crPending : CRState Source → Bytes
  | s => s.prevChunk ++ (match s.prevErr with
      | some _ => []
      | none =>
        let rec go : Source → Bytes
          | [] => []
          | (d, some _) :: _ => d
          | (d, none) :: rest => d ++ go rest
        go s.chunker)

/-- no entry of the script is `chunkReader`'s panic case (an empty chunk without a condition) -/
def SrcWF (src : Source) : Prop := ∀ p ∈ src, p.1 = [] → p.2 ≠ none

theorem crPending_eq (s : CRState Source) :
    crPending s = s.prevChunk ++ (match s.prevErr with | some _ => [] | none => crPending.go s.chunker) := rfl

theorem scriptNext_spec (src : Source) (hwf : SrcWF src) :
    ¬ ((scriptNext src).1 = [] ∧ (scriptNext src).2.1 = none) ∧
    SrcWF (scriptNext src).2.2 ∧
    crPending.go src = (scriptNext src).1 ++
      (match (scriptNext src).2.1 with | some _ => [] | none => crPending.go (scriptNext src).2.2) := by
  cases src with
  | nil => exact ⟨fun h => Option.some_ne_none _ h.2, hwf, rfl⟩
  | cons hd rest =>
    obtain ⟨d, e⟩ := hd
    refine ⟨fun h => hwf (d, e) List.mem_cons_self h.1 h.2, fun p hp => hwf p (List.mem_cons_of_mem _ hp), ?_⟩
    cases e <;> simp [scriptNext, crPending.go]

theorem crRead_succ {σ : Type} (next : σ → Bytes × Option RErr × σ) (cap f : Nat) (s : CRState σ) (acc : Bytes) :
    crRead next cap (f + 1) s acc =
      if cap - acc.length < s.prevChunk.length then
        (acc ++ s.prevChunk.take (cap - acc.length), none, { s with prevChunk := s.prevChunk.drop (cap - acc.length) })
      else match s.prevErr with
        | some e => (acc ++ s.prevChunk, some e, { s with prevChunk := [] })
        | none =>
          if (next s.chunker).1 = [] ∧ (next s.chunker).2.1 = none then
            (acc ++ s.prevChunk, some (.err (.panic "chunkReader")), { s with prevChunk := [], chunker := (next s.chunker).2.2 })
          else
            crRead next cap f ⟨(next s.chunker).2.2, (next s.chunker).1, (next s.chunker).2.1⟩ (acc ++ s.prevChunk) := by
  conv => lhs; unfold crRead
  by_cases h : cap - acc.length < s.prevChunk.length
  · have hd : (s.prevChunk.drop (cap - acc.length)).isEmpty = false := by
      rw [List.isEmpty_eq_false_iff, ← List.length_pos_iff, List.length_drop]; omega
    simp only [hd, h, Bool.not_false, if_true]
  · have hle : s.prevChunk.length ≤ cap - acc.length := Nat.le_of_not_lt h
    simp only [List.drop_of_length_le hle, List.take_of_length_le hle, h, List.isEmpty_nil, Bool.not_true,
      Bool.false_eq_true, if_false]
    cases s.prevErr with
    | some e => rfl
    | none =>
      simp only [Bool.and_eq_true, List.isEmpty_iff, Option.isNone_iff_eq_none]

theorem crRead_aux (cap : Nat) : ∀ (fuel : Nat) (s : CRState Source) (acc d : Bytes) (e : Option RErr)
    (s' : CRState Source), SrcWF s.chunker → acc.length ≤ cap →
    crRead scriptNext cap fuel s acc = (d, e, s') →
    d.length ≤ cap ∧ acc ++ crPending s = d ++ crPending s' ∧ SrcWF s'.chunker ∧
    (∀ x, e = some x → s'.prevChunk = [] ∧ s'.prevErr = some x) := by
  intro fuel
  induction fuel with
  | zero =>
    intro s acc d e s' hwf hacc h
    cases h
    exact ⟨hacc, rfl, hwf, fun x hx => nomatch hx⟩
  | succ fuel ih =>
    intro s acc d e s' hwf hacc h
    rw [crRead_succ] at h
    by_cases hno : cap - acc.length < s.prevChunk.length
    · rw [if_pos hno] at h
      cases h
      refine ⟨?_, ?_, hwf, fun x hx => nomatch hx⟩
      · rw [List.length_append, List.length_take, Nat.min_eq_left (Nat.le_of_lt hno), Nat.add_sub_cancel' hacc]
        exact Nat.le_refl _
      · simp only [crPending_eq]
        rw [List.append_assoc, ← List.append_assoc (List.take _ _), List.take_append_drop]
    · rw [if_neg hno] at h
      have hlen : (acc ++ s.prevChunk).length ≤ cap := by
        rw [List.length_append]; exact Nat.add_le_of_le_sub' hacc (Nat.le_of_not_lt hno)
      cases hpe : s.prevErr with
      | some x =>
        simp only [hpe] at h
        cases h
        exact ⟨hlen, by simp [crPending_eq, hpe], hwf, fun y hy => by cases hy; exact ⟨rfl, rfl⟩⟩
      | none =>
        simp only [hpe] at h
        obtain ⟨n1, n2, n3⟩ := scriptNext_spec s.chunker hwf
        rw [if_neg n1] at h
        obtain ⟨i1, i2, i3, i4⟩ := ih _ _ _ _ _ n2 hlen h
        refine ⟨i1, ?_, i3, i4⟩
        rw [← i2]
        simp only [crPending_eq, hpe, n3]
        simp

theorem crRead_terminal (cap : Nat) (s : CRState Source)
    (hwf : SrcWF s.chunker) (d : Bytes) (x : RErr) (s' : CRState Source)
    (h : crRead scriptNext cap (s.chunker.length + 3) s [] = (d, some x, s')) :
    crPending s' = [] ∧
    crRead scriptNext cap (s'.chunker.length + 3) s' [] = ([], some x, s') := by
  obtain ⟨_, _, _, h4⟩ := crRead_aux cap _ s [] d (some x) s' hwf (by simp) h
  obtain ⟨hc, he⟩ := h4 x rfl
  constructor
  · simp [crPending_eq, hc, he]
  · obtain ⟨ck, pc, pe⟩ := s'
    simp only at hc he
    subst hc he
    simp [crRead]

/-! ## BaseX encoder stream -/

theorem under_spec (s : EncState) (d : Bytes) :
    (s.under d).2.enc = s.enc ∧ (s.under d).2.buf = s.buf ∧
    ((s.under d).2.failed = true ↔ ((s.under d).1 = false ∨ s.failed = true)) := by
  unfold EncState.under
  cases hs : s.sink with
  | nil => simp
  | cons f rest =>
    cases f <;> simp

theorem under_nofail (s : EncState) (d : Bytes) (hs : s.sink = []) :
    s.under d = (true, { s with written := s.written ++ [d] }) := by
  unfold EncState.under
  rw [hs]

theorem under_true (s : EncState) (d : Bytes) (h : (s.under d).1 = true) :
    (s.under d).2.enc = s.enc ∧ (s.under d).2.buf = s.buf ∧ (s.under d).2.failed = s.failed ∧
    (s.under d).2.written = s.written ++ [d] := by
  unfold EncState.under at h ⊢
  cases hs : s.sink with
  | nil => simp
  | cons f rest =>
    cases f with
    | true => simp [hs] at h
    | false => simp

theorem under_false (s : EncState) (d : Bytes) (h : (s.under d).1 = false) : (s.under d).2.failed = true :=
  ((under_spec s d).2.2).mpr (Or.inl h)

/-- the `rest` part of `Write` -/
def encRest (s1 : EncState) (p1 : Bytes) (n0 : Nat) : Nat × Bool × EncState :=
  let r := EncState.interior (p1.length + 1) s1 p1 n0
  if !r.1 then (r.2.2.2, false, r.2.1) else (r.2.2.2 + r.2.2.1.length, true, { r.2.1 with buf := r.2.2.1 })

/-- the leading fringe of a `Write`: the buffered bytes completed to a block from the front of `p` -/
def encFringe (s : EncState) (p : Bytes) : Bytes := s.buf ++ p.take (s.enc.blockLen - s.buf.length)
/-- the underlying write of the encoded fringe: whether it succeeded, and the state after it (buffer emptied) -/
def encFringeU (s : EncState) (p : Bytes) : Bool × EncState :=
  ({ s with buf := [] } : EncState).under (Basex.encode s.enc (encFringe s p))
/-- how many bytes of `p` went into the fringe (the `n` a `Write` reports when it stops there) -/
def encTl (s : EncState) (p : Bytes) : Nat := (p.take (s.enc.blockLen - s.buf.length)).length

theorem write_eq (s : EncState) (p : Bytes) :
    s.write p =
      if s.failed = true then (0, false, s)
      else if (!s.buf.isEmpty) = true then
        if (encFringe s p).length < s.enc.blockLen then (encTl s p, true, { s with buf := encFringe s p })
        else
          if (!(encFringeU s p).1) = true then (encTl s p, false, (encFringeU s p).2)
          else encRest (encFringeU s p).2 (p.drop (encTl s p)) (encTl s p)
      else encRest s p 0 := by
  rfl

/-! ### what happens to the sink -/

/-- `s'` was reached from `s` by consuming the sink entries `c` (one per
    underlying write), and its sticky flag is set iff one of them failed -/
def Consumes (s s' : EncState) : Prop :=
  ∃ c : List Bool, s.sink = c ++ s'.sink ∧ s'.failed = (s.failed || c.contains true)

theorem Consumes.refl (s : EncState) : Consumes s s := ⟨[], by simp, by simp⟩

theorem Consumes.trans {a b c : EncState} (h1 : Consumes a b) (h2 : Consumes b c) : Consumes a c := by
  obtain ⟨c1, s1, f1⟩ := h1
  obtain ⟨c2, s2, f2⟩ := h2
  refine ⟨c1 ++ c2, by rw [s1, s2, List.append_assoc], ?_⟩
  rw [f2, f1]
  simp [Bool.or_assoc]

theorem consumes_under (s : EncState) (d : Bytes) : Consumes s (s.under d).2 := by
  unfold EncState.under
  cases hs : s.sink with
  | nil => exact ⟨[], by simp [hs], by simp⟩
  | cons f rest =>
    cases f with
    | true => exact ⟨[true], by simp [hs], by simp⟩
    | false => exact ⟨[false], by simp [hs], by simp⟩

/-- the consumed part of the sink is determined by the two states -/
theorem Consumes.flag {s s' : EncState} (h : Consumes s s') (consumed : List Bool)
    (hc : s.sink = consumed ++ s'.sink) : s'.failed = (s.failed || consumed.contains true) := by
  obtain ⟨c, hs, hf⟩ := h
  have : consumed = c := by
    rw [hs] at hc
    exact (List.append_cancel_right hc).symm
  rw [this]; exact hf

theorem Consumes.of_sink_nil {s s' : EncState} (h : Consumes s s') (hs : s.sink = []) :
    s'.sink = [] ∧ s'.failed = s.failed := by
  obtain ⟨c, hc, hf⟩ := h
  rw [hs] at hc
  obtain ⟨rfl, hs'⟩ := List.append_eq_nil_iff.mp hc.symm
  exact ⟨hs', by rw [hf, List.contains_nil, Bool.or_false]⟩

/-! ### encoding block by block -/

theorem take_drop_length {α : Type} (k : Nat) (p : List α) : p.take k ++ p.drop (p.take k).length = p := by
  rw [List.length_take]
  by_cases h : k ≤ p.length
  · rw [Nat.min_eq_left h, List.take_append_drop]
  · rw [Nat.min_eq_right (by omega), List.take_of_length_le (by omega), List.drop_length, List.append_nil]

theorem encode_append_of_dvd (e : Basex.Enc) (he : e.WF) (a b : Bytes) (h : e.blockLen ∣ a.length) :
    Basex.encode e (a ++ b) = Basex.encode e a ++ Basex.encode e b := by
  obtain ⟨k, hk⟩ := h
  induction k generalizing a with
  | zero =>
    rw [List.length_eq_zero_iff.mp hk, encode_nil]; rfl
  | succ k ih =>
    have hle : e.blockLen ≤ a.length := by rw [hk, Nat.mul_succ]; exact Nat.le_add_left _ _
    have ht : (a.take e.blockLen).length = e.blockLen := by rw [List.length_take, Nat.min_eq_left hle]
    have hd : (a.drop e.blockLen).length = e.blockLen * k := by
      rw [List.length_drop, hk, Nat.mul_succ, Nat.add_sub_cancel]
    calc Basex.encode e (a ++ b)
        = Basex.encode e (a.take e.blockLen ++ (a.drop e.blockLen ++ b)) := by
          rw [← List.append_assoc, List.take_append_drop]
      _ = Basex.encodeBlock e (a.take e.blockLen) ++ (Basex.encode e (a.drop e.blockLen) ++ Basex.encode e b) := by
          rw [encode_append e he _ _ ht, ih _ hd]
      _ = Basex.encode e (a.take e.blockLen ++ a.drop e.blockLen) ++ Basex.encode e b := by
          rw [encode_append e he _ _ ht, List.append_assoc]
      _ = Basex.encode e a ++ Basex.encode e b := by rw [List.take_append_drop]

/-! ### one `Write` -/

/-- `nn` of `encoder.Write`: the size of a batch of interior blocks (at most 128) -/
theorem nn_spec (ibl len : Nat) (hb : 0 < ibl) (hl : ibl ≤ len) :
    ibl ∣ (if 128 * ibl > len then len - len % ibl else 128 * ibl) ∧
    ibl ≤ (if 128 * ibl > len then len - len % ibl else 128 * ibl) ∧
    (if 128 * ibl > len then len - len % ibl else 128 * ibl) ≤ len := by
  by_cases h : 128 * ibl > len
  · rw [if_pos h, Nat.sub_eq_of_eq_add (Nat.div_add_mod len ibl).symm]
    refine ⟨Nat.dvd_mul_right _ _, ?_, Nat.mul_div_le _ _⟩
    calc ibl = ibl * 1 := (Nat.mul_one _).symm
      _ ≤ ibl * (len / ibl) := Nat.mul_le_mul_left _ (Nat.div_pos hl hb)
  · rw [if_neg h]
    exact ⟨Nat.dvd_mul_left _ _, Nat.le_mul_of_pos_left ibl (by decide), Nat.le_of_not_gt h⟩

theorem interior_spec : ∀ (fuel : Nat) (s : EncState) (p : Bytes) (n : Nat),
    Consumes s (EncState.interior fuel s p n).2.1 ∧
    (EncState.interior fuel s p n).2.1.enc = s.enc ∧ (EncState.interior fuel s p n).2.1.buf = s.buf ∧
    ((EncState.interior fuel s p n).1 = false → (EncState.interior fuel s p n).2.1.failed = true) ∧
    ((EncState.interior fuel s p n).1 = true →
      (EncState.interior fuel s p n).2.1.failed = s.failed ∧
      (0 < s.enc.blockLen → p.length < fuel → (EncState.interior fuel s p n).2.2.1.length < s.enc.blockLen) ∧
      (s.enc.WF → ∃ B, s.enc.blockLen ∣ B.length ∧ p = B ++ (EncState.interior fuel s p n).2.2.1 ∧
        (EncState.interior fuel s p n).2.1.written.flatten = s.written.flatten ++ Basex.encode s.enc B)) := by
  intro fuel
  induction fuel with
  | zero =>
    intro s p n
    refine ⟨Consumes.refl s, rfl, rfl, (by intro h; cases h), fun _ => ⟨rfl, fun _ h => absurd h (Nat.not_lt_zero _), fun _ => ?_⟩⟩
    exact ⟨[], Nat.dvd_zero _, rfl, by rw [encode_nil]; exact (List.append_nil _).symm⟩
  | succ fuel ih =>
    intro s p n
    unfold EncState.interior
    by_cases hge : p.length ≥ s.enc.blockLen
    · simp only [if_pos hge]
      generalize hnn : (if 128 * s.enc.blockLen > p.length then p.length - p.length % s.enc.blockLen else 128 * s.enc.blockLen) = nn
      cases hu : (s.under (Basex.encode s.enc (p.take nn))).1 with
      | false =>
        simp only [Bool.not_false, if_true]
        exact ⟨consumes_under s _, (under_spec s _).1, (under_spec s _).2.1, fun _ => under_false s _ hu,
          (by intro h; cases h)⟩
      | true =>
        simp only [Bool.not_true, Bool.false_eq_true, if_false]
        obtain ⟨u1, u2, u3, u4⟩ := under_true s _ hu
        obtain ⟨i1, i2, i3, i4, i5⟩ := ih (s.under (Basex.encode s.enc (p.take nn))).2 (p.drop nn) (n + nn)
        refine ⟨(consumes_under s _).trans i1, i2.trans u1, i3.trans u2, i4, fun hr => ?_⟩
        obtain ⟨j1, j2, j3⟩ := i5 hr
        rw [u1] at j2 j3
        refine ⟨j1.trans u3, fun hb hl => j2 hb ?_, fun he => ?_⟩
        · have hn := nn_spec s.enc.blockLen p.length hb hge
          rw [hnn] at hn
          rw [List.length_drop]
          exact Nat.lt_of_lt_of_le (Nat.sub_lt_sub_left (Nat.lt_of_lt_of_le hb hge) (Nat.lt_of_lt_of_le hb hn.2.1))
            (Nat.le_of_lt_succ hl)
        · obtain ⟨hn1, _, hn3⟩ := hnn ▸ nn_spec s.enc.blockLen p.length he.block_pos hge
          obtain ⟨B, hB1, hB2, hB3⟩ := j3 he
          have hlen : (p.take nn).length = nn := by rw [List.length_take, Nat.min_eq_left hn3]
          refine ⟨p.take nn ++ B, ?_, ?_, ?_⟩
          · rw [List.length_append, hlen]
            exact (Nat.dvd_add_right hn1).mpr hB1
          · rw [List.append_assoc, ← hB2, List.take_append_drop]
          · rw [hB3, u4, List.flatten_append, List.flatten_singleton,
              encode_append_of_dvd s.enc he (p.take nn) B (by rw [hlen]; exact hn1), List.append_assoc]
    · rw [if_neg hge]
      refine ⟨Consumes.refl s, rfl, rfl, (by intro h; cases h), fun _ => ⟨rfl, fun _ _ => Nat.lt_of_not_ge hge, fun _ => ?_⟩⟩
      exact ⟨[], Nat.dvd_zero _, rfl, by rw [encode_nil]; exact (List.append_nil _).symm⟩

theorem encRest_spec (s : EncState) (p : Bytes) (n : Nat) :
    Consumes s (encRest s p n).2.2 ∧ (encRest s p n).2.2.enc = s.enc ∧
    ((encRest s p n).2.1 = false → (encRest s p n).2.2.failed = true ∧ (encRest s p n).2.2.buf = s.buf) ∧
    ((encRest s p n).2.1 = true →
      (encRest s p n).2.2.failed = s.failed ∧
      (0 < s.enc.blockLen → (encRest s p n).2.2.buf.length < s.enc.blockLen) ∧
      (s.enc.WF → ∃ B, s.enc.blockLen ∣ B.length ∧ p = B ++ (encRest s p n).2.2.buf ∧
        (encRest s p n).2.2.written.flatten = s.written.flatten ++ Basex.encode s.enc B)) := by
  obtain ⟨i1, i2, i3, i4, i5⟩ := interior_spec (p.length + 1) s p n
  unfold encRest
  cases hr : (EncState.interior (p.length + 1) s p n).1 with
  | false =>
    simp only [hr, Bool.not_false, if_true]
    exact ⟨i1, i2, fun _ => ⟨i4 hr, i3⟩, (by intro h; cases h)⟩
  | true =>
    simp only [hr, Bool.not_true, Bool.false_eq_true, if_false]
    obtain ⟨j1, j2, j3⟩ := i5 hr
    exact ⟨i1, i2, (by intro h; cases h), fun _ => ⟨j1, fun hb => j2 hb (Nat.lt_succ_self _), j3⟩⟩

theorem encFringeU_spec (s : EncState) (p : Bytes) :
    (encFringeU s p).2.enc = s.enc ∧ (encFringeU s p).2.buf = [] ∧
    ((encFringeU s p).2.failed = true ↔ ((encFringeU s p).1 = false ∨ s.failed = true)) :=
  under_spec { s with buf := [] } _

theorem encFringe_length_le (s : EncState) (p : Bytes) (h : s.buf.length ≤ s.enc.blockLen) :
    (encFringe s p).length ≤ s.enc.blockLen := by
  unfold encFringe
  rw [List.length_append, List.length_take]
  omega

theorem write_failed (s : EncState) (p : Bytes) (hf : s.failed = true) : s.write p = (0, false, s) := by
  rw [write_eq, if_pos hf]

theorem write_cases (s : EncState) (p : Bytes) (motive : Nat × Bool × EncState → Prop)
    (failed : s.failed = true → motive (0, false, s))
    (empty : s.failed = false → s.buf = [] → motive (encRest s p 0))
    (short : s.failed = false → s.buf ≠ [] → (encFringe s p).length < s.enc.blockLen →
      motive (encTl s p, true, { s with buf := encFringe s p }))
    (long_fail : s.failed = false → s.buf ≠ [] → ¬ (encFringe s p).length < s.enc.blockLen →
      (encFringeU s p).1 = false → motive (encTl s p, false, (encFringeU s p).2))
    (long_ok : s.failed = false → s.buf ≠ [] → ¬ (encFringe s p).length < s.enc.blockLen →
      (encFringeU s p).1 = true → motive (encRest (encFringeU s p).2 (p.drop (encTl s p)) (encTl s p))) :
    motive (s.write p) := by
  rw [write_eq]
  by_cases hf : s.failed = true
  · rw [if_pos hf]; exact failed hf
  · rw [if_neg hf]
    have hf := Bool.eq_false_iff.mpr hf
    by_cases he : s.buf = []
    · rw [if_neg (by simp [he])]; exact empty hf he
    · rw [if_pos (by simp [he])]
      by_cases hl : (encFringe s p).length < s.enc.blockLen
      · rw [if_pos hl]; exact short hf he hl
      · rw [if_neg hl]
        by_cases hu : (encFringeU s p).1 = true
        · rw [if_neg (by simp [hu])]; exact long_ok hf he hl hu
        · rw [if_pos (by simp [hu])]; exact long_fail hf he hl (Bool.eq_false_iff.mpr hu)

theorem encStream_sticky (s : EncState) (hf : s.failed = true) (p : Bytes) :
    (s.write p).2.1 = false ∧ (s.write p).2.2.failed = true ∧ s.close.1 = false := by
  rw [write_failed s p hf]
  simp [hf, EncState.close]

theorem encStream_write_reports (s : EncState) (p : Bytes) :
    (s.write p).2.2.failed = true → (s.write p).2.1 = false ∨ s.failed = true := by
  have rest : ∀ (s1 : EncState) (q : Bytes) (n : Nat), s1.failed = false →
      (encRest s1 q n).2.2.failed = true → (encRest s1 q n).2.1 = false ∨ s.failed = true := by
    intro s1 q n h1 h
    cases hr : (encRest s1 q n).2.1 with
    | false => exact Or.inl rfl
    | true => rw [((encRest_spec s1 q n).2.2.2 hr).1, h1] at h; cases h
  refine write_cases s p (fun r => r.2.2.failed = true → r.2.1 = false ∨ s.failed = true) (fun hf _ => Or.inr hf)
    (fun hf _ => rest s p 0 hf) (fun _ _ _ h => Or.inr h) (fun _ _ _ _ _ => Or.inl rfl) (fun hf _ _ hu => ?_)
  exact rest _ _ _ ((under_true _ _ hu).2.2.1.trans hf)

theorem encStream_close_reports (s : EncState) : s.close.2.failed = true → s.close.1 = false := by
  unfold EncState.close
  by_cases h : (!s.failed) = true ∧ (!s.buf.isEmpty) = true
  · rw [if_pos h]
    obtain ⟨u1, u2, u3⟩ := under_spec s (Basex.encode s.enc s.buf)
    intro hf
    rcases u3.mp hf with h' | h'
    · exact h'
    · rw [h'] at h; simp at h
  · rw [if_neg h]
    intro hf
    simp only at hf
    simp [hf]

/-- as long as no underlying write has failed (any sink): `T` is everything written, encoded up to the buffer -/
structure EncInvS (enc : Basex.Enc) (T : Bytes) (s : EncState) : Prop where
  henc : s.enc = enc
  nf : s.failed = false
  bound : s.buf.length < enc.blockLen
  ex : ∃ A, enc.blockLen ∣ A.length ∧ T = A ++ s.buf ∧ s.written.flatten = Basex.encode enc A

theorem encRest_inv (s : EncState) (he : s.enc.WF) (A q : Bytes) (n : Nat) (hf : s.failed = false)
    (hA : s.enc.blockLen ∣ A.length) (hw : s.written.flatten = Basex.encode s.enc A) :
    ((encRest s q n).2.1 = false ∧ (encRest s q n).2.2.failed = true) ∨
    ((encRest s q n).2.1 = true ∧ EncInvS s.enc (A ++ q) (encRest s q n).2.2) := by
  obtain ⟨_, e1, e2, e3⟩ := encRest_spec s q n
  cases hr : (encRest s q n).2.1 with
  | false => exact Or.inl ⟨rfl, (e2 hr).1⟩
  | true =>
    obtain ⟨f1, f2, f3⟩ := e3 hr
    obtain ⟨B, hB1, hB2, hB3⟩ := f3 he
    refine Or.inr ⟨rfl, e1, f1.trans hf, f2 he.block_pos, A ++ B, ?_, ?_, ?_⟩
    · rw [List.length_append]; exact (Nat.dvd_add_right hA).mpr hB1
    · rw [List.append_assoc, ← hB2]
    · rw [hB3, hw, encode_append_of_dvd s.enc he A B hA]

theorem encInvS_write (enc : Basex.Enc) (he : enc.WF) (T : Bytes) (s : EncState) (h : EncInvS enc T s) (p : Bytes) :
    ((s.write p).2.1 = false ∧ (s.write p).2.2.failed = true) ∨
    ((s.write p).2.1 = true ∧ EncInvS enc (T ++ p) (s.write p).2.2) := by
  obtain ⟨henc, hf, hbd, A, hA1, hA2, hA3⟩ := h
  subst henc hA2
  refine write_cases s p (fun r => (r.2.1 = false ∧ r.2.2.failed = true) ∨ (r.2.1 = true ∧ EncInvS s.enc (A ++ s.buf ++ p) r.2.2))
    (fun h => ?_) (fun _ hb => ?_) (fun _ hb hl => ?_) (fun _ _ _ hu => ?_) (fun _ hb hl hu => ?_)
  · rw [hf] at h; cases h
  · rw [hb, List.append_nil]
    exact encRest_inv s he A p 0 hf hA1 hA3
  · -- all of `p` joins the buffer
    have hp : p.take (s.enc.blockLen - s.buf.length) = p := by
      apply List.take_of_length_le
      unfold encFringe at hl
      rw [List.length_append, List.length_take] at hl
      have := List.length_pos_iff.mpr hb
      omega
    refine Or.inr ⟨rfl, rfl, hf, hl, A, hA1, ?_, hA3⟩
    show A ++ s.buf ++ p = A ++ encFringe s p
    rw [encFringe, hp, List.append_assoc]
  · exact Or.inl ⟨rfl, under_false _ _ hu⟩
  · -- the fringe is exactly one block; it is written, and `rest` goes on after it
    have hfl : (encFringe s p).length = s.enc.blockLen :=
      Nat.le_antisymm (encFringe_length_le s p (Nat.le_of_lt hbd)) (Nat.le_of_not_lt hl)
    obtain ⟨u1, _, u3, u4⟩ := under_true { s with buf := [] } (Basex.encode s.enc (encFringe s p)) hu
    have hd : s.enc.blockLen ∣ (A ++ encFringe s p).length := by
      rw [List.length_append, hfl]; exact (Nat.dvd_add_right hA1).mpr (Nat.dvd_refl _)
    have hsplit : A ++ s.buf ++ p = A ++ encFringe s p ++ p.drop (encTl s p) := by
      rw [encFringe, encTl, List.append_assoc, List.append_assoc, List.append_assoc, take_drop_length]
    have hu1 : (encFringeU s p).2.enc = s.enc := u1
    rw [hsplit, ← hu1]
    refine encRest_inv (encFringeU s p).2 (hu1 ▸ he) (A ++ encFringe s p) _ _ (u3.trans hf) (hu1 ▸ hd) ?_
    rw [hu1, encode_append_of_dvd s.enc he A _ hA1, ← hA3]
    exact (congrArg List.flatten u4).trans (by rw [List.flatten_append, List.flatten_singleton])

theorem consumes_write (s : EncState) (p : Bytes) : Consumes s (s.write p).2.2 :=
  write_cases s p (fun r => Consumes s r.2.2) (fun _ => Consumes.refl s) (fun _ _ => (encRest_spec s p 0).1)
    (fun _ _ _ => Consumes.refl s) (fun _ _ _ _ => consumes_under { s with buf := [] } _)
    (fun _ _ _ _ => (consumes_under { s with buf := [] } _).trans (encRest_spec _ _ _).1)

theorem consumes_close (s : EncState) : Consumes s s.close.2 := by
  unfold EncState.close
  split
  · exact consumes_under s _
  · exact Consumes.refl s

theorem consumes_fold (ws : List Bytes) (s : EncState) :
    Consumes s (ws.foldl (fun (s : EncState) w => (s.write w).2.2) s) :=
  foldl_write_inv _ (fun _ s' => Consumes s s') (fun _ s' w h => h.trans (consumes_write s' w)) ws [] s (Consumes.refl s)

/-! ### the whole stream: split independence, and `Close` over any sink -/

theorem encInvS_close (enc : Basex.Enc) (he : enc.WF) (T : Bytes) (s : EncState) (h : EncInvS enc T s)
    (hc : s.close.1 = true) : s.close.2.written.flatten = Basex.encode enc T := by
  obtain ⟨henc, hf, _, A, hA1, hA2, hA3⟩ := h
  unfold EncState.close at hc ⊢
  by_cases hb : s.buf = []
  · rw [if_neg (by simp [hb])]
    rw [hA3, hA2, hb, List.append_nil]
  · rw [if_pos (by simp [hf, hb])] at hc ⊢
    rw [(under_true s _ hc).2.2.2, List.flatten_append, List.flatten_singleton, hA3, hA2, henc,
      encode_append_of_dvd enc he A _ hA1]

/-- `EncInvS` over a writer that never fails -/
structure EncInv (enc : Basex.Enc) (T : Bytes) (s : EncState) : Prop where
  henc : s.enc = enc
  sink : s.sink = []
  nf : s.failed = false
  bound : s.buf.length < enc.blockLen
  ex : ∃ A, enc.blockLen ∣ A.length ∧ T = A ++ s.buf ∧ s.written.flatten = Basex.encode enc A

theorem EncInv.toS {enc : Basex.Enc} {T : Bytes} {s : EncState} (h : EncInv enc T s) : EncInvS enc T s :=
  ⟨h.henc, h.nf, h.bound, h.ex⟩

/-- a writer that never fails is the case of `encInvS_write` in which nothing of the sink is consumed -/
theorem encInv_write (enc : Basex.Enc) (he : enc.WF) (T : Bytes) (s : EncState) (h : EncInv enc T s) (p : Bytes) :
    (s.write p).2.1 = true ∧ EncInv enc (T ++ p) (s.write p).2.2 := by
  obtain ⟨hsink, hfailed⟩ := (consumes_write s p).of_sink_nil h.sink
  rcases encInvS_write enc he T s h.toS p with ⟨_, hfail⟩ | ⟨hok, hinv⟩
  · rw [hfailed, h.nf] at hfail; cases hfail
  · exact ⟨hok, hinv.henc, hsink, hinv.nf, hinv.bound, hinv.ex⟩

theorem encStream_inv (enc : Basex.Enc) (he : enc.WF) (sink : Sink) (ws : List Bytes) :
    let s1 := ws.foldl (fun (s : EncState) w => (s.write w).2.2) ({ enc := enc, sink := sink } : EncState)
    s1.failed = true ∨ EncInvS enc ws.flatten s1 := by
  have h := foldl_write_inv (fun (s : EncState) w => (s.write w).2.2) (fun T s => s.failed = true ∨ EncInvS enc T s)
    (fun T s p h => by
      rcases h with hf | h
      · exact Or.inl (by rw [write_failed s p hf]; exact hf)
      · rcases encInvS_write enc he T s h p with ⟨_, hfail⟩ | ⟨_, hinv⟩
        · exact Or.inl hfail
        · exact Or.inr hinv)
    ws [] { enc := enc, sink := sink }
    (Or.inr ⟨rfl, rfl, he.block_pos, [], Nat.dvd_zero _, rfl, (encode_nil enc).symm⟩)
  rwa [List.nil_append] at h

theorem encStream_close_ok_all_written (enc : Basex.Enc) (he : enc.WF) (sink : Sink) (ws : List Bytes) :
    let s1 := ws.foldl (fun (s : EncState) w => (s.write w).2.2) ({ enc := enc, sink := sink } : EncState)
    s1.close.1 = true → s1.close.2.written.flatten = Basex.encode enc ws.flatten := by
  intro s1 hc
  rcases encStream_inv enc he sink ws with hfail | hinv
  · rw [(encStream_sticky s1 hfail []).2.2] at hc; cases hc
  · exact encInvS_close enc he _ s1 hinv hc

theorem encStream_any_split (enc : Basex.Enc) (he : enc.WF) (ws : List Bytes) :
    let s1 := ws.foldl (fun (s : EncState) w => (s.write w).2.2) ({ enc := enc } : EncState)
    let r := s1.close
    r.1 = true ∧ r.2.written.flatten = Basex.encode enc ws.flatten := by
  intro s1 r
  obtain ⟨hsink, hfailed⟩ := (consumes_fold ws ({ enc := enc } : EncState)).of_sink_nil rfl
  have hc : s1.close.1 = true := by
    unfold EncState.close
    split
    · rw [under_nofail _ _ hsink]
    · rw [hfailed]; rfl
  exact ⟨hc, encStream_close_ok_all_written enc he [] ws hc⟩

/-- the bytes a script delivers before its first condition -/
def srcData : Source → Bytes
  | [] => []
  | (d, some _) :: _ => d
  | (d, none) :: rest => d ++ srcData rest

end Saltpack.Proofs
