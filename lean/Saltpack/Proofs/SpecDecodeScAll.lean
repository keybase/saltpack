/-
  The strict reference decoder for signcryption with ALL recipients' keys
  (Model/SpecDecodeAll.lean) against the reference SENDER: completeness and
  FULL soundness — an accepted byte string is `Spec.signcryptPlan` of the
  decoded values, every recipient entry included.
-/
import Saltpack.Proofs.SpecDecodeSc

namespace Saltpack.Proofs.SDW
open Saltpack Saltpack.Msgpack Saltpack.SpecDecode Saltpack.Proofs
open Saltpack.Spec hiding encode

section
variable (P : Prims)

theorem checkAll_ok_iff {m : ScMsg} {keys : List ScKey} {o : ScOpened} :
    m.checkAll P keys = .ok o ↔
    ∃ pk pks, scRecvKeysAll P m.eph 0 m.recvs keys = .ok (pk :: pks) ∧ (∀ x ∈ pks, x = pk) ∧
      m.checkBody P pk = .ok o := by
  unfold ScMsg.checkAll
  constructor
  · intro h
    split at h
    · cases h
    · cases h
    · rename_i pk pks hall
      split at h
      · rename_i hsame
        exact ⟨pk, pks, hall, fun x hx => eq_of_beq (List.all_eq_true.mp hsame x hx), h⟩
      · cases h
  · rintro ⟨pk, pks, h1, h2, h3⟩
    rw [h1]
    simp only
    rw [if_pos (List.all_eq_true.2 fun x hx => beq_iff_eq.2 (h2 x hx))]
    exact h3

/-! ### completeness -/

/-- one key per recipient, each the recipient's own -/
def ScKeysFor : List ScKey → List Signcrypt.Recipient → Prop
  | [], [] => True
  | k :: ks, r :: rs => ScKeyFor P k (some r) ∧ ScKeysFor ks rs
  | _, _ => False

theorem scRecvKeysAll_spec (hL : P.Lawful) (eph pk : Bytes) : ∀ (rs : List Signcrypt.Recipient) (keys : List ScKey) (i : Nat),
    ScKeysFor P keys rs →
    scRecvKeysAll P (P.boxPub eph) i ((rs.zipIdx i).map (fun (r, j) => specScRecv P eph pk j r)) keys =
      .ok (rs.map (fun _ => pk)) := by
  intro rs
  induction rs with
  | nil =>
    intro keys i h
    cases keys with
    | nil => rfl
    | cons k ks => exact absurd h (by simp [ScKeysFor])
  | cons r rs ih =>
    intro keys i h
    cases keys with
    | nil => exact absurd h (by simp [ScKeysFor])
    | cons k ks =>
      obtain ⟨h1, h2⟩ := h
      simp only [List.zipIdx_cons, List.map_cons, scRecvKeysAll]
      rw [scRecvKey_spec P hL eph pk i r k h1]
      simp only
      rw [ih ks (i + 1) h2]

theorem sc_checkAll_complete (hL : P.Lawful) (sender : Option Bytes)
    (hs : ∀ s, sender = some s → P.sigPub s ≠ zeros 32)
    (rs : List Signcrypt.Recipient) (hrs : rs ≠ []) (eph pk : Bytes) (pl : List (Bytes × Bool))
    (hpl : PlanOK 2 0 pl) (hpl0 : pl ≠ []) (keys : List ScKey) (hkeys : ScKeysFor P keys rs) :
    (specScMsg P sender rs eph pk pl).checkAll P keys =
      .ok ⟨pk, specScSenderPub P sender, pl.map (·.1)⟩ := by
  obtain ⟨r0, rs', rfl⟩ := List.exists_cons_of_ne_nil hrs
  exact (checkAll_ok_iff P).2 ⟨pk, rs'.map (fun _ => pk), scRecvKeysAll_spec P hL eph pk (r0 :: rs') keys 0 hkeys,
    fun x hx => by obtain ⟨_, _, rfl⟩ := List.mem_map.1 hx; rfl,
    specScMsg_checkBody P hL sender hs (r0 :: rs') eph pk pl hpl hpl0⟩

/-! ### soundness -/

/-- the recipients as the decoder saw them: a box recipient is the public key
    of the secret the decoder holds, a symmetric-key recipient the key the
    decoder holds with the identifier found in the header -/
def scRecipOf (k : ScKey) (ident : Bytes) : Signcrypt.Recipient :=
  match k with
  | .box sk => .box (P.boxPub sk)
  | .sym key => .sym key ident

def scRsOf (keys : List ScKey) (recvs : List ScRecv) : List Signcrypt.Recipient :=
  List.zipWith (fun k r => scRecipOf P k r.ident) keys recvs

theorem scRecvKey_sound (hL : P.Lawful) (hC : OpenCanonical P) (ephSec pk : Bytes) (i : Nat) (r : ScRecv) (k : ScKey)
    (h : scRecvKey P (P.boxPub ephSec) i r k = .ok pk) :
    r = specScRecv P ephSec pk i (scRecipOf P k r.ident) := by
  have hr := scRecvKey_recvFor P hC h
  obtain ⟨ident, box⟩ := r
  cases k with
  | box sk =>
    obtain ⟨rfl, rfl⟩ := hr
    simp only [scRecipOf, specScRecv, Prims.box, hL.dh_comm ephSec sk]
  | sym key =>
    obtain rfl := hr
    rfl

theorem scRecvKeysAll_cons_ok {eph : Bytes} {i : Nat} {r : ScRecv} {rs : List ScRecv} {k : ScKey} {ks : List ScKey}
    {pks : List Bytes} (h : scRecvKeysAll P eph i (r :: rs) (k :: ks) = .ok pks) :
    ∃ pk pks', scRecvKey P eph i r k = .ok pk ∧ scRecvKeysAll P eph (i + 1) rs ks = .ok pks' ∧ pks = pk :: pks' := by
  rw [scRecvKeysAll] at h
  split at h
  · cases h
  · split at h
    · cases h
    · cases h
      exact ⟨_, _, ‹_›, ‹_›, rfl⟩

theorem scRecvKeysAll_length (eph : Bytes) : ∀ (recvs : List ScRecv) (keys : List ScKey) (i : Nat) (pks : List Bytes),
    scRecvKeysAll P eph i recvs keys = .ok pks → keys.length = recvs.length := by
  intro recvs
  induction recvs with
  | nil => intro keys i pks h; cases keys <;> cases h; rfl
  | cons r rs ih =>
    intro keys i pks h
    cases keys with
    | nil => cases h
    | cons k ks =>
      obtain ⟨_, pks', _, h2, _⟩ := scRecvKeysAll_cons_ok P h
      exact congrArg (· + 1) (ih ks (i + 1) pks' h2)

theorem scRecvKeysAll_sound (hL : P.Lawful) (hC : OpenCanonical P) (ephSec pk : Bytes) :
    ∀ (recvs : List ScRecv) (keys : List ScKey) (i : Nat) (pks : List Bytes),
    scRecvKeysAll P (P.boxPub ephSec) i recvs keys = .ok pks → (∀ x ∈ pks, x = pk) →
    recvs = ((scRsOf P keys recvs).zipIdx i).map (fun (r, j) => specScRecv P ephSec pk j r) := by
  intro recvs
  induction recvs with
  | nil => intro _ _ _ _ _; simp [scRsOf]
  | cons r rs ih =>
    intro keys i pks h hall
    cases keys with
    | nil => cases h
    | cons k ks =>
      obtain ⟨pk0, pks', hk, hrest, rfl⟩ := scRecvKeysAll_cons_ok P h
      obtain rfl : pk0 = pk := hall pk0 (by simp)
      simp only [scRsOf, List.zipWith_cons_cons, List.zipIdx_cons, List.map_cons]
      congr 1
      · exact scRecvKey_sound P hL hC ephSec pk0 i r k hk
      · exact ih ks (i + 1) pks' hrest (fun x hx => hall x (by simp [hx]))

/-- accepted packets are the reference sender's packets, given that an accepted
    64-byte signature field is the reference sender's -/
theorem scPkts_are_spec (sender : Option Bytes) (pk hh senderPub : Bytes)
    (hsg : ∀ i f c sg, sg.length = 64 → (isAnon senderPub = true → sg = zeros 64) →
      (isAnon senderPub = false → P.verify senderPub (scSigInput P hh i f c) sg = true) →
      sg = specScSig P sender hh i c f) :
    ∀ (pkts : List ScPkt) (k : Nat) (chunks : List Bytes), ScPktsOK P pk hh senderPub k pkts chunks →
    pkts = ((scPlanOf chunks pkts).zipIdx k).map (fun (cf, i) => specScPkt P sender pk hh i cf.1 cf.2) := by
  intro pkts
  induction pkts with
  | nil =>
    intro k chunks _
    cases chunks <;> simp [scPlanOf]
  | cons p ps ih =>
    intro k chunks h
    cases chunks with
    | nil => exact absurd h (by simp [ScPktsOK])
    | cons c cs =>
      obtain ⟨⟨sg, hl, hct, ha, hv⟩, hrest⟩ := h
      simp only [scPlanOf, List.zipWith_cons_cons, List.zipIdx_cons, List.map_cons]
      congr 1
      · obtain ⟨ct, fin⟩ := p
        simp only [specScPkt]
        simp only at hct ha hv
        rw [hct, hsg k fin c sg hl ha hv]
      · exact ih (k + 1) cs hrest

theorem sc_checkAll_sound (hL : P.Lawful) (hC : OpenCanonical P) (m : ScMsg) (keys : List ScKey) (o : ScOpened)
    (h : m.checkAll P keys = .ok o) :
    keys.length = m.recvs.length ∧ m.recvs ≠ [] ∧ o.senderPub.length = 32 ∧
    PlanOK 2 0 (scPlanOf o.chunks m.pkts) ∧ (scPlanOf o.chunks m.pkts).map (·.1) = o.chunks ∧
    ∀ ephSec, m.eph = P.boxPub ephSec →
      (o.senderPub = zeros 32 →
        m = specScMsg P none (scRsOf P keys m.recvs) ephSec o.payloadKey (scPlanOf o.chunks m.pkts)) ∧
      (SigCanonical P → ∀ senderSec, o.senderPub = P.sigPub senderSec → o.senderPub ≠ zeros 32 →
        m = specScMsg P (some senderSec) (scRsOf P keys m.recvs) ephSec o.payloadKey (scPlanOf o.chunks m.pkts)) := by
  obtain ⟨pk, pks, hall, hsame, hbody⟩ := (checkAll_ok_iff P).1 h
  obtain ⟨hpko, hssb, hlen, hpk, hplan, hchunks⟩ := checkBody_sound P hC hbody
  have hne : m.recvs ≠ [] := by
    intro h0
    rw [h0] at hall
    cases keys <;> cases hall
  have hallpk : ∀ x ∈ pk :: pks, x = pk := List.forall_mem_cons.2 ⟨rfl, hsame⟩
  refine ⟨scRecvKeysAll_length P _ _ _ _ _ hall, hne, hlen, hplan, map_fst_zipWith _ _ _ hchunks, ?_⟩
  intro ephSec he
  have hrv := scRecvKeysAll_sound P hL hC ephSec pk m.recvs keys 0 (pk :: pks) (by rw [← he]; exact hall) hallpk
  rw [hpko]
  have assemble : ∀ (sender : Option Bytes), specScSenderPub P sender = o.senderPub →
      m.pkts = ((scPlanOf o.chunks m.pkts).zipIdx 0).map
        (fun (cf, i) => specScPkt P sender pk (P.hash m.headerBytes) i cf.1 cf.2) →
      m = specScMsg P sender (scRsOf P keys m.recvs) ephSec pk (scPlanOf o.chunks m.pkts) := by
    intro sender hsp hpkts
    have hhdr : m.headerBytes = (specScHdr P sender (scRsOf P keys m.recvs) ephSec pk).headerBytes := by
      unfold ScMsg.headerBytes ScMsg.fields
      simp only [specScHdr]
      rw [he, hssb, hsp, ← hrv]
    obtain ⟨eph, ssb, recvs, pkts⟩ := m
    simp only at he hssb hrv hpkts hhdr
    simp only [specScMsg, specScHdr]
    simp only [specScHdr] at hhdr
    rw [← hhdr, ← hpkts, ← hrv, hsp, ← hssb, ← he]
  constructor
  · intro hz
    apply assemble none (by rw [hz]; rfl)
    apply scPkts_are_spec P none pk _ o.senderPub _ m.pkts 0 o.chunks hpk
    intro i f c sg _ ha _
    exact ha (by rw [hz]; simp [isAnon])
  · intro hS senderSec hsp hnz
    apply assemble (some senderSec) (by rw [hsp]; rfl)
    apply scPkts_are_spec P (some senderSec) pk _ o.senderPub _ m.pkts 0 o.chunks hpk
    intro i f c sg _ _ hv
    have hna : isAnon o.senderPub = false := by
      simp only [isAnon, beq_eq_false_iff_ne]; exact hnz
    have := hv hna
    rw [hsp] at this
    exact hS _ _ _ this

/-- the verdict string of `signcryptionAll` -/
def scSummaryAll (m : ScMsg) (o : ScOpened) : String :=
  s!"plaintext={showB o.chunks.flatten} sender={if isAnon o.senderPub then "anon" else showB o.senderPub} recipients={",".intercalate (m.recvs.map (fun r => showB r.ident))}"

theorem signcryptionAll_ok_iff (b : Bytes) (keys : List ScKey) (s : String) :
    signcryptionAll P b keys = .ok s ↔
      ∃ m o, ScMsg.parse b = .ok m ∧ m.checkAll P keys = .ok o ∧ s = scSummaryAll m o := by
  unfold signcryptionAll
  constructor
  · intro h
    split at h
    · cases h
    · rename_i m hm
      split at h
      · cases h
      · rename_i o ho
        cases h
        exact ⟨m, o, hm, ho, rfl⟩
  · rintro ⟨m, o, h1, h2, rfl⟩
    rw [h1]
    simp only
    rw [h2]
    rfl

theorem scRecvKeysAll_get (eph : Bytes) : ∀ (recvs : List ScRecv) (keys : List ScKey) (i : Nat) (pks : List Bytes),
    scRecvKeysAll P eph i recvs keys = .ok pks →
    ∀ j r k, recvs[j]? = some r → keys[j]? = some k →
      ∃ pk, pks[j]? = some pk ∧ scRecvKey P eph (i + j) r k = .ok pk := by
  intro recvs
  induction recvs with
  | nil => intro _ _ _ _ j r k hr; cases hr
  | cons r0 rs ih =>
    intro keys i pks h j r k hr hk
    cases keys with
    | nil => cases hk
    | cons k0 ks =>
      obtain ⟨pk0, pks', hk0, hrest, rfl⟩ := scRecvKeysAll_cons_ok P h
      cases j with
      | zero =>
        cases hr
        cases hk
        exact ⟨pk0, rfl, hk0⟩
      | succ j =>
        obtain ⟨pk, h1, h2⟩ := ih ks (i + 1) pks' hrest j r k hr hk
        exact ⟨pk, h1, by rw [← h2, Nat.add_assoc, Nat.add_comm 1 j]⟩

end
end Saltpack.Proofs.SDW
