/-
  The armored prefix classifier, piece by piece: what the header expression
  matches (`matchTail_iff`, `matchHeader_shape`); the classifier on a normal form
  (`classifyNorm`), with a match (`classifyNorm_header`) and without one
  (`classifyNorm_none`, `wordsVerdict`), all verdicts in `classifyNorm_cases`; the
  finite checks on prefixes of `SALTPACK <type>`; base62 block lengths.
-/
import Saltpack.Model.Classify
import Saltpack.Proofs.ArmorRT
namespace Saltpack.Proofs.ClsAux
open Saltpack Saltpack.Classify Saltpack.Armor

/-! ### alphanumeric bytes -/

theorem isAlnum_iff (c : UInt8) :
    isAlnum c = true ↔ (48 ≤ c ∧ c ≤ 57) ∨ (65 ≤ c ∧ c ≤ 90) ∨ (97 ≤ c ∧ c ≤ 122) := by
  simp only [isAlnum, Bool.or_eq_true, Bool.and_eq_true, decide_eq_true_eq, or_assoc]

theorem alnum_class (c : UInt8) (h : isAlnum c = true) :
    isFrameSpace c = false ∧ isTrimSpace c = false ∧ (c == space) = false ∧ c ≠ period :=
  have f := digit_facts c (alnum_digit c ((isAlnum_iff c).mp h))
  ⟨f.2.1, f.2.2.1, f.2.2.2.1, fun hp => absurd (hp ▸ h) (by decide)⟩

theorem alnum_lt (c : UInt8) (h : isAlnum c = true) : c < 128 :=
  digit_lt c (alnum_digit c ((isAlnum_iff c).mp h))

/-! ### the header expression: what it matches, and on which texts -/

theorem stripPrefix_iff (p b r : Bytes) : stripPrefix? p b = some r ↔ b = p ++ r := by
  unfold stripPrefix?
  constructor
  · intro h
    split at h
    · rename_i hp
      obtain ⟨t, rfl⟩ := List.isPrefixOf_iff_prefix.mp hp
      rw [List.drop_left] at h
      rw [Option.some.inj h]
    · cases h
  · rintro rfl
    rw [if_pos (List.isPrefixOf_iff_prefix.mpr (List.prefix_append p r)), List.drop_left]

theorem stripPrefix_append (p x : Bytes) : stripPrefix? p (p ++ x) = some x := (stripPrefix_iff p _ x).mpr rfl

/-- the two strings differ at a common position -/
def clash : Bytes → Bytes → Bool
  | a :: p, b :: t => a != b || clash p t
  | _, _ => false

theorem stripPrefix_none (p t x : Bytes) (hn : clash p t = true) :
    stripPrefix? p (t ++ x) = none := by
  have : p.isPrefixOf (t ++ x) = false := by
    induction p generalizing t with
    | nil => simp [clash] at hn
    | cons a p ih =>
      cases t with
      | nil => simp [clash] at hn
      | cons b t =>
        simp only [clash, Bool.or_eq_true, bne_iff_ne, ne_eq] at hn
        simp only [List.cons_append, List.isPrefixOf_cons_cons, Bool.and_eq_false_iff, beq_eq_false_iff_ne, ne_eq]
        by_cases hab : a = b
        · exact Or.inr (ih t (by simpa [hab] using hn))
        · exact Or.inl hab
  unfold stripPrefix?
  rw [this]
  rfl

theorem takeWhile_all {α : Type} (p : α → Bool) (l : List α) (h : ∀ c ∈ l, p c = true) : l.takeWhile p = l := by
  have := List.takeWhile_append_of_pos (l₂ := []) h
  rwa [List.append_nil, List.takeWhile_nil, List.append_nil] at this

theorem takeWhile_word {α : Type} (p : α → Bool) (w : List α) (c : α) (x : List α)
    (h : ∀ a ∈ w, p a = true) (hc : p c = false) : (w ++ c :: x).takeWhile p = w := by
  rw [List.takeWhile_append_of_pos h, List.takeWhile_cons_of_neg (by simp [hc]), List.append_nil]

/-- the three frame type strings `ENCRYPTED MESSAGE`, `SIGNED MESSAGE`, `DETACHED SIGNATURE` -/
def typeStrings : List Bytes := [Gen.c_sp_EncryptionArmorString, Gen.c_sp_SignedArmorString,
      Gen.c_sp_DetachedSignatureArmorString]

/-- ` ?\.` at the front of `r1`: what follows the period.  A copy of the local `afterDot` of
    `Classify.matchTail`, letter for letter: `matchTail_eq` is by `rfl` -/
def afterDot (r1 : Bytes) : Option Bytes :=
  let r2 := match r1 with | c :: cs => if c == Armor.space then cs else r1 | [] => r1
  match r2 with
  | c :: cs => if c == Armor.period then some cs else
      (match r1 with | c1 :: cs1 => if c1 == Armor.period then some cs1 else none | [] => none)
  | [] => none

/-- a character of the captured run `[a-zA-Z0-9 ]*`.  (`okc`, `charsOf`, `decOf`, `conclude` carry the namespace
    `ClsStable` because statements of Props/C16Stable and Props/C16Genuine, which open it, name them.) -/
def _root_.Saltpack.Proofs.ClsStable.okc (c : UInt8) : Bool := isAlnum c || c == Armor.space

open ClsStable (okc)

/-- one alternative of the type group in `Classify.matchTail` (its local `tryType`, letter for letter) -/
def tryType (r t : Bytes) : Option (Bytes × Bytes) :=
  match stripPrefix? t r with
  | none => none
  | some r1 => (afterDot r1).map (fun x => (t, x.takeWhile okc))

/-- `SALTPACK ` -/
def formatWord : Bytes := Armor.upper Gen.c_sp_FormatName ++ [Armor.space]

theorem matchTail_eq (b : Bytes) : matchTail b =
    match stripPrefix? formatWord b with
    | none => none
    | some r =>
      match tryType r Gen.c_sp_EncryptionArmorString with
      | some x => some x
      | none => match tryType r Gen.c_sp_SignedArmorString with
        | some x => some x
        | none => tryType r Gen.c_sp_DetachedSignatureArmorString := rfl

theorem afterDot_iff (r1 rest : Bytes) :
    afterDot r1 = some rest ↔ (r1 = period :: rest ∨ r1 = space :: period :: rest) := by
  have hps : (period == space) = false := by decide
  have hsp : (space == period) = false := by decide
  cases r1 with
  | nil => simp [afterDot]
  | cons c cs =>
    by_cases hc : c = space
    · subst hc
      cases cs with
      | nil =>
        simp [afterDot]
        intro h; exact absurd h (by decide)
      | cons c' cs' =>
        by_cases hc' : c' = period
        · subst hc'
          simp [afterDot]
          intro h; exact absurd h (by decide)
        · simp [afterDot, hc', hsp]
          intro h; exact absurd h (by decide)
    · by_cases hp : c = period
      · subst hp
        simp [afterDot, hps]
        intro h; exact absurd h (by decide)
      · simp [afterDot, hc, hp]

theorem tryType_iff (r t : Bytes) (x : Bytes × Bytes) :
    tryType r t = some x ↔ ∃ r1 rest, r = t ++ r1 ∧ afterDot r1 = some rest ∧ x = (t, rest.takeWhile okc) := by
  unfold tryType
  constructor
  · intro h
    split at h
    · cases h
    · rename_i r1 hr1
      simp only [Option.map_eq_some_iff] at h
      obtain ⟨rest, ha, rfl⟩ := h
      exact ⟨r1, rest, (stripPrefix_iff _ _ _).mp hr1, ha, rfl⟩
  · rintro ⟨r1, rest, rfl, ha, rfl⟩
    rw [stripPrefix_append]
    simp [ha]

theorem tryType_other (t t' r1 : Bytes) (ht : t ∈ typeStrings) (ht' : t' ∈ typeStrings) (hne : t ≠ t') :
    tryType (t ++ r1) t' = none := by
  unfold tryType
  simp only [typeStrings, List.mem_cons, List.not_mem_nil, or_false] at ht ht'
  rcases ht with rfl | rfl | rfl <;> rcases ht' with rfl | rfl | rfl <;>
    first
    | exact absurd rfl hne
    | rw [stripPrefix_none _ _ r1 (by decide)]

theorem matchTail_iff (b : Bytes) (x : Bytes × Bytes) :
    matchTail b = some x ↔
      ∃ t r1 rest, t ∈ typeStrings ∧ b = formatWord ++ (t ++ r1) ∧ afterDot r1 = some rest ∧ x = (t, rest.takeWhile okc) := by
  rw [matchTail_eq]
  constructor
  · intro h
    split at h
    · cases h
    · rename_i r hr
      have hb := (stripPrefix_iff _ _ _).mp hr
      split at h
      · rename_i y hy
        cases h
        obtain ⟨r1, rest, rfl, ha, rfl⟩ := (tryType_iff _ _ _).mp hy
        exact ⟨_, r1, rest, by simp [typeStrings], hb, ha, rfl⟩
      · split at h
        · rename_i y hy
          cases h
          obtain ⟨r1, rest, rfl, ha, rfl⟩ := (tryType_iff _ _ _).mp hy
          exact ⟨_, r1, rest, by simp [typeStrings], hb, ha, rfl⟩
        · obtain ⟨r1, rest, rfl, ha, rfl⟩ := (tryType_iff _ _ _).mp h
          exact ⟨_, r1, rest, by simp [typeStrings], hb, ha, rfl⟩
  · rintro ⟨t, r1, rest, ht, rfl, ha, rfl⟩
    rw [show stripPrefix? formatWord (formatWord ++ (t ++ r1)) = some (t ++ r1) from stripPrefix_append _ _]
    simp only
    have hself : tryType (t ++ r1) t = some (t, rest.takeWhile okc) :=
      (tryType_iff _ _ _).mpr ⟨r1, rest, rfl, ha, rfl⟩
    have hE : Gen.c_sp_EncryptionArmorString ∈ typeStrings := by simp [typeStrings]
    have hS : Gen.c_sp_SignedArmorString ∈ typeStrings := by simp [typeStrings]
    have hD : Gen.c_sp_DetachedSignatureArmorString ∈ typeStrings := by simp [typeStrings]
    have hes : Gen.c_sp_EncryptionArmorString ≠ Gen.c_sp_SignedArmorString := by decide
    have hed : Gen.c_sp_EncryptionArmorString ≠ Gen.c_sp_DetachedSignatureArmorString := by decide
    have hsd : Gen.c_sp_SignedArmorString ≠ Gen.c_sp_DetachedSignatureArmorString := by decide
    have ht' := ht
    simp only [typeStrings, List.mem_cons, List.not_mem_nil, or_false] at ht'
    rcases ht' with rfl | rfl | rfl
    · rw [hself]
    · rw [tryType_other _ _ r1 hS hE (Ne.symm hes), hself]
    · rw [tryType_other _ _ r1 hD hE (Ne.symm hed), tryType_other _ _ r1 hD hS (Ne.symm hsd), hself]


theorem matchTail_sffx_none (sffx x : Bytes) (hs : sffx ∈ typeStrings) : matchTail (sffx ++ x) = none := by
  unfold matchTail
  simp only [typeStrings, List.mem_cons, List.not_mem_nil, or_false] at hs
  rcases hs with rfl | rfl | rfl
  · rw [stripPrefix_none _ _ x (by decide)]
  · rw [stripPrefix_none _ _ x (by decide)]
  · rw [stripPrefix_none _ _ x (by decide)]

/-- `BEGIN ` -/
def beginWord : Bytes := Gen.c_sp_headerMarker ++ [Armor.space]

theorem takeWhile_prefix_drop {α : Type} (p : α → Bool) (l : List α) :
    l = l.takeWhile p ++ l.drop (l.takeWhile p).length := by
  have h := congrArg (List.drop (l.takeWhile p).length) (List.takeWhile_append_dropWhile (p := p) (l := l))
  rw [List.drop_left] at h
  rw [← h, List.takeWhile_append_dropWhile]

theorem matchHeader_branded (brand cs t pl : Bytes) (hne : brand ≠ []) (hb : ∀ c ∈ brand, isAlnum c = true)
    (hm : matchTail cs = some (t, pl)) :
    matchHeader (beginWord ++ (brand ++ space :: cs)) = some (brand, t, pl) := by
  have hsp : isAlnum space = false := by decide
  have hie : brand.isEmpty = false := by
    cases brand with
    | nil => exact absurd rfl hne
    | cons _ _ => rfl
  unfold matchHeader
  rw [show stripPrefix? (Gen.c_sp_headerMarker ++ [Armor.space]) (beginWord ++ (brand ++ space :: cs)) =
    some (brand ++ space :: cs) from stripPrefix_append _ _]
  simp only [takeWhile_word isAlnum _ space _ hb hsp, List.drop_left, beq_self_eq_true, if_true, hm, hie]
  simp

/-- the header expression, brand-less alternative (the branded one cannot match
    a text that starts with `SALTPACK <type>`) -/
theorem matchHeader_plain (r t pl : Bytes) (hm : matchTail r = some (t, pl)) :
    matchHeader (beginWord ++ r) = some ([], t, pl) := by
  have hsp : isAlnum space = false := by decide
  have hSP : ∀ c ∈ upper Gen.c_sp_FormatName, isAlnum c = true := by decide
  obtain ⟨t', r1, rest, ht, hr, ha, hx⟩ := (matchTail_iff r (t, pl)).mp hm
  have hr' : r = upper Gen.c_sp_FormatName ++ space :: (t' ++ r1) := by rw [hr]; simp [formatWord]
  subst hr'
  unfold matchHeader
  rw [show stripPrefix? (Gen.c_sp_headerMarker ++ [Armor.space]) (beginWord ++ _) = some _ from stripPrefix_append _ _]
  simp only [takeWhile_word isAlnum _ space _ hSP hsp, List.drop_left, beq_self_eq_true, if_true,
    matchTail_sffx_none t' _ ht, Option.map_none, hm]
  have : (upper Gen.c_sp_FormatName).isEmpty = false := by decide
  simp [this]

theorem matchHeader_shape (s brand t pl : Bytes) (h : matchHeader s = some (brand, t, pl)) :
    ∃ r, s = beginWord ++ r ∧
      ((brand ≠ [] ∧ (∀ c ∈ brand, isAlnum c = true) ∧ ∃ cs, r = brand ++ space :: cs ∧ matchTail cs = some (t, pl)) ∨
       (brand = [] ∧ matchTail r = some (t, pl))) := by
  unfold matchHeader at h
  split at h
  · cases h
  · rename_i r hr
    refine ⟨r, (stripPrefix_iff _ _ _).mp hr, ?_⟩
    simp only at h
    split at h
    · rename_i x hx
      cases h
      split at hx
      · cases hx
      · rename_i hbe
        split at hx
        · rename_i c cs hab
          split at hx
          · rename_i hc
            simp only [Option.map_eq_some_iff, Prod.mk.injEq, Prod.exists] at hx
            obtain ⟨t', p', hm, hb1, rfl, rfl⟩ := hx
            left
            have hc' : c = space := by simpa using hc
            subst hc'
            refine ⟨?_, ?_, cs, ?_, hm⟩
            · intro h0; rw [← hb1] at h0; rw [h0] at hbe; simp at hbe
            · intro c hc; rw [← hb1] at hc; exact mem_takeWhile_pos isAlnum r c hc
            · have := takeWhile_prefix_drop isAlnum r
              rw [hab, hb1] at this
              exact this
          · cases hx
        · cases hx
    · simp only [Option.map_eq_some_iff, Prod.mk.injEq, Prod.exists] at h
      obtain ⟨t', p', hm, rfl, rfl, rfl⟩ := h
      exact Or.inr ⟨rfl, hm⟩


/-! ### consequences: no period, no match; the frame with its period matches -/

theorem matchHeader_none (s : Bytes) (h : period ∉ s) : matchHeader s = none := by
  cases hm : matchHeader s with
  | none => rfl
  | some x =>
    obtain ⟨brand, t, pl⟩ := x
    have tail : ∀ b, matchTail b = some (t, pl) → period ∈ b := by
      intro b hb
      obtain ⟨_, r1, rest, _, rfl, ha, _⟩ := (matchTail_iff b _).mp hb
      rcases (afterDot_iff r1 rest).mp ha with rfl | rfl <;> simp
    obtain ⟨r, rfl, ⟨_, _, cs, rfl, hc⟩ | ⟨_, hr⟩⟩ := matchHeader_shape s brand t pl hm
    · exact absurd (by simp [tail cs hc]) h
    · exact absurd (by simp [tail r hr]) h

theorem matchHeader_type (s brand t p : Bytes) (h : matchHeader s = some (brand, t, p)) :
    t = Gen.c_sp_EncryptionArmorString ∨ t = Gen.c_sp_SignedArmorString ∨
      t = Gen.c_sp_DetachedSignatureArmorString := by
  have tail : ∀ b, matchTail b = some (t, p) → t ∈ typeStrings := by
    intro b hb
    obtain ⟨t', _, _, ht, _, _, hx⟩ := (matchTail_iff b _).mp hb
    cases hx
    exact ht
  have : t ∈ typeStrings := by
    obtain ⟨r, _, ⟨_, _, cs, _, hc⟩ | ⟨_, hr⟩⟩ := matchHeader_shape s brand t p h
    · exact tail cs hc
    · exact tail r hr
  simpa [typeStrings] using this

theorem matchTail_frame (sffx Z : Bytes) (hs : sffx ∈ typeStrings)
    (hZ : ∀ c ∈ Z, isAlnum c = true ∨ c = space) :
    matchTail (upper Gen.c_sp_FormatName ++ [space] ++ (sffx ++ period :: Z)) = some (sffx, Z) :=
  (matchTail_iff _ _).mpr ⟨sffx, period :: Z, Z, hs, rfl, (afterDot_iff _ _).mpr (Or.inl rfl), by
    rw [takeWhile_all okc Z fun c hc => by rcases hZ c hc with h | h <;> simp [okc, h]]⟩

theorem matchHeader_frame (typ : Int) (sffx : Bytes) (hts : typeString typ = some sffx) (hs : sffx ∈ typeStrings)
    (brand : Bytes) (hb : BrandOK brand) (Z : Bytes) (hZ : ∀ c ∈ Z, isAlnum c = true ∨ c = space) :
    matchHeader (header typ brand ++ period :: Z) = some (brand, sffx, Z) := by
  have hmt := matchTail_frame sffx Z hs hZ
  rw [(header_shape typ sffx hts brand).1]
  split
  · rename_i hbe
    rw [List.isEmpty_iff.mp hbe]
    have := matchHeader_plain _ sffx Z hmt
    simpa [beginWord] using this
  · rename_i hbe
    have := matchHeader_branded brand _ sffx Z (by simpa using hbe) (fun c hc => (isAlnum_iff c).mpr (hb.2 c hc)) hmt
    simpa [beginWord] using this

/-- a non-empty alphanumeric word -/
def AlnumWord (w : Bytes) : Prop := w ≠ [] ∧ ∀ c ∈ w, isAlnum c = true

instance (w : Bytes) : Decidable (AlnumWord w) := by unfold AlnumWord; infer_instance

/-- what `armoredPrefix` does with the normalised string: its body after the first `let`, letter for letter
    (`armoredPrefix_norm` is by `rfl`) -/
def classifyNorm (s : Bytes) : Verdict (Bytes × Int × Version) :=
  match matchHeader s with
  | none =>
    if !fewWords s then .notSaltpack
    else
      let strs := Armor.splitSp s
      let begin_ := Gen.c_sp_headerMarker
      if strs.length = 1 then (if isPrefixB (strs.headD []) begin_ then .short else .notSaltpack)
      else if strs.length = 2 then (if strs.headD [] == begin_ then .short else .notSaltpack)
      else if strs.length ≤ 5 then
        let hwb := Armor.intercalateSp (strs.headD [] :: strs.drop 2)
        let hp := begin_ ++ [Armor.space] ++ Armor.upper Gen.c_sp_FormatName
        let e := hp ++ [Armor.space] ++ Gen.c_sp_EncryptionArmorString
        let g := hp ++ [Armor.space] ++ Gen.c_sp_SignedArmorString
        let d := hp ++ [Armor.space] ++ Gen.c_sp_DetachedSignatureArmorString
        if isPrefixB hwb e || isPrefixB hwb g || isPrefixB hwb d || isPrefixB s e || isPrefixB s g || isPrefixB s d
        then .short else .notSaltpack
      else .unmodelled "logic error in ClassifyStream"
  | some (brand, typStr, payload) =>
    let chars := payload.filter (· != Armor.space)
    let (dec, _derr) := Basex.decodePrefix Gen.base62Std (chars.length + 1) chars
    if dec.length < 32 then .short
    else
      match binarySlice dec with
      | .short => .short
      | .eof => .eof
      | .notSaltpack => .notSaltpack
      | .unmodelled w => .unmodelled w
      | .ok (t, ver) =>
        let aty := typeOfArmorString typStr
        if ((t == mtSigncryption || t == mtEncryption) && aty != mtEncryption) ||
           (t == mtAttached && aty != mtAttached) || (t == mtDetached && aty != mtDetached)
        then .notSaltpack else .ok (brand, t, ver)

theorem armoredPrefix_norm (pref : Bytes) : armoredPrefix pref = classifyNorm (trimSpace (collapse pref)) := rfl

/-! #### …when the header expression matches -/

/-- the payload characters a text shows (spaces dropped) -/
def _root_.Saltpack.Proofs.ClsStable.charsOf (payload : Bytes) : Bytes := payload.filter (· != Armor.space)

open ClsStable (charsOf) in
/-- the bytes `DecodeString` returns for them -/
def _root_.Saltpack.Proofs.ClsStable.decOf (payload : Bytes) : Bytes :=
  (Basex.decodePrefix Gen.base62Std ((charsOf payload).length + 1) (charsOf payload)).1

/-- what the classifier concludes from the frame label and the binary verdict -/
def _root_.Saltpack.Proofs.ClsStable.conclude (brand typStr : Bytes) (bv : Verdict (Int × Version)) :
    Verdict (Bytes × Int × Version) :=
  match bv with
  | .short => .short
  | .eof => .eof
  | .notSaltpack => .notSaltpack
  | .unmodelled w => .unmodelled w
  | .ok (t, ver) =>
    let aty := typeOfArmorString typStr
    if ((t == mtSigncryption || t == mtEncryption) && aty != mtEncryption) ||
       (t == mtAttached && aty != mtAttached) || (t == mtDetached && aty != mtDetached)
    then .notSaltpack else .ok (brand, t, ver)

open ClsStable (charsOf decOf conclude)

theorem classifyNorm_header (s brand typStr payload : Bytes) (h : matchHeader s = some (brand, typStr, payload)) :
    classifyNorm s =
      if (decOf payload).length < 32 then .short else conclude brand typStr (binarySlice (decOf payload)) := by
  unfold classifyNorm
  rw [h]
  rfl

theorem conclude_ok {brand typStr b : Bytes} {bv : Verdict (Int × Version)} {t : Int} {v : Version}
    (h : conclude brand typStr bv = .ok (b, t, v)) :
    b = brand ∧ bv = .ok (t, v) ∧
      (((t == mtSigncryption || t == mtEncryption) && typeOfArmorString typStr != mtEncryption) ||
        (t == mtAttached && typeOfArmorString typStr != mtAttached) ||
        (t == mtDetached && typeOfArmorString typStr != mtDetached)) = false := by
  unfold conclude at h
  split at h
  any_goals cases h
  dsimp only at h
  split at h
  · cases h
  · rename_i hlab
    cases h
    exact ⟨rfl, rfl, by simpa using hlab⟩

theorem conclude_unmodelled {brand typStr : Bytes} {bv : Verdict (Int × Version)} {w : String}
    (h : conclude brand typStr bv = .unmodelled w) : bv = .unmodelled w := by
  unfold conclude at h
  split at h
  any_goals cases h
  · rfl
  · dsimp only at h
    split at h <;> cases h

/-! #### …and when it does not: the five-words expression and the words -/

/-- the verdict from the words of a text that the five-words expression accepts: that branch of
    `classifyNorm`, letter for letter (`classifyNorm_none` ends in `rfl`) -/
def wordsVerdict (s : Bytes) : Verdict (Bytes × Int × Version) :=
  let strs := Armor.splitSp s
  let begin_ := Gen.c_sp_headerMarker
  if strs.length = 1 then (if isPrefixB (strs.headD []) begin_ then .short else .notSaltpack)
  else if strs.length = 2 then (if strs.headD [] == begin_ then .short else .notSaltpack)
  else if strs.length ≤ 5 then
    let hwb := Armor.intercalateSp (strs.headD [] :: strs.drop 2)
    let hp := begin_ ++ [Armor.space] ++ Armor.upper Gen.c_sp_FormatName
    let e := hp ++ [Armor.space] ++ Gen.c_sp_EncryptionArmorString
    let g := hp ++ [Armor.space] ++ Gen.c_sp_SignedArmorString
    let d := hp ++ [Armor.space] ++ Gen.c_sp_DetachedSignatureArmorString
    if isPrefixB hwb e || isPrefixB hwb g || isPrefixB hwb d || isPrefixB s e || isPrefixB s g || isPrefixB s d
    then .short else .notSaltpack
  else .unmodelled "logic error in ClassifyStream"

theorem classifyNorm_none (s : Bytes) (h : matchHeader s = none) :
    classifyNorm s = if !fewWords s then .notSaltpack else wordsVerdict s := by
  unfold classifyNorm
  rw [h]
  rfl

theorem shortIf_cases {α : Type} (c : Prop) [Decidable c] :
    (if c then (Verdict.short : Verdict α) else .notSaltpack) = .short ∨
      (if c then (Verdict.short : Verdict α) else .notSaltpack) = .notSaltpack := by
  by_cases h : c
  · exact Or.inl (if_pos h)
  · exact Or.inr (if_neg h)

theorem of_shortIf {α : Type} {c : Prop} [Decidable c]
    (h : (if c then (Verdict.short : Verdict α) else .notSaltpack) = .short) : c := by
  by_cases hc : c
  · exact hc
  · rw [if_neg hc] at h; cases h

theorem wordsVerdict_cases (s : Bytes) : wordsVerdict s = .short ∨ wordsVerdict s = .notSaltpack ∨
    (5 < (splitSp s).length ∧ wordsVerdict s = .unmodelled "logic error in ClassifyStream") := by
  unfold wordsVerdict
  dsimp only
  by_cases h1 : (splitSp s).length = 1
  · rw [if_pos h1]; exact (shortIf_cases _).imp_right Or.inl
  rw [if_neg h1]
  by_cases h2 : (splitSp s).length = 2
  · rw [if_pos h2]; exact (shortIf_cases _).imp_right Or.inl
  rw [if_neg h2]
  by_cases h5 : (splitSp s).length ≤ 5
  · rw [if_pos h5]; exact (shortIf_cases _).imp_right Or.inl
  · rw [if_neg h5]; exact Or.inr (Or.inr ⟨by omega, rfl⟩)

/-- "short" from the words: a started `BEGIN`; `BEGIN` and one more word; or more words that — without the second
    one (a brand) or as they stand — start like `BEGIN SALTPACK <type>` -/
theorem wordsVerdict_short (s : Bytes) (h : wordsVerdict s = .short) :
    ((splitSp s).length = 1 ∧ (splitSp s).headD [] <+: Gen.c_sp_headerMarker) ∨
    ((splitSp s).length = 2 ∧ (splitSp s).headD [] = Gen.c_sp_headerMarker) ∨
    ((splitSp s).length ≠ 1 ∧ (splitSp s).length ≠ 2 ∧ ∃ sffx,
      intercalateSp ((splitSp s).headD [] :: (splitSp s).drop 2) <+:
          Gen.c_sp_headerMarker ++ [space] ++ upper Gen.c_sp_FormatName ++ [space] ++ sffx ∨
        s <+: Gen.c_sp_headerMarker ++ [space] ++ upper Gen.c_sp_FormatName ++ [space] ++ sffx) := by
  unfold wordsVerdict at h
  dsimp only at h
  by_cases h1 : (splitSp s).length = 1
  · rw [if_pos h1] at h
    exact Or.inl ⟨h1, List.isPrefixOf_iff_prefix.mp (of_shortIf h)⟩
  rw [if_neg h1] at h
  by_cases h2 : (splitSp s).length = 2
  · rw [if_pos h2] at h
    exact Or.inr (Or.inl ⟨h2, eq_of_beq (of_shortIf h)⟩)
  rw [if_neg h2] at h
  by_cases h5 : (splitSp s).length ≤ 5
  · rw [if_pos h5] at h
    have hor := of_shortIf h
    refine Or.inr (Or.inr ⟨h1, h2, ?_⟩)
    simp only [Bool.or_eq_true, isPrefixB, List.isPrefixOf_iff_prefix] at hor
    rcases hor with ((((h | h) | h) | h) | h) | h
    · exact ⟨_, Or.inl h⟩
    · exact ⟨_, Or.inl h⟩
    · exact ⟨_, Or.inl h⟩
    · exact ⟨_, Or.inr h⟩
    · exact ⟨_, Or.inr h⟩
    · exact ⟨_, Or.inr h⟩
  · rw [if_neg h5] at h; cases h

/-- every verdict on a normal form; the third case (more than five accepted words) is the one
    `fewWords_length_le` excludes -/
theorem classifyNorm_cases (s : Bytes) :
    classifyNorm s = .short ∨ classifyNorm s = .notSaltpack ∨
      (fewWords s = true ∧ 5 < (splitSp s).length ∧ classifyNorm s = .unmodelled "logic error in ClassifyStream") ∨
      ∃ brand typStr payload, matchHeader s = some (brand, typStr, payload) ∧ 32 ≤ (decOf payload).length ∧
        classifyNorm s = conclude brand typStr (binarySlice (decOf payload)) := by
  cases hm : matchHeader s with
  | none =>
    rw [classifyNorm_none s hm]
    split
    · exact Or.inr (Or.inl rfl)
    · rename_i hfw
      rcases wordsVerdict_cases s with h | h | ⟨h5, h⟩ <;> rw [h]
      · exact Or.inl rfl
      · exact Or.inr (Or.inl rfl)
      · exact Or.inr (Or.inr (Or.inl ⟨by simpa using hfw, h5, rfl⟩))
  | some x =>
    obtain ⟨brand, typStr, payload⟩ := x
    rw [classifyNorm_header s brand typStr payload hm]
    split
    · exact Or.inl rfl
    · exact Or.inr (Or.inr (Or.inr ⟨brand, typStr, payload, rfl, by omega, rfl⟩))

/-- the three comparisons of the brand-less words -/
def hwbCheck (ws' : List Bytes) : Bool :=
  let hwb := Armor.intercalateSp (Gen.c_sp_headerMarker :: ws')
  let hp := Gen.c_sp_headerMarker ++ [Armor.space] ++ Armor.upper Gen.c_sp_FormatName
  isPrefixB hwb (hp ++ [Armor.space] ++ Gen.c_sp_EncryptionArmorString) ||
    isPrefixB hwb (hp ++ [Armor.space] ++ Gen.c_sp_SignedArmorString) ||
    isPrefixB hwb (hp ++ [Armor.space] ++ Gen.c_sp_DetachedSignatureArmorString)

theorem words_facts (ws : List Bytes) (hne : ws ≠ []) (h : ∀ w ∈ ws, AlnumWord w) :
    matchHeader (intercalateSp ws) = none ∧ splitSp (intercalateSp ws) = ws ∧
      fewWords (intercalateSp ws) = decide (ws.length ≤ 5) := by
  have hall : ∀ c ∈ intercalateSp ws, isAlnum c = true ∨ c = space := by
    intro c hc
    rcases mem_intercalateSp ws c hc with h1 | ⟨w, hw, hcw⟩
    · exact Or.inr h1
    · exact Or.inl ((h w hw).2 c hcw)
  have hsplit : splitSp (intercalateSp ws) = ws := by
    cases ws with
    | nil => exact absurd rfl hne
    | cons w rest =>
      exact splitSp_intercalate w rest (fun v hv c hc => (alnum_class c ((h v hv).2 c hc)).2.2.1)
  refine ⟨?_, hsplit, ?_⟩
  · apply matchHeader_none
    intro hp
    rcases hall _ hp with h1 | h1
    · exact (alnum_class _ h1).2.2.2 rfl
    · exact absurd h1 (by decide)
  · unfold fewWords
    simp only [hsplit]
    have h1 : (intercalateSp ws).all (fun c => isAlnum c || c == Armor.space) = true := by
      rw [List.all_eq_true]
      intro c hc
      rcases hall c hc with h1 | h1
      · simp [h1]
      · simp [h1]
    have h2 : ws.dropLast.all (fun w => !w.isEmpty) = true := by
      rw [List.all_eq_true]
      intro w hw
      have := (h w (List.dropLast_subset _ hw)).1
      cases w with
      | nil => exact absurd rfl this
      | cons _ _ => rfl
    have h3 : (ws.getLast?.getD []).isEmpty = false := by
      cases hl : ws.getLast? with
      | none => rw [List.getLast?_eq_none_iff] at hl; exact absurd hl hne
      | some w =>
        have := (h w (List.mem_of_getLast? hl)).1
        cases w with
        | nil => exact absurd rfl this
        | cons _ _ => rfl
    have h0 : (intercalateSp ws).isEmpty = false := by
      cases ws with
      | nil => exact absurd rfl hne
      | cons w rest =>
        have := intercalateSp_cons_ne_nil w rest (h w (by simp)).1
        cases hi : intercalateSp (w :: rest) with
        | nil => exact absurd hi this
        | cons _ _ => rfl
    rw [h0, h1, h2, h3]
    simp

theorem an_begin : AlnumWord Gen.c_sp_headerMarker := by decide

theorem trimSpace_words (ws : List Bytes) (h : ∀ w ∈ ws, AlnumWord w) : trimSpace (intercalateSp ws) = intercalateSp ws :=
  trimSpace_intercalate ws fun w hw =>
    ⟨(h w hw).1, fun c hc => ⟨(alnum_class c ((h w hw).2 c hc)).2.1, alnum_lt c ((h w hw).2 c hc)⟩⟩

theorem norm_two (w : Bytes) (hw : AlnumWord w) :
    classifyNorm (trimSpace (intercalateSp [Gen.c_sp_headerMarker, w])) = .short := by
  have hall : ∀ v ∈ [Gen.c_sp_headerMarker, w], AlnumWord v :=
    List.forall_mem_cons.mpr ⟨an_begin, List.forall_mem_cons.mpr ⟨hw, nofun⟩⟩
  obtain ⟨h1, h2, h3⟩ := words_facts _ (List.cons_ne_nil _ _) hall
  rw [trimSpace_words _ hall, classifyNorm_none _ h1, h3]
  unfold wordsVerdict
  rw [h2]
  simp

theorem norm_brand (brand : Bytes) (hb : AlnumWord brand) (ws' : List Bytes) (hne : ws' ≠ []) (hlen : ws'.length ≤ 3)
    (hws : ∀ w ∈ ws', AlnumWord w) (hchk : hwbCheck ws' = true) :
    classifyNorm (trimSpace (intercalateSp (Gen.c_sp_headerMarker :: brand :: ws'))) = .short := by
  have hall : ∀ v ∈ Gen.c_sp_headerMarker :: brand :: ws', AlnumWord v :=
    List.forall_mem_cons.mpr ⟨an_begin, List.forall_mem_cons.mpr ⟨hb, hws⟩⟩
  obtain ⟨h1, h2, h3⟩ := words_facts _ (List.cons_ne_nil _ _) hall
  have hl : 1 ≤ ws'.length := List.length_pos_iff.mpr hne
  have e1 : (Gen.c_sp_headerMarker :: brand :: ws').length = ws'.length + 2 := rfl
  rw [trimSpace_words _ hall, classifyNorm_none _ h1, h3]
  unfold wordsVerdict
  unfold hwbCheck at hchk
  simp only [h2, e1, List.headD_cons, List.drop_succ_cons, List.drop_zero, hchk] at hchk ⊢
  rw [if_neg (by simp; omega), if_neg (by omega), if_neg (by omega), if_pos (by omega)]
  simp

theorem norm_nobrand (ws' : List Bytes) (hne : ws' ≠ []) (hlen : ws'.length ≤ 3)
    (hws : ∀ w ∈ ws', AlnumWord w) (hchk : hwbCheck ws' = true) :
    classifyNorm (trimSpace (intercalateSp (Gen.c_sp_headerMarker :: ws'))) = .short := by
  have hall : ∀ v ∈ Gen.c_sp_headerMarker :: ws', AlnumWord v := List.forall_mem_cons.mpr ⟨an_begin, hws⟩
  obtain ⟨h1, h2, h3⟩ := words_facts _ (List.cons_ne_nil _ _) hall
  have hl : 1 ≤ ws'.length := List.length_pos_iff.mpr hne
  have e1 : (Gen.c_sp_headerMarker :: ws').length = ws'.length + 1 := rfl
  rw [trimSpace_words _ hall, classifyNorm_none _ h1, h3]
  unfold wordsVerdict
  unfold hwbCheck at hchk
  simp only [Bool.or_eq_true] at hchk
  simp only [h2, e1, List.headD_cons, beq_self_eq_true, if_true, Bool.or_eq_true, hchk]
  rw [if_neg (by simp; omega), if_neg (by omega)]
  split
  · rfl
  · rw [if_pos (by omega), if_pos]
    rcases hchk with (h | h) | h
    · exact Or.inl (Or.inl (Or.inr h))
    · exact Or.inl (Or.inr h)
    · exact Or.inr h

/-! ### prefixes of a canonical string -/

theorem collapseAux_length_le (b : Bytes) : ∀ r, (collapseAux r b).length ≤ b.length := by
  induction b with
  | nil => intro r; simp [collapseAux]
  | cons c cs ih =>
    intro r
    unfold collapseAux
    split
    · split
      · have := ih true; simp only [List.length_cons]; omega
      · have := ih true; simp only [List.length_cons]; omega
    · have := ih false; simp only [List.length_cons]; omega

theorem collapseAux_take (l : Bytes) : ∀ (r : Bool) (k : Nat), collapseAux r l = l →
    collapseAux r (l.take k) = l.take k := by
  induction l with
  | nil => intro r k _; simp [collapseAux]
  | cons c cs ih =>
    intro r k h
    cases k with
    | zero => simp [collapseAux]
    | succ k =>
      rw [List.take_succ_cons]
      unfold collapseAux at h ⊢
      by_cases hc : isFrameSpace c = true
      · simp only [hc, if_true] at h ⊢
        cases r with
        | true =>
          simp only [if_true] at h
          have := collapseAux_length_le cs true
          rw [h] at this
          simp only [List.length_cons] at this
          omega
        | false =>
          simp only [Bool.false_eq_true, if_false, List.cons.injEq] at h ⊢
          exact ⟨h.1, ih true k h.2⟩
      · have hc' : isFrameSpace c = false := by simpa using hc
        simp only [hc', Bool.false_eq_true, if_false, List.cons.injEq, true_and] at h ⊢
        exact ih false k h

/-- split off one trailing space -/
def trimEnd (x : Bytes) : Bytes × Bytes :=
  if x.getLast? = some space then (x.dropLast, [space]) else (x, [])

theorem trimEnd_eq (x : Bytes) : x = (trimEnd x).1 ++ (trimEnd x).2 := by
  unfold trimEnd
  split
  · rename_i h
    obtain ⟨ys, rfl⟩ := List.getLast?_eq_some_iff.mp h
    simp
  · simp

theorem trimEnd_snd (x : Bytes) : ∀ c ∈ (trimEnd x).2, isTrimSpace c = true := by
  unfold trimEnd
  split
  · intro c hc
    simp only [List.mem_cons, List.not_mem_nil, or_false] at hc
    subst hc; decide
  · intro c hc; simp at hc


/-! ### the finite part: `SALTPACK <type>` and its prefixes -/

/-- the frame after the brand -/
def frameRest (sffx : Bytes) : Bytes := upper Gen.c_sp_FormatName ++ [space] ++ sffx

/-- the words of the first `j` bytes of `SALTPACK <type>`, a trailing space dropped -/
def restWords (sffx : Bytes) (j : Nat) : List Bytes := splitSp (trimEnd ((frameRest sffx).take j)).1

-- The finite base of `arm_frame_prefix_short`.  27 = the longest `SALTPACK <type>` (`rest_len`); 7 = `BEGIN ` and one more.
theorem rest_fin : ∀ sffx ∈ typeStrings, ∀ j, j ≤ 27 → 1 ≤ j →
    (∀ w ∈ restWords sffx j, AlnumWord w) ∧ restWords sffx j ≠ [] ∧ (restWords sffx j).length ≤ 3 ∧
      intercalateSp (restWords sffx j) = (trimEnd ((frameRest sffx).take j)).1 ∧
      hwbCheck (restWords sffx j) = true := by
  decide +kernel

theorem rest_len : ∀ sffx ∈ typeStrings, (frameRest sffx).length ≤ 27 := by
  decide

theorem begin_fin : ∀ k, k < 7 →
    armoredPrefix ((Gen.c_sp_headerMarker ++ [space]).take k) = .short := by
  decide +kernel

theorem take_cap (l : Bytes) (n : Nat) (hl : l.length ≤ n) (k : Nat) : l.take k = l.take (min k n) := by
  by_cases hk : k ≤ n
  · rw [Nat.min_eq_left hk]
  · rw [Nat.min_eq_right (by omega), List.take_of_length_le (by omega), List.take_of_length_le hl]

theorem intercalateSp_cons1 (a : Bytes) (ws : List Bytes) (h : ws ≠ []) :
    intercalateSp (a :: ws) = a ++ [space] ++ intercalateSp ws := by
  cases ws with
  | nil => exact absurd rfl h
  | cons w rest => simp [intercalateSp]

theorem intercalateSp_cons2 (a b : Bytes) (ws : List Bytes) (h : ws ≠ []) :
    intercalateSp (a :: b :: ws) = a ++ [space] ++ b ++ [space] ++ intercalateSp ws := by
  cases ws with
  | nil => exact absurd rfl h
  | cons w rest => simp [intercalateSp]


theorem armorable_sffx (typ : Int) (ht : Armorable typ) : ∃ sffx, typeString typ = some sffx ∧ sffx ∈ typeStrings := by
  rcases ht with rfl | rfl | rfl <;> exact ⟨_, rfl, by simp [typeStrings]⟩

/-! ## base62: how many bytes a block of characters decodes to -/


theorem decodePrefix_nil (enc : Basex.Enc) (fuel : Nat) : Basex.decodePrefix enc fuel [] = ([], none) := by
  cases fuel <;> simp [Basex.decodePrefix]

theorem encLen62_ge (n : Nat) (h : 32 ≤ n) : 43 ≤ Gen.base62Std.strict.encLen n := by
  unfold Basex.Enc.encLen
  have h1 : Gen.base62Std.strict.blockLen = 32 := rfl
  have h2 : Gen.base62Std.strict.charBlockLen = 43 := rfl
  rw [h1, h2]
  have : 1 ≤ n / 32 := (Nat.le_div_iff_mul_le (by omega)).mpr (by omega)
  have : 43 ≤ n / 32 * 43 := by
    calc 43 = 1 * 43 := by omega
      _ ≤ n / 32 * 43 := Nat.mul_le_mul_right 43 this
  omega

theorem decode62_len {cs : List UInt8} {b : Bytes} (hd : Basex.decode Gen.base62Std.strict cs = .ok b) :
    cs.length = Gen.base62Std.strict.encLen b.length := by
  rw [← decode_canonical _ params62_strict_wf rfl cs b hd, encode_length _ params62_strict_wf]

theorem decode_block_len (blk : List UInt8) (b : Bytes) (hl : blk.length = 43)
    (hd : Basex.decode Gen.base62Std.strict blk = .ok b) : 32 ≤ b.length := by
  apply Classical.byContradiction
  intro hn
  have encLen62_lt : ∀ n, n < 32 → Gen.base62Std.strict.encLen n < 43 := by decide
  have := encLen62_lt b.length (by omega)
  have := decode62_len hd
  omega

theorem decodePrefix_short (cs : List UInt8) (h : cs.length < 43) :
    (Basex.decodePrefix Gen.base62Std (cs.length + 1) cs).1.length < 32 := by
  rw [Basex.decodePrefix]
  split
  · simp
  · have h2 : Gen.base62Std.charBlockLen = 43 := rfl
    simp only [h2]
    rw [List.take_of_length_le (by omega), List.drop_eq_nil_of_le (by omega), decodePrefix_nil]
    cases hd : Basex.decode Gen.base62Std.strict cs with
    | error e => simp
    | ok b =>
      simp only [List.append_nil]
      apply Classical.byContradiction
      intro hn
      have := encLen62_ge b.length (by omega)
      have := decode62_len hd
      omega

/-! ### normalising a frame followed by payload characters -/

theorem collapseAux_mem (b : Bytes) : ∀ (r : Bool), ∀ c ∈ collapseAux r b, c ∈ b ∨ c = space := by
  induction b with
  | nil => intro r c hc; simp [collapseAux] at hc
  | cons a cs ih =>
    intro r c hc
    unfold collapseAux at hc
    split at hc
    · split at hc
      · rcases ih true c hc with h | h
        · exact Or.inl (List.mem_cons_of_mem _ h)
        · exact Or.inr h
      · simp only [List.mem_cons] at hc
        rcases hc with h | hc
        · exact Or.inr h
        · rcases ih true c hc with h | h
          · exact Or.inl (List.mem_cons_of_mem _ h)
          · exact Or.inr h
    · simp only [List.mem_cons] at hc
      rcases hc with h | hc
      · exact Or.inl (by simp [h])
      · rcases ih false c hc with h | h
        · exact Or.inl (List.mem_cons_of_mem _ h)
        · exact Or.inr h

theorem collapseAux_filter (b : Bytes) (hb : ∀ c ∈ b, isAlnum c = true ∨ c = space) : ∀ (r : Bool),
    (collapseAux r b).filter (· != space) = b.filter (· != space) := by
  induction b with
  | nil => intro r; simp [collapseAux]
  | cons a cs ih =>
    intro r
    have ih' := ih (fun c hc => hb c (by simp [hc]))
    rcases hb a (by simp) with ha | ha
    · have h1 := (alnum_class a ha).1
      unfold collapseAux
      simp only [h1, Bool.false_eq_true, if_false, List.filter_cons, ih' false]
    · subst ha
      have h1 : isFrameSpace space = true := by decide
      unfold collapseAux
      cases r <;> simp [h1, ih' true]

/-- drop trailing white space -/
def rtrim (w : Bytes) : Bytes := (w.reverse.dropWhile isTrimSpace).reverse

theorem trim_tail (a w : Bytes) (h1 : ∀ c ∈ a.head?, isTrimSpace c = false) (h2 : ∀ c ∈ a.getLast?, isTrimSpace c = false)
    (hne : a ≠ []) (hasc : ∀ c ∈ a ++ w, c < 128) : trimSpace (a ++ w) = a ++ rtrim w := by
  rw [trimSpace_eq_ascii _ hasc]
  unfold trimSpaceAscii rtrim
  rw [dropWhile_id (a ++ w) (by
    cases a with
    | nil => exact absurd rfl hne
    | cons x l => simpa using h1)]
  rw [List.reverse_append, List.dropWhile_append]
  split
  · rename_i he
    rw [dropWhile_id a.reverse (by rw [List.head?_reverse]; exact h2)]
    rw [List.isEmpty_iff] at he
    rw [he]; simp
  · simp

theorem rtrim_decomp (w : Bytes) : ∃ q, w = rtrim w ++ q ∧ ∀ c ∈ q, isTrimSpace c = true ∧ c ∈ w := by
  refine ⟨(w.reverse.takeWhile isTrimSpace).reverse, ?_, ?_⟩
  · unfold rtrim
    rw [← List.reverse_append, List.takeWhile_append_dropWhile, List.reverse_reverse]
  · intro c hc
    rw [List.mem_reverse] at hc
    refine ⟨mem_takeWhile_pos _ _ _ hc, ?_⟩
    have := (List.takeWhile_sublist _).subset hc
    simpa using this

theorem rtrim_facts (w : Bytes) (hw : ∀ c ∈ w, isAlnum c = true ∨ c = space) :
    (∀ c ∈ rtrim w, isAlnum c = true ∨ c = space) ∧
      (rtrim w).filter (· != space) = w.filter (· != space) := by
  obtain ⟨q, hq, hqs⟩ := rtrim_decomp w
  refine ⟨?_, ?_⟩
  · intro c hc
    apply hw
    rw [hq]
    exact List.mem_append_left _ hc
  · have : q.filter (· != space) = [] := by
      rw [List.filter_eq_nil_iff]
      intro c hc
      rcases hw c (hqs c hc).2 with h | h
      · have := (alnum_class c h).2.1
        rw [(hqs c hc).1] at this
        cases this
      · simp [h]
    conv => rhs; rw [hq, List.filter_append, this, List.append_nil]


end Saltpack.Proofs.ClsAux
