/-
  Model/Codec.lean on what a spec-following sender writes, with the reserved extra trailing
  elements: a `toarray` struct in array form in general (`FieldsRead`, `structArr_encode`,
  `kStruct_encode`, `topStruct_encode`), and from it the version pair, the signcryption packet and
  the V1 signature packet (the other packets: Proofs/CodecBytesCanon.lean).  Before that: whatever
  the input, a decoded authenticator has 32 bytes.
-/
import Saltpack.Proofs.Codec

namespace Saltpack.Proofs.CodecP
open Saltpack Saltpack.Msgpack Saltpack.Codec Saltpack.Proofs.MsgpackRT

/-! ### whatever the input: a decoded authenticator has 32 bytes -/

theorem pad32_length (b : Bytes) : (pad32 b).length = 32 := by
  unfold pad32 zeros
  rw [List.length_take, List.length_append, List.length_replicate]
  omega

theorem decByteArray32_len (fuel rem : Nat) (b a r : Bytes) (h : decByteArray32 fuel rem b = .ok (a, r)) :
    a.length = 32 := by
  obtain ⟨bd, _, _, h⟩ := bind_eq_ok h
  generalize ctype bd.toNat = t at h
  cases t with
  | bytes =>
    obtain ⟨_, _, rfl⟩ := map_eq_ok h
    exact pad32_length _
  | _ =>
    obtain ⟨_, _, _, h⟩ := bind_eq_ok h
    obtain ⟨_, _, rfl⟩ := map_eq_ok h
    exact pad32_length _

theorem sliceElems_all {α : Type} (P : α → Prop) (elem : Dec α) (zero : α) (hz : P zero)
    (he : ∀ b a r, elem b = .ok (a, r) → P a) :
    ∀ (n : Nat) (acc : List α) (b : Bytes) (l : List α) (r : Bytes), (∀ a ∈ acc, P a) →
      sliceElems elem zero n acc b = .ok (l, r) → ∀ a ∈ l, P a
  | 0, acc, b, l, r, hacc, h => by
    cases h
    exact fun a ha => hacc a (List.mem_reverse.1 ha)
  | n + 1, acc, b, l, r, hacc, h => by
    obtain ⟨c, b', _, h⟩ := bind_eq_ok h
    cases c
    · obtain ⟨a, r', hel, h⟩ := bind_eq_ok h
      exact sliceElems_all P elem zero hz he n (a :: acc) r' l r (List.forall_mem_cons.2 ⟨he _ _ _ hel, hacc⟩) h
    · exact sliceElems_all P elem zero hz he n (zero :: acc) b' l r (List.forall_mem_cons.2 ⟨hz, hacc⟩) h

theorem kSliceOf_all {α : Type} (P : α → Prop) {elem : Dec α} {zero : α} (hz : P zero)
    (he : ∀ b a r, elem b = .ok (a, r) → P a) {b r : Bytes} {l : List α} (h : kSliceOf elem zero b = .ok (l, r)) :
    ∀ a ∈ l, P a := by
  obtain ⟨bd, _, _, h⟩ := bind_eq_ok h
  generalize ctype bd.toNat = t at h
  cases t with
  | bytes => cases h
  | _ =>
    obtain ⟨n, _, _, h⟩ := bind_eq_ok h
    exact sliceElems_all P elem zero hz he n [] _ l r nofun h

/-! ### structs in array form, on what a sender writes -/

theorem structArr_zero {σ : Type} (fuel rem : Nat) (fs : List (Field σ)) (st : σ) (b : Bytes) :
    structArr fuel rem fs 0 st b = .ok (st, b) := by
  cases fs <;> rfl

theorem structArr_cons {σ : Type} (fuel rem : Nat) (f : Field σ) (fs : List (Field σ)) (n : Nat) (st st' : σ)
    (b b' : Bytes) (h : fieldVal f st b = .ok (st', b')) :
    structArr fuel rem (f :: fs) (n + 1) st b = structArr fuel rem fs n st' b' := by
  rw [structArr, bind_ok h]

theorem structArr_extras {σ : Type} (fuel rem : Nat) (ex : List Val) (hall : ∀ v ∈ ex, ValWF v) (st : σ) (r : Bytes)
    (hf : 2 * (encode.encodeList ex).length + 1 ≤ fuel) (hd : depth.depthList ex ≤ rem) :
    structArr fuel rem ([] : List (Field σ)) ex.length st (encode.encodeList ex ++ r) = .ok (st, r) := by
  cases ex with
  | nil => rw [encodeList_nil]; exact structArr_zero fuel rem [] st _
  | cons v vs =>
    have h := swallowN_encodeList (v :: vs) hall r fuel rem hf hd
    rw [List.length_cons] at h
    rw [List.length_cons, structArr, bind_ok h]
    rfl

theorem kStruct_arr {σ : Type} (fuel rem : Nat) (fields : List (Field σ)) (st : σ) (n : Nat) (hn : n < 2 ^ 32)
    (r : Bytes) : kStruct fuel rem fields st (encArrayHdr n ++ r) = structArr fuel rem fields n st r := by
  obtain ⟨x, t, e, _, ct, hs⟩ := arrHdr_obj n hn r
  rw [e, kStruct, bind_ok (peek1_cons _ _)]
  simp only [ct]
  rw [bind_ok hs]

theorem sliceLen_arr (n : Nat) (hn : n < 2 ^ 32) (r : Bytes) : sliceLen (encArrayHdr n ++ r) = .ok (n, r) := by
  obtain ⟨x, t, e, _, ct, hs⟩ := arrHdr_obj n hn r
  rw [e, sliceLen, bind_ok (peek1_cons _ _)]
  simp only [ct]
  exact hs

theorem tryNil_arr (n : Nat) (hn : n < 2 ^ 32) (r : Bytes) :
    tryNil (encArrayHdr n ++ r) = .ok (false, encArrayHdr n ++ r) := by
  obtain ⟨x, t, e, ne, _, _⟩ := arrHdr_obj n hn r
  rw [e]; exact tryNil_other x t ne

theorem fieldVal_nil {σ : Type} (f : Field σ) (st : σ) (r : Bytes) : fieldVal f st (0xc0 :: r) = .ok (f.zero st, r) := by
  rw [fieldVal, bind_ok (tryNil_c0 r)]; rfl

theorem fieldVal_dec {σ : Type} (f : Field σ) (st : σ) (x : UInt8) (t : Bytes) (ne : x ≠ 0xc0) :
    fieldVal f st (x :: t) = f.dec st (x :: t) := by
  rw [fieldVal, bind_ok (tryNil_other x t ne)]
  simp only [Bool.false_eq_true, if_false]

theorem fieldVal_obj {σ α : Type} (name : Bytes) (c : Bool) (zero : σ → σ) (D : Dec α) (upd : σ → α → σ) (st : σ)
    {x : UInt8} {t r : Bytes} {a : α} (ne : x ≠ 0xc0) (hd : D (x :: t) = .ok (a, r)) :
    fieldVal ⟨name, c, zero, fun v => do let y ← D; pure (upd v y)⟩ st (x :: t) = .ok (upd st a, r) := by
  rw [fieldVal_dec _ _ _ _ ne]
  exact bind_ok hd

theorem fieldVal_int {σ : Type} (name : Bytes) (c : Bool) (zero : σ → σ) (upd : σ → Int → σ) (st : σ) (i : Int)
    (hlo : -(2 ^ 63 : Int) ≤ i) (hhi : i < (2 ^ 63 : Int)) (r : Bytes) :
    fieldVal ⟨name, c, zero, fun v => do let i ← decodeInt64; pure (upd v i)⟩ st (encInt i ++ r) = .ok (upd st i, r) := by
  obtain ⟨x, t, e, o⟩ := intObj_encInt i hlo hhi r
  rw [e]; exact fieldVal_obj _ _ _ _ _ _ o.ne o.dec

theorem fieldVal_bin {σ : Type} (name : Bytes) (c : Bool) (zero : σ → σ) (upd : σ → Bytes → σ) (st : σ) (b : Bytes)
    (hb : b.length < 2 ^ 32) (r : Bytes) :
    fieldVal ⟨name, c, zero, fun v => do let x ← decBytesField; pure (upd v x)⟩ st (encBin b ++ r) = .ok (upd st b, r) := by
  obtain ⟨x, t, e, o⟩ := bytesObj_encBin b hb r
  rw [e]; exact fieldVal_obj _ _ _ _ _ _ o.ne ((decBytesField_of_bytes _ _ o.ct).trans o.dec)

theorem fieldVal_str {σ : Type} (name : Bytes) (c : Bool) (zero : σ → σ) (upd : σ → Bytes → σ) (st : σ) (b : Bytes)
    (hb : b.length < 2 ^ 32) (r : Bytes) :
    fieldVal ⟨name, c, zero, fun v => do let x ← decodeBytes; pure (upd v x)⟩ st (encStr b ++ r) = .ok (upd st b, r) := by
  obtain ⟨x, t, e, o⟩ := bytesObj_encStr b hb r
  rw [e]; exact fieldVal_obj _ _ _ _ _ _ o.ne o.dec

theorem fieldVal_bool {σ : Type} (name : Bytes) (c : Bool) (zero : σ → σ) (upd : σ → Bool → σ) (st : σ) (f : Bool)
    (r : Bytes) :
    fieldVal ⟨name, c, zero, fun v => do let x ← decodeBool; pure (upd v x)⟩ st (encBool f ++ r) = .ok (upd st f, r) := by
  obtain ⟨x, e, ⟨ne, _, _⟩, hd⟩ := boolObj f r
  rw [e]; exact fieldVal_obj _ _ _ _ _ _ ne hd

/-- bounds the extras must meet: encodable, within the depth budget `rem`, fuel enough -/
structure ExtrasOK (ex : List Val) (fuel rem : Nat) : Prop where
  wf : ∀ v ∈ ex, ValWF v
  fuel : 2 * (encode.encodeList ex).length + 1 ≤ fuel
  depth : depth.depthList ex ≤ rem

/-- the fields `fs`, in source order, read the encoded values `vs` one each, taking the struct
    from `st` to `st'` -/
inductive FieldsRead {σ : Type} : List (Field σ) → List Val → σ → σ → Prop
  | nil (st : σ) : FieldsRead [] [] st st
  | cons {f : Field σ} {fs : List (Field σ)} {v : Val} {vs : List Val} {st st₁ st' : σ}
      (hf : ∀ r, fieldVal f st (encode v ++ r) = .ok (st₁, r)) (h : FieldsRead fs vs st₁ st') :
      FieldsRead (f :: fs) (v :: vs) st st'

theorem structArr_encode {σ : Type} {fuel rem : Nat} {ex : List Val} (hex : ExtrasOK ex fuel rem) (r : Bytes)
    {fs : List (Field σ)} {vs : List Val} {st st' : σ} (h : FieldsRead fs vs st st') :
    structArr fuel rem fs (vs ++ ex).length st (encode.encodeList (vs ++ ex) ++ r) = .ok (st', r) := by
  induction h with
  | nil st => exact structArr_extras fuel rem ex hex.wf st r hex.fuel hex.depth
  | cons hf _ ih =>
    rw [List.cons_append, encodeList_cons, List.append_assoc, List.length_cons, structArr_cons (h := hf _)]
    exact ih

theorem kStruct_encode {σ : Type} {fuel rem : Nat} {fields : List (Field σ)} {vs ex : List Val} {st st' : σ}
    (h : FieldsRead fields vs st st') (hex : ExtrasOK ex fuel rem) (hlen : (vs ++ ex).length < 2 ^ 32) (r : Bytes) :
    kStruct fuel rem fields st (encode (.arr (vs ++ ex)) ++ r) = .ok (st', r) := by
  rw [encode, List.append_assoc, kStruct_arr _ _ _ _ _ hlen]
  exact structArr_encode hex r h

theorem decVersion_encode (fuel rem : Nat) (ma mi : Int) (hma : -(2 ^ 63 : Int) ≤ ma ∧ ma < (2 ^ 63 : Int))
    (hmi : -(2 ^ 63 : Int) ≤ mi ∧ mi < (2 ^ 63 : Int)) (ex : List Val) (hex : ExtrasOK ex fuel rem)
    (hlen : ex.length + 2 < 2 ^ 32) (v0 : Version) (r : Bytes) :
    decVersion fuel rem v0 (encode (.arr ([.int ma, .int mi] ++ ex)) ++ r) = .ok (⟨ma, mi⟩, r) :=
  kStruct_encode (fields := versionFields) (vs := [.int ma, .int mi])
    (.cons (fieldVal_int _ _ _ _ _ ma hma.1 hma.2) <| .cons (fieldVal_int _ _ _ _ _ mi hmi.1 hmi.2) (.nil _)) hex
    (by simp only [List.length_append, List.length_cons, List.length_nil]; omega) r

theorem topStruct_arr {σ : Type} (fields : Nat → Nat → List (Field σ)) (zero : σ) (n : Nat) (hn : n < 2 ^ 32) (r : Bytes) :
    topStruct fields zero (encArrayHdr n ++ r) =
      structArr (fuelFor (encArrayHdr n ++ r)) 99 (fields (fuelFor (encArrayHdr n ++ r)) 99) n zero r := by
  show (tryNil >>= fun c => if c = true then pure zero else kStruct _ 99 _ zero) (encArrayHdr n ++ r) = _
  rw [bind_ok (tryNil_arr n hn r)]
  simp only [Bool.false_eq_true, if_false]
  exact kStruct_arr _ _ _ _ n hn r

/-- extras behind a top-level packet: encodable and at most 99 deep (go-codec's limit) -/
structure TopExtras (ex : List Val) : Prop where
  wf : ∀ v ∈ ex, ValWF v
  depth : depth.depthList ex ≤ 99

/-- `99` is the depth `topStruct` leaves (Model/Codec.lean); `1 ≤ fuel` is there for a field that is
    itself a struct with extras, whose decoder needs fuel to swallow them -/
theorem topStruct_encode {σ : Type} {fields : Nat → Nat → List (Field σ)} {vs ex : List Val} {zero st' : σ}
    (h : ∀ fuel, 1 ≤ fuel → FieldsRead (fields fuel 99) vs zero st') (hex : TopExtras ex) (hlen : (vs ++ ex).length < 2 ^ 32)
    (r : Bytes) : topStruct fields zero (encode (.arr (vs ++ ex)) ++ r) = .ok (st', r) := by
  rw [encode, List.append_assoc, topStruct_arr _ _ _ hlen]
  refine structArr_encode ⟨hex.wf, ?_, hex.depth⟩ r (h _ (Nat.le_trans (by decide : 1 ≤ 256) (Nat.le_add_left ..)))
  rw [fuelFor, encodeList_append]
  simp only [List.length_append]
  omega

theorem decSigncryptBlock_encode (ct : Bytes) (hct : ct.length < 2 ^ 32) (f : Bool) (ex : List Val) (hex : TopExtras ex)
    (hlen : ex.length + 2 < 2 ^ 32) (r : Bytes) :
    decSigncryptBlock (encode (.arr ([.bin ct, .bool f] ++ ex)) ++ r) = .ok (⟨ct, f⟩, r) :=
  topStruct_encode (fields := signcryptBlockFields) (vs := [.bin ct, .bool f])
    (fun _ _ => .cons (fieldVal_bin _ _ _ _ _ ct hct) <| .cons (fieldVal_bool _ _ _ _ _ f) (.nil _)) hex
    (by simp only [List.length_append, List.length_cons, List.length_nil]; omega) r

theorem decSigBlockV1_encode (sg ch : Bytes) (hsg : sg.length < 2 ^ 32) (hch : ch.length < 2 ^ 32) (ex : List Val)
    (hex : TopExtras ex) (hlen : ex.length + 2 < 2 ^ 32) (r : Bytes) :
    decSigBlockV1 (encode (.arr ([.bin sg, .bin ch] ++ ex)) ++ r) = .ok (⟨sg, ch, false⟩, r) :=
  topStruct_encode (fields := sigBlockV1Fields) (vs := [.bin sg, .bin ch])
    (fun _ _ => .cons (fieldVal_bin _ _ _ _ _ sg hsg) <| .cons (fieldVal_bin _ _ _ _ _ ch hch) (.nil _)) hex
    (by simp only [List.length_append, List.length_cons, List.length_nil]; omega) r

end Saltpack.Proofs.CodecP
