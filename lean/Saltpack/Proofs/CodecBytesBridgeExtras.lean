/-
  Header and signcryption packet WITH reserved extra trailing elements, as MessagePack values:
  what `C09_bridge_signcrypt_extras` (Props/C09CodecMore.lean) is stated about.
-/
import Saltpack.Proofs.CodecBytesBridge

namespace Saltpack.Proofs.CodecP
open Saltpack Saltpack.Msgpack Saltpack.Codec Saltpack.Proofs.MsgpackRT Saltpack.Proofs.WireRT

def encHeaderValEx (h : EncHeader) (ex : List Val) : Val :=
  .arr ([.str h.formatName, h.version.toVal, .int h.typ, .bin h.ephemeral, .bin h.senderSecretbox,
    .arr (h.receivers.map RecvKeys.toVal)] ++ ex)

def scPacketValEx (p : SigncryptBlock × List Val) : Val := .arr ([.bin p.1.ct, .bool p.1.final] ++ p.2)

end Saltpack.Proofs.CodecP
