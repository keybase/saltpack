/-
  Byte classes of the base62 armor alphabet.  The alphabet and the skip set are
  short tables, so what holds of every digit or skip character is checked entry
  by entry; only `alnum_digit` goes the other way, from a byte range to the table.
-/
import Saltpack.Model.Armor
import Saltpack.Proofs.Basex
import Saltpack.Proofs.Digits
import Saltpack.Proofs.Params62

namespace Saltpack.Proofs
open Saltpack Saltpack.Armor

theorem alphabet62_facts : ∀ c ∈ params62.enc.alphabet, c < 128 ∧
    isFrameSpace c = false ∧ isTrimSpace c = false ∧ (c == space) = false ∧
    params62.enc.isSkip c = false := by
  decide +kernel

theorem skip62_facts : ∀ c ∈ params62.enc.skip,
    isFrameSpace c = true ∧ params62.enc.digit? c = none ∧ c < 128 := by
  decide +kernel

/-- the alphabet is `0-9A-Za-z` -/
theorem alphabet62 : params62.enc.alphabet =
    (List.range' 48 10 ++ List.range' 65 26 ++ List.range' 97 26).map UInt8.ofNat := by
  decide +kernel

theorem alnum_digit (c : UInt8)
    (h : (48 ≤ c ∧ c ≤ 57) ∨ (65 ≤ c ∧ c ≤ 90) ∨ (97 ≤ c ∧ c ≤ 122)) :
    (params62.enc.digit? c).isSome = true := by
  rw [digit?_isSome_iff, alphabet62, ← UInt8.ofNat_toNat (x := c)]
  apply List.mem_map_of_mem
  simp only [UInt8.le_iff_toNat_le, UInt8.toNat_ofNat] at h
  simp only [List.mem_append, List.mem_range'_1]
  omega

theorem digit_alnum (c : UInt8) (h : (params62.enc.digit? c).isSome = true) :
    (48 ≤ c ∧ c ≤ 57) ∨ (65 ≤ c ∧ c ≤ 90) ∨ (97 ≤ c ∧ c ≤ 122) := by
  rw [digit?_isSome_iff, alphabet62] at h
  obtain ⟨n, hn, rfl⟩ := List.mem_map.1 h
  simp only [List.mem_append, List.mem_range'_1] at hn
  have e : (UInt8.ofNat n).toNat = n % 256 := UInt8.toNat_ofNat' ..
  simp only [UInt8.le_iff_toNat_le, UInt8.toNat_ofNat, e]
  omega

theorem frameSpace_iff_skip (c : UInt8) : isFrameSpace c = params62.enc.isSkip c := by
  rw [Bool.eq_iff_iff, isSkip_iff]
  refine ⟨fun h => ?_, fun h => (skip62_facts c h).1⟩
  simp only [isFrameSpace, Bool.or_eq_true, beq_iff_eq] at h
  rcases h with (((rfl | rfl) | rfl) | rfl) | rfl <;> decide

theorem skip_not_digit (c : UInt8) (h : params62.enc.isSkip c = true) : params62.enc.digit? c = none :=
  (skip62_facts c ((isSkip_iff _ c).mp h)).2.1

theorem digit_facts (c : UInt8) (h : (params62.enc.digit? c).isSome = true) :
    validByte params62 c = true ∧ isFrameSpace c = false ∧ isTrimSpace c = false ∧
      (c == space) = false ∧ params62.enc.isSkip c = false :=
  ⟨by rw [validByte, h, Bool.true_or], (alphabet62_facts c ((digit?_isSome_iff _ c).mp h)).2⟩

theorem digit_lt (c : UInt8) (h : (params62.enc.digit? c).isSome = true) : c < 128 :=
  (alphabet62_facts c ((digit?_isSome_iff _ c).mp h)).1

theorem valid_cases (c : UInt8) (hv : validByte params62 c = true) :
    (params62.enc.digit? c).isSome = true ∨ isFrameSpace c = true := by
  rw [frameSpace_iff_skip]
  exact Bool.or_eq_true_iff.mp hv

theorem frameSpace_valid (c : UInt8) (h : isFrameSpace c = true) : validByte params62 c = true := by
  unfold validByte
  rw [← frameSpace_iff_skip, h, Bool.or_true]

/-- among the valid bytes, ASCII white space is frame space (VT and FF are not valid) -/
theorem valid_trim_frame (c : UInt8) (hv : validByte params62 c = true) (ht : isTrimSpace c = true) :
    isFrameSpace c = true := by
  rcases valid_cases c hv with h | h
  · rw [(digit_facts c h).2.2.1] at ht
    cases ht
  · exact h

theorem valid_lt (c : UInt8) (hv : validByte params62 c = true) : c < 128 := by
  rcases valid_cases c hv with h | h
  · exact digit_lt c h
  · rw [frameSpace_iff_skip, isSkip_iff] at h
    exact (skip62_facts c h).2.2

theorem period_invalid : validByte params62 period = false := by decide

theorem space_valid : validByte params62 space = true := frameSpace_valid _ rfl
theorem newline_valid : validByte params62 newline = true := frameSpace_valid _ rfl

end Saltpack.Proofs
