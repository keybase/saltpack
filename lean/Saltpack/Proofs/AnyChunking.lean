/-
  Every message a spec-following sender can produce is accepted: the receivers
  are agnostic to chunk sizes — they accept *any*
  chunk plan the specification allows, not only the 1 MiB one the Go sender
  chooses —, to the minor version, and to extra trailing list elements in
  headers, recipient pairs and payload packets.
-/
import Saltpack.Proofs.RoundTripEnc
import Saltpack.Proofs.RoundTripSig
import Saltpack.Proofs.MsgpackRT

namespace Saltpack.Proofs
open Saltpack Saltpack.Encrypt Saltpack.Msgpack

/-- `sealPackets` is `sealPacketsPlan` at the Go sender's own plan -/
theorem sealPackets_eq_plan (P : Prims) (bs : Nat) (v : Version) (sender : Option Bytes) (rs : List Recipient)
    (eph pk pt : Bytes) :
    sealPackets P bs v sender rs eph pk pt = sealPacketsPlan P v sender rs eph pk (chunkPlan v bs pt) := by
  rfl

theorem enc_roundtrip_plan (P : Prims) (hP : P.Lawful)
    (v : Version) (hv : v = v1 ∨ v = v2)
    (sender : Option Bytes) (rs : List Recipient) (eph payloadKey : Bytes)
    (plan : List (Bytes × Bool)) (hplan : ValidPlan v plan)
    (hpk : payloadKey.length = 32)
    (hnamed : ∀ s, sender = some s → P.boxPub s ≠ P.boxPub eph)
    (hpub : ∀ r ∈ rs, r.hidden = false → r.pub ≠ [])
    (hblocks : plan.length < 2 ^ 64 - 1)
    (i : Nat) (hi : i < rs.length) (sk : Bytes) (hsk : (rs.getD i default).pub = P.boxPub sk)
    (hns : NoSpuriousOpen P v eph payloadKey rs i sk)
    (h : EncHeader) (hb : Bytes) (blks : List EncBlock)
    (hseal : sealPacketsPlan P v sender rs eph payloadKey plan = .ok (h, hb, blks)) :
    ∃ mki, Decrypt.openAll P knownMajor (faithfulKeyring P [sk]) (.ok hb h) ⟨blks.map some, .eof⟩ =
        .ok (mki, (plan.map (·.1)).flatten) ∧
      mki.senderKey = P.boxPub (sender.getD eph) ∧ mki.senderIsAnon = sender.isNone ∧ mki.receiverKey = sk := by
  have _ := hblocks
  obtain ⟨hcr, _⟩ := sealPacketsPlan_inv P v sender rs eph payloadKey plan h hb blks hseal
  exact ⟨_, enc_roundtrip_ring_unique P hP v hv 0 sender rs eph payloadKey plan hplan.finalLast hplan.empty_v1
    hplan.emptySole hpk hnamed hpub [sk] i hi sk List.mem_cons_self hsk
    (honly_single P rs (checkReceivers_inv hcr).2 i hi sk hsk) (RingNoSpuriousOpen.single hsk hns) h hb blks
    (encSent_of_sealPacketsPlan P hv sender rs eph payloadKey plan h hb blks hseal), rfl, rfl, rfl⟩

theorem sign_roundtrip_plan (P : Prims) (hP : P.Lawful)
    (v : Version) (hv : v = v1 ∨ v = v2) (minor : Int) (signer nonce : Bytes)
    (plan : List (Bytes × Bool)) (hplan : ValidPlan v plan)
    (kr : Keyring) (hk : kr.lookupSigningPublicKey (P.sigPub signer) = some (P.sigPub signer))
    (h : SigHeader) (hb : Bytes) (blks : List SigBlock)
    (hs : Sign.attachedPacketsPlan P v minor signer nonce plan = .ok (h, hb, blks)) :
    Sign.verifyAll P knownMajor kr (.ok hb h) ⟨blks.map some, .eof⟩ =
      .ok (P.sigPub signer, (plan.map (·.1)).flatten) :=
  sign_roundtrip_gen P hP v hv minor signer nonce plan hplan.finalLast hplan.empty_v1 hplan.emptySole kr hk h hb blks
    (sigSent_of_attachedPacketsPlan P v minor signer nonce plan h hb blks hs)

theorem sc_roundtrip_plan (P : Prims) (hP : P.Lawful)
    (sender : Option Bytes) (rs : List Signcrypt.Recipient) (eph payloadKey : Bytes)
    (plan : List (Bytes × Bool)) (hplan : ValidPlan v2 plan)
    (hpk : payloadKey.length = 32)
    (hsender : ∀ s, sender = some s → ¬ ((P.sigPub s).all (· == 0)))
    (hblocks : plan.length < 2 ^ 64 - 1)
    (i : Nat) (hi : i < rs.length) (sk : Bytes) (hsk : rs.getD i default = .box (P.boxPub sk))
    (h : EncHeader) (hb : Bytes) (blks : List SigncryptBlock)
    (hseal : Signcrypt.sealPacketsPlan P sender rs eph payloadKey plan = .ok (h, hb, blks))
    (hnc : ∀ j, j < i → Signcrypt.keyIdentifier P (Signcrypt.derivedKeyFromBoxKeys P (P.boxPub eph) sk) j ≠
        Decrypt.kidOf (h.receivers.getD j default)) :
    Signcrypt.openAll P (faithfulKeyring P [sk]) none (.ok hb h) ⟨blks.map some, .eof⟩ =
      .ok (sender.map P.sigPub, (plan.map (·.1)).flatten) :=
  sc_roundtrip_box_ring P hP 0 sender rs eph payloadKey plan hplan.finalLast (hplan.emptySole rfl) hpk hsender hblocks
    [sk] none i hi sk List.mem_cons_self hsk h hb blks
    (scSent_of_sealPacketsPlan P sender rs eph payloadKey plan h hb blks hseal) (ScRingNoCollision.single hsk hnc)

/-! ### forward compatibility: unknown minor versions, extra trailing elements -/

theorem knownMajor_ignores_minor (ma mi mi' : Int) : knownMajor ⟨ma, mi⟩ = knownMajor ⟨ma, mi'⟩ := by
  rfl

theorem viewVersion_extras (ma mi : Int) (ex : List Val) :
    viewVersion (.arr ([.int ma, .int mi] ++ ex)) = some ⟨ma, mi⟩ := by
  rfl

theorem viewEncHeader_extras (h : EncHeader) (ex : List Val) :
    (match h.toVal with
     | .arr fields => viewEncHeader (.arr (fields ++ ex))
     | _ => none) = some h := by
  obtain ⟨fn, ⟨ma, mi⟩, ty, eph, ssb, rs⟩ := h
  simp [viewEncHeader, EncHeader.toVal, Version.toVal, viewBytes, viewVersion, viewInt, viewList_recvKeys]

theorem viewSigHeader_extras (h : SigHeader) (ex : List Val) :
    (match h.toVal with
     | .arr fields => viewSigHeader (.arr (fields ++ ex))
     | _ => none) = some h := by
  obtain ⟨fn, ⟨ma, mi⟩, ty, pk, n⟩ := h
  simp [viewSigHeader, SigHeader.toVal, Version.toVal, viewBytes, viewVersion, viewInt]

theorem viewRecvKeys_extras (r : RecvKeys) (ex : List Val) :
    viewRecvKeys (.arr ([optBin r.kid, .bin r.box] ++ ex)) = some r := by
  obtain ⟨kid, box⟩ := r
  cases kid <;> rfl

theorem viewEncBlock_v2_extras (auths : List Bytes) (ct : Bytes) (f : Bool) (ex : List Val)
    (ha : auths ≠ []) (hl : ∀ a ∈ auths, a.length = 32) :
    viewEncBlock 2 (.arr ([.bool f, .arr (auths.map .bin), .bin ct] ++ ex)) = some ⟨auths, ct, f⟩ := by
  have _ := ha
  simp [viewEncBlock, viewBool, viewBytes, viewList_auth auths hl]

theorem viewEncBlock_v1_extras (auths : List Bytes) (ct : Bytes) (ex : List Val)
    (ha : auths ≠ []) (hl : ∀ a ∈ auths, a.length = 32) :
    viewEncBlock 1 (.arr ([.arr (auths.map .bin), .bin ct] ++ ex)) = some ⟨auths, ct, false⟩ := by
  have _ := ha
  simp [viewEncBlock, viewBytes, viewList_auth auths hl]

theorem viewSigncryptBlock_extras (ct : Bytes) (f : Bool) (ex : List Val) :
    viewSigncryptBlock (.arr ([.bin ct, .bool f] ++ ex)) = some ⟨ct, f⟩ := by
  rfl

theorem viewSigBlock_v2_extras (sig chunk : Bytes) (f : Bool) (ex : List Val) :
    viewSigBlock 2 (.arr ([.bool f, .bin sig, .bin chunk] ++ ex)) = some ⟨sig, chunk, f⟩ := by
  simp [viewSigBlock, viewBool, viewBytes]

theorem viewSigBlock_v1_extras (sig chunk : Bytes) (ex : List Val) :
    viewSigBlock 1 (.arr ([.bin sig, .bin chunk] ++ ex)) = some ⟨sig, chunk, false⟩ := by
  simp [viewSigBlock, viewBytes]

end Saltpack.Proofs

