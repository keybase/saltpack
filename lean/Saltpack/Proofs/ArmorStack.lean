/-
  The armor reader stack computes the whole-text function: `readAll` over
  `newDecoder src` — scripted source → punctuatedReader → framedDecoderStream →
  filteringReader → BaseX decoder, read with ANY positive buffer sizes from a
  script that delivers the text `T` in ANY fragmentation — releases exactly the
  payload of `Armor.openPure par expect T` and then a clean EOF when `openPure`
  succeeds, and reports an error when it fails.

  Core Lean only.
-/
import Saltpack.Proofs.StackDecoder
import Saltpack.Proofs.Params62

namespace Saltpack.Proofs
open Saltpack Saltpack.Stream

/-! ## the meaning of the initial state, as a function of the text -/

/-- keep the alphabet characters of a body, provided all its bytes are valid -/
def filOf (par : Armor.Params) (q : Bytes × FInfo) : Option (Bytes × FInfo) :=
  if q.1.all (Armor.validByte par) = true then some (Basex.filterSkip par.enc q.1, q.2) else none

/-- decode the characters strictly, block by block -/
def decOf (par : Armor.Params) (q : Bytes × FInfo) : Option (Bytes × FInfo) :=
  (decS par.enc q.1).map (fun y => (y, q.2))

/-- body phase onwards -/
def bodyStack (par : Armor.Params) (expect : Armor.Expect) (h b r1 : Bytes) : Option (Bytes × FInfo) :=
  ((bodySem par expect h b r1).bind (filOf par)).bind (decOf par)

/-- what the whole stack means for the text `T`, delivered completely and followed by a clean EOF:
    the payload it releases and the frame it ends with, or `none` for an error -/
def stackSem (par : Armor.Params) (expect : Armor.Expect) (T : Bytes) : Option (Bytes × FInfo) :=
  ((hdrSem par expect [] T).bind (filOf par)).bind (decOf par)

theorem stackSem_none (par : Armor.Params) (expect : Armor.Expect) (T : Bytes)
    (h : Armor.splitAt1 Armor.period T = none) : stackSem par expect T = none := by
  unfold stackSem hdrSem
  rw [h]
  rfl

theorem stackSem_some (par : Armor.Params) (expect : Armor.Expect) (T hd r1 : Bytes)
    (h : Armor.splitAt1 Armor.period T = some (hd, r1)) :
    stackSem par expect T =
      if hd.length < Armor.frameLim then (hdrCheck par expect [] hd).bind (fun b => bodyStack par expect hd b r1)
      else none := by
  unfold stackSem hdrSem
  rw [h]
  dsimp only
  by_cases hl : hd.length < Armor.frameLim
  · rw [if_pos hl, if_pos hl]
    cases hdrCheck par expect [] hd <;> rfl
  · rw [if_neg hl, if_neg hl]
    rfl

theorem bodyStack_none (par : Armor.Params) (expect : Armor.Expect) (h b r1 : Bytes)
    (hs : Armor.splitAt1 Armor.period r1 = none) : bodyStack par expect h b r1 = none := by
  unfold bodyStack bodySem
  rw [hs]
  rfl

theorem bodyStack_some (par : Armor.Params) (expect : Armor.Expect) (h b r1 body r2 : Bytes)
    (hs : Armor.splitAt1 Armor.period r1 = some (body, r2)) :
    bodyStack par expect h b r1 =
      if body.all (Armor.validByte par) = true then
        (decS par.enc (Basex.filterSkip par.enc body)).bind
          (fun y => (tailSem par expect h r2).map (fun ft => (y, (h, b, ft))))
      else none := by
  unfold bodyStack bodySem
  rw [hs]
  dsimp only
  cases tailSem par expect h r2 with
  | none =>
    cases body.all (Armor.validByte par) with
    | false => rfl
    | true => cases decS par.enc (Basex.filterSkip par.enc body) <;> rfl
  | some ft =>
    show (filOf par (body, (h, b, ft))).bind (decOf par) = _
    unfold filOf
    cases body.all (Armor.validByte par) with
    | false => rfl
    | true =>
      show decOf par (Basex.filterSkip par.enc body, (h, b, ft)) = _
      unfold decOf
      cases decS par.enc (Basex.filterSkip par.enc body) <;> rfl

theorem bodyStack_info (par : Armor.Params) (expect : Armor.Expect) (h b r1 : Bytes) :
    bodyStack par expect h b r1 = none ∨ ∃ y ft, bodyStack par expect h b r1 = some (y, (h, b, ft)) := by
  cases hs : Armor.splitAt1 Armor.period r1 with
  | none => exact Or.inl (bodyStack_none par expect h b r1 hs)
  | some q =>
    rw [bodyStack_some par expect h b r1 q.1 q.2 hs]
    cases q.1.all (Armor.validByte par) with
    | false => exact Or.inl rfl
    | true =>
      cases decS par.enc (Basex.filterSkip par.enc q.1) with
      | none => exact Or.inl rfl
      | some y =>
        cases tailSem par expect h q.2 with
        | none => exact Or.inl rfl
        | some ft => exact Or.inr ⟨y, ft, rfl⟩

theorem tailSem_none (par : Armor.Params) (expect : Armor.Expect) (h r2 : Bytes)
    (hs : Armor.splitAt1 Armor.period r2 = none) : tailSem par expect h r2 = none := by
  unfold tailSem ftrSem
  rw [hs]
  rfl

theorem tailSem_some (par : Armor.Params) (expect : Armor.Expect) (h r2 ft r3 : Bytes)
    (hs : Armor.splitAt1 Armor.period r2 = some (ft, r3)) :
    tailSem par expect h r2 =
      if ft.length < Armor.frameLim then
        if ftrCheck par expect h ft = true then (if trailOK par r3 then some ft else none) else none
      else none := by
  unfold tailSem ftrSem
  rw [hs]
  dsimp only
  by_cases hl : ft.length < Armor.frameLim
  · by_cases hc : ftrCheck par expect h ft = true
    · rw [if_pos hl, if_pos hc, if_pos (And.intro hl hc)]
      rfl
    · rw [if_pos hl, if_neg hc, if_neg (mt And.right hc)]
      rfl
  · rw [if_neg hl, if_neg (mt And.left hl)]
    rfl

theorem allDig_filterSkip (par : Armor.Params) (body : Bytes) (hv : body.all (Armor.validByte par) = true) :
    AllDig par.enc (Basex.filterSkip par.enc body) := by
  intro c hc
  unfold Basex.filterSkip at hc
  rw [List.mem_filter] at hc
  obtain ⟨hm, hk⟩ := hc
  have := List.all_eq_true.mp hv c hm
  unfold Armor.validByte at this
  cases hd : par.enc.digit? c with
  | some v => rfl
  | none =>
    rw [hd] at this hk
    simp at this
    simp [this] at hk

theorem any_period_iff (r3 : Bytes) : r3.any (· == Armor.period) = true ↔ Armor.period ∈ r3 := by
  simp only [List.any_eq_true, beq_iff_eq, exists_eq_right]

/-! ## `openPure` against the meaning of the stack -/

/-- How a result of `openPure` relates to a meaning `s` of the stack from a point where the raw header is
    `hd`.  Success is a clean end with the same payload and brand, holding raw frame lines whose `toASCII`
    are the header and footer of the result.  Failure is an error of the stack — except that without frame
    checkers (`expect = none`) the stack does not look at the frame lines: then the end may be clean and
    `toASCII` of a stored line is what fails. -/
def SemRel (par : Armor.Params) (expect : Armor.Expect) (hd : Bytes) (s : Option (Bytes × FInfo)) :
    Except Err Armor.Opened → Prop
  | .ok o => ∃ ft, s = some (o.payload, (hd, o.brand, ft)) ∧
      Armor.toASCII par hd = .ok o.header ∧ Armor.toASCII par ft = .ok o.footer
  | .error _ => s = none ∨
      (expect = none ∧ ∃ y b ft, s = some (y, (hd, b, ft)) ∧
        ((∃ e, Armor.toASCII par hd = .error e) ∨ (∃ e, Armor.toASCII par ft = .error e)))

/-- `SemRel` for the whole text: the raw header is the text before the first period (there is none when
    the text has no period, and then the stack means an error) -/
def OpenRel (par : Armor.Params) (expect : Armor.Expect) (T : Bytes) : Except Err Armor.Opened → Prop
  | .ok o => ∃ h ft r1, stackSem par expect T = some (o.payload, (h, o.brand, ft)) ∧
      Armor.splitAt1 Armor.period T = some (h, r1) ∧
      Armor.toASCII par h = .ok o.header ∧ Armor.toASCII par ft = .ok o.footer
  | .error _ => stackSem par expect T = none ∨
      (expect = none ∧ ∃ y h b ft, stackSem par expect T = some (y, (h, b, ft)) ∧
        ((∃ e, Armor.toASCII par h = .error e) ∨ (∃ e, Armor.toASCII par ft = .error e)))

/-- the brand `openPure` reads from the header -/
def brandOf (expect : Armor.Expect) (hdr : Bytes) : Except Err Bytes :=
  match expect with
  | none => .ok []
  | some typ => Armor.parseFrame hdr typ Gen.c_sp_headerMarker

/-- the frame check of `openPure` -/
def frameChk (expect : Armor.Expect) (hdr ftr : Bytes) : Except Err Unit :=
  match expect with
  | none => .ok ()
  | some typ => match Armor.checkArmor62 hdr ftr typ with
    | .ok _ => .ok ()
    | .error e => .error e

/-- the trailing text of `openPure`, as a function -/
def openTrail (p : Armor.Params) (hdr brand payload ftr r3 : Bytes) : Except Err Armor.Opened :=
  if r3.any (· == Armor.period) then .error .punctuated
  else if !(r3.all (Armor.validByte p)) then .error .trailingGarbage
  else .ok ⟨payload, brand, hdr, ftr⟩

/-- the footer, frame check and trailing text of `openPure`, as a function -/
def openTail (p : Armor.Params) (expect : Armor.Expect) (hdr brand payload r2 : Bytes) : Except Err Armor.Opened :=
  match Armor.splitAt1 Armor.period r2 with
  | none => .error (if r2.length ≥ Armor.frameLim then .overflow else .unexpectedEOF)
  | some (ftrRaw, r3) =>
    if ftrRaw.length ≥ Armor.frameLim then .error .overflow
    else match Armor.toASCII p ftrRaw with
    | .error e => .error e
    | .ok ftr =>
      match frameChk expect hdr ftr with
      | .error e => .error e
      | .ok () => openTrail p hdr brand payload ftr r3

/-- the body of `openPure`, as a function -/
def openBody (p : Armor.Params) (expect : Armor.Expect) (hdr brand r1 : Bytes) : Except Err Armor.Opened :=
  match Armor.splitAt1 Armor.period r1 with
  | none => .error .unexpectedEOF
  | some (body, r2) =>
    if !(body.all (Armor.validByte p)) then .error .basexCorrupt
    else match Basex.decode p.enc.strict (Basex.filterSkip p.enc body) with
    | .error _ => .error .basexBadLen
    | .ok payload => openTail p expect hdr brand payload r2

/-- `openPure` behind the first period, as a function -/
def openHdr (p : Armor.Params) (expect : Armor.Expect) (hdrRaw r1 : Bytes) : Except Err Armor.Opened :=
  if hdrRaw.length ≥ Armor.frameLim then .error .overflow
  else match Armor.toASCII p hdrRaw with
  | .error e => .error e
  | .ok hdr =>
    match brandOf expect hdr with
    | .error e => .error e
    | .ok brand => openBody p expect hdr brand r1

theorem openPure_eq (p : Armor.Params) (expect : Armor.Expect) (text : Bytes) :
    Armor.openPure p expect text =
      match Armor.splitAt1 Armor.period text with
      | none => .error (if text.length ≥ Armor.frameLim then .overflow else .unexpectedEOF)
      | some (hdrRaw, r1) => openHdr p expect hdrRaw r1 := rfl

theorem hdrCheck_ascii (par : Armor.Params) (expect : Armor.Expect) (hd hdr : Bytes)
    (ha : Armor.toASCII par hd = .ok hdr) : hdrCheck par expect [] hd = (brandOf expect hdr).toOption := by
  cases expect with
  | none => rfl
  | some typ =>
    unfold hdrCheck brandOf
    rw [ha]
    dsimp only
    cases Armor.parseFrame hdr typ Gen.c_sp_headerMarker <;> rfl

theorem hdrCheck_error (par : Armor.Params) (typ : Int) (hd : Bytes) (e : Err)
    (ha : Armor.toASCII par hd = .error e) : hdrCheck par (some typ) [] hd = none := by
  unfold hdrCheck
  rw [ha]

theorem ftrCheck_ascii (par : Armor.Params) (expect : Armor.Expect) (hd hdr ft ftr : Bytes)
    (hh : Armor.toASCII par hd = .ok hdr) (ha : Armor.toASCII par ft = .ok ftr) :
    ftrCheck par expect hd ft = (frameChk expect hdr ftr).isOk := by
  cases expect with
  | none => rfl
  | some typ =>
    unfold ftrCheck frameChk
    rw [hh, ha]
    dsimp only
    cases Armor.checkArmor62 hdr ftr typ <;> rfl

theorem ftrCheck_none (par : Armor.Params) (h ft : Bytes) : ftrCheck par none h ft = true := rfl

theorem ftrCheck_error (par : Armor.Params) (typ : Int) (hd ft : Bytes) (e : Err)
    (ha : Armor.toASCII par ft = .error e) : ftrCheck par (some typ) hd ft = false := by
  unfold ftrCheck
  rw [ha]
  cases Armor.toASCII par hd <;> rfl

theorem openTrail_rel (par : Armor.Params) (expect : Armor.Expect) (hd hdr brand payload ft ftr r3 : Bytes)
    (hh : Armor.toASCII par hd = .ok hdr) (ha : Armor.toASCII par ft = .ok ftr) :
    SemRel par expect hd ((if trailOK par r3 then some ft else none).map (fun ft => (payload, (hd, brand, ft))))
      (openTrail par hdr brand payload ftr r3) := by
  unfold openTrail
  by_cases h1 : r3.any (· == Armor.period) = true
  · have : ¬ trailOK par r3 := fun h => h.1 ((any_period_iff r3).mp h1)
    rewrite [if_pos h1, if_neg this]
    exact Or.inl rfl
  · rewrite [if_neg h1]
    cases h2 : r3.all (Armor.validByte par) with
    | false =>
      have : ¬ trailOK par r3 := fun h => Bool.false_ne_true (h2.symm.trans h.2)
      rewrite [if_neg this]
      exact Or.inl rfl
    | true =>
      have : trailOK par r3 := ⟨fun hm => h1 ((any_period_iff r3).mpr hm), h2⟩
      rewrite [if_pos this]
      exact ⟨ft, rfl, hh, ha⟩

theorem openTail_rel (par : Armor.Params) (expect : Armor.Expect) (hd hdr brand payload r2 : Bytes)
    (hh : Armor.toASCII par hd = .ok hdr) :
    SemRel par expect hd ((tailSem par expect hd r2).map (fun ft => (payload, (hd, brand, ft))))
      (openTail par expect hdr brand payload r2) := by
  unfold openTail
  cases hs : Armor.splitAt1 Armor.period r2 with
  | none =>
    rewrite [tailSem_none par expect hd r2 hs]
    exact Or.inl rfl
  | some q =>
    obtain ⟨ft, r3⟩ := q
    rewrite [tailSem_some par expect hd r2 ft r3 hs]
    dsimp only
    by_cases hl : ft.length ≥ Armor.frameLim
    · rewrite [if_pos hl, if_neg (Nat.not_lt.mpr hl)]
      exact Or.inl rfl
    · rewrite [if_neg hl, if_pos (Nat.lt_of_not_le hl)]
      cases ha : Armor.toASCII par ft with
      | error e =>
        cases expect with
        | none =>
          rewrite [ftrCheck_none, if_pos rfl]
          by_cases hok : trailOK par r3
          · rewrite [if_pos hok]
            exact Or.inr ⟨rfl, payload, brand, ft, rfl, Or.inr ⟨e, ha⟩⟩
          · rewrite [if_neg hok]
            exact Or.inl rfl
        | some typ =>
          rewrite [ftrCheck_error par typ hd ft e ha]
          exact Or.inl rfl
      | ok ftr =>
        rewrite [ftrCheck_ascii par expect hd hdr ft ftr hh ha]
        dsimp only
        cases frameChk expect hdr ftr with
        | error e => exact Or.inl rfl
        | ok u => exact openTrail_rel par expect hd hdr brand payload ft ftr r3 hh ha

theorem openBody_rel (par : Armor.Params) (expect : Armor.Expect) (hd hdr brand r1 : Bytes)
    (hh : Armor.toASCII par hd = .ok hdr) :
    SemRel par expect hd (bodyStack par expect hd brand r1) (openBody par expect hdr brand r1) := by
  unfold openBody
  cases hs : Armor.splitAt1 Armor.period r1 with
  | none => exact Or.inl (bodyStack_none par expect hd brand r1 hs)
  | some q =>
    obtain ⟨body, r2⟩ := q
    rewrite [bodyStack_some par expect hd brand r1 body r2 hs]
    dsimp only
    cases hv : body.all (Armor.validByte par) with
    | false => exact Or.inl rfl
    | true =>
      rewrite [if_pos rfl, ← decode_strict_digits par.enc _ (allDig_filterSkip par body hv)]
      cases Basex.decode par.enc.strict (Basex.filterSkip par.enc body) with
      | error x => exact Or.inl rfl
      | ok payload => exact openTail_rel par expect hd hdr brand payload r2 hh

theorem openHdr_rel (par : Armor.Params) (expect : Armor.Expect) (hd r1 : Bytes) :
    SemRel par expect hd
      (if hd.length < Armor.frameLim then (hdrCheck par expect [] hd).bind (fun b => bodyStack par expect hd b r1)
        else none)
      (openHdr par expect hd r1) := by
  unfold openHdr
  by_cases hl : hd.length ≥ Armor.frameLim
  · rewrite [if_pos hl, if_neg (Nat.not_lt.mpr hl)]
    exact Or.inl rfl
  · rewrite [if_neg hl, if_pos (Nat.lt_of_not_le hl)]
    cases ha : Armor.toASCII par hd with
    | error e =>
      cases expect with
      | none =>
        exact (bodyStack_info par none hd [] r1).imp id
          (fun ⟨y, ft, h⟩ => ⟨rfl, y, [], ft, h, Or.inl ⟨e, ha⟩⟩)
      | some typ =>
        rewrite [hdrCheck_error par typ hd e ha]
        exact Or.inl rfl
    | ok hdr =>
      rewrite [hdrCheck_ascii par expect hd hdr ha]
      dsimp only
      cases brandOf expect hdr with
      | error e => exact Or.inl rfl
      | ok brand => exact openBody_rel par expect hd hdr brand r1 ha

theorem openPure_rel (par : Armor.Params) (expect : Armor.Expect) (T : Bytes) :
    OpenRel par expect T (Armor.openPure par expect T) := by
  rewrite [openPure_eq]
  cases hs : Armor.splitAt1 Armor.period T with
  | none => exact Or.inl (stackSem_none par expect T hs)
  | some q =>
    obtain ⟨hd, r1⟩ := q
    have h := openHdr_rel par expect hd r1
    rewrite [← stackSem_some par expect T hd r1 hs] at h
    dsimp only
    generalize openHdr par expect hd r1 = r at h ⊢
    cases r with
    | error e =>
      rcases h with h | ⟨h0, y, b, ft, hr⟩
      · exact Or.inl h
      · exact Or.inr ⟨h0, y, hd, b, ft, hr⟩
    | ok o =>
      obtain ⟨ft, h1, h2, h3⟩ := h
      exact ⟨hd, ft, r1, h1, hs, h2, h3⟩

/-! ## the initial state -/

theorem dMax_init_clean (par : Armor.Params) (hN : 0 < par.enc.charBlockLen) (expect : Armor.Expect) (src : Source)
    (T : Bytes) (hsrc : srcText src = (T, .eof)) : semOf (dMax par expect (newDecoder src)) = stackSem par expect T := by
  have ht : ({ src := src } : PState).text = (T, .eof) := by rw [ptext_init, hsrc]
  have hm : fMax par expect { p := { src := src } } = hdrMax par expect .eof [] T := by simp [fMax, ht]
  simp only [stackSem, hdrSem_eq, dMax, newDecoder, filMax, hm, List.nil_append]
  obtain ⟨t, oi⟩ := hdrMax par expect .eof [] T
  cases oi with
  | none => simp only [semOf, filOfMax, ite_self, Option.map_none, Option.bind_none]
  | some i =>
    by_cases hv : t.all (Armor.validByte par) = true
    · have hdig := dP_decS par.enc hN _ (allDig_filterSkip par t hv)
      simp only [semOf, filOfMax, filOf, decOf, hv, if_true, takeWhile_eq_of_all _ _ hv, Option.map_some,
        Option.bind_some, Option.isSome_some, decMaxOf]
      cases hd : decS par.enc (Basex.filterSkip par.enc t) with
      | none => rfl
      | some y => simp [hdig.1 y hd]
    · simp only [semOf, filOfMax, filOf, if_neg hv, Option.map_some, Option.bind_some, Option.bind_none, ite_self, Option.map_none]

theorem dInv_init (par : Armor.Params) (src : Source) (c : RErr) (T : Bytes) (hT : srcText src = (T, c))
    (hc : c ≠ punctErr) (hpre : SrcPre src) (hok : c = .eof → SrcOK src) : DInv par (newDecoder src) :=
  ⟨fInv_init src c T hT hc hpre hok, allDig_nil _, rfl⟩

theorem dSize_init (src : Source) (T : Bytes) (c : RErr) (hsrc : srcText src = (T, c)) : dSize (newDecoder src) = T.length := by
  have : ({ src := src } : PState).text.1 = T := by rw [ptext_init, hsrc]
  simp [dSize, newDecoder, fRaw, this]

/-- **The streaming stack computes the whole-text function.**

    `src` is ANY script that delivers the text `T` and then a clean EOF
    (`srcText src = (T, .eof)`: any fragmentation, data-with-EOF allowed) and is
    well behaved (`SrcOK`: no empty non-terminal delivery; after the first
    condition only `([], EOF)`); `caps` is ANY schedule of positive buffer sizes.

    * If `openPure par expect T = .ok o`, reading the stack to its end releases
      exactly `o.payload` and then a clean EOF — the same final state for
      every fuel above `T.length` — and that state is at end-of-stream, holds
      the raw header (the text before the first period) and raw footer whose
      `toASCII` are `o.header` and `o.footer`, and the brand `o.brand`.
    * If `openPure` fails, the stack reports an error (the same for every fuel
      above `T.length`, so never the fuel running out) — except that with
      `expect = none` (`Armor62Open`, no frame checkers) the stream itself does
      not look at the frame bytes: then the read may end cleanly and it is
      `GetHeader`/`GetFooter` (`toASCII` of the stored raw header / footer) that
      fails, which is where `armorOpen` reports the error. -/
theorem readAll_eq_openPure (par : Armor.Params) (hpar : par.enc.WF) (expect : Armor.Expect)
    (src : Source) (T : Bytes) (hok : SrcOK src) (hsrc : srcText src = (T, .eof))
    (caps : List Nat) (hcaps : ∀ c ∈ caps, 0 < c) :
    (∀ o, Armor.openPure par expect T = .ok o →
      ∃ d, (∀ fuel, T.length < fuel → readAll par expect caps fuel 0 (newDecoder src) [] = (o.payload, none, d)) ∧
        d.fil.f.phase = .endOfStream ∧
        (∃ r1, Armor.splitAt1 Armor.period T = some (d.fil.f.hdr, r1)) ∧
        Armor.toASCII par d.fil.f.hdr = .ok o.header ∧ Armor.toASCII par d.fil.f.ftr = .ok o.footer ∧
        d.fil.f.brand = o.brand) ∧
    (∀ e, Armor.openPure par expect T = .error e →
      (∃ released e' d, ∀ fuel, T.length < fuel →
        readAll par expect caps fuel 0 (newDecoder src) [] = (released, some e', d)) ∨
      (expect = none ∧ ∃ y d,
        (∀ fuel, T.length < fuel → readAll par expect caps fuel 0 (newDecoder src) [] = (y, none, d)) ∧
        ((∃ e, Armor.toASCII par d.fil.f.hdr = .error e) ∨ (∃ e, Armor.toASCII par d.fil.f.ftr = .error e)))) := by
  have hrel := openPure_rel par expect T
  obtain ⟨r, oe, d, g1, _, g3, g4⟩ := readAll_spec par hpar expect caps hcaps (newDecoder src)
    (dInv_init par src .eof T hsrc eof_ne_punct (srcPre_of_srcOK src hok) (fun _ => hok)) 0 []
  rw [dSize_init src T .eof hsrc] at g1
  have hsem := dMax_init_clean par hpar.cblock_pos expect src T hsrc
  -- a meaning `some (y, info)` is a clean read of exactly `y` that ends holding `info`
  have hclean : ∀ y h b ft, stackSem par expect T = some (y, (h, b, ft)) →
      (∀ fuel, T.length < fuel → readAll par expect caps fuel 0 (newDecoder src) [] = (y, none, d)) ∧
      d.fil.f.phase = .endOfStream ∧ d.fil.f.hdr = h ∧ d.fil.f.brand = b ∧ d.fil.f.ftr = ft := by
    intro y h b ft hs
    rw [← hsem] at hs
    have hm := semOf_eq_some hs
    obtain ⟨rfl, hr, hinfo, hph⟩ := g4 _ (congrArg Prod.snd hm)
    rw [hr, hm] at g1
    simp only [Prod.mk.injEq] at hinfo
    exact ⟨g1, hph, hinfo.1, hinfo.2.1, hinfo.2.2⟩
  constructor
  · intro o ho
    rw [ho] at hrel
    obtain ⟨h, ft, rr, h1, h2, h3, h4⟩ := hrel
    obtain ⟨k1, k2, k3, k4, k5⟩ := hclean _ _ _ _ h1
    exact ⟨d, k1, k2, ⟨rr, by rw [k3]; exact h2⟩, by rw [k3]; exact h3, by rw [k5]; exact h4, k4⟩
  · intro e he
    rw [he] at hrel
    rcases hrel with h | ⟨h0, y, h, b, ft, h1, h2⟩
    · rw [← hsem] at h
      obtain ⟨z, rfl⟩ := g3 (semOf_eq_none h)
      exact Or.inl ⟨_, z, d, g1⟩
    · obtain ⟨k1, _, k3, _, k5⟩ := hclean _ _ _ _ h1
      exact Or.inr ⟨h0, y, d, k1, by rw [k3, k5]; exact h2⟩

/-- with frame checkers (`expect = some typ`: every `Dearmor62…` entry point)
    a failing `openPure` always shows as an error of the stream itself -/
theorem readAll_error_checked (par : Armor.Params) (hpar : par.enc.WF) (typ : Int)
    (src : Source) (T : Bytes) (hok : SrcOK src) (hsrc : srcText src = (T, .eof))
    (caps : List Nat) (hcaps : ∀ c ∈ caps, 0 < c) (fuel : Nat) (hfuel : T.length + 1 ≤ fuel)
    (e : Err) (he : Armor.openPure par (some typ) T = .error e) :
    ∃ released e' d, readAll par (some typ) caps fuel 0 (newDecoder src) [] = (released, some e', d) := by
  rcases (readAll_eq_openPure par hpar (some typ) src T hok hsrc caps hcaps).2 e he with ⟨r, z, d, g⟩ | ⟨h0, _⟩
  · exact ⟨r, z, d, g fuel hfuel⟩
  · cases h0

/-! ## `armorOpen` over the stream -/

/-- `armorOpen`: read the stream to its end, then `GetHeader`, `GetFooter`,
    `GetBrand` -/
def armorOpenStream (par : Armor.Params) (expect : Armor.Expect) (caps : List Nat) (fuel : Nat) (src : Source) :
    Except Err Armor.Opened :=
  match readAll par expect caps fuel 0 (newDecoder src) [] with
  | (_, some e, _) => .error e
  | (y, none, d) =>
    match Armor.toASCII par d.fil.f.hdr with
    | .error e => .error e
    | .ok h =>
      match Armor.toASCII par d.fil.f.ftr with
      | .error e => .error e
      | .ok ft => .ok ⟨y, d.fil.f.brand, h, ft⟩

/-- **`armorOpen` over the streaming stack succeeds exactly when `openPure`
    does, with the same result** — for every well-behaved script of `T`,
    every schedule of positive buffer sizes, every sufficient fuel. -/
theorem armorOpenStream_ok_iff (par : Armor.Params) (hpar : par.enc.WF) (expect : Armor.Expect)
    (src : Source) (T : Bytes) (hok : SrcOK src) (hsrc : srcText src = (T, .eof))
    (caps : List Nat) (hcaps : ∀ c ∈ caps, 0 < c) (fuel : Nat) (hfuel : T.length + 1 ≤ fuel) (o : Armor.Opened) :
    armorOpenStream par expect caps fuel src = .ok o ↔ Armor.openPure par expect T = .ok o := by
  obtain ⟨a, b⟩ := readAll_eq_openPure par hpar expect src T hok hsrc caps hcaps
  have fwd : ∀ o', Armor.openPure par expect T = .ok o' → armorOpenStream par expect caps fuel src = .ok o' := by
    intro o' ho
    obtain ⟨d, g1, _, _, g3, g4, g5⟩ := a o' ho
    unfold armorOpenStream
    rw [g1 fuel hfuel]
    simp only [g3, g4, g5]
  constructor
  · intro hs
    cases hp : Armor.openPure par expect T with
    | ok o' =>
      have := fwd o' hp
      rw [hs] at this
      rw [this]
    | error e =>
      exfalso
      rcases b e hp with ⟨r, z, d, g⟩ | ⟨_, y, d, g, g2⟩
      · unfold armorOpenStream at hs
        rw [g fuel hfuel] at hs
        simp at hs
      · unfold armorOpenStream at hs
        rw [g fuel hfuel] at hs
        simp only at hs
        rcases g2 with ⟨e1, g2⟩ | ⟨e1, g2⟩
        · rw [g2] at hs; simp at hs
        · rw [g2] at hs
          cases h : Armor.toASCII par d.fil.f.hdr with
          | error e2 => rw [h] at hs; simp at hs
          | ok hh => rw [h] at hs; simp at hs
  · exact fwd o

/-- `armorOpen` over the streaming stack fails exactly when `openPure` does (the errors may differ) -/
theorem armorOpenStream_error_iff (par : Armor.Params) (hpar : par.enc.WF) (expect : Armor.Expect)
    (src : Source) (T : Bytes) (hok : SrcOK src) (hsrc : srcText src = (T, .eof))
    (caps : List Nat) (hcaps : ∀ c ∈ caps, 0 < c) (fuel : Nat) (hfuel : T.length + 1 ≤ fuel) :
    (∃ e, armorOpenStream par expect caps fuel src = .error e) ↔ (∃ e, Armor.openPure par expect T = .error e) := by
  have key := armorOpenStream_ok_iff par hpar expect src T hok hsrc caps hcaps fuel hfuel
  constructor
  · rintro ⟨e, he⟩
    cases hp : Armor.openPure par expect T with
    | error e' => exact ⟨e', rfl⟩
    | ok o => rw [(key o).mpr hp] at he; cases he
  · rintro ⟨e, he⟩
    cases hs : armorOpenStream par expect caps fuel src with
    | error e' => exact ⟨e', rfl⟩
    | ok o => rw [(key o).mp hs] at he; cases he

/-! ## independence of fragmentation and buffer sizes -/

/-- **Independence.**  Two well-behaved scripts of the same text, read with
    two schedules of positive buffer sizes: whenever the whole-text function
    succeeds, both reads release the same bytes (its payload) and both end in
    a clean EOF. -/
theorem readAll_independent (par : Armor.Params) (hpar : par.enc.WF) (expect : Armor.Expect)
    (src src' : Source) (T : Bytes) (hok : SrcOK src) (hok' : SrcOK src')
    (hsrc : srcText src = (T, .eof)) (hsrc' : srcText src' = (T, .eof))
    (caps caps' : List Nat) (hcaps : ∀ c ∈ caps, 0 < c) (hcaps' : ∀ c ∈ caps', 0 < c)
    (fuel fuel' : Nat) (hfuel : T.length + 1 ≤ fuel) (hfuel' : T.length + 1 ≤ fuel')
    (o : Armor.Opened) (ho : Armor.openPure par expect T = .ok o) :
    (readAll par expect caps fuel 0 (newDecoder src) []).1 = o.payload ∧
    (readAll par expect caps' fuel' 0 (newDecoder src') []).1 = o.payload ∧
    (readAll par expect caps fuel 0 (newDecoder src) []).2.1 = none ∧
    (readAll par expect caps' fuel' 0 (newDecoder src') []).2.1 = none := by
  obtain ⟨d, g, _⟩ := (readAll_eq_openPure par hpar expect src T hok hsrc caps hcaps).1 o ho
  obtain ⟨d', g', _⟩ := (readAll_eq_openPure par hpar expect src' T hok' hsrc' caps' hcaps').1 o ho
  rw [g fuel hfuel, g' fuel' hfuel']
  exact ⟨rfl, rfl, rfl, rfl⟩

/-- … and in every case `armorOpen` over the stream gives the same result up
    to the kind of error -/
theorem armorOpenStream_independent (par : Armor.Params) (hpar : par.enc.WF) (expect : Armor.Expect)
    (src src' : Source) (T : Bytes) (hok : SrcOK src) (hok' : SrcOK src')
    (hsrc : srcText src = (T, .eof)) (hsrc' : srcText src' = (T, .eof))
    (caps caps' : List Nat) (hcaps : ∀ c ∈ caps, 0 < c) (hcaps' : ∀ c ∈ caps', 0 < c)
    (fuel fuel' : Nat) (hfuel : T.length + 1 ≤ fuel) (hfuel' : T.length + 1 ≤ fuel') :
    (armorOpenStream par expect caps fuel src).toOption = (armorOpenStream par expect caps' fuel' src').toOption := by
  have k1 := armorOpenStream_ok_iff par hpar expect src T hok hsrc caps hcaps fuel hfuel
  have k2 := armorOpenStream_ok_iff par hpar expect src' T hok' hsrc' caps' hcaps' fuel' hfuel'
  cases h1 : armorOpenStream par expect caps fuel src with
  | ok o =>
    rw [(k2 o).mpr ((k1 o).mp h1)]
  | error e =>
    cases h2 : armorOpenStream par expect caps' fuel' src' with
    | error e' => rfl
    | ok o =>
      rw [(k1 o).mpr ((k2 o).mp h2)] at h1
      cases h1

/-! ## the shipped parameters -/

/-- `armorOpenStream_ok_iff` for `Armor62Params` -/
theorem readAll_eq_open62 (expect : Armor.Expect) (src : Source) (T : Bytes) (hok : SrcOK src)
    (hsrc : srcText src = (T, .eof)) (caps : List Nat) (hcaps : ∀ c ∈ caps, 0 < c) (fuel : Nat)
    (hfuel : T.length + 1 ≤ fuel) (o : Armor.Opened) :
    armorOpenStream Armor.params62 expect caps fuel src = .ok o ↔ Armor.open62 expect T = .ok o :=
  armorOpenStream_ok_iff Armor.params62 params62_wf expect src T hok hsrc caps hcaps fuel hfuel o

/-! ## concrete checks -/

/-- "h.00.f." : the body "00" decodes to one zero byte -/
def exTiny : Bytes := [104, 46, 48, 48, 46, 102, 46]
/-- "h!dr. . ftr." : an invalid byte in the header -/
def exBadHdr : Bytes := [104, 33, 100, 114, 46, 32, 46, 32, 102, 116, 114, 46]
/-- "h..f.!." : garbage and a fourth period behind the footer -/
def exTrail : Bytes := [104, 46, 46, 102, 46, 33, 46]

example : Armor.openPure Armor.params62 none exTiny = .ok ⟨[0], [], [104], [102]⟩ := by decide +kernel

-- one delivery and one-byte buffers; byte-wise deliveries and mixed buffers
example : (readAll Armor.params62 none [1] 8 0 (newDecoder [(exTiny, none)]) []).1 = [0] ∧
    (readAll Armor.params62 none [1] 8 0 (newDecoder [(exTiny, none)]) []).2.1 = none ∧
    (readAll Armor.params62 none [2, 64] 8 0 (newDecoder (exTiny.map (fun b => ([b], none)))) []).1 = [0] ∧
    (readAll Armor.params62 none [2, 64] 8 0 (newDecoder (exTiny.map (fun b => ([b], none)))) []).2.1 = none := by
  decide +kernel

-- the theorem instantiated: two deliveries, the second one with the EOF
example : armorOpenStream Armor.params62 none [3, 1] 8 [([104, 46, 48], none), ([48, 46, 102, 46], some .eof)]
    = .ok ⟨[0], [], [104], [102]⟩ :=
  (armorOpenStream_ok_iff Armor.params62 params62_wf none _ exTiny (by simp [SrcOK]) (by decide) [3, 1] (by decide) 8
    (by decide) _).mpr (by decide)

-- `expect = none`: `openPure` rejects the header `h!dr`, the stream itself ends cleanly, and it is
-- `GetHeader` (in `armorOpenStream`, as in `armorOpen`) that reports the bad frame
example : Armor.openPure Armor.params62 none exBadHdr = .error .badFrame := by decide +kernel
example : (readAll Armor.params62 none [64] 20 0 (newDecoder [(exBadHdr, none)]) []).1 = [] ∧
    (readAll Armor.params62 none [64] 20 0 (newDecoder [(exBadHdr, none)]) []).2.1 = none := by decide +kernel
example : armorOpenStream Armor.params62 none [64] 20 [(exBadHdr, none)] = .error .badFrame := by decide +kernel

-- WHICH error is reported can depend on the fragmentation: "!." behind the footer is
-- `ErrPunctuated` in one delivery and `ErrTrailingGarbage` byte by byte (`openPure`: punctuated)
example : Armor.openPure Armor.params62 none exTrail = .error .punctuated := by decide +kernel
example : (readAll Armor.params62 none [64] 20 0 (newDecoder [(exTrail, none)]) []).2.1 = some .punctuated := by decide +kernel
example : (readAll Armor.params62 none [64] 20 0 (newDecoder (exTrail.map (fun b => ([b], none)))) []).2.1
    = some .trailingGarbage := by decide +kernel

-- why `SrcOK` is needed.  An EMPTY first delivery: `io.ErrUnexpectedEOF` from `ReadUntilPunctuation`
example : (readAll Armor.params62 none [64] 20 0 (newDecoder [([], none), (exTiny, none)]) []).2.1
    = some .unexpectedEOF := by decide +kernel
-- something scripted BEHIND a bare EOF is read by the next `consumeUntilEOF` (the stack calls
-- `Read` again after the EOF because the last body bytes were handed out without a condition)
example : (readAll Armor.params62 none [1] 20 0 (newDecoder [(exTiny, none), ([], some .eof), ([33], none)]) []).2.1
    = some .trailingGarbage := by decide +kernel
-- … but not behind an EOF that came WITH data (the punctuated reader remembers that one)
example : (readAll Armor.params62 none [1] 20 0 (newDecoder [(exTiny, some .eof), ([33], none)]) []).1 = [0] ∧
    (readAll Armor.params62 none [1] 20 0 (newDecoder [(exTiny, some .eof), ([33], none)]) []).2.1 = none := by decide +kernel

end Saltpack.Proofs

