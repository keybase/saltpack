/-
  Saltpack.Proofs.CodecTotalTypes — `Sp` (see CodecTotal.lean) for `kStruct`, the slices, the
  saltpack types and the top-level packet decoders.  Core Lean only.
-/
import Saltpack.Proofs.CodecTotalGen

namespace Saltpack.Proofs.CodecP
open Saltpack Saltpack.Msgpack Saltpack.Codec

/-- every decoder of the list is fine on the inputs for which `fuel` is enough -/
def DecsOK {σ : Type} (fuel : Nat) (decs : List (σ → Dec σ)) : Prop :=
  ∀ d ∈ decs, ∀ (st : σ) (N : Nat), 2 * N + 2 ≤ fuel → Sp 0 N (d st)

theorem DecsOK.nil {σ : Type} {fuel : Nat} : DecsOK fuel ([] : List (σ → Dec σ)) :=
  fun _ h => nomatch h

/-- the shape of every field and block element of the saltpack types: read by `D`, stored by `upd` -/
theorem DecsOK.store {σ α : Type} {fuel : Nat} {D : σ → Dec α} {upd : σ → α → σ} {ds : List (σ → Dec σ)}
    (hD : ∀ (st : σ) (N : Nat), 2 * N + 2 ≤ fuel → Sp 1 N (D st)) (hs : DecsOK fuel ds) :
    DecsOK fuel ((fun st => do let x ← D st; pure (upd st x)) :: ds) :=
  List.forall_mem_cons.2 ⟨fun st N hf => .andThen (hD st N hf) fun _ => .pure _, hs⟩

abbrev FieldsOK {σ : Type} (fuel : Nat) (fields : List (Field σ)) : Prop := DecsOK fuel (fields.map (·.dec))

theorem fieldVal_sp {σ : Type} {N : Nat} {f : Field σ} {st : σ} (h : Sp 0 N (f.dec st)) : Sp 0 N (fieldVal f st) :=
  .nilOr (.pure _) h

theorem structArr_sp {σ : Type} {fuel : Nat} (rem : Nat) : ∀ {fields : List (Field σ)} (n : Nat) (st : σ) {N : Nat},
    2 * N + 2 ≤ fuel → FieldsOK fuel fields → Sp 0 N (structArr fuel rem fields n st)
  | _, 0, _, _, _, _ => by unfold structArr; exact .pure _
  | [], _ + 1, _, _, hf, _ => .andThen (swallowN_sp fuel _ rem _ hf) fun _ => .pure _
  | _ :: _, n + 1, _, _, hf, hF =>
    .andThen (fieldVal_sp (hF _ (.head _) _ _ hf)) fun _ => structArr_sp rem n _ hf fun d hd => hF d (.tail _ hd)

theorem structMap_sp {σ : Type} {fuel : Nat} (rem : Nat) {fields : List (Field σ)} (hF : FieldsOK fuel fields) :
    ∀ (n : Nat) (seen : List Bytes) (st : σ) {N : Nat}, 2 * N + 2 ≤ fuel → Sp 0 N (structMap fuel rem fields n seen st)
  | 0, _, _, _, _ => .pure _
  | n + 1, _, _, N, hf => by
    unfold structMap
    refine .andThen decodeBytes_sp fun k => ?_
    split
    · exact .bad _
    · rename_i f hl
      have hd := hF _ (List.mem_map_of_mem (lookupField_mem fields k f hl))
      exact .ite (.fail_doc .containerTwice)
        (.andThen (fieldVal_sp (hd _ _ hf)) fun _ => structMap_sp rem hF n _ _ hf)
    · exact .andThen (swallow_sp fuel _ rem (Nat.le_of_succ_le hf)) fun _ => structMap_sp rem hF n _ _ hf

theorem kStruct_sp {σ : Type} {fuel : Nat} (rem : Nat) {fields : List (Field σ)} (st : σ) {N : Nat}
    (hf : 2 * N + 2 ≤ fuel) (hF : FieldsOK fuel fields) : Sp 1 N (kStruct fuel rem fields st) := by
  refine .andThen peek1_sp fun bd => ?_
  split
  · exact .andThen readMapStart_sp fun _ => structMap_sp rem hF _ _ _ hf
  · exact .andThen readArrayStart_sp fun _ => structArr_sp rem _ _ hf hF
  · exact .bad _

theorem sliceElems_sp {α : Type} {elem : Dec α} (zero : α) : ∀ (n : Nat) (acc : List α) {N : Nat},
    Sp 0 N elem → Sp 0 N (sliceElems elem zero n acc)
  | 0, _, _, _ => .pure _
  | n + 1, _, _, he =>
    .nilOr (sliceElems_sp zero n _ he)
      (.andThen he fun _ => sliceElems_sp zero n _ he)

theorem kSliceOf_sp {α : Type} {elem : Dec α} (zero : α) {N : Nat} (he : Sp 0 N elem) : Sp 1 N (kSliceOf elem zero) := by
  refine .andThen peek1_sp fun bd => ?_
  split
  · exact .bad _
  · exact .andThen sliceLen_sp fun _ => sliceElems_sp zero _ _ he

theorem arr32loop_sp {fuel : Nat} (rem : Nat) : ∀ (n j : Nat) (acc : Bytes) {N : Nat}, 2 * N + 2 ≤ fuel →
    Sp 0 N (arr32loop fuel rem n j acc)
  | 0, _, _, _, _ => .pure _
  | n + 1, _, _, _, hf =>
    .ite (.andThen u8elem_sp fun _ => arr32loop_sp rem n _ _ hf)
      (.nilOr (arr32loop_sp rem n _ _ hf)
        (.andThen (swallow_sp fuel _ rem (Nat.le_of_succ_le hf)) fun _ => arr32loop_sp rem n _ _ hf))

theorem decByteArray32_sp {fuel : Nat} (rem : Nat) {N : Nat} (hf : 2 * N + 2 ≤ fuel) : Sp 1 N (decByteArray32 fuel rem) := by
  refine .andThen peek1_sp fun bd => ?_
  split
  · exact .map _ decodeBytes_sp
  · exact .andThen sliceLen_sp fun _ => .map _ (arr32loop_sp rem _ _ _ hf)

theorem decAuthenticators_sp {fuel : Nat} (rem : Nat) {N : Nat} (hf : 2 * N + 2 ≤ fuel) : Sp 1 N (decAuthenticators fuel rem) :=
  kSliceOf_sp _ (decByteArray32_sp rem hf).mono

/-! ### the saltpack types -/

theorem decVersion_sp {fuel : Nat} (rem : Nat) {N : Nat} (v : Version) (hf : 2 * N + 2 ≤ fuel) : Sp 1 N (decVersion fuel rem v) :=
  kStruct_sp rem v hf <|
    .store (fun _ _ _ => decodeInt64_sp) <|
    .store (fun _ _ _ => decodeInt64_sp) .nil

theorem decReceiver_sp {fuel : Nat} (rem : Nat) {N : Nat} (hf : 2 * N + 2 ≤ fuel) : Sp 1 N (decReceiver fuel rem) :=
  kStruct_sp rem _ hf <|
    .store (fun _ _ _ => decBytesField_sp) <|
    .store (fun _ _ _ => decBytesField_sp) .nil

/-! ### top level: the fuel `fuelFor b` is taken from the input itself

  The literals are go-codec's depth budget as Model/Codec.lean passes it on: `99` inside a top-level struct
  (`topStruct`), `98` for the surplus elements of a V2 block (`selfLoop`), `97` inside one of its elements
  (`decEncBlockV2`).  `Sp` does not depend on them. -/

/-- a decoder that reads its fuel off its own input: it is enough to look at it on inputs of
    exactly the length at hand -/
theorem Sp.of_self {α : Type} {k : Nat} {d : Bytes → Dec α} (h : ∀ b : Bytes, Sp k b.length (d b)) (N : Nat) :
    Sp k N (fun b => d b b) :=
  fun b _ => h b b (Nat.le_refl _)

theorem topStruct_sp {σ : Type} {fields : Nat → Nat → List (Field σ)} (zero : σ)
    (hF : ∀ fuel rem, FieldsOK fuel (fields fuel rem)) (N : Nat) : Sp 1 N (topStruct fields zero) :=
  Sp.of_self (fun b => .nilOr (.pure _) (kStruct_sp 99 zero (by unfold fuelFor; omega) (hF _ _))) N

theorem selfLoop_sp {σ : Type} {fuel : Nat} : ∀ {decs : List (σ → Dec σ)} (n : Nat) (st : σ) {N : Nat},
    2 * N + 2 ≤ fuel → DecsOK fuel decs → Sp 0 N (selfLoop fuel decs n st)
  | _, 0, _, _, _, _ => by unfold selfLoop; exact .pure _
  | [], _ + 1, _, _, hf, _ => .andThen (swallowN_sp fuel _ 98 _ hf) fun _ => .pure _
  | _ :: _, n + 1, _, _, hf, hD =>
    have rest := fun st => selfLoop_sp n st hf fun d hd => hD d (.tail _ hd)
    .nilOr (rest _) (.andThen (hD _ (.head _) _ _ hf) rest)

theorem topSelfer_sp {σ : Type} {decs : Nat → List (σ → Dec σ)} (zero : σ) (hD : ∀ fuel, DecsOK fuel (decs fuel)) (N : Nat) :
    Sp 1 N (topSelfer decs zero) :=
  Sp.of_self (fun b => .nilOr (.pure _)
    (.andThen sliceLen_sp fun _ => selfLoop_sp _ _ (by unfold fuelFor; omega) (hD _))) N

theorem decEncHeader_sp (N : Nat) : Sp 1 N decEncHeader :=
  topStruct_sp _ (fun _ rem =>
    .store (fun _ _ _ => decodeBytes_sp) <|
    .store (fun _ _ hf => decVersion_sp rem _ hf) <|
    .store (fun _ _ _ => decodeInt64_sp) <|
    .store (fun _ _ _ => decBytesField_sp) <|
    .store (fun _ _ _ => decBytesField_sp) <|
    .store (fun _ _ hf => kSliceOf_sp _ (decReceiver_sp rem hf).mono) .nil) N

theorem decSigHeader_sp (N : Nat) : Sp 1 N decSigHeader :=
  topStruct_sp _ (fun _ rem =>
    .store (fun _ _ _ => decodeBytes_sp) <|
    .store (fun _ _ hf => decVersion_sp rem _ hf) <|
    .store (fun _ _ _ => decodeInt64_sp) <|
    .store (fun _ _ _ => decBytesField_sp) <|
    .store (fun _ _ _ => decBytesField_sp) .nil) N

theorem decEncBlockV1_sp (N : Nat) : Sp 1 N decEncBlockV1 :=
  topStruct_sp _ (fun _ rem =>
    .store (fun _ _ hf => decAuthenticators_sp rem hf) <|
    .store (fun _ _ _ => decBytesField_sp) .nil) N

theorem decSigncryptBlock_sp (N : Nat) : Sp 1 N decSigncryptBlock :=
  topStruct_sp _ (fun _ _ =>
    .store (fun _ _ _ => decBytesField_sp) <|
    .store (fun _ _ _ => decodeBool_sp) .nil) N

theorem decSigBlockV1_sp (N : Nat) : Sp 1 N decSigBlockV1 :=
  topStruct_sp _ (fun _ _ =>
    .store (fun _ _ _ => decBytesField_sp) <|
    .store (fun _ _ _ => decBytesField_sp) .nil) N

theorem decEncBlockV2_sp (N : Nat) : Sp 1 N decEncBlockV2 :=
  topSelfer_sp _ (fun _ =>
    .store (fun _ _ _ => decodeBool_sp) <|
    .store (fun _ _ hf => decAuthenticators_sp 97 hf) <|
    .store (fun _ _ _ => decBytesField_sp) .nil) N

theorem decSigBlockV2_sp (N : Nat) : Sp 1 N decSigBlockV2 :=
  topSelfer_sp _ (fun _ =>
    .store (fun _ _ _ => decodeBool_sp) <|
    .store (fun _ _ _ => decBytesField_sp) <|
    .store (fun _ _ _ => decBytesField_sp) .nil) N

theorem decEncBlock_sp (major : Int) (N : Nat) : Sp 1 N (decEncBlock major) :=
  .ite (decEncBlockV1_sp N) (decEncBlockV2_sp N)

theorem decSigBlock_sp (major : Int) (N : Nat) : Sp 1 N (decSigBlock major) :=
  .ite (decSigBlockV1_sp N) (decSigBlockV2_sp N)

theorem decBytesTop_sp (N : Nat) : Sp 1 N decBytesTop :=
  .nilOr (.pure _) decodeBytes_sp

theorem generic_sp (N : Nat) : Sp 1 N generic :=
  Sp.of_self (fun b => .nilOr (.pure _)
    (.andThen (gen_sp _ _ _ (by unfold fuelFor; omega)) fun _ => .pure _)) N

end Saltpack.Proofs.CodecP
