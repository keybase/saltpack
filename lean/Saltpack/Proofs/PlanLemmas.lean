/-
  The payload packets a sender builds from ANY chunk plan the specifications
  allow are a complete chain for the matching receiver and release the chunks.
  The three senders' `blockStructs` are one function (`gblocks`) of the
  per-packet builder; its run against a receiver is done once
  (`grun_gblocks`), then instantiated for encryption, attached signatures and
  signcryption.  The Go sender's own plan (`Encrypt.chunkPlan`) is one such plan.
-/
import Saltpack.Model.Sign
import Saltpack.Model.Signcrypt
import Saltpack.Proofs.EncLemmas

namespace Saltpack.Proofs
open Saltpack Saltpack.Encrypt

/-! Namespaces: `PlanL` holds the lemmas about arbitrary chunk plans and the
  packets built from them; `RTSig` the per-packet facts of the signing and
  signcryption senders and receivers (and, in Proofs/RingSig, the signcryption
  header search). -/

namespace PlanL

/-! ## chunk plans -/

/-- never empty; exactly the last entry is final -/
def FinalLast (plan : List (Bytes × Bool)) : Prop :=
  ∃ pre c, plan = pre ++ [(c, true)] ∧ ∀ p ∈ pre, p.2 = false

/-- V2: an empty chunk only as the sole chunk -/
def EmptySole (plan : List (Bytes × Bool)) : Prop :=
  ∀ p ∈ plan, p.1 = [] → plan = [([], true)]

theorem FinalLast.cons {p : Bytes × Bool} {rest : List (Bytes × Bool)} (h : FinalLast (p :: rest)) :
    (rest = [] ∧ p.2 = true) ∨ (p.2 = false ∧ FinalLast rest) := by
  obtain ⟨pre, c, h, hpre⟩ := h
  cases pre with
  | nil =>
    cases h
    exact .inl ⟨rfl, rfl⟩
  | cons q pre =>
    cases h
    exact .inr ⟨hpre p List.mem_cons_self, pre, c, rfl, fun x hx => hpre x (List.mem_cons_of_mem _ hx)⟩

theorem empty_idx {plan : List (Bytes × Bool)} (h : EmptySole plan) :
    ∀ k p, plan[k]? = some p → p.1 = [] → k = 0 ∧ p.2 = true := by
  intro k p hk he
  rw [h p (List.mem_of_getElem? hk) he] at hk
  cases k with
  | zero => cases hk; exact ⟨rfl, rfl⟩
  | succ k => cases hk

theorem chunk_ok {v : Version} (hv : v = v1 ∨ v = v2) {plan : List (Bytes × Bool)}
    (he1 : v = v1 → ∀ p ∈ plan, (p.1 = [] ↔ p.2 = true)) (he2 : v = v2 → EmptySole plan)
    (w : Version) (hw : w.major = v.major) {k : Nat} {p : Bytes × Bool} (hp : plan[k]? = some p) :
    (w.major = 1 → (p.1 = [] ↔ p.2 = true)) ∧ checkChunkState w p.1.length k p.2 = .ok () := by
  obtain ⟨c, f⟩ := p
  rcases hv with rfl | rfl
  · have hw1 : w.major = 1 := hw
    have h1 : c = [] ↔ f = true := he1 rfl _ (List.mem_of_getElem? hp)
    refine ⟨fun _ => h1, ?_⟩
    cases c with
    | nil => simp [checkChunkState, hw1, h1.1 rfl]
    | cons a t => cases f <;> simp [checkChunkState, hw1] at h1 ⊢
  · have hw2 : w.major = 2 := hw
    refine ⟨fun h => absurd (hw2.symm.trans h) (by decide), ?_⟩
    cases c with
    | nil =>
      obtain ⟨rfl, rfl⟩ := empty_idx (he2 rfl) k _ hp rfl
      simp [checkChunkState, hw2]
    | cons a t => simp [checkChunkState, hw2]

/-! ## the packets of a plan, generically -/

/-- the common shape of `Encrypt.blockStructs`, `Sign.blockStructs`,
    `Signcrypt.blockStructs`: the per-packet builder `mk` applied to the chunks,
    numbered from `i`; the first failure is the result -/
def gblocks {β : Type} (mk : Nat → Bytes → Bool → Except Err β) : List (Bytes × Bool) → Nat → Except Err (List β)
  | [], _ => .ok []
  | (c, f) :: rest, i =>
    match mk i c f, gblocks mk rest (i + 1) with
    | .ok b, .ok bs => .ok (b :: bs)
    | .error e, _ => .error e
    | _, .error e => .error e

section
variable {β : Type} (mk : Nat → Bytes → Bool → Except Err β)

theorem gblocks_cons_ok {c : Bytes} {f : Bool} {rest : List (Bytes × Bool)} {i : Nat} {b : β} {bs : List β}
    (h1 : mk i c f = .ok b) (h2 : gblocks mk rest (i + 1) = .ok bs) :
    gblocks mk ((c, f) :: rest) i = .ok (b :: bs) := by
  simp only [gblocks, h1, h2]

theorem gblocks_cons_inv {c : Bytes} {f : Bool} {rest : List (Bytes × Bool)} {i : Nat} {blks : List β}
    (h : gblocks mk ((c, f) :: rest) i = .ok blks) :
    ∃ b bs, mk i c f = .ok b ∧ gblocks mk rest (i + 1) = .ok bs ∧ blks = b :: bs := by
  cases h1 : mk i c f with
  | error e => simp only [gblocks, h1] at h; cases h
  | ok b =>
    cases h2 : gblocks mk rest (i + 1) with
    | error e => simp only [gblocks, h1, h2] at h; cases h
    | ok bs =>
      simp only [gblocks, h1, h2] at h
      cases h
      exact ⟨b, bs, rfl, rfl, rfl⟩

theorem gblocks_length : ∀ (plan : List (Bytes × Bool)) (n : Nat) (blks : List β),
    gblocks mk plan n = .ok blks → blks.length = plan.length := by
  intro plan
  induction plan with
  | nil => intro n blks h; cases h; rfl
  | cons p rest ih =>
    intro n blks h
    obtain ⟨b, bs, _, hbs, rfl⟩ := gblocks_cons_inv mk h
    rw [List.length_cons, List.length_cons, ih (n + 1) bs hbs]

theorem gblocks_mem : ∀ (plan : List (Bytes × Bool)) (n : Nat) (blks : List β),
    gblocks mk plan n = .ok blks → ∀ b ∈ blks, ∃ j, ∃ p ∈ plan, mk j p.1 p.2 = .ok b := by
  intro plan
  induction plan with
  | nil => intro n blks h b hb; cases h; cases hb
  | cons p rest ih =>
    intro n blks h b hb
    obtain ⟨b0, bs, hb0, hbs, rfl⟩ := gblocks_cons_inv mk h
    rcases List.mem_cons.1 hb with rfl | hb
    · exact ⟨n, p, List.mem_cons_self, hb0⟩
    · obtain ⟨j, q, hq, hj⟩ := ih (n + 1) bs hbs b hb
      exact ⟨j, q, List.mem_cons_of_mem _ hq, hj⟩

theorem gblocks_ok : ∀ (plan : List (Bytes × Bool)) (n : Nat),
    (∀ k p, plan[k]? = some p → ∃ b, mk (n + k) p.1 p.2 = .ok b) →
    ∃ blks, gblocks mk plan n = .ok blks := by
  intro plan
  induction plan with
  | nil => intro n _; exact ⟨[], rfl⟩
  | cons p rest ih =>
    intro n h
    obtain ⟨b, hb⟩ := h 0 p rfl
    obtain ⟨bs, hbs⟩ := ih (n + 1) (fun k q hq => by
      have := h (k + 1) q hq
      rwa [← Nat.add_assoc, Nat.add_right_comm n k 1] at this)
    exact ⟨b :: bs, gblocks_cons_ok mk hb hbs⟩

/-- the block chain, once for the three modes: packet `k` of the plan is built by
    `mk` as number `n + k` and read by the receiver as packet `n + k + 1` (the
    header is packet 0) -/
theorem grun_gblocks (step : β → Nat → Except Err Bytes) (fin : β → Bool) :
    ∀ (plan : List (Bytes × Bool)) (n : Nat) (blks : List β), FinalLast plan →
      gblocks mk plan n = .ok blks →
      (∀ k p b, plan[k]? = some p → mk (n + k) p.1 p.2 = .ok b → step b (n + k + 1) = .ok p.1 ∧ fin b = p.2) →
      grun step fin (blks.map some) .eof (n + 1) = ⟨(plan.map (·.1)).flatten, none⟩ := by
  intro plan
  induction plan with
  | nil =>
    intro n blks hf
    obtain ⟨pre, c, h, _⟩ := hf
    cases pre <;> cases h
  | cons p rest ih =>
    intro n blks hf hg hstep
    obtain ⟨b, bs, hb, hbs, rfl⟩ := gblocks_cons_inv mk hg
    obtain ⟨hs, hfb⟩ := hstep 0 p b rfl hb
    rw [List.map_cons, List.map_cons, List.flatten_cons]
    rcases hf.cons with ⟨rfl, hf1⟩ | ⟨hf0, hrest⟩
    · cases hbs
      rw [grun_final step fin b _ .eof _ p.1 hs (hfb.trans hf1)]
      simp [Decrypt.endOfStream]
    · rw [grun_more step fin b _ .eof _ p.1 hs (hfb.trans hf0), ih (n + 1) bs hrest hbs (fun k q b' hq hb' => by
        have := hstep (k + 1) q b' hq (by rwa [← Nat.add_assoc, Nat.add_right_comm n k 1])
        rwa [← Nat.add_assoc, Nat.add_right_comm n k 1] at this)]

end

end PlanL
open PlanL

/-- a chunking the specifications allow: non-empty list of chunks, exactly the
    last one final; V1: the final chunk — and only it — is empty; V2: an empty
    chunk only as the sole chunk of an empty message -/
structure ValidPlan (v : Version) (plan : List (Bytes × Bool)) : Prop where
  final : ∃ pre c, plan = pre ++ [(c, true)] ∧ ∀ p ∈ pre, p.2 = false
  empty_v1 : v = v1 → ∀ p ∈ plan, (p.1 = [] ↔ p.2 = true)
  empty_v2 : v = v2 → ∀ p ∈ plan, p.1 = [] → plan = [([], true)]

namespace ValidPlan

/-- the fields of `ValidPlan` under the names the lemmas on plans use: `final` is
    `PlanL.FinalLast`, the body of `empty_v2` is `PlanL.EmptySole` -/
theorem finalLast {v : Version} {plan : List (Bytes × Bool)} (h : ValidPlan v plan) : FinalLast plan := h.final

theorem emptySole {v : Version} {plan : List (Bytes × Bool)} (h : ValidPlan v plan) (hv : v = v2) :
    EmptySole plan := h.empty_v2 hv

end ValidPlan

theorem chunkPlan_valid (v : Version) (hv : v = v1 ∨ v = v2) (bs : Nat) (hb : 0 < bs) (pt : Bytes) :
    ValidPlan v (chunkPlan v bs pt) := by
  have _ := hv
  refine ⟨chunkPlan_final v bs pt, ?_, ?_⟩
  · rintro rfl
    exact chunkPlan_empty_v1 bs hb pt
  · rintro rfl p hp he
    exact (chunkPlan_empty_v2 bs hb pt).2 ((chunkPlan_empty_v2 bs hb pt).1 p hp he)

/-! ## encryption -/

theorem blockStructs_eq_gblocks (P : Prims) (v : Version) (pk hh : Bytes) (mks : List Bytes) :
    ∀ (plan : List (Bytes × Bool)) (i : Nat),
      blockStructs P v pk hh mks plan i = gblocks (blockStruct P v pk hh mks) plan i := by
  intro plan
  induction plan with
  | nil => intro i; rfl
  | cons p rest ih =>
    intro i
    simp only [blockStructs, gblocks, ih]
    cases blockStruct P v pk hh mks i p.1 p.2 <;> cases gblocks (blockStruct P v pk hh mks) rest (i + 1) <;> rfl

theorem blockStructs_ok (P : Prims) {v : Version} (hv : v = v1 ∨ v = v2) (pk hh : Bytes) (mks : List Bytes)
    (plan : List (Bytes × Bool)) (k : Nat) (hk : k + plan.length ≤ 2 ^ 64 - 1) :
    ∃ blks, blockStructs P v pk hh mks plan k = .ok blks ∧ blks.length = plan.length := by
  rw [blockStructs_eq_gblocks]
  obtain ⟨blks, h⟩ := gblocks_ok (blockStruct P v pk hh mks) plan k (fun j p hp => by
    have hj : j < plan.length := (List.getElem?_eq_some_iff.1 hp).1
    obtain ⟨ph, hph⟩ := payloadHash_ok P hv hh (Nonce.chunkSecretBox (k + j))
      (P.sbSeal pk (Nonce.chunkSecretBox (k + j)) p.1) p.2
    have hbn : blockNumberOK (k + j) = true := by
      simp only [blockNumberOK, decide_eq_true_eq]
      omega
    simp only [blockStruct, hbn, hph, Bool.not_true, Bool.false_eq_true, if_false]
    exact ⟨_, rfl⟩)
  exact ⟨blks, h, gblocks_length _ plan k blks h⟩

namespace PlanL

theorem run_roundtrip_plan (P : Prims) (hP : P.Lawful)
    {v : Version} (hv : v = v1 ∨ v = v2) (plan : List (Bytes × Bool))
    (hfin : FinalLast plan)
    (he1 : v = v1 → ∀ p ∈ plan, (p.1 = [] ↔ p.2 = true))
    (he2 : v = v2 → EmptySole plan)
    (st : Decrypt.State) (hver : st.version = v) (mks : List Bytes)
    (hmk : mks[st.position]? = some st.macKey) (blks : List EncBlock)
    (hbl : blockStructs P v st.payloadKey st.headerHash mks plan 0 = .ok blks) :
    Decrypt.run P st (blks.map some) .eof 1 = ⟨(plan.map (·.1)).flatten, none⟩ := by
  rw [blockStructs_eq_gblocks] at hbl
  rw [Dec.run_eq, hver]
  refine grun_gblocks _ (Dec.step P st) (Decrypt.blockFinal v) plan 0 blks hfin hbl (fun k p b hp hb => ?_)
  rw [Nat.zero_add] at hb ⊢
  obtain ⟨h1, hck⟩ := chunk_ok hv he1 he2 v rfl hp
  exact block_accept P hP st mks hver hmk k p.1 p.2 b hb h1 hck

end PlanL

/-! ## attached signatures -/

namespace RTSig

theorem sign_blockStructs_eq_gblocks (P : Prims) (v : Version) (signer hh : Bytes) :
    ∀ (plan : List (Bytes × Bool)) (i : Nat),
      Sign.blockStructs P v signer hh plan i = gblocks (Sign.blockStruct P v signer hh) plan i := by
  intro plan
  induction plan with
  | nil => intro i; rfl
  | cons p rest ih =>
    intro i
    simp only [Sign.blockStructs, gblocks, ih]
    cases Sign.blockStruct P v signer hh i p.1 p.2 <;> cases gblocks (Sign.blockStruct P v signer hh) rest (i + 1) <;> rfl

theorem attachedInput_ok (P : Prims) (v : Version) (hv : v = v1 ∨ v = v2) (hh c : Bytes) (i : Nat) (f : Bool) :
    ∃ inp, attachedSignatureInput P v hh c i f = .ok inp := by
  rcases hv with rfl | rfl <;> simp [attachedSignatureInput, v1, v2]

theorem sign_blockStructs_ok (P : Prims) (v : Version) (hv : v = v1 ∨ v = v2) (signer hh : Bytes)
    (plan : List (Bytes × Bool)) (i : Nat) : ∃ blks, Sign.blockStructs P v signer hh plan i = .ok blks := by
  rw [sign_blockStructs_eq_gblocks]
  exact gblocks_ok _ plan i (fun k p _ => by
    obtain ⟨inp, hinp⟩ := attachedInput_ok P v hv hh p.1 (i + k) p.2
    simp only [Sign.blockStruct, hinp]
    exact ⟨_, rfl⟩)

theorem sign_blockStructs_length (P : Prims) (v : Version) (signer hh : Bytes) (plan : List (Bytes × Bool))
    (i : Nat) (blks : List SigBlock) (h : Sign.blockStructs P v signer hh plan i = .ok blks) :
    blks.length = plan.length := by
  rw [sign_blockStructs_eq_gblocks] at h
  exact gblocks_length _ plan i blks h

end RTSig

namespace PlanL
open RTSig

theorem attachedInput_major (P : Prims) (v w : Version) (h : v.major = w.major)
    (hh c : Bytes) (i : Nat) (f : Bool) :
    attachedSignatureInput P v hh c i f = attachedSignatureInput P w hh c i f := by
  simp only [attachedSignatureInput, h]

theorem ver_step_ok (P : Prims) (hP : P.Lawful) (w : Version)
    (signer hh c : Bytes) (f : Bool) (k : Nat) (inp : Bytes)
    (hinp : attachedSignatureInput P w hh c k f = .ok inp)
    (h1 : w.major = 1 → (c = [] ↔ f = true))
    (hck : checkChunkState w c.length k f = .ok ()) :
    Ver.step P ⟨w, hh, P.sigPub signer⟩ ⟨P.sign signer inp, c, f⟩ (k + 1) = .ok c ∧
    Sign.blockFinal w ⟨P.sign signer inp, c, f⟩ = f := by
  have hfin : Sign.blockFinal w ⟨P.sign signer inp, c, f⟩ = f := by
    by_cases hm : w.major = 1
    · have := h1 hm
      cases c with
      | nil => simp [Sign.blockFinal, hm, this.1 rfl]
      | cons a t => cases f <;> simp [Sign.blockFinal, hm] at this ⊢
    · simp [Sign.blockFinal, hm]
  refine ⟨?_, hfin⟩
  simp only [Ver.step, hfin, Sign.processBlock, Nat.add_sub_cancel, hinp, hP.verify_sign, if_true, hck]

theorem sign_run_plan (P : Prims) (hP : P.Lawful) (v : Version) (hv : v = v1 ∨ v = v2) (minor : Int)
    (signer hh : Bytes) (plan : List (Bytes × Bool))
    (hfin : FinalLast plan)
    (he1 : v = v1 → ∀ p ∈ plan, (p.1 = [] ↔ p.2 = true))
    (he2 : v = v2 → EmptySole plan)
    (blks : List SigBlock)
    (hblk : Sign.blockStructs P v signer hh plan 0 = .ok blks) :
    Sign.run P ⟨⟨v.major, minor⟩, hh, P.sigPub signer⟩ (blks.map some) .eof 1 =
      ⟨(plan.map (·.1)).flatten, none⟩ := by
  rw [sign_blockStructs_eq_gblocks] at hblk
  rw [Ver.run_eq]
  refine grun_gblocks _ (Ver.step P ⟨⟨v.major, minor⟩, hh, P.sigPub signer⟩) (Sign.blockFinal ⟨v.major, minor⟩)
    plan 0 blks hfin hblk (fun k p b hp hb => ?_)
  rw [Nat.zero_add] at hb ⊢
  obtain ⟨h1, hck⟩ := chunk_ok hv he1 he2 ⟨v.major, minor⟩ rfl hp
  unfold Sign.blockStruct at hb
  split at hb
  · cases hb
  · rename_i inp hinp
    cases hb
    rw [attachedInput_major P v ⟨v.major, minor⟩ rfl] at hinp
    exact ver_step_ok P hP ⟨v.major, minor⟩ signer hh p.1 p.2 k inp hinp h1 hck

end PlanL

/-! ## signcryption -/

namespace RTSig

theorem sc_blockStructs_eq_gblocks (P : Prims) (sender : Option Bytes) (pk hh : Bytes) :
    ∀ (plan : List (Bytes × Bool)) (i : Nat),
      Signcrypt.blockStructs P sender pk hh plan i = gblocks (Signcrypt.blockStruct P sender pk hh) plan i := by
  intro plan
  induction plan with
  | nil => intro i; rfl
  | cons p rest ih =>
    intro i
    simp only [Signcrypt.blockStructs, gblocks, ih]
    cases Signcrypt.blockStruct P sender pk hh i p.1 p.2 <;>
      cases gblocks (Signcrypt.blockStruct P sender pk hh) rest (i + 1) <;> rfl

/-- the signature the sender puts in front of chunk `k` -/
def scSig (P : Prims) (sender : Option Bytes) (hh : Bytes) (k : Nat) (c : Bytes) (f : Bool) : Bytes :=
  match sender with
  | none => zeros 64
  | some s => P.sign s (signcryptionSignatureInput P hh (Nonce.chunkSigncryption hh f k) f c)

theorem scSig_length (P : Prims) (hP : P.Lawful) (sender : Option Bytes) (hh : Bytes) (k : Nat) (c : Bytes) (f : Bool) :
    (scSig P sender hh k c f).length = 64 := by
  cases sender with
  | none => exact List.length_replicate
  | some s => exact hP.sig_len _ _

theorem sc_blockStruct_inv (P : Prims) (sender : Option Bytes) (pk hh : Bytes) (k : Nat) (c : Bytes) (f : Bool)
    (b : SigncryptBlock) (h : Signcrypt.blockStruct P sender pk hh k c f = .ok b) :
    blockNumberOK k = true ∧
      b = ⟨P.sbSeal pk (Nonce.chunkSigncryption hh f k) (scSig P sender hh k c f ++ c), f⟩ := by
  unfold Signcrypt.blockStruct at h
  split at h
  · cases h
  · rename_i hk
    cases h
    exact ⟨by simpa using hk, rfl⟩

theorem sc_step_ok (P : Prims) (hP : P.Lawful) (sender : Option Bytes) (pk hh c : Bytes) (f : Bool) (k : Nat)
    (hk : blockNumberOK k = true) (hck : checkChunkState v2 c.length k f = .ok ()) :
    Sc.step P ⟨pk, hh, sender.map P.sigPub⟩
      ⟨P.sbSeal pk (Nonce.chunkSigncryption hh f k) (scSig P sender hh k c f ++ c), f⟩ (k + 1) = .ok c := by
  have hlen := scSig_length P hP sender hh k c f
  have hpb : Signcrypt.processBlock P ⟨pk, hh, sender.map P.sigPub⟩
      ⟨P.sbSeal pk (Nonce.chunkSigncryption hh f k) (scSig P sender hh k c f ++ c), f⟩ (k + 1) = .ok c := by
    unfold Signcrypt.processBlock
    simp only [Nat.add_sub_cancel, hk, hP.sb_open_seal, Bool.not_true, Bool.false_eq_true, if_false]
    have hl : ¬ ((scSig P sender hh k c f ++ c).length < 64) := by
      rw [List.length_append]; omega
    simp only [hl, if_false, List.take_left' hlen, List.drop_left' hlen]
    cases sender with
    | none => rfl
    | some s =>
      simp only [Option.map_some, scSig, hP.verify_sign, if_true]
  unfold Sc.step
  simp only [hpb, Nat.add_sub_cancel, hck]

end RTSig

namespace PlanL
open RTSig

theorem sc_run_ok_plan (P : Prims) (hP : P.Lawful) (sender : Option Bytes)
    (pk hh : Bytes) (plan : List (Bytes × Bool))
    (hfin : FinalLast plan) (he2 : EmptySole plan) (blks : List SigncryptBlock)
    (hblk : Signcrypt.blockStructs P sender pk hh plan 0 = .ok blks) :
    Signcrypt.run P ⟨pk, hh, sender.map P.sigPub⟩ (blks.map some) .eof 1 =
      ⟨(plan.map (·.1)).flatten, none⟩ := by
  rw [sc_blockStructs_eq_gblocks] at hblk
  rw [Sc.run_eq]
  refine grun_gblocks _ (Sc.step P ⟨pk, hh, sender.map P.sigPub⟩) (·.final) plan 0 blks hfin hblk
    (fun k p b hp hb => ?_)
  rw [Nat.zero_add] at hb ⊢
  obtain ⟨hk, rfl⟩ := sc_blockStruct_inv P sender pk hh k p.1 p.2 b hb
  exact ⟨sc_step_ok P hP sender pk hh p.1 p.2 k hk
    (chunk_ok (.inr rfl) (fun h => absurd h v2_ne_v1) (fun _ => he2) v2 rfl hp).2, rfl⟩

end PlanL

end Saltpack.Proofs
