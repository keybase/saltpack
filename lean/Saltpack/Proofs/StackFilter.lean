/-
  The armor reader stack, stage 3: `filteringReader.Read` (`filRead`) as a layer
  over the framed decoder.  Meaning of a state: the alphabet characters
  (`Basex.filterSkip`) of the longest valid prefix of what the framed layer can
  still hand out; a clean end remains possible only when all of that is valid.

  Core Lean only.
-/
import Saltpack.Proofs.StackFramed
import Saltpack.Proofs.StackBasex

namespace Saltpack.Proofs
open Saltpack Saltpack.Stream

/-! ## `filterScan` -/

theorem filterScan_ok (enc : Basex.Enc) : ∀ (d : Bytes) (n : Nat) (kept : Bytes) (n' : Nat),
    filterScan enc d n = .ok (kept, n') →
    kept = Basex.filterSkip enc d ∧ d.all (fun c => (enc.digit? c).isSome || enc.isSkip c) = true ∧
    (∀ c ∈ kept, (enc.digit? c).isSome = true) := by
  intro d
  induction d with
  | nil =>
    intro n kept n' h
    simp only [filterScan, Except.ok.injEq, Prod.mk.injEq] at h
    obtain ⟨rfl, _⟩ := h
    exact ⟨rfl, rfl, by simp⟩
  | cons c cs ih =>
    intro n kept n' h
    unfold filterScan at h
    by_cases hd : (enc.digit? c).isSome = true
    · rw [if_pos hd] at h
      cases hr : filterScan enc cs (n + 1) with
      | error k => rw [hr] at h; simp at h
      | ok q =>
        obtain ⟨r, m⟩ := q
        rw [hr] at h
        simp only [Except.ok.injEq, Prod.mk.injEq] at h
        obtain ⟨rfl, rfl⟩ := h
        obtain ⟨i1, i2, i3⟩ := ih (n + 1) r m hr
        refine ⟨?_, ?_, ?_⟩
        · unfold Basex.filterSkip
          rw [List.filter_cons]
          have : (!(enc.isSkip c && (enc.digit? c).isNone)) = true := by
            cases hx : enc.digit? c with
            | none => rw [hx] at hd; simp at hd
            | some v => simp
          rw [if_pos this, i1]
          rfl
        · rw [List.all_cons, i2, hd]; rfl
        · intro x hx
          rcases List.mem_cons.mp hx with hx | hx
          · rw [hx]; exact hd
          · exact i3 x hx
    · rw [if_neg hd] at h
      by_cases hs : enc.isSkip c = true
      · rw [if_pos hs] at h
        obtain ⟨i1, i2, i3⟩ := ih (n + 1) kept n' h
        refine ⟨?_, ?_, i3⟩
        · unfold Basex.filterSkip
          rw [List.filter_cons]
          have : ¬ (!(enc.isSkip c && (enc.digit? c).isNone)) = true := by
            cases hx : enc.digit? c with
            | none => simp [hs]
            | some v => rw [hx] at hd; simp at hd
          rw [if_neg this, i1]
          rfl
        · rw [List.all_cons, i2, hs]; simp
      · rw [if_neg hs] at h
        simp at h

theorem filterScan_error (enc : Basex.Enc) : ∀ (d : Bytes) (n k : Nat),
    filterScan enc d n = .error k → d.all (fun c => (enc.digit? c).isSome || enc.isSkip c) = false := by
  intro d
  induction d with
  | nil => intro n k h; simp [filterScan] at h
  | cons c cs ih =>
    intro n k h
    unfold filterScan at h
    by_cases hd : (enc.digit? c).isSome = true
    · rw [if_pos hd] at h
      cases hr : filterScan enc cs (n + 1) with
      | error k' => rw [List.all_cons, ih (n + 1) k' hr]; simp
      | ok q => obtain ⟨r, m⟩ := q; rw [hr] at h; simp at h
    · rw [if_neg hd] at h
      by_cases hs : enc.isSkip c = true
      · rw [if_pos hs] at h
        rw [List.all_cons, ih (n + 1) k h]; simp
      · rw [if_neg hs] at h
        have hd' : (enc.digit? c).isSome = false := by simpa using hd
        have hs' : enc.isSkip c = false := by simpa using hs
        rw [List.all_cons, hd', hs']; rfl

theorem validByte_eq (par : Armor.Params) :
    Armor.validByte par = (fun c => (par.enc.digit? c).isSome || par.enc.isSkip c) := rfl

theorem filterSkip_length_le (e : Basex.Enc) (a : Bytes) : (Basex.filterSkip e a).length ≤ a.length := by
  unfold Basex.filterSkip
  exact List.length_filter_le ..

/-! ## `takeWhile` -/

theorem takeWhile_append_all {α : Type} (p : α → Bool) : ∀ (d t : List α), d.all p = true →
    (d ++ t).takeWhile p = d ++ t.takeWhile p := by
  intro d
  induction d with
  | nil => intro t _; rfl
  | cons x xs ih =>
    intro t h
    simp only [List.all_cons, Bool.and_eq_true] at h
    simp only [List.cons_append, List.takeWhile_cons, h.1, if_true, ih t h.2]

theorem takeWhile_append_bad {α : Type} (p : α → Bool) : ∀ (d t : List α), d.all p = false →
    (d ++ t).takeWhile p = d.takeWhile p := by
  intro d
  induction d with
  | nil => intro t h; simp at h
  | cons x xs ih =>
    intro t h
    simp only [List.all_cons, Bool.and_eq_false_iff] at h
    by_cases hx : p x = true
    · have hxs : xs.all p = false := by
        rcases h with h | h
        · rw [hx] at h; cases h
        · exact h
      simp only [List.cons_append, List.takeWhile_cons, hx, if_true, ih t hxs]
    · simp only [List.cons_append, List.takeWhile_cons, hx]
      rfl

theorem takeWhile_all {α : Type} (p : α → Bool) (l : List α) : (l.takeWhile p).all p = true := by
  induction l with
  | nil => rfl
  | cons x xs ih =>
    by_cases hx : p x = true
    · simp only [List.takeWhile_cons, hx, if_true, List.all_cons, ih, Bool.and_self]
    · simp only [List.takeWhile_cons, hx]
      rfl

theorem takeWhile_eq_of_all {α : Type} (p : α → Bool) (l : List α) (h : l.all p = true) : l.takeWhile p = l := by
  have := takeWhile_append_all p l [] h
  simpa using this

/-! ## meaning of a filter state -/

/-- filter a meaning of the framed layer -/
def filOfMax (par : Armor.Params) (m : Bytes × Option FInfo) : Bytes × Option FInfo :=
  (Basex.filterSkip par.enc (m.1.takeWhile (Armor.validByte par)),
    if m.1.all (Armor.validByte par) = true then m.2 else none)

def filMax (par : Armor.Params) (expect : Armor.Expect) (s : FilState) : Bytes × Option FInfo :=
  filOfMax par (fMax par expect s.f)

/-- the filtering reader as a layer: invariant, size and final state are those of the framed decoder below -/
def filterL (par : Armor.Params) (expect : Armor.Expect) : Layer FilState FInfo where
  sem := filMax par expect
  inv := fun s => FInv s.f
  size := fun s => fRaw s.f
  info := fun s => (s.f.hdr, s.f.brand, s.f.ftr)
  fin := fun s => FInv s.f ∧ s.f.phase = .endOfStream

/-- the three kinds of step of the filtering reader, in the terms of `filMax`, `FInv` and `fRaw` -/
theorem filStep_data {par : Armor.Params} {expect : Armor.Expect} {s s' : FilState} {x : Bytes} (h1 : x ≠ []) (h2 : FInv s'.f)
    (h3 : fRaw s'.f + x.length ≤ fRaw s.f)
    (h4 : filMax par expect s = (x ++ (filMax par expect s').1, (filMax par expect s').2)) :
    (filterL par expect).Step s x none s' := .data h1 h2 h3 h4

theorem filStep_eof {par : Armor.Params} {expect : Armor.Expect} {s s' : FilState} (h1 : FInv s'.f)
    (h2 : s'.f.phase = .endOfStream) (h3 : filMax par expect s = ([], some (s'.f.hdr, s'.f.brand, s'.f.ftr))) :
    (filterL par expect).Step s [] (some .eof) s' := .eof ⟨h1, h2⟩ h3

theorem filStep_err {par : Armor.Params} {expect : Armor.Expect} {s s' : FilState} {x : Bytes} {z : Err}
    (h1 : x <+: (filMax par expect s).1) (h2 : (filMax par expect s).2 = none) :
    (filterL par expect).Step s x (some (.err z)) s' := .err h1 h2

theorem filOfMax_pre (par : Armor.Params) (d : Bytes) (hv : d.all (Armor.validByte par) = true) (t : Bytes) (oi : Option FInfo) :
    filOfMax par (d ++ t, oi) = (Basex.filterSkip par.enc d ++ (filOfMax par (t, oi)).1, (filOfMax par (t, oi)).2) := by
  simp only [filOfMax, takeWhile_append_all _ d t hv, filterSkip_append, List.all_append, hv, Bool.true_and]

theorem filOfMax_bad (par : Armor.Params) (d : Bytes) (hv : d.all (Armor.validByte par) = false) (t : Bytes) (oi : Option FInfo) :
    (filOfMax par (d ++ t, oi)).2 = none := by
  simp [filOfMax, List.all_append, hv]

theorem filOfMax_clean (par : Armor.Params) (m : Bytes × Option FInfo) (i : FInfo) (h : (filOfMax par m).2 = some i) :
    m.2 = some i := by
  have h' : (if m.1.all (Armor.validByte par) = true then m.2 else none) = some i := h
  by_cases hv : m.1.all (Armor.validByte par) = true
  · rw [if_pos hv] at h'; exact h'
  · rw [if_neg hv] at h'; cases h'

theorem filOfMax_none (par : Armor.Params) (m : Bytes × Option FInfo) (h : m.2 = none) : (filOfMax par m).2 = none := by
  simp [filOfMax, h]

theorem filterSkip_prefix (e : Basex.Enc) (a b : Bytes) (h : a <+: b) :
    Basex.filterSkip e a <+: Basex.filterSkip e b := by
  obtain ⟨t, rfl⟩ := h
  rw [filterSkip_append]
  exact List.prefix_append _ _

theorem filOfMax_prefix (par : Armor.Params) (d : Bytes) (hv : d.all (Armor.validByte par) = true) (m : Bytes × Option FInfo)
    (h : d <+: m.1) : Basex.filterSkip par.enc d <+: (filOfMax par m).1 := by
  obtain ⟨t, ht⟩ := h
  simp only [filOfMax, ← ht, takeWhile_append_all _ d t hv, filterSkip_append]
  exact List.prefix_append _ _

theorem filRead_succ (par : Armor.Params) (expect : Armor.Expect) (cap fuel : Nat) (s : FilState) :
    filRead par expect cap (fuel + 1) s =
      if (fRead par expect cap s.f).1.isEmpty then
        ([], (fRead par expect cap s.f).2.1, { s with f := (fRead par expect cap s.f).2.2 })
      else match filterScan par.enc (fRead par expect cap s.f).1 s.nRead with
        | .error k => ([], some (.err .basexCorrupt), { f := (fRead par expect cap s.f).2.2, nRead := k })
        | .ok (kept, n') =>
          if !kept.isEmpty then (kept, (fRead par expect cap s.f).2.1, { f := (fRead par expect cap s.f).2.2, nRead := n' })
          else match (fRead par expect cap s.f).2.1 with
            | some x => ([], some x, { f := (fRead par expect cap s.f).2.2, nRead := n' })
            | none => filRead par expect cap fuel { f := (fRead par expect cap s.f).2.2, nRead := n' } := by
  rw [filRead]
  rcases fRead par expect cap s.f with ⟨d, e, f1⟩
  rfl

/-- whatever the state, only alphabet characters come out of the filter -/
theorem filRead_allDig (par : Armor.Params) (expect : Armor.Expect) (cap : Nat) :
    ∀ (fuel : Nat) (s : FilState), AllDig par.enc (filRead par expect cap fuel s).1 := by
  intro fuel
  induction fuel with
  | zero => intro s; exact allDig_nil _
  | succ fuel ih =>
    intro s
    rw [filRead_succ]
    split
    · exact allDig_nil _
    · split
      · exact allDig_nil _
      · rename_i kept n' hscan
        split
        · exact (filterScan_ok par.enc _ _ kept n' hscan).2.2
        · split
          · exact allDig_nil _
          · exact ih _

/-- the model's loop bound `fuel` is enough as soon as it exceeds the raw text left -/
theorem filRead_step (par : Armor.Params) (expect : Armor.Expect) (cap : Nat) (hcap : 0 < cap) :
    ∀ (fuel : Nat) (s : FilState), FInv s.f → fRaw s.f < fuel →
    ∀ (x : Bytes) (e : Option RErr) (s' : FilState), filRead par expect cap fuel s = (x, e, s') →
    (filterL par expect).Step s x e s' := by
  intro fuel
  induction fuel with
  | zero => intro s _ h; omega
  | succ fuel ih =>
    intro s hi hfuel x e s' h
    rw [filRead_succ] at h
    rcases hr : fRead par expect cap s.f with ⟨d, e0, f1⟩
    have hstep := fRead_step par expect cap hcap s.f hi d e0 f1 hr
    rw [hr] at h
    simp only at h
    cases hstep with
    | eof a1 a2 =>
      simp only [List.isEmpty_nil, if_true, Prod.mk.injEq] at h
      obtain ⟨rfl, rfl, rfl⟩ := h
      simp only [framedL] at a2
      refine filStep_eof a1.1 a1.2 ?_
      rw [filMax, a2]
      rfl
    | @err _ z _ a1 a2 =>
      simp only [framedL] at a1 a2
      have hnone : (filMax par expect s).2 = none := filOfMax_none par _ a2
      have hnil : ∀ s'', (filterL par expect).Step s [] (some (.err z)) s'' := fun _ => filStep_err List.nil_prefix hnone
      by_cases hd : d.isEmpty = true
      · rw [if_pos hd] at h
        simp only [Prod.mk.injEq] at h
        obtain ⟨rfl, rfl, rfl⟩ := h
        exact hnil _
      · rw [if_neg hd] at h
        cases hscan : filterScan par.enc d s.nRead with
        | error k =>
          rw [hscan] at h
          simp only [Prod.mk.injEq] at h
          obtain ⟨rfl, rfl, rfl⟩ := h
          exact filStep_err List.nil_prefix hnone
        | ok q =>
          obtain ⟨kept, n'⟩ := q
          rw [hscan] at h
          obtain ⟨k1, k2, _⟩ := filterScan_ok par.enc d _ kept n' hscan
          by_cases hk : kept.isEmpty = true
          · simp only [hk, Bool.not_true, Bool.false_eq_true, if_false, Prod.mk.injEq] at h
            obtain ⟨rfl, rfl, rfl⟩ := h
            exact hnil _
          · simp only [hk, Bool.not_false, if_true, Prod.mk.injEq] at h
            obtain ⟨rfl, rfl, rfl⟩ := h
            exact filStep_err (by rw [k1]; exact filOfMax_prefix par d k2 _ a1) hnone
    | data a1 a2 a3 a4 =>
      simp only [framedL] at a2 a3 a4
      have hde : d.isEmpty = false := by cases d with
        | nil => exact absurd rfl a1
        | cons _ _ => rfl
      simp only [hde, Bool.false_eq_true, if_false] at h
      cases hscan : filterScan par.enc d s.nRead with
      | error k =>
        rw [hscan] at h
        simp only [Prod.mk.injEq] at h
        obtain ⟨rfl, rfl, rfl⟩ := h
        refine filStep_err List.nil_prefix ?_
        rw [filMax, a4]
        exact filOfMax_bad par d (filterScan_error par.enc d _ _ hscan) _ _
      | ok q =>
        obtain ⟨kept, n'⟩ := q
        rw [hscan] at h
        simp only at h
        obtain ⟨k1, k2, _⟩ := filterScan_ok par.enc d _ kept n' hscan
        have hklen : kept.length ≤ d.length := by rw [k1]; exact filterSkip_length_le _ _
        have hsem : filMax par expect s =
            (kept ++ (filMax par expect { f := f1, nRead := n' }).1, (filMax par expect { f := f1, nRead := n' }).2) := by
          simp only [filMax]
          rw [a4, filOfMax_pre par d k2, ← k1]
        by_cases hk : kept.isEmpty = true
        · -- only skip characters so far: read again
          simp only [hk, Bool.not_true, Bool.false_eq_true, if_false] at h
          have hdpos : 0 < d.length := List.length_pos_iff.mpr a1
          have hk' : kept = [] := by simpa using hk
          have hlt : fRaw f1 < fuel :=
            Nat.lt_of_lt_of_le (Nat.lt_of_lt_of_le (Nat.lt_add_of_pos_right hdpos) a3) (Nat.le_of_lt_succ hfuel)
          have hle : fRaw f1 ≤ fRaw s.f := Nat.le_trans (Nat.le_add_right _ _) a3
          -- `by exact`: checked once the states are known; given as a plain term, `hle` makes the unifier
          -- guess the states of `(filterL …).size _ ≤ (filterL …).size _` from `fRaw f1 ≤ fRaw s.f`, which is slow
          refine (ih { f := f1, nRead := n' } a2 hlt x e s' h).of_eq (filterL par expect) ?_ (by exact hle)
          rw [hk'] at hsem
          exact hsem
        · simp only [hk, Bool.not_false, if_true, Prod.mk.injEq] at h
          obtain ⟨rfl, rfl, rfl⟩ := h
          exact filStep_data (by simpa using hk) a2 (Nat.le_trans (Nat.add_le_add_left hklen _) a3) hsem

/-- with the loop bound the BaseX decoder passes (`fuelOf … + 4`) -/
theorem filRead_step' (par : Armor.Params) (expect : Armor.Expect) (cap : Nat) (hcap : 0 < cap) (s : FilState)
    (hi : FInv s.f) (x : Bytes) (e : Option RErr) (s' : FilState)
    (h : filRead par expect cap (fuelOf s.f.p + 4) s = (x, e, s')) : (filterL par expect).Step s x e s' :=
  filRead_step par expect cap hcap _ s hi (by have := ptext_length_lt_fuelOf s.f.p; unfold fRaw; omega) x e s' h

/-! ## reading the filter to its end -/

/-- read with buffer sizes `caps` (cycled) until a condition is reported; the
    inner loop bound is the one the BaseX decoder passes -/
def filReadAll (par : Armor.Params) (expect : Armor.Expect) (caps : List Nat) :
    (fuel : Nat) → Nat → FilState → Bytes → Bytes × Option RErr × FilState
  | 0, _, s, acc => (acc, none, s)
  | fuel + 1, k, s, acc =>
    let cap := caps.getD (k % caps.length) 1
    let (d, e, s1) := filRead par expect cap (fuelOf s.f.p + 4) s
    match e with
    | none => filReadAll par expect caps fuel (k + 1) s1 (acc ++ d)
    | some x => (acc ++ d, some x, s1)

theorem filReadAll_eq (par : Armor.Params) (expect : Armor.Expect) (caps : List Nat) :
    ∀ (fuel k : Nat) (s : FilState) (acc : Bytes),
    filReadAll par expect caps fuel k s acc =
      readLoop (fun cap s => filRead par expect cap (fuelOf s.f.p + 4) s) caps fuel k s acc := by
  intro fuel
  induction fuel with
  | zero => intro k s acc; rfl
  | succ fuel ih =>
    intro k s acc
    rw [filReadAll, readLoop]
    rcases filRead par expect (caps.getD (k % caps.length) 1) (fuelOf s.f.p + 4) s with ⟨d, e, s1⟩
    cases e with
    | none => exact ih _ _ _
    | some x => rfl

/-- from the start of a text `T` whose frame part is acceptable with body
    `body`: `filterSkip body` when all body bytes are valid, else an error -/
theorem filReadAll_text (par : Armor.Params) (expect : Armor.Expect) (src : Source) (T : Bytes) (hok : SrcOK src)
    (hsrc : srcText src = (T, .eof)) (caps : List Nat) (hpos : ∀ c ∈ caps, 0 < c) (fuel : Nat)
    (hf : T.length < fuel) (body : Bytes) (i : FInfo) (hsem : hdrSem par expect [] T = some (body, i)) :
    (body.all (Armor.validByte par) = true →
      ∃ s', filReadAll par expect caps fuel 0 { f := { p := { src := src } } } [] =
        (Basex.filterSkip par.enc body, some .eof, s')) ∧
    (body.all (Armor.validByte par) = false →
      ∃ r z s', filReadAll par expect caps fuel 0 { f := { p := { src := src } } } [] = (r, some (.err z), s')) := by
  have ht : ({ src := src } : PState).text = (T, .eof) := by rw [ptext_init, hsrc]
  have hm : fMax par expect { p := { src := src } } = (body, some i) := by
    apply semOf_eq_some
    rw [← hsem, hdrSem_eq]
    simp [fMax, ht]
  obtain ⟨r, e, s', g1, _, g3, g4⟩ := (filterL par expect).readLoop_spec _
    (fun cap hcap s hi => filRead_step' par expect cap hcap s hi) caps hpos fuel { f := { p := { src := src } } }
    (fInv_init src .eof T hsrc eof_ne_punct (srcPre_of_srcOK src hok) (fun _ => hok))
    (by show ({ src := src } : PState).text.1.length < fuel; rw [ht]; exact hf) 0 []
  have hs0 : (filterL par expect).sem { f := { p := { src := src } } } = filOfMax par (body, some i) := by
    show filOfMax par (fMax par expect { p := { src := src } }) = _
    rw [hm]
  rw [hs0] at g3 g4
  rw [filReadAll_eq, g1 fuel (Nat.le_refl _)]
  constructor
  · intro hv
    obtain ⟨rfl, rfl, _⟩ := g4 i (by simp [filOfMax, hv])
    exact ⟨s', by simp [filOfMax, takeWhile_eq_of_all _ _ hv]⟩
  · intro hv
    obtain ⟨z, rfl⟩ := g3 (by simp [filOfMax, hv])
    exact ⟨_, z, s', rfl⟩

/-! ## concrete checks -/

-- "h. a b.f." : the spaces of the body are dropped
example : (filReadAll Armor.params62 none [1, 2] 12 0
    { f := { p := { src := [([104, 46, 32, 97], none), ([32, 98, 46, 102, 46], none)] } } } []).1 = [97, 98] := by
  decide +kernel

-- an invalid body byte `!` is reported as corrupt input
example : (filReadAll Armor.params62 none [3] 12 0
    { f := { p := { src := [([104, 46, 97, 33, 98, 46, 102, 46], none)] } } } []).2.1 = some (.err .basexCorrupt) := by
  decide +kernel

end Saltpack.Proofs

