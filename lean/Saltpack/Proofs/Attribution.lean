/-
  Attribution: how the sender a receiver *reports* (and the MAC key / signing
  key every accepted packet is then checked under — `C02_accept_binds`,
  `C04_accept_binds`) is tied to the header.

  * encryption: the reported sender key is the content of the header's sender
    secretbox under the payload key that came out of the receiver's *own*
    recipient entry, and the MAC key is derived from box(own secret key, that
    reported sender key) (V2: additionally box(own secret key, ephemeral key));
  * signcryption: the reported signing key is the keyring's answer for the
    content of the sender secretbox under the unboxed payload key;
  * a receiver that accepts the HONEST header derives the sender's payload key
    (the `hkey` hypothesis of `C02_authentic_or_break`).
-/
import Saltpack.Model.Signcrypt
import Saltpack.Proofs.EncLemmas
import Saltpack.Proofs.RoundTripEnc
import Saltpack.Proofs.DecHeader
import Saltpack.Toy

namespace Saltpack.Proofs
open Saltpack

/-! ### where the payload key comes from -/

theorem Attr.tryVisible_ok (P : Prims) (kr : Keyring) (h : EncHeader) (eph sk pk : Bytes) (pos : Nat)
    (log : List KeyCall)
    (hok : Decrypt.tryVisible P kr h eph = (log, .ok (some (sk, pk, pos)))) :
    pk.length = 32 ∧
    ∃ nonce, Nonce.payloadKeyBox h.version pos = .ok nonce ∧
      P.unbox sk eph nonce (h.receivers.getD pos default).box = some pk ∧
      ∃ i, kr.lookupBoxSecretKey ((Decrypt.visibleIndices h.receivers).map
              (fun i => Decrypt.kidOf (h.receivers.getD i default))) = (i, some sk) ∧
        0 ≤ i ∧ (Decrypt.visibleIndices h.receivers)[i.toNat]? = some pos := by
  rcases tryVisible_cases P kr h eph with h0 | h0 | ⟨sk0, i, pos0, hlk, hi, hvi, ⟨e, _, h0⟩ | ⟨nonce, hn, h0⟩⟩
  · rw [h0] at hok
    cases hok
  · rw [h0] at hok
    cases hok
  · rw [h0] at hok
    cases hok
  · rw [h0] at hok
    obtain ⟨rfl, rfl, hub, hl⟩ := unboxed_ok (congrArg Prod.snd hok)
    exact ⟨hl, nonce, hn, hub, i, hlk, hi, hvi⟩

theorem Attr.tryHiddenOne_ok (P : Prims) (v : Version) (sk eph pk : Bytes) (i : Nat) :
    ∀ (l : List (RecvKeys × Nat)) (log : List KeyCall),
      Decrypt.tryHiddenOne P v sk eph l = (log, .ok (some (pk, i))) →
      pk.length = 32 ∧ ∃ r nonce, (r, i) ∈ l ∧ Decrypt.isHidden r = true ∧
        Nonce.payloadKeyBox v i = .ok nonce ∧ P.unbox sk eph nonce r.box = some pk := by
  intro l
  induction l with
  | nil => intro log hok; cases hok
  | cons q rest ih =>
    intro log hok
    obtain ⟨r, j⟩ := q
    -- the walk ends here, or the entry is found further on
    have later : ∀ log', Decrypt.tryHiddenOne P v sk eph rest = (log', .ok (some (pk, i))) →
        pk.length = 32 ∧ ∃ r' nonce, (r', i) ∈ (r, j) :: rest ∧ Decrypt.isHidden r' = true ∧
          Nonce.payloadKeyBox v i = .ok nonce ∧ P.unbox sk eph nonce r'.box = some pk := by
      intro log' hrec
      obtain ⟨hl, r', n', hm, hh', hn', ho'⟩ := ih log' hrec
      exact ⟨hl, r', n', List.mem_cons_of_mem _ hm, hh', hn', ho'⟩
    rcases tryHiddenOne_cons_cases P v sk eph r j rest with
      ⟨_, h0⟩ | ⟨hhid, ⟨e, _, h0⟩ | ⟨nonce, hn, ⟨_, h0⟩ | ⟨pk', hpk, ⟨_, h0⟩ | ⟨hlen, h0⟩⟩⟩⟩
    · rw [h0] at hok
      exact later log hok
    · rw [h0] at hok
      cases hok
    · rw [h0] at hok
      exact later _ (Prod.ext rfl (Prod.mk.inj hok).2)
    · rw [h0] at hok
      cases hok
    · rw [h0] at hok
      cases hok
      exact ⟨hlen, r, nonce, List.mem_cons_self, hhid, hn, hpk⟩

theorem Attr.tryHidden_ok (P : Prims) (h : EncHeader) (eph sk pk : Bytes) (i : Nat) :
    ∀ (sks : List Bytes) (log : List KeyCall),
      Decrypt.tryHidden P h eph sks = (log, .ok (some (sk, pk, i))) →
      sk ∈ sks ∧ pk.length = 32 ∧ ∃ r nonce, h.receivers[i]? = some r ∧ Decrypt.isHidden r = true ∧
        Nonce.payloadKeyBox h.version i = .ok nonce ∧ P.unbox sk eph nonce r.box = some pk := by
  intro sks
  induction sks with
  | nil => intro log hok; cases hok
  | cons s sks ih =>
    intro log hok
    rcases tryHidden_cons_cases P h eph s sks with ⟨e, _, h0⟩ | ⟨pk', i', hone, h0⟩ | ⟨_, h0⟩
    · rw [h0] at hok
      cases hok
    · rw [h0] at hok
      cases hok
      obtain ⟨hl, r, n, hm, hh', hn, ho⟩ :=
        Attr.tryHiddenOne_ok P h.version sk eph pk i _ _ (Prod.ext rfl hone)
      exact ⟨List.mem_cons_self, hl, r, n, List.mem_zipIdx_iff_getElem?.1 hm, hh', hn, ho⟩
    · rw [h0] at hok
      obtain ⟨hmem, rest⟩ := ih _ (Prod.ext rfl (Prod.mk.inj hok).2)
      exact ⟨List.mem_cons_of_mem _ hmem, rest⟩

/-! ### encryption: what the reported sender and the MAC key are -/

/-- everything a successful `Decrypt.processHeader` tells about its state, read
    off `processHeader_ok`: the header passed `validate`; ephemeral key `eph`,
    own secret key `sk`, payload key `pk`, position `pos`, reported sender key;
    then where `pk` came from — the entry at `pos`, opened by name or by trial -/
theorem decrypt_attribution (P : Prims) (valid : Validator) (kr : Keyring) (hh : Bytes) (h : EncHeader)
    (log : List KeyCall) (st : Decrypt.State)
    (hok : Decrypt.processHeader P valid kr hh h = (log, .ok st)) :
    Decrypt.validate valid h = .ok () ∧
    ∃ eph sk pk pos senderKey,
      kr.importBoxEphemeralKey h.ephemeral = some eph ∧
      st.payloadKey = pk ∧ st.headerHash = hh ∧ st.position = pos ∧ st.version = h.version ∧
      st.mki.receiverKey = sk ∧
      P.sbOpen pk Nonce.senderKeySecretBox h.senderSecretbox = some senderKey ∧ senderKey.length = 32 ∧
      st.mki.senderIsAnon = (h.ephemeral == senderKey) ∧
      (st.mki.senderIsAnon = false → kr.lookupBoxPublicKey senderKey = some st.mki.senderKey) ∧
      (st.mki.senderIsAnon = true → st.mki.senderKey = eph) ∧
      (Decrypt.macKeyReceiver P h.version pos sk st.mki.senderKey eph hh).2 = .ok st.macKey ∧
      pk.length = 32 ∧
      ∃ r nonce, h.receivers[pos]? = some r ∧ Nonce.payloadKeyBox h.version pos = .ok nonce ∧
        P.unbox sk eph nonce r.box = some pk ∧
        (st.mki.receiverIsAnon = false →
          (∃ k, r.kid = some k ∧ k ≠ []) ∧
          ∃ i, kr.lookupBoxSecretKey st.mki.namedReceivers = (i, some sk) ∧ 0 ≤ i ∧
            (Decrypt.visibleIndices h.receivers)[i.toNat]? = some pos ∧
            st.mki.namedReceivers[i.toNat]? = some (Decrypt.kidOf r)) ∧
        (st.mki.receiverIsAnon = true →
          Decrypt.isHidden r = true ∧ sk ∈ kr.getAllBoxSecretKeys) := by
  obtain ⟨eph, vis, l1, ⟨⟨sk, pk, pos⟩, anon⟩, l2, senderKey, senderPub, mk, l3, hval, rfl, -, heph, hvis, hr, hsb,
    hslen, hsp, hmk⟩ := processHeader_ok hok
  refine ⟨hval, eph, sk, pk, pos, senderKey, heph, rfl, rfl, rfl, rfl, rfl, hsb, hslen, rfl, ?_, ?_,
    congrArg Prod.snd hmk, ?_⟩
  · intro ha
    rw [show (h.ephemeral == senderKey) = false from ha] at hsp
    exact hsp
  · intro ha
    rw [show (h.ephemeral == senderKey) = true from ha] at hsp
    exact (Option.some.inj hsp).symm
  · -- where the entry was found: by name, or by trial among the hidden ones
    rcases findEntry_ok hr with ⟨rfl, ha, _⟩ | ⟨rfl, ha, hth⟩
    · cases (show anon = false from ha)
      obtain ⟨hl, nonce, hn, ho, i, hlk, hi, hvi⟩ := Attr.tryVisible_ok P kr h eph sk pk pos l1 hvis
      have hmem : pos ∈ Decrypt.visibleIndices h.receivers := List.mem_of_getElem? hvi
      obtain ⟨r, k, hr, hk, hne⟩ := mem_visibleIndices.1 hmem
      have hgd : h.receivers.getD pos default = r := by simp [List.getD_eq_getElem?_getD, hr]
      rw [hgd] at ho
      refine ⟨hl, r, nonce, hr, hn, ho, ?_, ?_⟩
      · intro _
        refine ⟨⟨k, hk, hne⟩, i, hlk, hi, hvi, ?_⟩
        simp only [headerState, List.getElem?_map, hvi, Option.map_some, hgd]
      · intro hc; exact absurd hc (by simp [headerState])
    · cases (show anon = true from ha)
      obtain ⟨hm, hl, r, nonce, hr, hhid, hn, ho⟩ := Attr.tryHidden_ok P h eph sk pk pos _ l2 hth
      exact ⟨hl, r, nonce, hr, hn, ho, fun hc => absurd hc (by simp [headerState]), fun _ => ⟨hhid, hm⟩⟩

theorem decrypt_mackey_v1 (P : Prims) (valid : Validator) (kr : Keyring) (hh : Bytes) (h : EncHeader)
    (log : List KeyCall) (st : Decrypt.State)
    (hok : Decrypt.processHeader P valid kr hh h = (log, .ok st)) (hv : h.version.major = 1) :
    st.macKey = macKeySingle P st.mki.receiverKey st.mki.senderKey (Nonce.macKeyBoxV1 hh) := by
  obtain ⟨_, eph, sk, pk, pos, senderKey, _, _, _, _, _, hsk, _, _, _, _, _, hmk, _⟩ :=
    decrypt_attribution P valid kr hh h log st hok
  subst hsk
  simp only [Decrypt.macKeyReceiver, hv, if_true, Except.ok.injEq] at hmk
  exact hmk.symm

theorem decrypt_mackey_v2 (P : Prims) (valid : Validator) (kr : Keyring) (hh : Bytes) (h : EncHeader)
    (log : List KeyCall) (st : Decrypt.State)
    (hok : Decrypt.processHeader P valid kr hh h = (log, .ok st)) (hv : h.version.major = 2) :
    ∃ eph, kr.importBoxEphemeralKey h.ephemeral = some eph ∧
      st.macKey = sum512Truncate256 P
        (macKeySingle P st.mki.receiverKey st.mki.senderKey (Nonce.macKeyBoxV2 hh false st.position) ++
         macKeySingle P st.mki.receiverKey eph (Nonce.macKeyBoxV2 hh true st.position)) := by
  obtain ⟨_, eph, sk, pk, pos, senderKey, heph, _, _, hpos, _, hsk, _, _, _, _, _, hmk, _⟩ :=
    decrypt_attribution P valid kr hh h log st hok
  subst hsk hpos
  have h1 : ¬ h.version.major = 1 := by omega
  rw [Decrypt.macKeyReceiver, if_neg h1, if_pos hv] at hmk
  exact ⟨eph, heph, (Except.ok.inj hmk).symm⟩

/-! ### signcryption: where the payload key comes from -/

theorem Attr.tryBoxOne_ok (P : Prims) (r : RecvKeys) (i : Nat) (pk : Bytes) :
    ∀ (dks : List Bytes), Signcrypt.tryBoxOne P dks r i = some (.ok pk) →
      pk.length = 32 ∧ ∃ dk, dk ∈ dks ∧ Signcrypt.keyIdentifier P dk i = Decrypt.kidOf r ∧
        P.sbOpen dk (Nonce.payloadKeyBoxV2 i) r.box = some pk := by
  intro dks
  induction dks with
  | nil => intro hok; simp [Signcrypt.tryBoxOne] at hok
  | cons dk rest ih =>
    intro hok
    unfold Signcrypt.tryBoxOne at hok
    split at hok
    · rename_i hkid
      split at hok
      · cases hok
      · rename_i pk' hpk
        split at hok
        · cases hok
        · rename_i hlen
          cases hok
          exact ⟨by simpa using hlen, dk, List.mem_cons_self, by simpa using hkid, hpk⟩
    · obtain ⟨hl, dk', hm, hk, ho⟩ := ih hok
      exact ⟨hl, dk', List.mem_cons_of_mem _ hm, hk, ho⟩

theorem Attr.tryBox_ok (P : Prims) (dks : List Bytes) (pk : Bytes) :
    ∀ (l : List (RecvKeys × Nat)), Signcrypt.tryBox P dks l = .ok (some pk) →
      pk.length = 32 ∧ ∃ r i dk, (r, i) ∈ l ∧ dk ∈ dks ∧
        Signcrypt.keyIdentifier P dk i = Decrypt.kidOf r ∧
        P.sbOpen dk (Nonce.payloadKeyBoxV2 i) r.box = some pk := by
  intro l
  induction l with
  | nil => intro hok; simp [Signcrypt.tryBox] at hok
  | cons q rest ih =>
    intro hok
    obtain ⟨r, i⟩ := q
    unfold Signcrypt.tryBox at hok
    split at hok
    · rename_i pk' hone
      cases hok
      obtain ⟨hl, dk, hm, hk, ho⟩ := Attr.tryBoxOne_ok P r i pk dks hone
      exact ⟨hl, r, i, dk, List.mem_cons_self, hm, hk, ho⟩
    · cases hok
    · obtain ⟨hl, r', i', dk, hm, hd, hk, ho⟩ := ih hok
      exact ⟨hl, r', i', dk, List.mem_cons_of_mem _ hm, hd, hk, ho⟩

theorem Attr.trySym_go_ok (P : Prims) (ephPub pk : Bytes) :
    ∀ (l : List (Option Bytes × RecvKeys × Nat)), Signcrypt.trySym.go P ephPub l = .ok (some pk) →
      pk.length = 32 ∧ ∃ k r i, (some k, r, i) ∈ l ∧
        P.sbOpen (Signcrypt.symDerivedKey P ephPub k) (Nonce.payloadKeyBoxV2 i) r.box = some pk := by
  intro l
  induction l with
  | nil => intro hok; simp [Signcrypt.trySym.go] at hok
  | cons q rest ih =>
    intro hok
    obtain ⟨ko, r, i⟩ := q
    cases ko with
    | none =>
      simp only [Signcrypt.trySym.go] at hok
      obtain ⟨hl, k, r', i', hm, ho⟩ := ih hok
      exact ⟨hl, k, r', i', List.mem_cons_of_mem _ hm, ho⟩
    | some k =>
      simp only [Signcrypt.trySym.go] at hok
      split at hok
      · cases hok
      · rename_i pk' hpk
        split at hok
        · cases hok
        · rename_i hlen
          cases hok
          exact ⟨by simpa using hlen, k, r, i, List.mem_cons_self, hpk⟩

theorem Attr.trySym_ok (P : Prims) (res : Signcrypt.Resolver) (h : EncHeader) (ephPub pk : Bytes)
    (hok : Signcrypt.trySym P res h ephPub = .ok (some pk)) :
    pk.length = 32 ∧ ∃ f keys k r i, res = some f ∧ f (h.receivers.map Decrypt.kidOf) = .ok keys ∧
      keys[i]? = some (some k) ∧ h.receivers[i]? = some r ∧
      P.sbOpen (Signcrypt.symDerivedKey P ephPub k) (Nonce.payloadKeyBoxV2 i) r.box = some pk := by
  unfold Signcrypt.trySym at hok
  split at hok
  · cases hok
  · rename_i f
    simp only [] at hok
    split at hok
    · cases hok
    · rename_i keys hkeys
      split at hok
      · cases hok
      · obtain ⟨hl, k, r, i, hm, ho⟩ := Attr.trySym_go_ok P ephPub pk _ hok
        obtain ⟨j, hj⟩ := List.mem_iff_getElem?.1 hm
        rw [List.getElem?_zip_eq_some] at hj
        obtain ⟨hj1, hj2⟩ := hj
        simp only [] at hj1 hj2
        have hmem : (r, i) ∈ h.receivers.zipIdx := List.mem_of_getElem? hj2
        have hri := List.mem_zipIdx_iff_getElem?.1 hmem
        simp only [] at hri
        have hij : i = j := by
          rw [List.getElem?_zipIdx] at hj2
          cases hrj : h.receivers[j]? with
          | none => rw [hrj] at hj2; cases hj2
          | some r' =>
            rw [hrj] at hj2
            simp only [Option.map_some, Option.some.injEq, Prod.mk.injEq] at hj2
            omega
        subst hij
        exact ⟨hl, f, keys, k, r, i, rfl, hkeys, hj1, hri, ho⟩

/-! ### signcryption: what the reported sender is -/

/-- everything a successful `Signcrypt.processHeader` tells about its state: the
    reported sender is the keyring's answer for the content of the sender
    secretbox, and the payload key came out of some recipient entry under a key
    derived from a box secret key of the keyring or a resolved symmetric key -/
theorem signcrypt_attribution (P : Prims) (kr : Keyring) (res : Signcrypt.Resolver) (hh : Bytes)
    (h : EncHeader) (log : List KeyCall) (st : Signcrypt.State)
    (hok : Signcrypt.processHeader P kr res hh h = (log, .ok st)) :
    Signcrypt.validate h = .ok () ∧ st.headerHash = hh ∧ st.payloadKey.length = 32 ∧
    (∃ senderKey, P.sbOpen st.payloadKey Nonce.senderKeySecretBox h.senderSecretbox = some senderKey ∧
      (st.sender = none ↔ senderKey.all (· == 0) = true) ∧
      (∀ spk, st.sender = some spk → kr.lookupSigningPublicKey senderKey = some spk)) ∧
    ∃ eph, kr.importBoxEphemeralKey h.ephemeral = some eph ∧
      ∃ r i dk, h.receivers[i]? = some r ∧
        P.sbOpen dk (Nonce.payloadKeyBoxV2 i) r.box = some st.payloadKey ∧
        ((∃ sk, sk ∈ kr.getAllBoxSecretKeys ∧ dk = Signcrypt.derivedKeyFromBoxKeys P eph sk ∧
            Signcrypt.keyIdentifier P dk i = Decrypt.kidOf r) ∨
         (∃ f keys k, res = some f ∧ f (h.receivers.map Decrypt.kidOf) = .ok keys ∧
            keys[i]? = some (some k) ∧ dk = Signcrypt.symDerivedKey P eph k)) := by
  unfold Signcrypt.processHeader at hok
  split at hok
  · cases hok
  rename_i hval
  refine ⟨hval, ?_⟩
  split at hok
  · cases hok
  rename_i eph heph
  simp only [] at hok
  split at hok
  · cases hok
  · cases hok
  rename_i pk hpk
  split at hok
  · cases hok
  rename_i senderKey hsb
  have horigin : pk.length = 32 ∧ ∃ r i dk, h.receivers[i]? = some r ∧
        P.sbOpen dk (Nonce.payloadKeyBoxV2 i) r.box = some pk ∧
        ((∃ sk, sk ∈ kr.getAllBoxSecretKeys ∧ dk = Signcrypt.derivedKeyFromBoxKeys P eph sk ∧
            Signcrypt.keyIdentifier P dk i = Decrypt.kidOf r) ∨
         (∃ f keys k, res = some f ∧ f (h.receivers.map Decrypt.kidOf) = .ok keys ∧
            keys[i]? = some (some k) ∧ dk = Signcrypt.symDerivedKey P eph k)) := by
    split at hpk
    · cases hpk
    · rename_i pk' htb
      cases hpk
      obtain ⟨hl, r, i, dk, hm, hd, hk, ho⟩ := Attr.tryBox_ok P _ pk _ htb
      obtain ⟨sk, hsk, hdk⟩ := List.mem_map.1 hd
      exact ⟨hl, r, i, dk, List.mem_zipIdx_iff_getElem?.1 hm, ho, Or.inl ⟨sk, hsk, hdk.symm, hk⟩⟩
    · obtain ⟨hl, f, keys, k, r, i, hf, hkeys, hki, hr, ho⟩ := Attr.trySym_ok P res h eph pk hpk
      exact ⟨hl, r, i, _, hr, ho, Or.inr ⟨f, keys, k, hf, hkeys, hki, rfl⟩⟩
  split at hok
  · rename_i hz
    cases hok
    exact ⟨rfl, horigin.1, ⟨senderKey, hsb, ⟨fun _ => hz, fun _ => rfl⟩, fun spk hs => (by cases hs)⟩,
      eph, heph, horigin.2⟩
  · rename_i hz
    split at hok
    · cases hok
    · rename_i spk hspk
      cases hok
      exact ⟨rfl, horigin.1, ⟨senderKey, hsb, ⟨fun hc => (by cases hc), fun hc => absurd hc hz⟩,
        fun spk' hs => (by cases hs; exact hspk)⟩, eph, heph, horigin.2⟩

/-! ### the receiver's MAC key is the sender's -/

theorem Attr.macKeySingle_comm (P : Prims) (hP : P.Lawful) (a b n : Bytes) :
    macKeySingle P a (P.boxPub b) n = macKeySingle P b (P.boxPub a) n := by
  simp only [macKeySingle, Prims.box, hP.dh_comm a b]

/-! ### the payload key of the honest header -/

/-- **`hkey` of `C02_authentic_or_break`, derived for the honest header.**  If
    the header `h` a receiver accepted IS the header an honest sender built
    (`Encrypt.header` with ephemeral secret `ephSec`, payload key `pk`,
    recipient list `rs`), the keyring imports the ephemeral key faithfully, and
    the secret key that opened the receiver's entry is the key the sender
    addressed at that position, then the payload key the receiver derived is the
    sender's.  (What remains of `hkey` is the step from "same header hash" to
    "same header": collision resistance of the header hash, plus determinism of
    the header decoder.) -/
theorem hkey_of_honest_header (P : Prims) (hP : P.Lawful) (valid : Validator) (kr : Keyring)
    {v : Version} (hv : v = v1 ∨ v = v2) (sender : Option Bytes) (rs : List Encrypt.Recipient)
    (ephSec pk hh : Bytes) (h : EncHeader) (hhdr : Encrypt.header P v sender ephSec pk rs = .ok h)
    (log : List KeyCall) (st : Decrypt.State)
    (hok : Decrypt.processHeader P valid kr hh h = (log, .ok st))
    (himp : kr.importBoxEphemeralKey (P.boxPub ephSec) = some (P.boxPub ephSec))
    (hsk : ∀ r, rs[st.position]? = some r → r.pub = P.boxPub st.mki.receiverKey) :
    st.payloadKey = pk := by
  obtain ⟨_, eph, sk, pk', pos, senderKey, hie, hpk, _, hpos, _, hrk, _, _, _, _, _, _, _, r, nonce, hr, hn, hub, _⟩ :=
    decrypt_attribution P valid kr hh h log st hok
  obtain ⟨_, h2, _, h4, _, h6, h7, _⟩ := header_spec P hv sender ephSec pk rs h hhdr
  rw [h4, himp] at hie
  cases hie
  have hlt : pos < rs.length := by
    rw [← h6]; exact (List.getElem?_eq_some_iff.1 hr).1
  obtain ⟨n, hn', hr'⟩ := h7 pos hlt
  rw [h2, hn'] at hn
  cases hn
  rw [hr'] at hr
  cases hr
  have hpub : rs[pos].pub = P.boxPub sk := by
    rw [← hrk]
    exact hsk rs[pos] (by rw [hpos]; exact List.getElem?_eq_getElem hlt)
  simp only [hpub, unbox_box P hP] at hub
  rw [hpk]
  exact (Option.some.inj hub).symm

/-! ### non-vacuity: headers the toy primitives accept -/

/-- a keyring that owns exactly the secret key `sk` and knows every public key -/
def Attr.toyKr (sk : Bytes) : Keyring where
  lookupBoxSecretKey kids :=
    if kids.contains (Toy.prims.boxPub sk) then ((kids.idxOf (Toy.prims.boxPub sk) : Nat), some sk)
    else (-1, none)
  lookupBoxPublicKey k := some k
  getAllBoxSecretKeys := [sk]
  importBoxEphemeralKey k := some k
  lookupSigningPublicKey k := some k

/-- encryption V2, named sender [1], ephemeral secret [2], recipients [4] (hidden) and
    [3] (visible); the owner of [3] accepts the header at position 1 and reports the
    sender `boxPub [1]` -/
example :
    (match Encrypt.header Toy.prims v2 (some [1]) [2] (Toy.pad 32 [9])
        [⟨Toy.prims.boxPub [4], true⟩, ⟨Toy.prims.boxPub [3], false⟩] with
     | .error _ => false
     | .ok h =>
       match (Decrypt.processHeader Toy.prims knownMajor (Attr.toyKr [3]) (Toy.prims.hash [5]) h).2 with
       | .error _ => false
       | .ok st => st.mki.senderKey == Toy.prims.boxPub [1] && !st.mki.senderIsAnon &&
           st.position == 1 && st.mki.receiverKey == [3] && !st.mki.receiverIsAnon) = true := by
  decide +kernel

/-- the same for the hidden recipient [4] (found by trial at position 0), V1,
    anonymous sender -/
example :
    (match Encrypt.header Toy.prims v1 none [2] (Toy.pad 32 [9])
        [⟨Toy.prims.boxPub [4], true⟩, ⟨Toy.prims.boxPub [3], false⟩] with
     | .error _ => false
     | .ok h =>
       match (Decrypt.processHeader Toy.prims knownMajor (Attr.toyKr [4]) (Toy.prims.hash [5]) h).2 with
       | .error _ => false
       | .ok st => st.mki.senderKey == Toy.prims.boxPub [2] && st.mki.senderIsAnon &&
           st.position == 0 && st.mki.receiverKey == [4] && st.mki.receiverIsAnon) = true := by
  decide +kernel

/-- signcryption, signer seed [1]: the owner of [3] reports `sigPub [1]` -/
example :
    (match (Signcrypt.processHeader Toy.prims (Attr.toyKr [3]) none (Toy.prims.hash [5])
        (Signcrypt.header Toy.prims (some [1]) [2] (Toy.pad 32 [9]) [.box (Toy.prims.boxPub [3])])).2 with
     | .error _ => false
     | .ok st => st.sender == some (Toy.prims.sigPub [1])) = true := by
  decide +kernel

end Saltpack.Proofs
