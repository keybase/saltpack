/-
  Whole-run statements about the sender streams: the call during which an
  underlying write fails returns the WRITER'S error (`.ioError`) — not merely
  "something ≠ nil", which in the model also covers the `.panic` marker;
  `Close` = nil ⇒ the constructor succeeded and every earlier `Write` returned
  nil; the loop of a `Write` never fails with one of the stream's own panics and
  records the error it returns — in every state, no ghost invariant.
-/
import Saltpack.Proofs.SenderStreamArmor
import Saltpack.Proofs.ArmoredSenderMore

namespace Saltpack.Proofs.SenderP
open Saltpack Saltpack.Sender

/-! ## the faulting call returns the writer's error -/

section io
variable {ω : Type} (wr : ω → Bytes → Bool × ω) (flt : ω → Nat)

theorem emit_flt_io (hw : FltWriter wr flt) (cfg : Cfg) (f : Bool) (st : PSt ω)
    (h : flt (emitBlock wr cfg f st).2.codec.w ≠ flt st.codec.w) : (emitBlock wr cfg f st).1 = some .ioError := by
  rcases emitBlock_eq wr cfg f st with ⟨e, he, _⟩ | ⟨b, _, _, _, he⟩
  · rw [he] at h; exact absurd rfl h
  · rw [he] at h ⊢
    cases hok : (Codec.encode wr cfg.pieces st.codec b).1 with
    | true => exact absurd ((encode_flt wr flt hw cfg.pieces st.codec b).1 hok) h
    | false => rfl

theorem writeLoop_flt_io (hw : FltWriter wr flt) (cfg : Cfg) (len : Nat) : ∀ (fuel : Nat) (st : PSt ω),
    flt (writeLoop wr cfg len fuel st).2.2.codec.w ≠ flt st.codec.w →
      (writeLoop wr cfg len fuel st).2.1 = some .ioError := by
  intro fuel st
  fun_induction writeLoop wr cfg len fuel st with
  | case1 st => intro h; exact absurd rfl h
  | case2 fuel st hgt e st' he =>
    intro h
    have h2 := emit_flt_io wr flt hw cfg false st
    rw [he] at h2
    exact h2 (by split at h <;> exact h)
  | case3 fuel st hgt st' he ih =>
    intro h
    have h1 := (emit_flt wr flt hw cfg false st).1
    rw [he] at h1
    exact ih (by rw [h1 rfl]; exact h)
  | case4 fuel st hgt => intro h; exact absurd rfl h

theorem write_flt_io (hw : FltWriter wr flt) (cfg : Cfg) (st : PSt ω) (p : Bytes)
    (h : flt (st.write wr cfg p).2.2.codec.w ≠ flt st.codec.w) : (st.write wr cfg p).2.1 = some .ioError := by
  unfold PSt.write at h ⊢
  cases he : (if cfg.hasErr then st.err else none) with
  | some e => rw [he] at h; exact absurd rfl h
  | none =>
    rw [he] at h
    exact writeLoop_flt_io wr flt hw cfg p.length _ { st with buf := st.buf ++ p } h

theorem close_flt_io (hw : FltWriter wr flt) (cfg : Cfg) (st : PSt ω)
    (h : flt (st.close wr cfg).2.codec.w ≠ flt st.codec.w) : (st.close wr cfg).1 = some .ioError := by
  rcases close_cases wr cfg st with ⟨_, hc⟩ | ⟨_, _, ⟨e, _, hc⟩ | ⟨hn, _, hc⟩ | ⟨hn, _, hc⟩⟩
  · rw [hc] at h ⊢; exact emit_flt_io wr flt hw cfg true st h
  · rw [hc] at h ⊢; exact emit_flt_io wr flt hw cfg false st h
  · rw [hc] at h; exact absurd ((emit_flt wr flt hw cfg false st).1 hn) h
  · rw [hc] at h ⊢
    exact emit_flt_io wr flt hw cfg true _ (by rw [(emit_flt wr flt hw cfg false st).1 hn]; exact h)

theorem writes_flt_io (hw : FltWriter wr flt) (cfg : Cfg) : ∀ (ps : List Bytes) (st : PSt ω),
    flt (PSt.writes wr cfg st ps).2.codec.w ≠ flt st.codec.w →
      ∃ x ∈ (PSt.writes wr cfg st ps).1, x.2 = some .ioError := by
  intro ps
  induction ps with
  | nil => intro st h; exact absurd rfl h
  | cons p ps ih =>
    intro st h
    unfold PSt.writes at h ⊢
    simp only at h ⊢
    by_cases h1 : flt (st.write wr cfg p).2.2.codec.w = flt st.codec.w
    · obtain ⟨x, hx, hxe⟩ := ih _ (by rw [h1]; exact h)
      exact ⟨x, List.mem_cons_of_mem _ hx, hxe⟩
    · exact ⟨_, List.mem_cons_self, write_flt_io wr flt hw cfg st p h1⟩

theorem run_fault_io (hw : FltWriter wr flt) (cfg : Cfg) (w0 : ω) (hbytes : Bytes) (ws : List Bytes)
    (h : flt ((PSt.writes wr cfg (PSt.init wr cfg.pieces w0 hbytes).2 ws).2.close wr cfg).2.codec.w ≠ flt w0) :
    (PSt.init wr cfg.pieces w0 hbytes).1 = false ∨
    (∃ x ∈ (PSt.writes wr cfg (PSt.init wr cfg.pieces w0 hbytes).2 ws).1, x.2 = some .ioError) ∨
    ((PSt.writes wr cfg (PSt.init wr cfg.pieces w0 hbytes).2 ws).2.close wr cfg).1 = some .ioError := by
  cases hi : (PSt.init wr cfg.pieces w0 hbytes).1 with
  | false => exact Or.inl rfl
  | true =>
    right
    have h0 := (faultSeen_init wr flt hw cfg.pieces w0 hbytes).2 hi
    by_cases h1 : flt (PSt.writes wr cfg (PSt.init wr cfg.pieces w0 hbytes).2 ws).2.codec.w =
        flt (PSt.init wr cfg.pieces w0 hbytes).2.codec.w
    · right
      exact close_flt_io wr flt hw cfg _ (by rw [h1, h0]; exact h)
    · left
      exact writes_flt_io wr flt hw cfg ws _ h1

end io

/-! ## the error of a failed `Write` is recorded and sticky — every state -/

section sticky
variable {ω : Type} (wr : ω → Bytes → Bool × ω)

theorem writeLoop_err_recorded (cfg : Cfg) (hh : cfg.hasErr = true) (len : Nat) : ∀ (fuel : Nat) (st : PSt ω) (e : Err),
    (writeLoop wr cfg len fuel st).2.1 = some e →
      (writeLoop wr cfg len fuel st).1 = 0 ∧ (writeLoop wr cfg len fuel st).2.2.err = some e := by
  intro fuel st e
  fun_induction writeLoop wr cfg len fuel st with
  | case1 st => intro h; cases h
  | case2 fuel st hgt e' st' he =>
    intro h
    cases h
    rw [if_pos hh]
    exact ⟨rfl, rfl⟩
  | case3 fuel st hgt st' he ih => exact ih
  | case4 fuel st hgt => intro h; cases h

theorem writes_sticky (cfg : Cfg) (hh : cfg.hasErr = true) (e : Err) : ∀ (ps : List Bytes) (st : PSt ω),
    st.err = some e → PSt.writes wr cfg st ps = (ps.map (fun _ => (0, some e)), st) := by
  intro ps
  induction ps with
  | nil => intro st _; rfl
  | cons p ps ih =>
    intro st he
    have h1 : st.write wr cfg p = (0, some e, st) := by
      unfold PSt.write
      simp [hh, he]
    unfold PSt.writes
    simp only [h1, List.map_cons]
    rw [ih st he]

theorem writeLoop_error_kinds (cfg : Cfg) (hb : 0 < cfg.bs) (len : Nat) : ∀ (fuel : Nat) (st : PSt ω) (e : Err),
    (writeLoop wr cfg len fuel st).2.1 = some e → e = .ioError ∨ ∃ i c f, cfg.pkt i c f = .error e := by
  intro fuel st e
  fun_induction writeLoop wr cfg len fuel st with
  | case1 st => intro h; cases h
  | case2 fuel st hgt e' st' he =>
    intro h
    cases h
    -- a full non-final block: neither panic can happen
    have hclen : (st.buf.take cfg.bs).length = cfg.bs := by rw [List.length_take]; omega
    have hnp := readPanics_full cfg.v1shape cfg.assertExtra cfg.bs (st.buf.drop cfg.bs).length st.n hb
    have hc := emitBlock_eq wr cfg false st
    rw [hclen, hnp.1, hnp.2, he] at hc
    rcases hc with ⟨e0, h0, hp | hp | hp⟩ | ⟨b, _, _, _, h0⟩
    · cases hp
    · cases h0; exact Or.inr ⟨_, _, _, hp⟩
    · cases hp
    · -- the block was encoded: the loop stopped, so `Encode` failed, with the writer's error
      left
      cases hok : (Codec.encode wr cfg.pieces st.codec b).1 with
      | true => rw [hok] at h0; cases h0
      | false => rw [hok] at h0; cases h0; rfl
  | case3 fuel st hgt st' he ih => exact ih
  | case4 fuel st hgt => intro h; cases h

end sticky

/-! ## `Close` returns nil ⇒ every earlier call returned nil -/

section closeok
variable {ω : Type} (wr : ω → Bytes → Bool × ω) (obs : ω → Bytes)

/-- a failed constructor leaves a dead stream, whose `Close` fails; after a successful one `run_cases`
    has only these two ends -/
theorem close_ok_all_ok (hw : ObsWriter wr obs) (cfg : Cfg) (hp : ∀ b, (cfg.pieces b).flatten = b)
    (hb : 0 < cfg.bs) (hif : IndexFail cfg.pkt) (w0 : ω) (hbytes : Bytes) (ws : List Bytes)
    (hc : ((PSt.writes wr cfg (PSt.init wr cfg.pieces w0 hbytes).2 ws).2.close wr cfg).1 = none) :
    (PSt.init wr cfg.pieces w0 hbytes).1 = true ∧
    ∀ x ∈ (PSt.writes wr cfg (PSt.init wr cfg.pieces w0 hbytes).2 ws).1, x.2 = none := by
  have hi : (PSt.init wr cfg.pieces w0 hbytes).1 = true := by
    -- the version given to `init_inv` only matters for its `PrefixOK` clause, which is not used here
    rcases init_inv wr obs hw cfg hp v1 w0 hbytes with ⟨hi, _⟩ | ⟨_, hd, _⟩
    · exact hi
    · exact absurd hc (dead_close_codec wr cfg _ (dead_writes_codec wr cfg ws _ hd).2).1
  -- `run_cases` wants a version with the stream's shape of `Close`: there always is one
  obtain ⟨v, hv⟩ : ∃ v : Version, cfg.v1shape = (v == v1) := by
    cases cfg.v1shape
    · exact ⟨v2, rfl⟩
    · exact ⟨v1, rfl⟩
  rcases run_cases wr obs hw cfg hp hb hif v hv w0 hbytes ws hi with ⟨hr, _⟩ | ⟨hne, _⟩
  · refine ⟨hi, fun x hx => ?_⟩
    rw [hr] at hx
    obtain ⟨p, _, rfl⟩ := List.mem_map.1 hx
    rfl
  · exact absurd hc hne

theorem run_close_ok (hw : ObsWriter wr obs) (cfg : Cfg) (hp : ∀ b, (cfg.pieces b).flatten = b)
    (hb : 0 < cfg.bs) (hif : IndexFail cfg.pkt) (v : Version) (hv : cfg.v1shape = (v == v1))
    (w0 : ω) (hbytes : Bytes) (ws : List Bytes)
    (hc : ((PSt.writes wr cfg (PSt.init wr cfg.pieces w0 hbytes).2 ws).2.close wr cfg).1 = none) :
    (PSt.init wr cfg.pieces w0 hbytes).1 = true ∧
    ∃ B, planBytes cfg.pkt (Encrypt.chunkPlan v cfg.bs ws.flatten) 0 = .ok B ∧
      obs ((PSt.writes wr cfg (PSt.init wr cfg.pieces w0 hbytes).2 ws).2.close wr cfg).2.codec.w =
        obs w0 ++ headerPacket hbytes ++ B ∧
      (PSt.writes wr cfg (PSt.init wr cfg.pieces w0 hbytes).2 ws).1 = ws.map (fun p => (p.length, none)) := by
  obtain ⟨hi, hws⟩ := close_ok_all_ok wr obs hw cfg hp hb hif w0 hbytes ws hc
  exact ⟨hi, run_success wr obs hw cfg hp hb hif v hv w0 hbytes ws hi hws hc⟩

end closeok

/-! ## the detached-signature stream, run level -/

section det
variable {ω : Type} (wr : ω → Bytes → Bool × ω) (flt : ω → Nat)

theorem det_init_flt (hw : FltWriter wr flt) (pieces : Bytes → List Bytes) (w0 : ω) (hbytes : Bytes) :
    ((DSt.init wr pieces w0 hbytes).1 = true → flt (DSt.init wr pieces w0 hbytes).2.codec.w = flt w0) ∧
    ((DSt.init wr pieces w0 hbytes).1 = false → (DSt.init wr pieces w0 hbytes).2.codec.failed = true) := by
  have hfl := encode_flt wr flt hw pieces ({ w := w0 } : Codec ω) (headerPacket hbytes)
  unfold DSt.init
  cases he : Codec.encode wr pieces ({ w := w0 } : Codec ω) (headerPacket hbytes) with
  | mk ok c =>
    rw [he] at hfl
    cases ok with
    | true => exact ⟨fun _ => hfl.1 rfl, fun h => (by cases h)⟩
    | false =>
      have hf := encode_false_failed wr pieces ({ w := w0 } : Codec ω) (headerPacket hbytes) (by rw [he])
      rw [he] at hf
      exact ⟨fun h => (by cases h), fun _ => hf⟩

theorem det_close_kinds (pieces : Bytes → List Bytes) (sp : Bytes → Bytes) (st : DSt ω) :
    (st.close wr pieces sp).1 = none ∨ (st.close wr pieces sp).1 = some .ioError := by
  unfold DSt.close
  cases he : Codec.encode wr pieces st.codec (sp st.msg) with
  | mk ok c => cases ok <;> simp

theorem det_run_fault (hw : FltWriter wr flt) (pieces : Bytes → List Bytes) (sp : Bytes → Bytes) (w0 : ω)
    (hbytes : Bytes) (ws : List Bytes) :
    (flt ((DSt.writes (DSt.init wr pieces w0 hbytes).2 ws).2.close wr pieces sp).2.codec.w ≠ flt w0 →
      (DSt.init wr pieces w0 hbytes).1 = false ∨
      ((DSt.writes (DSt.init wr pieces w0 hbytes).2 ws).2.close wr pieces sp).1 = some .ioError) ∧
    (((DSt.writes (DSt.init wr pieces w0 hbytes).2 ws).2.close wr pieces sp).1 = none →
      (DSt.init wr pieces w0 hbytes).1 = true) := by
  obtain ⟨i1, i2⟩ := det_init_flt wr flt hw pieces w0 hbytes
  have hcl := det_close_flt wr flt hw pieces sp (DSt.writes (DSt.init wr pieces w0 hbytes).2 ws).2
  have hcodec : (DSt.writes (DSt.init wr pieces w0 hbytes).2 ws).2.codec = (DSt.init wr pieces w0 hbytes).2.codec := by
    rw [(det_writes ws _).1]
  constructor
  · intro h
    cases hi : (DSt.init wr pieces w0 hbytes).1 with
    | false => exact Or.inl rfl
    | true =>
      right
      rcases det_close_kinds wr pieces sp (DSt.writes (DSt.init wr pieces w0 hbytes).2 ws).2 with hn | he
      · exfalso
        apply h
        rw [hcl.1 hn, hcodec, i1 hi]
      · exact he
  · intro hn
    cases hi : (DSt.init wr pieces w0 hbytes).1 with
    | true => rfl
    | false =>
      have := (hcl.2.1 (by rw [hcodec]; exact i2 hi)).1
      rw [hn] at this; cases this

end det

/-! ## the armored compositions: `Close` = nil alone -/

theorem armored_close_ok_all_ok (cfg : Cfg) (hp : ∀ b, (cfg.pieces b).flatten = b) (hb : 0 < cfg.bs)
    (hif : IndexFail cfg.pkt) (a0 : FArm) (headerBytes : Bytes) (ws : List Bytes)
    (hc : (armoredClose cfg (PSt.writes FArm.write cfg (PSt.init FArm.write cfg.pieces a0 headerBytes).2 ws).2).1 = none) :
    (PSt.init FArm.write cfg.pieces a0 headerBytes).1 = true ∧
    ∀ x ∈ (PSt.writes FArm.write cfg (PSt.init FArm.write cfg.pieces a0 headerBytes).2 ws).1, x.2 = none := by
  obtain ⟨ei, ew, -, ec, -⟩ := hist_run cfg a0 headerBytes ws
  rw [ec] at hc
  rw [ei, ew]
  cases hcl : (histClose cfg a0 headerBytes ws).1 with
  | some e => rw [hcl] at hc; cases hc
  | none => exact close_ok_all_ok (histWrite a0) (okBytes a0) (hist_obs a0) cfg hp hb hif [] headerBytes ws hcl

theorem armored_det_close_ok (pieces : Bytes → List Bytes) (sp : Bytes → Bytes) (a0 : FArm) (headerBytes : Bytes)
    (ws : List Bytes)
    (hc : (armoredCloseD pieces sp (DSt.writes (DSt.init FArm.write pieces a0 headerBytes).2 ws).2).1 = none) :
    (DSt.init FArm.write pieces a0 headerBytes).1 = true := by
  apply (det_run_fault FArm.write (fun a => a.w.faults) farm_flt pieces sp a0 headerBytes ws).2
  unfold armoredCloseD at hc
  cases hcl : ((DSt.writes (DSt.init FArm.write pieces a0 headerBytes).2 ws).2.close FArm.write pieces sp).1 with
  | none => rfl
  | some e =>
    cases hh : (DSt.writes (DSt.init FArm.write pieces a0 headerBytes).2 ws).2.close FArm.write pieces sp with
    | mk r st' =>
      rw [hh] at hc hcl
      simp only at hcl
      subst hcl
      simp at hc

theorem armored_run_fault_io (cfg : Cfg) (a0 : FArm) (headerBytes : Bytes) (ws : List Bytes)
    (h : (armoredClose cfg (PSt.writes FArm.write cfg (PSt.init FArm.write cfg.pieces a0 headerBytes).2 ws).2).2.codec.w.w.faults
      ≠ a0.w.faults) :
    (PSt.init FArm.write cfg.pieces a0 headerBytes).1 = false ∨
    (∃ x ∈ (PSt.writes FArm.write cfg (PSt.init FArm.write cfg.pieces a0 headerBytes).2 ws).1, x.2 = some .ioError) ∨
    (armoredClose cfg (PSt.writes FArm.write cfg (PSt.init FArm.write cfg.pieces a0 headerBytes).2 ws).2).1 = some .ioError := by
  have hrun := run_fault_io FArm.write (fun a => a.w.faults) farm_flt cfg a0 headerBytes ws
  unfold armoredClose at h ⊢
  cases hc : (PSt.writes FArm.write cfg (PSt.init FArm.write cfg.pieces a0 headerBytes).2 ws).2.close FArm.write cfg with
  | mk r st' =>
    rw [hc] at h hrun
    cases r with
    | some e =>
      simp only at h hrun ⊢
      rcases hrun h with h1 | h1 | h1
      · exact Or.inl h1
      · exact Or.inr (Or.inl h1)
      · exact Or.inr (Or.inr h1)
    | none =>
      simp only at h hrun ⊢
      have hf := farm_close_faults st'.codec.w
      cases hac : st'.codec.w.close with
      | mk ok a =>
        rw [hac] at h hf
        cases ok with
        | false => exact Or.inr (Or.inr rfl)
        | true =>
          simp only at h hf
          have hsame : a.w.faults = st'.codec.w.w.faults := by simpa using hf
          rcases hrun (by rw [← hsame]; exact h) with h1 | h1 | h1
          · exact Or.inl h1
          · exact Or.inr (Or.inl h1)
          · cases h1

end Saltpack.Proofs.SenderP
