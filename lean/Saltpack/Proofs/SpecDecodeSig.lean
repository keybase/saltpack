/-
  The strict reference decoder against the reference SENDER, attached and
  detached signatures V1/V2 (header nonce of ANY length: its length is the
  parameter `nonceLen` of the check — the specification says 32, the library
  draws 16, known finding D10).
-/
import Saltpack.Proofs.SpecDecodeEnc

namespace Saltpack.Proofs.SDW
open Saltpack Saltpack.Msgpack Saltpack.SpecDecode Saltpack.Proofs
open Saltpack.Spec hiding encode

section
variable (P : Prims)

/-- verification accepts only the signature `sign` produces.  An IDEALISATION:
    true of `Toy.prims`, but real Ed25519 does NOT satisfy it for a key holder
    (who can make other verifying `(R, S)` pairs for the same message) — so with
    the real primitives only the field-level conjuncts of the soundness theorems
    apply.  Used ONLY for the `= reference sender` corollaries, never for the
    field-level theorems, which hold without it. -/
def SigCanonical (P : Prims) : Prop := ∀ s m sg, P.verify (P.sigPub s) m sg = true → sg = P.sign s m

def specAttPkt (layout : Nat) (signer hh : Bytes) (i : Nat) (c : Bytes) (f : Bool) : AttPkt :=
  ⟨if layout = 1 then false else f,
   P.sign signer (sSigAttached ++ (if layout = 1 then P.hash (hh ++ be64 i ++ c) else P.hash (hh ++ be64 i ++ sFinal f ++ c))),
   c⟩

def specAttMsg (layout : Nat) (signer nonce : Bytes) (pl : List (Bytes × Bool)) : AttMsg :=
  let m0 : AttMsg := ⟨layout, P.sigPub signer, nonce, []⟩
  { m0 with pkts := pl.zipIdx.map (fun (cf, i) => specAttPkt P layout signer (P.hash m0.headerBytes) i cf.1 cf.2) }

theorem sigFields_spec (layout : Nat) (mode : Int) (pk nonce : Bytes) :
    Msgpack.encode (.arr (sigFields layout mode pk nonce)) = sigHeaderBytes layout {} mode pk nonce := by
  unfold sigFields sigHeaderBytes commonVals versionVal
  simp

theorem specAttPkt_encode (layout : Nat) (hl : layout = 1 ∨ layout = 2) (signer hh : Bytes) (i : Nat) (c : Bytes) (f : Bool) :
    Msgpack.encode ((specAttPkt P layout signer hh i c f).toVal layout) = attPacket P layout {} signer hh i c f := by
  unfold specAttPkt AttPkt.toVal attPacket
  rcases hl with rfl | rfl <;> simp

theorem spec_attachedPlan_render (layout : Nat) (hl : layout = 1 ∨ layout = 2) (signer nonce : Bytes)
    (pl : List (Bytes × Bool)) :
    Spec.attachedPlan P layout {} signer nonce pl = (specAttMsg P layout signer nonce pl).render := by
  unfold AttMsg.render joinMsg attachedPlan
  have hh : Msgpack.encode (.arr (specAttMsg P layout signer nonce pl).fields) =
      sigHeaderBytes layout {} sModeAttached (P.sigPub signer) nonce := sigFields_spec layout _ _ _
  rw [hh]
  refine congrArg (fun t => encBin (sigHeaderBytes layout {} sModeAttached (P.sigPub signer) nonce) ++ t) ?_
  simp only [AttMsg.packets, specAttMsg, List.flatMap_map]
  apply flatMap_congr'
  intro a _
  obtain ⟨⟨c, f⟩, i⟩ := a
  simp only [AttMsg.headerBytes, AttMsg.fields]
  rw [sigFields_spec]
  exact (specAttPkt_encode P layout hl _ _ _ _ _).symm

def specDetMsg (layout : Nat) (signer nonce msg : Bytes) : DetMsg :=
  let m0 : DetMsg := ⟨layout, P.sigPub signer, nonce, []⟩
  { m0 with sig := P.sign signer (sSigDetached ++ P.hash (P.hash m0.headerBytes ++ msg)) }

theorem spec_detached_render (layout : Nat) (signer nonce msg : Bytes) :
    Spec.detached P layout {} signer nonce msg = (specDetMsg P layout signer nonce msg).render := by
  unfold DetMsg.render joinMsg Spec.detached
  have hh : Msgpack.encode (.arr (specDetMsg P layout signer nonce msg).fields) =
      sigHeaderBytes layout {} sModeDetached (P.sigPub signer) nonce := sigFields_spec layout _ _ _
  rw [hh]
  simp only [specDetMsg, DetMsg.headerBytes, DetMsg.fields, List.flatMap_cons, List.flatMap_nil, List.append_nil]
  rw [sigFields_spec, encode_bin]

/-! ### completeness of the cryptographic layer -/

theorem specAttPkt_verifies (hL : P.Lawful) (layout : Nat) (hl : layout = 1 ∨ layout = 2) (signer hh : Bytes)
    (i : Nat) (c : Bytes) (f : Bool) :
    P.verify (P.sigPub signer) (attSigInput P layout hh i (specAttPkt P layout signer hh i c f))
      (specAttPkt P layout signer hh i c f).sig = true := by
  rcases hl with rfl | rfl <;> exact hL.verify_sign _ _

theorem attPkts_spec (hL : P.Lawful) (layout : Nat) (hl : layout = 1 ∨ layout = 2) (signer hh : Bytes) :
    ∀ (pl : List (Bytes × Bool)) (k : Nat), PlanOK layout k pl →
    attPkts P layout (P.sigPub signer) hh k
      ((pl.zipIdx k).map (fun (cf, i) => specAttPkt P layout signer hh i cf.1 cf.2)) = .ok () := by
  intro pl
  induction pl with
  | nil => intro _ _; rfl
  | cons x xs ih =>
    intro k hp
    obtain ⟨c, f⟩ := x
    obtain ⟨h1, h2⟩ := (planOK_cons layout k c f xs).1 hp
    have hv : attPkt P layout (P.sigPub signer) hh k xs.isEmpty (specAttPkt P layout signer hh k c f) = .ok () := by
      rw [attPkt, if_neg (not_not_intro (specAttPkt_verifies P hL layout hl signer hh k c f)),
        show (specAttPkt P layout signer hh k c f).final = (if layout = 1 then false else f) from rfl, chunkRule_flag]
      exact h1
    simp only [List.zipIdx_cons, List.map_cons, attPkts, isEmpty_map_zipIdx]
    rw [hv]
    exact ih (k + 1) h2

theorem att_check_complete (hL : P.Lawful) (layout : Nat) (hl : layout = 1 ∨ layout = 2) (signer nonce : Bytes)
    (pl : List (Bytes × Bool)) (hpl : PlanOK layout 0 pl) (hpl0 : pl ≠ []) :
    (specAttMsg P layout signer nonce pl).check P nonce.length = .ok () ∧
      (specAttMsg P layout signer nonce pl).plaintext = (pl.map (·.1)).flatten := by
  constructor
  · unfold AttMsg.check
    have h1 : (specAttMsg P layout signer nonce pl).nonce = nonce := rfl
    have h2 : (specAttMsg P layout signer nonce pl).pkts ≠ [] := by
      obtain ⟨y, ys, rfl⟩ := List.exists_cons_of_ne_nil hpl0
      simp [specAttMsg]
    rw [h1, if_neg (by simp), if_neg h2]
    exact attPkts_spec P hL layout hl signer _ pl 0 hpl
  · unfold AttMsg.plaintext specAttMsg
    rw [List.map_map, map_zipIdx_eq_map _ (·.1) (fun _ _ => rfl)]

theorem det_check_complete (hL : P.Lawful) (layout : Nat) (signer nonce msg : Bytes) :
    (specDetMsg P layout signer nonce msg).check P nonce.length msg = .ok () := by
  unfold DetMsg.check
  have h1 : (specDetMsg P layout signer nonce msg).nonce = nonce := rfl
  rw [h1, if_neg (by simp)]
  have h2 : (specDetMsg P layout signer nonce msg).headerBytes =
      (⟨layout, P.sigPub signer, nonce, []⟩ : DetMsg).headerBytes := rfl
  have h3 : (specDetMsg P layout signer nonce msg).sig = P.sign signer (sSigDetached ++
      P.hash (P.hash (⟨layout, P.sigPub signer, nonce, []⟩ : DetMsg).headerBytes ++ msg)) := rfl
  have h4 : (specDetMsg P layout signer nonce msg).signer = P.sigPub signer := rfl
  rw [h2, h3, h4, hL.verify_sign]
  simp

/-! ### soundness of the cryptographic layer -/

def attPlanOf (pkts : List AttPkt) : List (Bytes × Bool) := pkts.map (fun p => (p.chunk, p.final))

/-- every packet carries a signature that verifies, under the header's key, on
    exactly the specified input -/
def AttSigsVerify (major : Int) (pk hh : Bytes) : Nat → List AttPkt → Prop
  | _, [] => True
  | i, p :: ps => P.verify pk (attSigInput P major hh i p) p.sig = true ∧ AttSigsVerify major pk hh (i + 1) ps

theorem attPkts_sound (layout : Nat) (pk hh : Bytes) :
    ∀ (pkts : List AttPkt) (k : Nat), attPkts P layout pk hh k pkts = .ok () →
      AttSigsVerify P layout pk hh k pkts ∧ PlanOK layout k (attPlanOf pkts) := by
  intro pkts
  induction pkts with
  | nil => intro _ _; exact ⟨trivial, trivial⟩
  | cons p ps ih =>
    intro k h
    rw [attPkts] at h
    split at h
    · cases h
    · rename_i hu
      obtain ⟨i1, i2⟩ := ih (k + 1) h
      rw [attPkt, if_error_ok] at hu
      refine ⟨⟨Decidable.not_not.1 hu.1, i1⟩, ?_⟩
      rw [attPlanOf, List.map_cons, planOK_cons, List.isEmpty_map]
      exact ⟨hu.2, i2⟩

theorem att_check_sound (m : AttMsg) (nl : Nat) (layout : Nat) (hm : m.major = layout)
    (h : m.check P nl = .ok ()) :
    m.nonce.length = nl ∧ m.pkts ≠ [] ∧
      AttSigsVerify P m.major m.signer (P.hash m.headerBytes) 0 m.pkts ∧
      PlanOK layout 0 (attPlanOf m.pkts) := by
  unfold AttMsg.check at h
  simp only [if_error_ok] at h
  obtain ⟨hn, hp, h⟩ := h
  rw [hm] at h ⊢
  obtain ⟨a, b⟩ := attPkts_sound P layout _ _ _ _ h
  exact ⟨Decidable.not_not.1 hn, hp, a, b⟩

theorem attPkts_canonical (hS : SigCanonical P) (layout : Nat) (hl : layout = 1 ∨ layout = 2) (signer hh : Bytes) :
    ∀ (pkts : List AttPkt) (k : Nat), (∀ p ∈ pkts, layout = 1 → p.final = false) →
      AttSigsVerify P layout (P.sigPub signer) hh k pkts →
      pkts = ((attPlanOf pkts).zipIdx k).map (fun (cf, i) => specAttPkt P layout signer hh i cf.1 cf.2) := by
  intro pkts
  induction pkts with
  | nil => intros; rfl
  | cons p ps ih =>
    intro k hfin hv
    obtain ⟨v1, v2⟩ := hv
    have := ih (k + 1) (fun q hq => hfin q (by simp [hq])) v2
    simp only [attPlanOf, List.map_cons, List.zipIdx_cons]
    simp only [attPlanOf] at this
    rw [← this]
    congr 1
    have hs := hS _ _ _ v1
    obtain ⟨fl, sg, ch⟩ := p
    simp only at hs
    have hf := hfin ⟨fl, sg, ch⟩ (by simp)
    simp only at hf
    -- the signature input does not read the packet's `sig`: take `sg` out of it, so that `hs` can be substituted
    have hin : attSigInput P layout hh k ⟨fl, sg, ch⟩ = attSigInput P layout hh k ⟨fl, [], ch⟩ := rfl
    rw [hin] at hs
    subst hs
    unfold specAttPkt attSigInput
    rcases hl with rfl | rfl
    · simp [hf rfl]
    · simp

theorem att_check_sound_spec (hS : SigCanonical P) (m : AttMsg) (nl : Nat) (layout : Nat)
    (hl : layout = 1 ∨ layout = 2) (hm : m.major = layout)
    (hfin : ∀ p ∈ m.pkts, m.major = 1 → p.final = false)
    (h : m.check P nl = .ok ()) (signer : Bytes) (hs : m.signer = P.sigPub signer) :
    m = specAttMsg P layout signer m.nonce (attPlanOf m.pkts) := by
  obtain ⟨_, _, a, _⟩ := att_check_sound P m nl layout hm h
  obtain ⟨major, sgn, nonce, pkts⟩ := m
  simp only at hm hs a hfin ⊢
  subst hm hs
  have := attPkts_canonical P hS layout hl signer _ pkts 0 (fun p hp h1 => hfin p hp (by rw [h1]; rfl)) a
  unfold specAttMsg
  simp only
  congr 1

theorem det_check_sound (m : DetMsg) (nl : Nat) (msg : Bytes) (h : m.check P nl msg = .ok ()) :
    m.nonce.length = nl ∧
      P.verify m.signer (sSigDetached ++ P.hash (P.hash m.headerBytes ++ msg)) m.sig = true := by
  unfold DetMsg.check at h
  simp only [if_error_ok] at h
  exact ⟨Decidable.not_not.1 h.1, Decidable.not_not.1 h.2.1⟩

theorem det_check_sound_spec (hS : SigCanonical P) (m : DetMsg) (nl : Nat) (msg : Bytes) (layout : Nat)
    (hm : m.major = layout) (h : m.check P nl msg = .ok ()) (signer : Bytes) (hs : m.signer = P.sigPub signer) :
    m = specDetMsg P layout signer m.nonce msg := by
  obtain ⟨_, hv⟩ := det_check_sound P m nl msg h
  obtain ⟨major, sgn, nonce, sg⟩ := m
  simp only at hm hs hv ⊢
  subst hm hs
  have := hS _ _ _ hv
  unfold specDetMsg
  simp only
  rw [this]
  rfl

end
end Saltpack.Proofs.SDW
