/-
  Gating (C17) at the byte level.  A: receivers on refused / absent headers.  B: what a front end
  makes of header bytes (`FrontEncHeader`, `FrontSigHeader`).  C: go-codec's typed decode of
  CANONICAL header bytes of any family (`[format name, [major, minor], mode, …]`) returns that mode
  and version, whatever else the header carries and whichever header struct it is decoded into —
  by an invariant of `structArr`.  D: a model sender's header bytes are canonical.
-/
import Saltpack.Proofs.CodecBytes
import Saltpack.Proofs.CodecBytesCanon
import Saltpack.Proofs.ModeSeparation
import Saltpack.Proofs.RoundTripSig

namespace Saltpack.Proofs
open Saltpack Saltpack.Msgpack Saltpack.Codec Saltpack.Proofs.CodecP Saltpack.Proofs.MsgpackRT

/-! ## A. refused and absent headers -/

theorem dec_validate_error (valid : Validator) (h : EncHeader) :
    (h.formatName ≠ Gen.c_sp_FormatName → Decrypt.validate valid h = .error .notASaltpackMessage) ∧
    (h.formatName = Gen.c_sp_FormatName → h.typ ≠ mtEncryption → Decrypt.validate valid h = .error .wrongMessageType) ∧
    (h.formatName = Gen.c_sp_FormatName → h.typ = mtEncryption → valid h.version = false →
      Decrypt.validate valid h = .error .badVersion) := by
  refine ⟨fun h1 => ?_, fun h1 h2 => ?_, fun h1 h2 h3 => ?_⟩ <;> simp [Decrypt.validate, *]

theorem dec_openStream_refused (P : Prims) (valid : Validator) (kr : Keyring) (hb : Bytes) (h : EncHeader)
    (ps : PStream EncBlock) (e : Err) (hv : Decrypt.validate valid h = .error e) :
    Decrypt.openStream P valid kr (.ok hb h) ps = ⟨none, [], some e, []⟩ := by
  simp [Decrypt.openStream, Decrypt.processHeader, hv]

theorem dec_openStream_no_header (P : Prims) (valid : Validator) (kr : Keyring) (hr : HeaderRead EncHeader)
    (ps : PStream EncBlock) (hno : ∀ hb h, hr ≠ .ok hb h) :
    (Decrypt.openStream P valid kr hr ps).released = [] ∧ (Decrypt.openStream P valid kr hr ps).err ≠ none ∧
    (Decrypt.openStream P valid kr hr ps).calls = [] := by
  cases hr with
  | unreadable => simp [Decrypt.openStream]
  | undecodable _ => simp [Decrypt.openStream]
  | ok hb h => exact (hno hb h rfl).elim

theorem sc_validate_error (h : EncHeader) :
    (h.formatName ≠ Gen.c_sp_FormatName → Signcrypt.validate h = .error .notASaltpackMessage) ∧
    (h.formatName = Gen.c_sp_FormatName → h.typ ≠ mtSigncryption → Signcrypt.validate h = .error .wrongMessageType) ∧
    (h.formatName = Gen.c_sp_FormatName → h.typ = mtSigncryption → h.version.major ≠ 2 →
      Signcrypt.validate h = .error .badVersion) := by
  refine ⟨fun h1 => ?_, fun h1 h2 => ?_, fun h1 h2 h3 => ?_⟩ <;> simp [Signcrypt.validate, *]

theorem sc_openStream_refused (P : Prims) (kr : Keyring) (res : Signcrypt.Resolver) (hb : Bytes) (h : EncHeader)
    (ps : PStream SigncryptBlock) (e : Err) (hv : Signcrypt.validate h = .error e) :
    Signcrypt.openStream P kr res (.ok hb h) ps = ⟨none, [], some e, []⟩ := by
  simp [Signcrypt.openStream, Signcrypt.processHeader, hv]

theorem sc_openStream_no_header (P : Prims) (kr : Keyring) (res : Signcrypt.Resolver) (hr : HeaderRead EncHeader)
    (ps : PStream SigncryptBlock) (hno : ∀ hb h, hr ≠ .ok hb h) :
    (Signcrypt.openStream P kr res hr ps).released = [] ∧ (Signcrypt.openStream P kr res hr ps).err ≠ none ∧
    (Signcrypt.openStream P kr res hr ps).calls = [] := by
  cases hr with
  | unreadable => simp [Signcrypt.openStream]
  | undecodable _ => simp [Signcrypt.openStream]
  | ok hb h => exact (hno hb h rfl).elim

theorem sig_validate_error (valid : Validator) (h : SigHeader) (typ : Int) :
    (h.formatName ≠ Gen.c_sp_FormatName → Sign.validate valid h typ = .error .notASaltpackMessage) ∧
    (h.formatName = Gen.c_sp_FormatName → valid h.version = false → Sign.validate valid h typ = .error .badVersion) ∧
    (h.formatName = Gen.c_sp_FormatName → valid h.version = true → h.typ ≠ typ →
      Sign.validate valid h typ = .error .wrongMessageType) := by
  refine ⟨fun h1 => ?_, fun h1 h2 => ?_, fun h1 h2 h3 => ?_⟩ <;> simp [Sign.validate, *]

theorem ver_verifyStream_refused (P : Prims) (valid : Validator) (kr : Keyring) (hb : Bytes) (h : SigHeader)
    (ps : PStream SigBlock) (e : Err) (hv : Sign.validate valid h mtAttached = .error e) :
    Sign.verifyStream P valid kr (.ok hb h) ps = ⟨none, [], some e⟩ := by
  simp [Sign.verifyStream, hv]

theorem ver_verifyStream_no_header (P : Prims) (valid : Validator) (kr : Keyring) (hr : HeaderRead SigHeader)
    (ps : PStream SigBlock) (hno : ∀ hb h, hr ≠ .ok hb h) :
    (Sign.verifyStream P valid kr hr ps).released = [] ∧ (Sign.verifyStream P valid kr hr ps).err ≠ none := by
  cases hr with
  | unreadable => simp [Sign.verifyStream]
  | undecodable _ => simp [Sign.verifyStream]
  | ok hb h => exact (hno hb h rfl).elim

/-- the verifier's gate for either form of acceptance (`enc_gate_released`, `sc_gate_released` take the
    disjunction themselves) -/
theorem ver_gate_any (P : Prims) (valid : Validator) (kr : Keyring) (hb : Bytes) (h : SigHeader)
    (ps : PStream SigBlock)
    (hacc : (Sign.verifyStream P valid kr (.ok hb h) ps).released ≠ [] ∨
            (Sign.verifyStream P valid kr (.ok hb h) ps).err = none) :
    h.formatName = Gen.c_sp_FormatName ∧ valid h.version = true ∧ h.typ = mtAttached := by
  rcases hacc with hr | he
  · exact ver_gate_released P valid kr hb h ps hr
  · exact ver_gate P valid kr hb h ps he

theorem det_verifyDetached_refused (P : Prims) (valid : Validator) (kr : Keyring) (hb : Bytes) (h : SigHeader)
    (sr : Sign.SigRead) (msg : Bytes) (e : Err) (hv : Sign.validate valid h mtDetached = .error e) :
    Sign.verifyDetached P valid kr (.ok hb h) sr msg = .error e := by
  simp [Sign.verifyDetached, hv]

theorem det_verifyDetached_no_header (P : Prims) (valid : Validator) (kr : Keyring) (hr : HeaderRead SigHeader)
    (sr : Sign.SigRead) (msg : Bytes) (hno : ∀ hb h, hr ≠ .ok hb h) :
    ∃ e, Sign.verifyDetached P valid kr hr sr msg = .error e := by
  cases hr with
  | unreadable => exact ⟨_, rfl⟩
  | undecodable _ => exact ⟨_, rfl⟩
  | ok hb h => exact (hno hb h rfl).elim

/-! ## B. what a front end makes of header bytes -/

/-- `h` is what a front end makes of the header bytes `hb` decoded into the
    encryption-family header struct: go-codec's typed decode (`Codec`: array form,
    map form keyed by codec names, nil, lenient field encodings), or — the fallback —
    the typed view of the generic parse (`Wire`) -/
def FrontEncHeader (hb : Bytes) (h : EncHeader) : Prop :=
  (∃ r, Codec.decEncHeader hb = .ok (h, r)) ∨ Wire.decodeHeader viewEncHeader hb = .ok (.ok hb h)

def FrontSigHeader (hb : Bytes) (h : SigHeader) : Prop :=
  (∃ r, Codec.decSigHeader hb = .ok (h, r)) ∨ Wire.decodeHeader viewSigHeader hb = .ok (.ok hb h)

theorem codec_readHeader_decoded {η : Type} (dec : Dec η) (msg hb rest : Bytes) (h : η)
    (hs : Codec.readHeader dec msg = .ok (.ok hb h, rest)) : ∃ r, dec hb = .ok (h, r) := by
  unfold Codec.readHeader at hs
  split at hs
  · cases hs
  · cases hs
  · rename_i hb0 rest0 _
    split at hs
    · cases hs
    · cases hs
    · rename_i h0 r0 hd
      cases hs
      exact ⟨r0, hd⟩

theorem codec_split_header_decoded {η β : Type} (decH : Dec η) (decB : η → Option (Dec β)) (msg hb : Bytes) (h : η)
    (ps : PStream β) (hs : Codec.split decH decB msg = .ok (.ok hb h, ps)) : ∃ r, decH hb = .ok (h, r) := by
  obtain ⟨rest, hrh, _⟩ := codec_split_ok hs
  exact codec_readHeader_decoded decH msg hb rest h hrh

theorem codec_splitDetached_header_decoded (msg hb : Bytes) (h : SigHeader) (d : Codec.DetSig)
    (hs : Codec.splitDetached msg = .ok (.ok hb h, d)) : ∃ r, Codec.decSigHeader hb = .ok (h, r) := by
  unfold Codec.splitDetached at hs
  split at hs
  · cases hs
  · rename_i hb0 h0 rest hrd
    have hd := codec_readHeader_decoded _ msg hb0 rest h0 hrd
    -- the signature object read, ended or failed to decode: the header stands; `unmodelled`: no answer
    split at hs
    · cases hs; exact hd
    · cases hs; exact hd
    · cases hs
    · cases hs; exact hd
  · rename_i hr rest hnot hrd
    cases hs
    exact (hnot hb h rfl).elim

/-- at `decEncHeader` / `viewEncHeader` the conclusion is `FrontEncHeader hb h` unfolded, at `decSigHeader` /
    `viewSigHeader` it is `FrontSigHeader hb h` -/
theorem front_header {η β : Type} {decH : Dec η} {decB : η → Option (Dec β)} {fin : η → β → Bool}
    {viewH : Val → Option η} {viewB : η → Val → Option β} {msg hb : Bytes} {h : η} {ps : PStream β}
    (hrd : Front.orWire (Front.settle decH decB fin msg (Codec.split decH decB msg))
      (fun _ => Wire.split viewH viewB msg) = .ok (.ok hb h, ps)) :
    (∃ r, decH hb = .ok (h, r)) ∨ Wire.decodeHeader viewH hb = .ok (.ok hb h) := by
  rcases front_ok hrd with ⟨ps0, hc, _, _⟩ | ⟨_, _, hw⟩
  · exact Or.inl (codec_split_header_decoded decH decB msg hb h ps0 hc)
  · exact Or.inr (split_header_decoded viewH viewB msg hb h ps hw)

theorem readDetached_header (sigMsg hb : Bytes) (h : SigHeader) (sr : Sign.SigRead)
    (hrd : Front.readDetached sigMsg = .ok (.ok hb h, sr)) : FrontSigHeader hb h := by
  rcases orWire_ok hrd with hc | ⟨_, _, hw⟩
  · obtain ⟨d, hsd, _⟩ := codecDetached_ok hc
    exact Or.inl (codec_splitDetached_header_decoded sigMsg hb h d hsd)
  · exact Or.inr (splitDetached_header_decoded sigMsg hb h sr hw)

/-! ## C. go-codec's typed decode of canonical header bytes keeps mode and version -/

theorem bind_pure_inv {α β : Type} {x : Dec α} {g : α → β} {b r : Bytes} {y : β}
    (h : (x >>= fun a => pure (g a)) b = .ok (y, r)) : ∃ a, y = g a := by
  obtain ⟨a, r0, _, h2⟩ := bind_eq_ok h
  cases h2
  exact ⟨a, rfl⟩

theorem fieldVal_inv {σ : Type} (I : σ → Prop) (f : Field σ) (hz : ∀ s, I s → I (f.zero s))
    (hd : ∀ s b s' r, I s → f.dec s b = .ok (s', r) → I s') (st : σ) (b : Bytes) (st' : σ) (r : Bytes)
    (hI : I st) (h : fieldVal f st b = .ok (st', r)) : I st' := by
  have h' : (tryNil >>= fun c => if c = true then pure (f.zero st) else f.dec st) b = .ok (st', r) := h
  obtain ⟨c, r0, _, h2⟩ := bind_eq_ok h'
  cases c
  · simp only [Bool.false_eq_true, if_false] at h2
    exact hd st r0 st' r hI h2
  · simp only [if_true] at h2
    cases h2
    exact hz st hI

theorem structArr_inv {σ : Type} (I : σ → Prop) (fuel rem : Nat) : ∀ (fs : List (Field σ)) (n : Nat) (st : σ) (b : Bytes)
    (st' : σ) (r : Bytes), (∀ f ∈ fs, ∀ s, I s → I (f.zero s)) →
    (∀ f ∈ fs, ∀ s b s' r, I s → f.dec s b = .ok (s', r) → I s') → I st →
    structArr fuel rem fs n st b = .ok (st', r) → I st'
  | fs, 0, st, b, st', r, _, _, hI, h => by
    rw [structArr_zero] at h; cases h; exact hI
  | [], n + 1, st, b, st', r, _, _, hI, h => by
    have h' : (swallowN fuel rem (n + 1) >>= fun _ => pure st) b = .ok (st', r) := h
    obtain ⟨_, r0, _, h2⟩ := bind_eq_ok h'
    cases h2; exact hI
  | f :: fs, n + 1, st, b, st', r, hz, hd, hI, h => by
    have h' : (fieldVal f st >>= fun s => structArr fuel rem fs n s) b = .ok (st', r) := h
    obtain ⟨s1, r0, h1, h2⟩ := bind_eq_ok h'
    have hI1 := fieldVal_inv I f (hz f (by simp)) (hd f (by simp)) st b s1 r0 hI h1
    exact structArr_inv I fuel rem fs n s1 r0 st' r (fun g hg => hz g (by simp [hg])) (fun g hg => hd g (by simp [hg])) hI1 h2

/-- header bytes as a spec-following sender of ANY of the four modes writes
    them: the canonical encoding of an array `[format name, [major, minor], mode, …]`
    (whatever follows) announcing mode `m` and version `ver` -/
def CanonHeaderBytes (hb : Bytes) (m : Int) (ver : Version) : Prop :=
  ∃ (fmt : Bytes) (rest : List Val),
    hb = encode (.arr (.str fmt :: ver.toVal :: .int m :: rest)) ∧
    ValWF (.arr (.str fmt :: ver.toVal :: .int m :: rest)) ∧ InInt64 m ∧ InInt64 ver.major ∧ InInt64 ver.minor

theorem canonHeaderBytes_tag {hb : Bytes} {m : Int} {ver : Version} (h : CanonHeaderBytes hb m ver) :
    headerTag hb = some (m, ver) := by
  obtain ⟨fmt, rest, rfl, hwf, _, _, _⟩ := h
  have hp := parse1_encode _ hwf []
  rw [List.append_nil] at hp
  rw [headerTag_of_parse _ _ _ hp]
  simp [headerTagVal, viewInt, viewVersion, Version.toVal]

/-- the common part of both header structs (`99`: the depth budget `topStruct` hands to `kStruct`,
    Model/Codec.lean) -/
theorem structArr_head3 {σ : Type} (I : σ → Prop) (fuel : Nat)
    (f1 f2 f3 : Field σ) (fs : List (Field σ)) (zero : σ) (fmt : Bytes) (ver : Version) (m : Int) (rest : List Val)
    (s1 s2 s3 : σ)
    (h1 : ∀ r, fieldVal f1 zero (encStr fmt ++ r) = .ok (s1, r))
    (h2 : ∀ r, fieldVal f2 s1 (encode ver.toVal ++ r) = .ok (s2, r))
    (h3 : ∀ r, fieldVal f3 s2 (encInt m ++ r) = .ok (s3, r))
    (hI : I s3) (hz : ∀ f ∈ fs, ∀ s, I s → I (f.zero s))
    (hd : ∀ f ∈ fs, ∀ s b s' r, I s → f.dec s b = .ok (s', r) → I s')
    (st' : σ) (r : Bytes)
    (h : structArr fuel 99 (f1 :: f2 :: f3 :: fs) (rest.length + 1 + 1 + 1) zero
          (encode.encodeList (.str fmt :: ver.toVal :: .int m :: rest)) = .ok (st', r)) : I st' := by
  rw [encodeList_cons, encodeList_cons, encodeList_cons] at h
  rw [show encode (.str fmt) = encStr fmt by rw [encode], show encode (.int m) = encInt m by rw [encode]] at h
  rw [structArr_cons _ _ _ _ _ _ _ _ _ (h1 _), structArr_cons _ _ _ _ _ _ _ _ _ (h2 _),
    structArr_cons _ _ _ _ _ _ _ _ _ (h3 _)] at h
  exact structArr_inv I fuel 99 fs _ s3 _ st' r hz hd hI h

theorem decEncHeader_tag (hb : Bytes) (m : Int) (ver : Version) (hc : CanonHeaderBytes hb m ver)
    (h' : EncHeader) (r : Bytes) (h : decEncHeader hb = .ok (h', r)) : h'.typ = m ∧ h'.version = ver := by
  obtain ⟨fmt, rest, rfl, hwf, hm, hma, hmi⟩ := hc
  cases hwf with
  | arr _ hlen hall =>
  have hfmt : fmt.length < 2 ^ 32 := by
    have := hall (.str fmt) (by simp); cases this; assumption
  have hl : (Val.str fmt :: ver.toVal :: Val.int m :: rest).length = rest.length + 1 + 1 + 1 := by simp
  rw [decEncHeader, encode, topStruct_arr _ _ _ hlen, hl] at h
  generalize hfu : fuelFor _ = fuel at h
  exact structArr_head3 (fun s : EncHeader => s.typ = m ∧ s.version = ver) fuel _ _ _ _ zeroEncHeader fmt ver m rest
    _ _ _
    (fun r => fieldVal_str _ _ _ (fun (s : EncHeader) (x : Bytes) => ({ s with formatName := x } : EncHeader)) _ fmt hfmt r)
    (fun r => fieldVal_vers fuel 99 _ _ _ (fun s : EncHeader => s.version)
      (fun (s : EncHeader) (v : Version) => ({ s with version := v } : EncHeader)) _ ver hma hmi r)
    (fun r => fieldVal_int _ _ _ (fun (s : EncHeader) (i : Int) => ({ s with typ := i } : EncHeader)) _ m hm.1 hm.2 r)
    ⟨rfl, rfl⟩
    (by
      intro f hfm s hs
      simp only [List.mem_cons, List.not_mem_nil, or_false] at hfm
      rcases hfm with rfl | rfl | rfl <;> exact hs)
    (by
      -- every remaining field's decoder has the form `x >>= pure ∘ g` with `g` setting another field
      intro f hfm s b s' r hs hdec
      simp only [List.mem_cons, List.not_mem_nil, or_false] at hfm
      rcases hfm with rfl | rfl | rfl <;> (obtain ⟨a, rfl⟩ := bind_pure_inv hdec; exact hs))
    h' r h

theorem decSigHeader_tag (hb : Bytes) (m : Int) (ver : Version) (hc : CanonHeaderBytes hb m ver)
    (h' : SigHeader) (r : Bytes) (h : decSigHeader hb = .ok (h', r)) : h'.typ = m ∧ h'.version = ver := by
  obtain ⟨fmt, rest, rfl, hwf, hm, hma, hmi⟩ := hc
  cases hwf with
  | arr _ hlen hall =>
  have hfmt : fmt.length < 2 ^ 32 := by
    have := hall (.str fmt) (by simp); cases this; assumption
  have hl : (Val.str fmt :: ver.toVal :: Val.int m :: rest).length = rest.length + 1 + 1 + 1 := by simp
  rw [decSigHeader, encode, topStruct_arr _ _ _ hlen, hl] at h
  generalize hfu : fuelFor _ = fuel at h
  exact structArr_head3 (fun s : SigHeader => s.typ = m ∧ s.version = ver) fuel _ _ _ _ zeroSigHeader fmt ver m rest
    _ _ _
    (fun r => fieldVal_str _ _ _ (fun (s : SigHeader) (x : Bytes) => ({ s with formatName := x } : SigHeader)) _ fmt hfmt r)
    (fun r => fieldVal_vers fuel 99 _ _ _ (fun s : SigHeader => s.version)
      (fun (s : SigHeader) (v : Version) => ({ s with version := v } : SigHeader)) _ ver hma hmi r)
    (fun r => fieldVal_int _ _ _ (fun (s : SigHeader) (i : Int) => ({ s with typ := i } : SigHeader)) _ m hm.1 hm.2 r)
    ⟨rfl, rfl⟩
    (by
      intro f hfm s hs
      simp only [List.mem_cons, List.not_mem_nil, or_false] at hfm
      rcases hfm with rfl | rfl <;> exact hs)
    (by
      intro f hfm s b s' r hs hdec
      simp only [List.mem_cons, List.not_mem_nil, or_false] at hfm
      rcases hfm with rfl | rfl <;> (obtain ⟨a, rfl⟩ := bind_pure_inv hdec; exact hs))
    h' r h

theorem frontEncHeader_tag (hb : Bytes) (m : Int) (ver : Version) (hc : CanonHeaderBytes hb m ver)
    (h' : EncHeader) (hf : FrontEncHeader hb h') : (h'.typ, h'.version) = (m, ver) := by
  rcases hf with ⟨r, hd⟩ | hw
  · obtain ⟨a, b⟩ := decEncHeader_tag hb m ver hc h' r hd
    rw [a, b]
  · have ht := (decodeHeader_enc_tag _ _ _ hw).2
    rw [canonHeaderBytes_tag hc] at ht
    exact (Option.some.inj ht).symm

theorem frontSigHeader_tag (hb : Bytes) (m : Int) (ver : Version) (hc : CanonHeaderBytes hb m ver)
    (h' : SigHeader) (hf : FrontSigHeader hb h') : (h'.typ, h'.version) = (m, ver) := by
  rcases hf with ⟨r, hd⟩ | hw
  · obtain ⟨a, b⟩ := decSigHeader_tag hb m ver hc h' r hd
    rw [a, b]
  · have ht := (decodeHeader_sig_tag _ _ _ hw).2
    rw [canonHeaderBytes_tag hc] at ht
    exact (Option.some.inj ht).symm

/-! ### canonical header bytes of a given header; the ranges of the modes and versions -/

theorem canon_of_encHeader (h : EncHeader) (hwf : ValWF h.toVal) (ht : InInt64 h.typ) (hma : InInt64 h.version.major)
    (hmi : InInt64 h.version.minor) : CanonHeaderBytes (encode h.toVal) h.typ h.version :=
  ⟨h.formatName, _, rfl, hwf, ht, hma, hmi⟩

theorem canon_of_sigHeader (h : SigHeader) (hwf : ValWF h.toVal) (ht : InInt64 h.typ) (hma : InInt64 h.version.major)
    (hmi : InInt64 h.version.minor) : CanonHeaderBytes (encode h.toVal) h.typ h.version :=
  ⟨h.formatName, _, rfl, hwf, ht, hma, hmi⟩

theorem int64_modes : InInt64 mtEncryption ∧ InInt64 mtAttached ∧ InInt64 mtDetached ∧ InInt64 mtSigncryption := by
  simp only [InInt64, mtEncryption, mtAttached, mtDetached, mtSigncryption,
    Gen.c_sp_MessageTypeEncryption, Gen.c_sp_MessageTypeAttachedSignature,
    Gen.c_sp_MessageTypeDetachedSignature, Gen.c_sp_MessageTypeSigncryption]
  decide

theorem int64_known {v : Version} (hv : v = v1 ∨ v = v2) : InInt64 v.major ∧ InInt64 v.minor := by
  rcases hv with rfl | rfl <;> (simp only [InInt64, v1, v2]; decide)

/-! ## D. a header with the labels of a model sender, encoded: canonical header bytes -/

theorem canon_of_encLabels {h : EncHeader} (hwf : ValWF h.toVal) {v : Version} {m : Int} (hv : h.version = v)
    (hk : v = v1 ∨ v = v2) (ht : h.typ = m) (hm : InInt64 m) {hb : Bytes} (hhb : hb = encode h.toVal) :
    CanonHeaderBytes hb m v := by
  subst hv ht hhb
  exact canon_of_encHeader h hwf hm (int64_known hk).1 (int64_known hk).2

theorem canon_of_sigLabels {h : SigHeader} (hwf : ValWF h.toVal) {v : Version} {m : Int} (hv : h.version = v)
    (hk : v = v1 ∨ v = v2) (ht : h.typ = m) (hm : InInt64 m) {hb : Bytes} (hhb : hb = encode h.toVal) :
    CanonHeaderBytes hb m v := by
  subst hv ht hhb
  exact canon_of_sigHeader h hwf hm (int64_known hk).1 (int64_known hk).2

end Saltpack.Proofs
