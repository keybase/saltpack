/-
  Which reads of the randomness source become which secret, as index ranges of
  the source (`segBytes`, `SecretsAt`; a range shifts with the source, so
  consecutive calls consume consecutive ranges), and that every failing
  randomness history (`RandFails`) makes `sealSecrets` fail with the source's error.
-/
import Saltpack.Proofs.Calls
import Saltpack.Proofs.RandBytes

namespace Saltpack.Proofs
open Saltpack Saltpack.Rand

/-! ## segments of the source -/

/-- the first `n` bytes delivered by reads `a, a+1, …, b-1` of the source -/
def segBytes (src : Source) (a b n : Nat) : Bytes :=
  ((((src.drop a).take (b - a)).map (·.data)).flatten).take n

theorem segBytes_shift (src : Source) (o a b n : Nat) :
    segBytes (src.drop o) a b n = segBytes src (o + a) (o + b) n := by
  unfold segBytes
  rw [List.drop_drop, Nat.add_sub_add_left]

theorem readFull_seg (n : Nat) (hn : 0 < n) (src : Source) (a : Nat) (b : Bytes) (rest : Source)
    (h : readFull n (src.drop a) = some (b, rest)) :
    ∃ c, a < c ∧ c ≤ src.length ∧ rest = src.drop c ∧ b = segBytes src a c n ∧ b.length = n := by
  obtain ⟨hl, k, hk, hr, hb⟩ := readFull_spec n (src.drop a) b rest h
  have hk0 : 0 < k := by
    cases k with
    | zero =>
      rw [hb] at hl
      simp at hl
      omega
    | succ k => exact Nat.succ_pos k
  rw [List.length_drop] at hk
  refine ⟨a + k, Nat.lt_add_of_pos_right hk0, by omega, ?_, ?_, hl⟩
  · rw [hr, List.drop_drop]
  · rw [hb]
    unfold segBytes
    rw [Nat.add_sub_cancel_left]

theorem readFull_local (n : Nat) (src : Source) (b : Bytes) (rest : Source)
    (h : readFull n src = some (b, rest)) :
    ∃ k, k ≤ src.length ∧ rest = src.drop k ∧ ∀ tail, readFull n (src.take k ++ tail) = some (b, tail) := by
  induction src generalizing n b with
  | nil =>
    cases n with
    | zero =>
      rw [Calls.readFull_zero] at h
      cases h
      exact ⟨0, Nat.le_refl _, rfl, fun tail => Calls.readFull_zero _⟩
    | succ n => simp [readFull] at h
  | cons r src ih =>
    cases n with
    | zero =>
      rw [Calls.readFull_zero] at h
      cases h
      exact ⟨0, Nat.zero_le _, rfl, fun tail => Calls.readFull_zero _⟩
    | succ n =>
      rcases readFull_cons_ok h with ⟨rfl, hg, rfl⟩ | ⟨more, hg, herr, hemp, hrec, rfl⟩
      · refine ⟨1, by simp, rfl, fun tail => ?_⟩
        rw [List.take_succ_cons, List.take_zero, List.cons_append, List.nil_append, readFull]
        exact if_pos hg
      · obtain ⟨k, hk, hr, hloc⟩ := ih _ _ hrec
        refine ⟨k + 1, by simp; omega, by simpa using hr, fun tail => ?_⟩
        rw [List.take_succ_cons, List.cons_append, readFull]
        rw [if_neg hg, herr, hemp, hloc tail]
        rfl

theorem readWords_local (c : Nat) (src : Source) (ws : List Nat) (rest : Source)
    (h : readWords c src = some (ws, rest)) :
    ∃ a, a ≤ src.length ∧ rest = src.drop a ∧ ∀ tail, readWords c (src.take a ++ tail) = some (ws, tail) := by
  induction c generalizing src ws with
  | zero =>
    rw [readWords] at h
    cases h
    exact ⟨0, Nat.zero_le _, rfl, fun tail => rfl⟩
  | succ c ih =>
    rw [readWords] at h
    split at h
    · cases h
    rename_i b src' hr
    split at h
    · cases h
    rename_i ws' rest' hw
    cases h
    obtain ⟨k, hk, hsrc', hloc⟩ := readFull_local 4 src b src' hr
    obtain ⟨a, ha, hrest, hloc'⟩ := ih _ _ hw
    subst hsrc'
    rw [List.length_drop] at ha
    refine ⟨k + a, by omega, by rw [hrest, List.drop_drop], fun tail => ?_⟩
    rw [List.take_add, List.append_assoc, readWords, hloc]
    simp only [hloc' tail]

/-! ## which reads become which secret -/

/-- how the ephemeral secret relates to reads `[a, b)` of the source -/
def EphSeg (eph : Encrypt.EphSource) (src : Source) (a b : Nat) (ephSec : Bytes) : Prop :=
  match eph with
  | .given s => ephSec = s ∧ b = a
  | .fromRand => a < b ∧ ephSec = segBytes src a b 32 ∧ ephSec.length = 32
  | .fails => False

/-- the randomness of one `Seal`-like operation started at read `o` of `src`:
    the shuffle draws are `Rand.drawsFrom` of the 32-bit words of reads `[o, a)`
    (and of nothing else), the ephemeral secret (when drawn from the source) is
    the bytes of reads `[a, b)`, the payload key the 32 bytes of reads `[b, c)` -/
def SecretsAt (n : Nat) (eph : Encrypt.EphSource) (src : Source) (o a b c : Nat)
    (js : List Nat) (ephSec pk : Bytes) : Prop :=
  o ≤ a ∧ a ≤ b ∧ b < c ∧ c ≤ src.length ∧
  (∃ cw ws, readWords cw (src.drop o) = some (ws, src.drop a) ∧
      (∀ tail, readWords cw ((src.drop o).take (a - o) ++ tail) = some (ws, tail)) ∧
      drawsFrom (n - 1) ws = some (js, []) ∧ ValidDraws (n - 1) js) ∧
  EphSeg eph src a b ephSec ∧
  pk = segBytes src b c 32 ∧ pk.length = 32

theorem EphSeg.shift {eph : Encrypt.EphSource} {src : Source} {o a b : Nat} {ephSec : Bytes}
    (h : EphSeg eph (src.drop o) a b ephSec) : EphSeg eph src (o + a) (o + b) ephSec := by
  cases eph with
  | given s => exact ⟨h.1, by rw [h.2]⟩
  | fails => exact h
  | fromRand =>
    obtain ⟨h1, h2, h3⟩ := h
    exact ⟨Nat.add_lt_add_left h1 o, by rw [h2, segBytes_shift], h3⟩

theorem SecretsAt.shift {n : Nat} {eph : Encrypt.EphSource} {src : Source} {o a b c : Nat}
    {js : List Nat} {ephSec pk : Bytes}
    (h : SecretsAt n eph (src.drop o) 0 a b c js ephSec pk) :
    SecretsAt n eph src o (o + a) (o + b) (o + c) js ephSec pk := by
  obtain ⟨_, hab, hbc, hc, ⟨cw, ws, hw, hloc, hd⟩, he, hpk, hl⟩ := h
  rw [List.length_drop] at hc
  refine ⟨Nat.le_add_right _ _, Nat.add_le_add_left hab o, Nat.add_lt_add_left hbc o, by omega,
    ⟨cw, ws, ?_, ?_, hd⟩, he.shift, ?_, hl⟩
  · rw [List.drop_zero, List.drop_drop] at hw
    exact hw
  · intro tail
    have := hloc tail
    rw [List.drop_zero, Nat.sub_zero] at this
    rw [Nat.add_sub_cancel_left]
    exact this
  · rw [hpk, segBytes_shift]

theorem secrets_of_draws (n : Nat) (eph : Encrypt.EphSource) (src : Source)
    (js : List Nat) (ephSec pk : Bytes) (rest : Source)
    (h : sealSecrets n eph src = .ok (js, ephSec, pk, rest)) :
    ∃ a b c, rest = src.drop c ∧ SecretsAt n eph src 0 a b c js ephSec pk := by
  obtain ⟨src1, src2, hsd, heph, hpk⟩ := sealSecrets_ok n eph src js ephSec pk rest h
  obtain ⟨cw, ws, hw, _, hdf⟩ := shuffleDraws_words _ _ _ _ _ hsd
  have hval := shuffleDraws_valid _ _ _ _ _ hsd
  obtain ⟨a, ha, hsrc1, hloc⟩ := readWords_local cw src ws src1 hw
  subst hsrc1
  have hdraws : ∃ cw ws, readWords cw (src.drop 0) = some (ws, src.drop a) ∧
      (∀ tail, readWords cw ((src.drop 0).take (a - 0) ++ tail) = some (ws, tail)) ∧
      drawsFrom (n - 1) ws = some (js, []) ∧ ValidDraws (n - 1) js :=
    ⟨cw, ws, by simpa using hw, by simpa using hloc, hdf, hval⟩
  cases eph with
  | given s =>
    obtain ⟨rfl, rfl⟩ := heph
    obtain ⟨c, hac, hc, hrest, hpkb, hpkl⟩ := readFull_seg 32 (by decide) src a pk rest hpk
    exact ⟨a, a, c, hrest, Nat.zero_le _, Nat.le_refl _, hac, hc, hdraws, ⟨rfl, rfl⟩, hpkb, hpkl⟩
  | fails => exact absurd heph id
  | fromRand =>
    simp only at heph
    obtain ⟨b, hab, hb, hsrc2, hephb, hephl⟩ := readFull_seg 32 (by decide) src a ephSec src2 heph
    subst hsrc2
    obtain ⟨c, hbc, hc, hrest, hpkb, hpkl⟩ := readFull_seg 32 (by decide) src b pk rest hpk
    exact ⟨a, b, c, hrest, Nat.zero_le _, Nat.le_of_lt hab, hbc, hc, hdraws, ⟨hab, hephb, hephl⟩, hpkb, hpkl⟩

theorem sealRand_segments (P : Prims) (bs : Nat) (v : Version) (sender : Option Bytes)
    (rs : List Encrypt.Recipient) (eph : Encrypt.EphSource) (src : Source) (pt m : Bytes) (rest : Source)
    (h : Encrypt.sealRand P bs v sender rs eph src pt = .ok (m, rest)) :
    ∃ a b c js ephSec pk, rest = src.drop c ∧ SecretsAt rs.length eph src 0 a b c js ephSec pk ∧
      Encrypt.sealWith P bs v sender (shuffle js rs) ephSec pk pt = .ok m := by
  obtain ⟨js, ephSec, pk, hs, hseal⟩ := enc_sealRand_ok P bs v sender rs eph src pt m rest h
  obtain ⟨a, b, c, hrest, hsec⟩ := secrets_of_draws rs.length eph src js ephSec pk rest hs
  exact ⟨a, b, c, js, ephSec, pk, hrest, hsec, hseal⟩

/-! ## fail closed -/

theorem draw_error (n : Nat) (src : Source) (fuel : Nat) (e : Err)
    (h : Encrypt.shuffleDraws.draw n src fuel = .error e) : e = .ioError := by
  induction fuel generalizing src with
  | zero =>
    rw [Encrypt.shuffleDraws.draw] at h
    cases h
    rfl
  | succ fuel ih =>
    rw [Encrypt.shuffleDraws.draw] at h
    split at h
    · cases h; rfl
    · split at h
      · cases h
      · exact ih _ h

theorem shuffleDraws_error (k : Nat) (src : Source) (fuel : Nat) (e : Err)
    (h : Encrypt.shuffleDraws k src fuel = .error e) : e = .ioError := by
  induction k generalizing src with
  | zero =>
    rw [Encrypt.shuffleDraws] at h
    cases h
  | succ k ih =>
    rw [Encrypt.shuffleDraws] at h
    split at h
    · rename_i e' hd
      cases h
      exact draw_error _ _ _ _ hd
    · split at h
      · rename_i e' hrec
        cases h
        exact ih _ hrec
      · cases h

/-- every way the randomness of a `Seal`-like operation can fail: the shuffle
    draws fail; or the ephemeral key cannot be obtained (creator fails, or its
    read fails); or the payload-key read fails -/
def RandFails (n : Nat) (eph : Encrypt.EphSource) (src : Source) : Prop :=
  (∃ e, Encrypt.shuffleDraws (n - 1) src (src.length + 1) = .error e) ∨
  (∃ js src1, Encrypt.shuffleDraws (n - 1) src (src.length + 1) = .ok (js, src1) ∧
    match eph with
    | .fails => True
    | .given _ => readFull 32 src1 = none
    | .fromRand => readFull 32 src1 = none ∨
        ∃ s src2, readFull 32 src1 = some (s, src2) ∧ readFull 32 src2 = none)

theorem sealSecrets_fails (n : Nat) (eph : Encrypt.EphSource) (src : Source) (hfail : RandFails n eph src) :
    sealSecrets n eph src = .error .ioError := by
  unfold sealSecrets
  rcases hfail with ⟨e, he⟩ | ⟨js, src1, hsd, heph⟩
  · rw [he, shuffleDraws_error _ _ _ _ he]
  · rw [hsd]
    cases eph with
    | fails => rfl
    | given s => dsimp only at heph ⊢; rw [heph]
    | fromRand =>
      dsimp only at heph ⊢
      rcases heph with h1 | ⟨s, src2, h1, h2⟩
      · rw [h1]
      · rw [h1]
        dsimp only
        rw [h2]

theorem sum_drop_le (src : Source) (a : Nat) :
    ((src.drop a).map (·.data.length)).sum ≤ (src.map (·.data.length)).sum := by
  induction src generalizing a with
  | nil => simp
  | cons r src ih =>
    cases a with
    | zero => simp
    | succ a =>
      simp only [List.drop_succ_cons, List.map_cons, List.sum_cons]
      have := ih a
      omega

theorem length_flatten_take_le (l : Source) (k : Nat) :
    ((l.take k).map (·.data)).flatten.length ≤ (l.map (·.data.length)).sum := by
  rw [List.length_flatten, List.map_map]
  induction l generalizing k with
  | nil => simp
  | cons r l ih =>
    cases k with
    | zero => simp
    | succ k =>
      simp only [List.take_succ_cons, List.map_cons, List.sum_cons, Function.comp]
      have := ih k
      omega

theorem segBytes_length_le (src : Source) (a b n : Nat) :
    (segBytes src a b n).length ≤ (src.map (·.data.length)).sum := by
  unfold segBytes
  rw [List.length_take]
  exact Nat.le_trans (Nat.min_le_right _ _)
    (Nat.le_trans (length_flatten_take_le (src.drop a) (b - a)) (sum_drop_le src a))

end Saltpack.Proofs
