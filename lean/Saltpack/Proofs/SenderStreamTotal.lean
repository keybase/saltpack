/-
  The sender streams over a NEVER-FAILING writer (`GoodWriter wr good`: an
  invariant `good` of the writer's state under which every underlying `Write`
  succeeds; for the scripted writer `Wr` the exhausted fault script, `sink = []`).
  The constructor always succeeds and only a refused packet NUMBER
  (`ErrPacketOverflow`) can make a call fail, so the whole run is described
  unconditionally: the writer holds the header packet and `planOkBytes` of the
  all-at-once plan, whatever the split.  Proof: the encoder stays healthy and the
  writer good (`HealthyGood`), so the failure alternative of `run_cases` is a
  refused packet number.
-/
import Saltpack.Proofs.SenderStreamInst

namespace Saltpack.Proofs.SenderP
open Saltpack Saltpack.Sender

/-- an underlying writer that cannot fail in the states satisfying `good` -/
structure GoodWriter {ω : Type} (wr : ω → Bytes → Bool × ω) (good : ω → Prop) : Prop where
  step : ∀ w p, good w → (wr w p).1 = true ∧ good (wr w p).2

theorem wr_good : GoodWriter Wr.write (fun w => w.sink = []) := by
  constructor
  intro w p h
  simp [Wr.write, h]

section good
variable {ω : Type} (wr : ω → Bytes → Bool × ω) (obs : ω → Bytes) (good : ω → Prop)

theorem writePieces_good (hg : GoodWriter wr good) : ∀ (ps : List Bytes) (w : ω), good w →
    (writePieces wr ps w).1 = true ∧ good (writePieces wr ps w).2 := by
  intro ps
  induction ps with
  | nil => intro w h; exact ⟨rfl, h⟩
  | cons p ps ih =>
    intro w h
    obtain ⟨h1, h2⟩ := hg.step w p h
    unfold writePieces
    cases hwr : wr w p with
    | mk ok w' =>
      rw [hwr] at h1 h2
      simp only at h1 h2
      subst h1
      exact ih w' h2

theorem encode_good (hg : GoodWriter wr good) (pieces : Bytes → List Bytes) (c : Codec ω) (b : Bytes)
    (hf : c.failed = false) (h : good c.w) :
    (Codec.encode wr pieces c b).1 = true ∧ (Codec.encode wr pieces c b).2.failed = false ∧
      good (Codec.encode wr pieces c b).2.w := by
  obtain ⟨h1, h2⟩ := writePieces_good wr good hg (pieces b) c.w h
  unfold Codec.encode
  simp only [hf, Bool.false_eq_true, if_false]
  cases hwp : writePieces wr (pieces b) c.w with
  | mk ok w' =>
    rw [hwp] at h1 h2
    simp only at h1 h2 ⊢
    subst h1
    exact ⟨rfl, rfl, h2⟩

/-- a healthy encoder over a good writer: it stays so whatever the packet
    machine does, since no `Encode` can fail -/
def HealthyGood (c : Codec ω) : Prop := c.failed = false ∧ good c.w

theorem emit_healthyGood (hg : GoodWriter wr good) (cfg : Cfg) (f : Bool) (st : PSt ω) (h : HealthyGood good st.codec) :
    HealthyGood good (emitBlock wr cfg f st).2.codec := by
  rcases emitBlock_eq wr cfg f st with ⟨e, he, _⟩ | ⟨b, _, _, _, he⟩ <;> rw [he]
  · exact h
  · exact (encode_good wr good hg cfg.pieces st.codec b h.1 h.2).2

theorem writeLoop_healthyGood (hg : GoodWriter wr good) (cfg : Cfg) (len fuel : Nat) (st : PSt ω)
    (h : HealthyGood good st.codec) : HealthyGood good (writeLoop wr cfg len fuel st).2.2.codec := by
  fun_induction writeLoop wr cfg len fuel st with
  | case1 st => exact h
  | case2 fuel st hgt e st' he =>
    have h1 := emit_healthyGood wr good hg cfg false st h
    rw [he] at h1
    split <;> exact h1
  | case3 fuel st hgt st' he ih =>
    have h1 := emit_healthyGood wr good hg cfg false st h
    rw [he] at h1
    exact ih h1
  | case4 fuel st hgt => exact h

theorem write_healthyGood (hg : GoodWriter wr good) (cfg : Cfg) (st : PSt ω) (p : Bytes) (h : HealthyGood good st.codec) :
    HealthyGood good (st.write wr cfg p).2.2.codec := by
  unfold PSt.write
  split
  · exact h
  · exact writeLoop_healthyGood wr good hg cfg p.length _ { st with buf := st.buf ++ p } h

theorem writes_healthyGood (hg : GoodWriter wr good) (cfg : Cfg) : ∀ (ps : List Bytes) (st : PSt ω),
    HealthyGood good st.codec → HealthyGood good (PSt.writes wr cfg st ps).2.codec := by
  intro ps
  induction ps with
  | nil => intro st h; exact h
  | cons p ps ih => intro st h; exact ih _ (write_healthyGood wr good hg cfg st p h)

theorem close_healthyGood (hg : GoodWriter wr good) (cfg : Cfg) (st : PSt ω) (h : HealthyGood good st.codec) :
    HealthyGood good (st.close wr cfg).2.codec := by
  have h1 := emit_healthyGood wr good hg cfg false st h
  rcases close_cases wr cfg st with ⟨_, he⟩ | ⟨_, _, ⟨e, _, he⟩ | ⟨_, _, he⟩ | ⟨_, _, he⟩⟩ <;> rw [he]
  · exact emit_healthyGood wr good hg cfg true st h
  · exact h1
  · exact h1
  · exact emit_healthyGood wr good hg cfg true _ h1

/-- `run_cases`, where the encoder cannot have failed -/
theorem run_good_full (hw : ObsWriter wr obs) (hg : GoodWriter wr good) (cfg : Cfg)
    (hp : ∀ b, (cfg.pieces b).flatten = b) (hb : 0 < cfg.bs) (hif : IndexFail cfg.pkt) (v : Version)
    (hv : cfg.v1shape = (v == v1)) (w0 : ω) (hw0 : good w0) (hbytes : Bytes) (ws : List Bytes) :
    (PSt.init wr cfg.pieces w0 hbytes).1 = true ∧
    obs ((PSt.writes wr cfg (PSt.init wr cfg.pieces w0 hbytes).2 ws).2.close wr cfg).2.codec.w =
      obs w0 ++ headerPacket hbytes ++ planOkBytes cfg.pkt (Encrypt.chunkPlan v cfg.bs ws.flatten) 0 ∧
    (∀ B, planBytes cfg.pkt (Encrypt.chunkPlan v cfg.bs ws.flatten) 0 = .ok B →
      (PSt.writes wr cfg (PSt.init wr cfg.pieces w0 hbytes).2 ws).1 = ws.map (fun p => (p.length, none)) ∧
      ((PSt.writes wr cfg (PSt.init wr cfg.pieces w0 hbytes).2 ws).2.close wr cfg).1 = none) ∧
    (((PSt.writes wr cfg (PSt.init wr cfg.pieces w0 hbytes).2 ws).2.close wr cfg).1 = none →
      ∃ B, planBytes cfg.pkt (Encrypt.chunkPlan v cfg.bs ws.flatten) 0 = .ok B) ∧
    good ((PSt.writes wr cfg (PSt.init wr cfg.pieces w0 hbytes).2 ws).2.close wr cfg).2.codec.w := by
  -- the constructor is the `Encode` of the header packet
  have hinit : (PSt.init wr cfg.pieces w0 hbytes).1 = true ∧ HealthyGood good (PSt.init wr cfg.pieces w0 hbytes).2.codec :=
    encode_good wr good hg cfg.pieces ({ w := w0 } : Codec ω) (headerPacket hbytes) rfl hw0
  obtain ⟨hi, hs0⟩ := hinit
  obtain ⟨hf, hgd⟩ := close_healthyGood wr good hg cfg _ (writes_healthyGood wr good hg cfg ws _ hs0)
  rcases run_cases wr obs hw cfg hp hb hif v hv w0 hbytes ws hi with ⟨hr, hc, B, hB, ho⟩ | ⟨hne, _, hF⟩
  · exact ⟨hi, by rw [ho, planOkBytes_of_ok cfg.pkt _ 0 B hB], fun _ _ => ⟨hr, hc⟩, fun _ => ⟨B, hB⟩, hgd⟩
  · obtain ⟨ho, hno⟩ := hF hf
    exact ⟨hi, ho, fun B hB => absurd hB (hno B), fun hc => absurd hc hne, hgd⟩

theorem det_keeps_good (hg : GoodWriter wr good)
    (pieces : Bytes → List Bytes) (sp : Bytes → Bytes) (w0 : ω) (h0 : good w0) (hb : Bytes) (ws : List Bytes) :
    good ((DSt.writes (DSt.init wr pieces w0 hb).2 ws).2.close wr pieces sp).2.codec.w := by
  have hgi : good (DSt.init wr pieces w0 hb).2.codec.w := by
    unfold DSt.init Codec.encode
    simp only [Bool.false_eq_true, if_false]
    exact (writePieces_good wr _ hg (pieces (headerPacket hb)) w0 h0).2
  rw [(det_writes ws _).1]
  unfold DSt.close Codec.encode
  simp only
  by_cases hf : (DSt.init wr pieces w0 hb).2.codec.failed = true
  · simp only [hf, if_true]; exact hgi
  · simp only [hf, Bool.false_eq_true, if_false]
    have hgw := (writePieces_good wr _ hg (pieces (sp ((DSt.init wr pieces w0 hb).2.msg ++ ws.flatten))) _ hgi).2
    cases hwp : (writePieces wr (pieces (sp ((DSt.init wr pieces w0 hb).2.msg ++ ws.flatten)))
        (DSt.init wr pieces w0 hb).2.codec.w).1 <;> exact hgw

theorem det_good (hw : ObsWriter wr obs) (hg : GoodWriter wr good) (pieces : Bytes → List Bytes)
    (hp : ∀ b, (pieces b).flatten = b) (sigPkt : Bytes → Bytes) (w0 : ω) (hw0 : good w0) (hbytes : Bytes)
    (ws : List Bytes) :
    (DSt.init wr pieces w0 hbytes).1 = true ∧
    (DSt.writes (DSt.init wr pieces w0 hbytes).2 ws).1 = ws.map (fun p => (p.length, none)) ∧
    (((DSt.writes (DSt.init wr pieces w0 hbytes).2 ws).2).close wr pieces sigPkt).1 = none ∧
    obs (((DSt.writes (DSt.init wr pieces w0 hbytes).2 ws).2).close wr pieces sigPkt).2.codec.w =
      obs w0 ++ headerPacket hbytes ++ sigPkt ws.flatten := by
  obtain ⟨hi, h2, h3⟩ := encode_good wr good hg pieces ({ w := w0 } : Codec ω) (headerPacket hbytes) rfl hw0
  have hc : (((DSt.writes (DSt.init wr pieces w0 hbytes).2 ws).2).close wr pieces sigPkt).1 = none := by
    obtain ⟨g1, _, _⟩ := encode_good wr good hg pieces (DSt.init wr pieces w0 hbytes).2.codec
      (sigPkt ([] ++ ws.flatten)) h2 h3
    rw [(det_writes ws _).1]
    unfold DSt.close
    split
    · rfl
    · next heq => exact absurd (g1.symm.trans (congrArg Prod.fst heq)) nofun
  exact ⟨hi, (det_writes ws _).2, hc, (det_run wr obs hw pieces hp sigPkt w0 hbytes ws).2 hi hc⟩

end good

end Saltpack.Proofs.SenderP
