/-
  Proofs about `VerifyDetachedReader` (Model/SignReader.lean): the reader form
  equals the bytes form on what the reader delivers, for every fragmentation.
-/
import Saltpack.Model.SignReader

namespace Saltpack.Proofs
open Saltpack Saltpack.Stream Saltpack.Sign

/-- a reader that delivers `frags` one per call and then reports EOF — alone
    (`last = none`) or together with a last fragment (`last = some d`) -/
def fragSource (frags : List Bytes) (last : Option Bytes) : Source :=
  frags.map (·, none) ++ (match last with | none => [] | some d => [(d, some .eof)])

theorem copyAll_frag (frags : List Bytes) (last : Option Bytes) :
    copyAll (fragSource frags last) = (frags.flatten ++ (last.getD []), none) := by
  induction frags with
  | nil => cases last <;> simp [fragSource, copyAll]
  | cons f fs ih =>
    have : fragSource (f :: fs) last = (f, none) :: fragSource fs last := by simp [fragSource]
    rw [this, copyAll, ih]; simp

theorem copyAll_fault (frags : List Bytes) (d : Bytes) (z : Err) (rest : Source) :
    (copyAll (frags.map (·, none) ++ (d, some (.err z)) :: rest)).2 = some z := by
  induction frags with
  | nil => simp [copyAll]
  | cons f fs ih => simp only [List.map_cons, List.cons_append, copyAll]; exact ih

theorem verifyDetachedReader_eq (P : Prims) (valid : Validator) (kr : Keyring)
    (hr : HeaderRead SigHeader) (sr : SigRead) (src : Source) (msg : Bytes)
    (h : copyAll src = (msg, none)) :
    verifyDetachedReader P valid kr hr sr src = verifyDetached P valid kr hr sr msg := by
  unfold verifyDetachedReader verifyDetached
  cases hr with
  | unreadable => rfl
  | undecodable _ => rfl
  | ok hb hd =>
    simp only
    cases validate valid hd mtDetached with
    | error e => rfl
    | ok u =>
      simp only
      cases sr with
      | none e => rfl
      | sig sg =>
        simp only
        cases kr.lookupSigningPublicKey hd.senderPublic with
        | none => rfl
        | some pk => simp only [h]

theorem verifyDetachedReader_fault (P : Prims) (valid : Validator) (kr : Keyring)
    (hr : HeaderRead SigHeader) (sr : SigRead) (src : Source) (z : Err)
    (h : (copyAll src).2 = some z) :
    ∃ e, verifyDetachedReader P valid kr hr sr src = .error e := by
  unfold verifyDetachedReader
  cases hr with
  | unreadable => exact ⟨_, rfl⟩
  | undecodable _ => exact ⟨_, rfl⟩
  | ok hb hd =>
    simp only
    cases validate valid hd mtDetached with
    | error e => exact ⟨_, rfl⟩
    | ok u =>
      simp only
      cases sr with
      | none e => exact ⟨_, rfl⟩
      | sig sg =>
        simp only
        cases kr.lookupSigningPublicKey hd.senderPublic with
        | none => exact ⟨_, rfl⟩
        | some pk =>
          simp only
          rcases hc : copyAll src with ⟨m, e⟩
          rw [hc] at h
          simp only at h
          subst h
          exact ⟨_, rfl⟩

end Saltpack.Proofs
