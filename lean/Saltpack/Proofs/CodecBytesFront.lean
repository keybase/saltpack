/-
  TRANSFER of the `Wire`-based byte theorems to the Codec-first front end.  The round trips say
  "what a model sender emits, split by `Wire.split*`, opens"; `Front.read*` asks `Codec.split*`
  first.  On every genuine sender output the bridge (`bridge_seal_*`) shows both readers give the
  SAME header read and packet stream, so what `Wire.split*` answers there is what `Front.read*`
  answers.  The size hypotheses (`145 + rs.length * (L + 63)`, `bs + 16`, `bs + 80`, `32 ≤ L`,
  `nonce.length + 92`) are those of `enc_header_small`, `sc_header_small`, `sig_header_facts` in
  Proofs/WireRT.lean, where the constants come from.
-/
import Saltpack.Proofs.CodecBytesBridge
import Saltpack.Proofs.CodecBytes

namespace Saltpack.Proofs
open Saltpack Saltpack.Msgpack Saltpack.Proofs.WireRT Saltpack.Proofs.CodecP

theorem front_of_wire_sealed_enc (P : Prims) (hP : P.Lawful) (bs : Nat) (hbs : 0 < bs) (hbs32 : bs + 16 < 2 ^ 32)
    (v : Version) (hv : v = v1 ∨ v = v2) (sender : Option Bytes) (rs : List Encrypt.Recipient)
    (eph payloadKey pt : Bytes) (hpk : payloadKey.length = 32)
    (L : Nat) (hL : ∀ r ∈ rs, r.pub.length ≤ L) (hsmall : 145 + rs.length * (L + 63) < 2 ^ 32)
    (msg : Bytes) (hmsg : Encrypt.sealWith P bs v sender rs eph payloadKey pt = .ok msg)
    (x : HeaderRead EncHeader × PStream EncBlock) (hw : Wire.splitEnc msg = .ok x) :
    Codec.splitEnc msg = .ok x ∧ Front.readEnc msg = .ok x := by
  obtain ⟨h, hb, blks, body, hs, he, e⟩ := seal_bytes_are_packets_enc P bs v sender rs eph payloadKey pt msg hmsg
  rw [e] at hw ⊢
  have hS := WireSizes.of_lawful hP
  obtain ⟨_, hhdr, _, _, _⟩ := sealPackets_inv P bs v sender rs eph payloadKey pt h hb blks hs
  have hhbe := sealPackets_hb P bs v sender rs eph payloadKey pt h hb blks hs
  have hhb : hb.length < 2 ^ 32 := by
    rw [hhbe]
    exact enc_header_small P hS hv sender eph payloadKey hpk rs h hhdr L hL hsmall
  have hL' : ∀ r ∈ rs, r.pub.length < 2 ^ 32 := by
    intro r hr
    have := hL r hr
    have : 0 < rs.length := List.length_pos_iff.mpr (List.ne_nil_of_mem hr)
    have : 1 * (L + 63) ≤ rs.length * (L + 63) := Nat.mul_le_mul_right _ this
    omega
  obtain ⟨b1, b2⟩ := bridge_seal_enc P hS bs hbs hbs32 v sender rs eph payloadKey pt (by omega) hL' h hb blks body hs he hhb
  rw [b1] at hw
  injection hw with hw
  subst hw
  exact ⟨b2, front_of_codec_eof b2⟩

theorem front_of_wire_sealed_signcrypt (P : Prims) (hP : P.Lawful) (bs : Nat) (hbs : 0 < bs) (hbs32 : bs + 80 < 2 ^ 32)
    (sender : Option Bytes) (rs : List Signcrypt.Recipient) (eph payloadKey pt : Bytes)
    (hpk : payloadKey.length = 32) (L : Nat) (hL32 : 32 ≤ L)
    (hid : ∀ key ident, Signcrypt.Recipient.sym key ident ∈ rs → ident.length ≤ L)
    (hsmall : 145 + rs.length * (L + 63) < 2 ^ 32)
    (msg : Bytes) (hmsg : Signcrypt.sealWith P bs sender rs eph payloadKey pt = .ok msg)
    (x : HeaderRead EncHeader × PStream SigncryptBlock) (hw : Wire.splitSigncrypt msg = .ok x) :
    Codec.splitSigncrypt msg = .ok x ∧ Front.readSigncrypt msg = .ok x := by
  obtain ⟨h, hb, blks, hs, e⟩ := seal_bytes_are_packets_signcrypt P bs sender rs eph payloadKey pt msg hmsg
  rw [e] at hw ⊢
  have hS := WireSizes.of_lawful hP
  obtain ⟨hh, hhbe, _⟩ := RTSig.sc_sealPackets_inv P bs sender rs eph payloadKey pt h hb blks hs
  have hhb : hb.length < 2 ^ 32 := by
    rw [hhbe, hh]
    exact sc_header_small P hS sender eph payloadKey hpk rs L hL32 hid hsmall
  have hid' : ∀ key ident, Signcrypt.Recipient.sym key ident ∈ rs → ident.length < 2 ^ 32 := by
    intro key ident hm
    have := hid key ident hm
    have : 0 < rs.length := List.length_pos_iff.mpr (List.ne_nil_of_mem hm)
    have : 1 * (L + 63) ≤ rs.length * (L + 63) := Nat.mul_le_mul_right _ this
    omega
  obtain ⟨b1, b2⟩ := bridge_seal_signcrypt P hS bs hbs hbs32 sender rs eph payloadKey pt (by omega) hid' h hb blks hs hhb
  rw [b1] at hw
  injection hw with hw
  subst hw
  exact ⟨b2, front_of_codec_eof b2⟩

theorem front_of_wire_sealed_sig (P : Prims) (hP : P.Lawful) (bs : Nat) (hbs : 0 < bs) (hbs32 : bs < 2 ^ 32)
    (v : Version) (signer nonce msg : Bytes) (hn : nonce.length + 92 < 2 ^ 32)
    (out : Bytes) (hout : Sign.attachedWith P bs v signer nonce msg = .ok out)
    (x : HeaderRead SigHeader × PStream SigBlock) (hw : Wire.splitSig out = .ok x) :
    Codec.splitSig out = .ok x ∧ Front.readSig out = .ok x := by
  obtain ⟨h, hb, blks, body, hs, he, e⟩ := seal_bytes_are_packets_sig P bs v signer nonce msg out hout
  rw [e] at hw ⊢
  have hS := WireSizes.of_lawful hP
  obtain ⟨b1, b2⟩ := bridge_seal_sig P hS bs hbs hbs32 v signer nonce msg hn h hb blks body hs he
  rw [b1] at hw
  injection hw with hw
  subst hw
  exact ⟨b2, front_of_codec_eof b2⟩

theorem front_of_wire_sealed_detached (P : Prims) (hP : P.Lawful) (v : Version) (signer nonce msg out : Bytes)
    (hn : nonce.length + 92 < 2 ^ 32) (hout : Sign.detachedWith P v signer nonce msg = .ok out)
    (x : HeaderRead SigHeader × Sign.SigRead) (hw : Wire.splitDetached out = .ok x) :
    Front.readDetached out = .ok x := by
  obtain ⟨hb, h, sg, b1, b2⟩ := bridge_seal_detached P (WireSizes.of_lawful hP) v signer nonce msg out hn hout
  rw [b1] at hw
  injection hw with hw
  subst hw
  exact orWire_of_codec (codecDetached_of_ok b2)

end Saltpack.Proofs
