/-
  Write-split independence of `armorEncoderStream` (Model/ArmorWriter.lean, over
  an underlying writer that never fails): whatever way the payload is split over
  `Write` calls, `Close` leaves exactly `Armor.sealText` in the output.  The
  invariant `ArmInv`: the spacer is a bufferer, with block size `bytesPerWord`,
  of everything the BaseX encoder has produced.  (Faults of the underlying
  writer are the business of property C14, not of this file.)
-/
import Saltpack.Proofs.StreamLemmas
import Saltpack.Model.ArmorWriter
import Saltpack.Proofs.Params62

namespace Saltpack.Proofs
open Saltpack Saltpack.Stream

/-! ## the spacer is a bufferer with block size `bytesPerWord` -/

/-- the separator written after the `n`-th word -/
def sepOf (par : Armor.Params) (n : Nat) : UInt8 :=
  if n % par.wordsPerLine = 0 then Armor.newline else Armor.space

/-- what `spaceAndOutputBuffer` writes for the words `W` when `k` words have
    been written before: every word followed by its separator -/
def spacedWords (par : Armor.Params) : Nat → List Bytes → Bytes
  | _, [] => []
  | k, w :: ws => w ++ [sepOf par (k + 1)] ++ spacedWords par (k + 1) ws

theorem spacedWords_append (par : Armor.Params) : ∀ (W : List Bytes) (k : Nat) (w : Bytes),
    spacedWords par k (W ++ [w]) = spacedWords par k W ++ w ++ [sepOf par (k + W.length + 1)] := by
  intro W
  induction W with
  | nil => intro k w; simp [spacedWords]
  | cons x W ih =>
    intro k w
    have hk : k + 1 + W.length + 1 = k + (W.length + 1) + 1 := by omega
    simp only [List.cons_append, spacedWords, ih, List.length_cons, List.append_assoc, hk]

theorem spaceWords_cons2 (par : Armor.Params) (k : Nat) (x y : Bytes) (rest : List Bytes) :
    Armor.spaceWords par k (x :: y :: rest) =
      x ++ [sepOf par (k + 1)] ++ Armor.spaceWords par (k + 1) (y :: rest) := rfl

theorem spaceWords_snoc (par : Armor.Params) : ∀ (W : List Bytes) (k : Nat) (b : Bytes),
    Armor.spaceWords par k (W ++ [b]) = spacedWords par k W ++ b := by
  intro W
  induction W with
  | nil => intro k b; simp [Armor.spaceWords, spacedWords]
  | cons x W ih =>
    intro k b
    obtain ⟨y, rest, hy⟩ : ∃ y rest, W ++ [b] = y :: rest := by
      cases W with
      | nil => exact ⟨b, [], rfl⟩
      | cons y W' => exact ⟨y, W' ++ [b], rfl⟩
    rw [List.cons_append, hy, spaceWords_cons2, ← hy, ih]
    simp only [spacedWords, List.append_assoc]

/-- what `Armor.sealText` computes about the last word, when the spacer holds
    `buf` after the words `W` (`buf` empty only if nothing was produced at all) -/
theorem spaced_last (par : Armor.Params) (W : List Bytes) (buf : Bytes) (hne : buf = [] → W = []) :
    Armor.spaceWords par 0 (W ++ if buf = [] then [] else [buf]) = spacedWords par 0 W ++ buf ∧
    (W ++ if buf = [] then [] else [buf]).getLast?.getD [] = buf ∧
    (if (W ++ if buf = [] then [] else [buf]).isEmpty then 1 else (W ++ if buf = [] then [] else [buf]).length)
      = W.length + 1 := by
  by_cases h0 : buf = []
  · rw [if_pos h0, hne h0, h0]
    exact ⟨rfl, rfl, rfl⟩
  · rw [if_neg h0, spaceWords_snoc]
    simp

/-- `spaceAndOutputBuffer` is `Chunker.drain` with block size `bytesPerWord`
    on the buffer; the word count is the number of emitted blocks and the
    output grows by `spacedWords` of the emitted blocks -/
theorem spaceOut_sim (fuel : Nat) (s : ArmState) (c : Chunker)
    (hbs : c.bs = s.par.bytesPerWord) (hb : c.buf = s.buf) :
    (s.spaceOut fuel).par = s.par ∧ (s.spaceOut fuel).enc = s.enc ∧ (s.spaceOut fuel).ftr = s.ftr ∧
    (s.spaceOut fuel).buf = (Chunker.drain fuel c).buf ∧
    ∀ base : Bytes, s.nWords = c.emitted.length → s.out = base ++ spacedWords s.par 0 c.emitted →
      (s.spaceOut fuel).nWords = (Chunker.drain fuel c).emitted.length ∧
      (s.spaceOut fuel).out = base ++ spacedWords s.par 0 (Chunker.drain fuel c).emitted := by
  fun_induction ArmState.spaceOut fuel s generalizing c with
  | case1 s => exact ⟨rfl, rfl, rfl, hb.symm, fun base hn ho => ⟨hn, ho⟩⟩
  | case2 fuel s hgt word n sep ih =>
    unfold Chunker.drain
    rw [if_pos (by rw [hbs, hb]; exact hgt)]
    obtain ⟨i1, i2, i3, i4, i5⟩ := ih { c with buf := c.buf.drop c.bs, emitted := c.emitted ++ [c.buf.take c.bs] }
      hbs (by rw [hb, hbs])
    refine ⟨i1, i2, i3, i4, fun base hn ho => i5 base (by simp [n, hn]) ?_⟩
    show s.out ++ word ++ [sep] = base ++ spacedWords s.par 0 (c.emitted ++ [c.buf.take c.bs])
    rw [spacedWords_append, ho, hb, hbs, Nat.zero_add, ← hn, ← List.append_assoc, ← List.append_assoc]
    rfl
  | case3 fuel s hgt =>
    unfold Chunker.drain
    rw [if_neg (by rw [hbs, hb]; exact hgt)]
    exact ⟨rfl, rfl, rfl, hb.symm, fun base hn ho => ⟨hn, ho⟩⟩

theorem armorWriter_bounded (s : ArmState) (hw : 0 < s.par.bytesPerWord) (b : Bytes) :
    (s.write b).buf.length ≤ s.par.bytesPerWord := by
  unfold ArmState.write
  simp only []
  have hp : (s.feed (s.enc.write b).2.2).par = s.par := rfl
  generalize s.feed (s.enc.write b).2.2 = s1 at hp
  rw [← hp] at hw ⊢
  obtain ⟨_, _, _, h4, _⟩ := spaceOut_sim (s1.buf.length + 1) s1
    { bs := s1.par.bytesPerWord, buf := s1.buf } rfl rfl
  rw [h4]
  exact (drain_spec s1.par.bytesPerWord hw _ { bs := s1.par.bytesPerWord, buf := s1.buf } rfl (by simp)).1

/-! ## the invariant -/

/-- invariant of the armor writer: the spacer is a bufferer (block size
    `bytesPerWord`) of everything the encoder has produced so far -/
structure ArmInv (par : Armor.Params) (base ftr : Bytes) (s : ArmState) : Prop where
  hpar : s.par = par
  hftr : s.ftr = ftr
  ex : ∃ c : Chunker, ChInv par.bytesPerWord s.enc.written.flatten c ∧ c.buf = s.buf ∧
      s.nWords = c.emitted.length ∧ s.out = base ++ spacedWords par 0 c.emitted

theorem armInv_init (par : Armor.Params) (hdr ftr : Bytes) :
    ArmInv par (hdr ++ [Armor.period, Armor.space]) ftr (ArmState.init par hdr ftr) :=
  ⟨rfl, rfl, { bs := par.bytesPerWord }, ⟨rfl, rfl, by simp, by simp, fun _ => rfl⟩, rfl, rfl,
    by simp [ArmState.init, spacedWords]⟩

theorem armInv_step (par : Armor.Params) (hw : 0 < par.bytesPerWord) (base ftr : Bytes) (s : ArmState)
    (h : ArmInv par base ftr s) (e' : EncState) (D : Bytes)
    (hD : e'.written.flatten = s.enc.written.flatten ++ D) :
    ArmInv par base ftr (ArmState.spaceOut ((s.feed e').buf.length + 1) (s.feed e')) ∧
    (ArmState.spaceOut ((s.feed e').buf.length + 1) (s.feed e')).enc = e' := by
  obtain ⟨hpar, hftr, c, hc, hcb, hn, ho⟩ := h
  have hbuf : (s.feed e').buf = s.buf ++ D := by
    show s.buf ++ e'.written.flatten.drop s.enc.written.flatten.length = _
    rw [hD, List.drop_left' rfl]
  have hpar1 : (s.feed e').par = par := hpar
  obtain ⟨i1, i2, i3, i4, i5⟩ := spaceOut_sim ((s.feed e').buf.length + 1) (s.feed e')
    { c with buf := c.buf ++ D } (by rw [hpar1]; exact hc.hbs) (by rw [hbuf, hcb])
  have hfuel : (s.feed e').buf.length + 1 = c.buf.length + D.length + 1 := by
    rw [hbuf, List.length_append, hcb]
  have hcw : Chunker.drain ((s.feed e').buf.length + 1) { c with buf := c.buf ++ D } = c.write D := by
    rw [hfuel]; rfl
  rw [hcw, hpar1] at i5
  rw [hcw] at i4
  obtain ⟨j1, j2⟩ := i5 base hn ho
  have hinv := chInv_write par.bytesPerWord hw _ c hc D
  rw [← hD] at hinv
  refine ⟨⟨i1.trans hpar1, i3.trans hftr, c.write D, ?_, i4.symm, j1, j2⟩, i2⟩
  rw [i2]
  exact hinv

/-! ## the encoder only appends -/

/-- two invariant states, the second for a longer input: `A`, `A'` are the parts
    already encoded, both multiples of `blockLen`, and both buffers are shorter
    than a block; so `A.length ≤ A'.length`, `A` is a prefix of `A'`, and the
    encoding of `A'` is that of `A` followed by the encoding of the rest
    (`encode_append_of_dvd`) -/
theorem encInv_grow (enc : Basex.Enc) (he : enc.WF) (T p : Bytes) (e e' : EncState)
    (h : EncInv enc T e) (h' : EncInv enc (T ++ p) e') :
    ∃ D, e'.written.flatten = e.written.flatten ++ D := by
  obtain ⟨_, _, _, hbd, A, ⟨a, ha⟩, hA2, hA3⟩ := h
  obtain ⟨_, _, _, hbd', A', ⟨a', ha'⟩, hA2', hA3'⟩ := h'
  have heq : A ++ (e.buf ++ p) = A' ++ e'.buf := by
    rw [← hA2', hA2, List.append_assoc]
  have hlen : A.length + (e.buf.length + p.length) = A'.length + e'.buf.length := by
    have := congrArg List.length heq
    simpa [List.length_append] using this
  have hle : A.length ≤ A'.length := by
    by_cases hlt : a ≤ a'
    · rw [ha, ha']; exact Nat.mul_le_mul_left _ hlt
    · exfalso
      have h1 : enc.blockLen * (a' + 1) ≤ enc.blockLen * a := Nat.mul_le_mul_left _ (by omega)
      rw [Nat.mul_succ] at h1
      omega
  have htake : A'.take A.length = A := by
    have h1 := congrArg (List.take A.length) heq
    rw [List.take_left' rfl, List.take_append_of_le_length hle] at h1
    exact h1.symm
  have hAA : A' = A ++ A'.drop A.length := by
    conv => lhs; rw [← List.take_append_drop A.length A', htake]
  refine ⟨Basex.encode enc (A'.drop A.length), ?_⟩
  rw [hA3', hA3, ← encode_append_of_dvd enc he A _ ⟨a, ha⟩, ← hAA]

/-- over a writer that never fails `Close` succeeds and only appends; so
    `encInvS_close` applies -/
theorem encInv_close (enc : Basex.Enc) (he : enc.WF) (T : Bytes) (e : EncState) (h : EncInv enc T e) :
    e.close.2.written.flatten = Basex.encode enc T ∧
    ∃ D, e.close.2.written.flatten = e.written.flatten ++ D := by
  have hc : e.close.1 = true ∧ ∃ D, e.close.2.written.flatten = e.written.flatten ++ D := by
    unfold EncState.close
    by_cases hb : !e.failed ∧ !e.buf.isEmpty
    · rw [if_pos hb, under_nofail _ _ h.sink]
      exact ⟨rfl, Basex.encode e.enc e.buf, by simp⟩
    · rw [if_neg hb, h.nf]
      exact ⟨rfl, [], (List.append_nil _).symm⟩
  exact ⟨encInvS_close enc he T e h.toS hc.1, hc.2⟩

/-! ## write-split independence -/

theorem armInv_write (par : Armor.Params) (he : par.enc.WF) (hw : 0 < par.bytesPerWord) (base ftr T : Bytes)
    (s : ArmState) (h : ArmInv par base ftr s) (hE : EncInv par.enc T s.enc) (b : Bytes) :
    ArmInv par base ftr (s.write b) ∧ EncInv par.enc (T ++ b) (s.write b).enc := by
  have hE' := (encInv_write par.enc he T s.enc hE b).2
  obtain ⟨D, hD⟩ := encInv_grow par.enc he T b s.enc _ hE hE'
  obtain ⟨h1, h2⟩ := armInv_step par hw base ftr s h _ D hD
  refine ⟨h1, ?_⟩
  show EncInv par.enc (T ++ b) (ArmState.spaceOut _ (s.feed (s.enc.write b).2.2)).enc
  rw [h2]
  exact hE'

theorem armInv_fold (par : Armor.Params) (he : par.enc.WF) (hw : 0 < par.bytesPerWord) (base ftr : Bytes)
    (ws : List Bytes) : ∀ (T : Bytes) (s : ArmState), ArmInv par base ftr s → EncInv par.enc T s.enc →
    ArmInv par base ftr (ws.foldl ArmState.write s) ∧
    EncInv par.enc (T ++ ws.flatten) (ws.foldl ArmState.write s).enc :=
  fun T s h hE => foldl_write_inv ArmState.write (fun T s => ArmInv par base ftr s ∧ EncInv par.enc T s.enc)
    (fun T s p h => armInv_write par he hw base ftr T s h.1 h.2 p) ws T s ⟨h, hE⟩

theorem armInv_close (par : Armor.Params) (he : par.enc.WF) (hw : 0 < par.bytesPerWord) (hdr ftr T : Bytes)
    (s : ArmState) (h : ArmInv par (hdr ++ [Armor.period, Armor.space]) ftr s) (hE : EncInv par.enc T s.enc) :
    s.close.out = Armor.sealText par hdr ftr T := by
  obtain ⟨hcl, D, hD⟩ := encInv_close par.enc he T s.enc hE
  obtain ⟨⟨hpar, hftr, c, hc, hcb, hn, ho⟩, h2⟩ := armInv_step par hw _ ftr s h _ D hD
  unfold ArmState.close
  simp only []
  generalize ArmState.spaceOut ((s.feed s.enc.close.2).buf.length + 1) (s.feed s.enc.close.2) = s2
    at hpar hftr hc hcb hn ho h2
  rw [h2, hcl] at hc
  have hch := chInv_chunks par.bytesPerWord hw _ c hc
  obtain ⟨e1, e2, e3⟩ := spaced_last par c.emitted c.buf hc.ne
  unfold Armor.sealText
  simp only []
  rw [hch, hpar, hftr, ho, hn, ← hcb, e1, e2, e3]
  simp only [List.append_assoc]

/-- **Write-split independence** of `armorEncoderStream`: whatever way the
    payload is split over `Write` calls (empty writes included), after `Close`
    the output is exactly the whole-text form `Armor.sealText` of the
    concatenation.  (`wordsPerLine = 0` needs no hypothesis: `n % 0 = n` on both
    sides; the Go code would panic there.) -/
theorem armorWriter_any_split (par : Armor.Params) (he : par.enc.WF) (hw : 0 < par.bytesPerWord)
    (hdr ftr : Bytes) (ws : List Bytes) :
    ((ws.foldl ArmState.write (ArmState.init par hdr ftr)).close).out =
      Armor.sealText par hdr ftr ws.flatten := by
  obtain ⟨h1, h2⟩ := armInv_fold par he hw _ ftr ws [] (ArmState.init par hdr ftr)
    (armInv_init par hdr ftr)
    ⟨rfl, rfl, rfl, he.block_pos, [], by simp, rfl, by simp [ArmState.init, encode_nil]⟩
  rw [List.nil_append] at h2
  exact armInv_close par he hw hdr ftr _ _ h1 h2

/-- the shipped parameters (`Armor62Params`: 15 characters per word, 200 words
    per line, base62) -/
theorem armorWriter62_any_split (typ : Int) (brand : Bytes) (ws : List Bytes) :
    ((ws.foldl ArmState.write
        (ArmState.init Armor.params62 (Armor.header typ brand) (Armor.footer typ brand))).close).out =
      Armor.seal62 typ brand ws.flatten :=
  armorWriter_any_split Armor.params62 Proofs.params62_wf (by decide) _ _ ws

/-- the parameters never change along a run, so `armorWriter_bounded` applies after every `Write` -/
theorem armorWriter_run_bounded (par : Armor.Params) (hw : 0 < par.bytesPerWord) (hdr ftr : Bytes)
    (ws : List Bytes) (b : Bytes) :
    ((ws.foldl ArmState.write (ArmState.init par hdr ftr)).write b).buf.length ≤ par.bytesPerWord := by
  have hp : ∀ (ws : List Bytes) (s : ArmState), (ws.foldl ArmState.write s).par = s.par := by
    intro ws
    induction ws with
    | nil => intro s; rfl
    | cons w ws ih =>
      intro s
      rw [List.foldl_cons, ih]
      exact (spaceOut_sim _ (s.feed (s.enc.write w).2.2) { bs := s.par.bytesPerWord, buf := (s.feed (s.enc.write w).2.2).buf } rfl rfl).1
  have := armorWriter_bounded (ws.foldl ArmState.write (ArmState.init par hdr ftr)) (by rw [hp]; exact hw) b
  rw [hp] at this
  exact this

/-! ## examples (kernel-evaluated): the machine against `sealText` -/

/-- a toy parameter set: words of 2 characters, lines of 2 words -/
def toyArm : Armor.Params := ⟨2, 2, Gen.base62Std⟩

example : ((([] : List Bytes).foldl ArmState.write (ArmState.init toyArm [72] [70])).close).out
    = Armor.sealText toyArm [72] [70] [] := by decide +kernel
example : (([[1], [], [2, 3]].foldl ArmState.write (ArmState.init toyArm [72] [70])).close).out
    = Armor.sealText toyArm [72] [70] [1, 2, 3] := by decide +kernel
example : (([[1, 2, 3]].foldl ArmState.write (ArmState.init toyArm [72] [70])).close).out
    = [72, 46, 32, 48, 48, 32, 72, 66, 10, 76, 46, 32, 70, 46, 10] := by decide +kernel   -- "H. 00 HB\nL. F.\n"
/-- a full last word gets the pad -/
example : (([[], [255]].foldl ArmState.write (ArmState.init toyArm [72] [70])).close).out
    = Armor.sealText toyArm [72] [70] [255] := by decide +kernel
/-- `wordsPerLine = 0` (Go would panic): both sides use spaces only -/
example : (([[1, 2], [3]].foldl ArmState.write (ArmState.init ⟨2, 0, Gen.base62Std⟩ [72] [70])).close).out
    = Armor.sealText ⟨2, 0, Gen.base62Std⟩ [72] [70] [1, 2, 3] := by decide +kernel

end Saltpack.Proofs
