/-
  Lemmas about Model/Codec.lean (go-codec's typed decoding): the primitive
  decoders on the canonical encodings of Model/Msgpack.lean, what `lookupField`
  finds, and `swallow` on every well-formed value within the depth limit.
-/
import Saltpack.Model.Codec
import Saltpack.Proofs.MsgpackRT

namespace Saltpack.Proofs.CodecP
open Saltpack Saltpack.Msgpack Saltpack.Codec Saltpack.Proofs.MsgpackRT

/-! ### running a decoder -/

theorem bind_run {α β : Type} (x : Dec α) (f : α → Dec β) (b : Bytes) :
    (x >>= f) b = match x b with
      | .ok (a, r) => f a r
      | .error e => .error e := by
  show (StateT.bind x f) b = _
  unfold StateT.bind
  cases h : x b with
  | error e => simp [bind, Except.bind]
  | ok p => obtain ⟨a, r⟩ := p; simp [bind, Except.bind]

theorem bind_ok {α β : Type} {x : Dec α} {f : α → Dec β} {b r : Bytes} {a : α} (h : x b = .ok (a, r)) :
    (x >>= f) b = f a r := by rw [bind_run, h]

theorem bind_err {α β : Type} {x : Dec α} {f : α → Dec β} {b : Bytes} {e : DErr} (h : x b = .error e) :
    (x >>= f) b = .error e := by rw [bind_run, h]

theorem bind_eq_ok {α β : Type} {x : Dec α} {f : α → Dec β} {b r : Bytes} {y : β} (h : (x >>= f) b = .ok (y, r)) :
    ∃ a r', x b = .ok (a, r') ∧ f a r' = .ok (y, r) := by
  rw [bind_run] at h
  cases hx : x b with
  | error e => rw [hx] at h; cases h
  | ok p => rw [hx] at h; exact ⟨p.1, p.2, rfl, h⟩

theorem pure_run {α : Type} (a : α) (b : Bytes) : (pure a : Dec α) b = .ok (a, b) := rfl

theorem map_run {α β : Type} (g : α → β) (x : Dec α) (b : Bytes) :
    (g <$> x) b = match x b with
      | .ok (a, r) => .ok (g a, r)
      | .error e => .error e := by
  show (StateT.map g x) b = _
  unfold StateT.map
  cases h : x b with
  | error e => simp [bind, Except.bind]
  | ok p => obtain ⟨a, r⟩ := p; simp [bind, Except.bind, pure, Except.pure]

theorem map_ok {α β : Type} {g : α → β} {x : Dec α} {b r : Bytes} {a : α} (h : x b = .ok (a, r)) :
    (g <$> x) b = .ok (g a, r) := by rw [map_run, h]

theorem map_eq_ok {α β : Type} {g : α → β} {x : Dec α} {b r : Bytes} {y : β} (h : (g <$> x) b = .ok (y, r)) :
    ∃ a, x b = .ok (a, r) ∧ y = g a := by
  rw [map_run] at h
  cases hx : x b with
  | error e => rw [hx] at h; cases h
  | ok p => rw [hx] at h; cases h; exact ⟨p.1, rfl, rfl⟩

/-! ### primitives -/

theorem readn1_cons (x : UInt8) (r : Bytes) : readn1 (x :: r) = .ok (x, r) := rfl
theorem peek1_cons (x : UInt8) (r : Bytes) : peek1 (x :: r) = .ok (x, x :: r) := rfl

theorem tryNil_c0 (r : Bytes) : tryNil (0xc0 :: r) = .ok (true, r) := by simp [tryNil]
theorem tryNil_other (x : UInt8) (r : Bytes) (h : x ≠ 0xc0) : tryNil (x :: r) = .ok (false, x :: r) := by
  simp [tryNil, h]

theorem readx_append (s r : Bytes) : readx s.length (s ++ r) = .ok (s, r) := by
  unfold readx; rw [takeN_append]; rfl

theorem readBE_beN (w n : Nat) (r : Bytes) (h : n < 256 ^ w) : readBE w (beN w n ++ r) = .ok (n, r) := by
  unfold readBE; rw [readLen_beN w n r h]; rfl

theorem ofNat_ne_c0 (n : Nat) (h : n < 256) (h2 : n ≠ 0xc0) : UInt8.ofNat n ≠ 0xc0 := by
  intro e
  have := congrArg UInt8.toNat e
  rw [toNat_ofNat_lt n h] at this
  exact h2 this

/-! ### container types of the encoders' first bytes -/

theorem ctype_fixarr (c : Nat) (h1 : 0x90 ≤ c) (h2 : c ≤ 0x9f) : ctype c = .array := by
  unfold ctype
  rw [if_neg (by omega), if_neg (by omega), if_pos (.inr (.inr ⟨h1, h2⟩))]

theorem ctype_dc : ctype 0xdc = .array := by decide
theorem ctype_dd : ctype 0xdd = .array := by decide
theorem ctype_c4 : ctype 0xc4 = .bytes := by decide
theorem ctype_c5 : ctype 0xc5 = .bytes := by decide
theorem ctype_c6 : ctype 0xc6 = .bytes := by decide
theorem ctype_d9 : ctype 0xd9 = .bytes := by decide
theorem ctype_da : ctype 0xda = .bytes := by decide
theorem ctype_db : ctype 0xdb = .bytes := by decide

theorem ctype_fixstr (c : Nat) (h1 : 0xa0 ≤ c) (h2 : c ≤ 0xbf) : ctype c = .bytes := by
  unfold ctype
  rw [if_neg (by omega), if_pos (by omega)]

theorem ctype_unset (c : Nat) (h : c < 0x80 ∨ c = 0xc2 ∨ c = 0xc3 ∨ (0xcc ≤ c ∧ c ≤ 0xd3) ∨ 0xe0 ≤ c) (h256 : c < 256) :
    ctype c = .unset := by
  unfold ctype
  rw [if_neg (by omega), if_neg (by omega), if_neg (by omega), if_neg (by omega)]

/-! ### integers -/

theorem readInt_ok {f : Nat → Int} {w : Nat} {b r : Bytes} {n : Nat} (h : readBE w b = .ok (n, r)) :
    readInt f w b = .ok (f n, r) := by
  rw [readInt, bind_ok h]; rfl

theorem readKey_ok {f : Nat → GKey} {w : Nat} {b r : Bytes} {n : Nat} (h : readBE w b = .ok (n, r)) :
    readKey f w b = .ok (some (f n), r) := by
  rw [readKey, bind_ok h]; rfl

theorem decodeInt64_cons (x : UInt8) (rest : Bytes) :
    decodeInt64 (x :: rest) =
      (if x.toNat = 0xcc then readInt Int.ofNat 1
      else if x.toNat = 0xcd then readInt Int.ofNat 2
      else if x.toNat = 0xce then readInt Int.ofNat 4
      else if x.toNat = 0xcf then readInt (signedOf 64) 8
      else if x.toNat = 0xd0 then readInt (signedOf 8) 1
      else if x.toNat = 0xd1 then readInt (signedOf 16) 2
      else if x.toNat = 0xd2 then readInt (signedOf 32) 4
      else if x.toNat = 0xd3 then readInt (signedOf 64) 8
      else if x.toNat < 0x80 then pure (Int.ofNat x.toNat)
      else if 0xe0 ≤ x.toNat then pure (Int.ofNat x.toNat - 256)
      else bad "cannot decode signed integer") rest := by
  rw [decodeInt64, bind_ok (readn1_cons _ _)]

/-- a non-nil scalar object `x :: t` with rest `r`: what `swallow`'s scalar branch needs -/
structure ScalarObj (x : UInt8) (t r : Bytes) : Prop where
  ne : x ≠ 0xc0
  ct : ctype x.toNat = .unset
  naked : ∃ k, nakedScalar x.toNat t = .ok (some k, r)

/-- an integer object: a scalar object from which `DecodeInt64` reads `i` -/
structure IntObj (x : UInt8) (t r : Bytes) (i : Int) : Prop extends ScalarObj x t r where
  dec : decodeInt64 (x :: t) = .ok (i, r)

/-- `fk`, `fi`: what `nakedScalar` and `decodeInt64` make of the `w` payload bytes; for a literal
    descriptor the four facts about it hold by evaluation (the default proofs) -/
theorem intObj_wide (x : UInt8) {w : Nat} (fk : Nat → GKey) (fi : Nat → Int) (n : Nat) (hn : n < 256 ^ w) (r : Bytes)
    (ne : x ≠ 0xc0 := by decide) (ct : ctype x.toNat = .unset := by decide)
    (hk : nakedScalar x.toNat = readKey fk w := by rfl)
    (hi : ∀ t, decodeInt64 (x :: t) = readInt fi w t := by intro t; rw [decodeInt64_cons]; rfl) :
    IntObj x (beN w n ++ r) r (fi n) :=
  have h := readBE_beN w n r hn
  ⟨⟨ne, ct, ⟨fk n, hk ▸ readKey_ok h⟩⟩, hi _ ▸ readInt_ok h⟩

theorem intObj_posfix (x : UInt8) (rest : Bytes) (h : x.toNat < 0x80) :
    IntObj x rest rest (Int.ofNat x.toNat) := by
  have ne : ∀ K, 0x80 ≤ K → (x.toNat = K) = False := fun K hK => eq_false (by omega)
  refine ⟨⟨fun e => absurd (e ▸ h) (by decide), ctype_unset _ (Or.inl h) (by omega), ⟨GKey.int (Int.ofNat x.toNat), ?_⟩⟩, ?_⟩
  · simp only [nakedScalar, ne, Nat.reduceLeDiff, if_false, h, if_true]; rfl
  · simp only [decodeInt64_cons, ne, Nat.reduceLeDiff, if_false, h, if_true]; rfl

theorem intObj_negfix (x : UInt8) (rest : Bytes) (h : 0xe0 ≤ x.toNat) :
    IntObj x rest rest (Int.ofNat x.toNat - 256) := by
  have ne : ∀ K, K < 0xe0 → (x.toNat = K) = False := fun K hK => eq_false (by omega)
  have h80 : (x.toNat < 0x80) = False := eq_false (by omega)
  refine ⟨⟨fun e => absurd (e ▸ h) (by decide), ctype_unset _ (.inr (.inr (.inr (.inr h)))) x.toNat_lt,
    ⟨GKey.int (Int.ofNat x.toNat - 256), ?_⟩⟩, ?_⟩
  · simp only [nakedScalar, ne, Nat.reduceLT, if_false, h80, h, if_true]; rfl
  · simp only [decodeInt64_cons, ne, Nat.reduceLT, if_false, h80, h, if_true]; rfl

theorem intObj_uint {w : Nat} (hw : w = 1 ∨ w = 2 ∨ w = 4 ∨ w = 8) (n : Nat) (hn : n < 256 ^ w) (r : Bytes) :
    IntObj (uintDesc w) (beN w n ++ r) r (if n < 2 ^ 63 then (n : Int) else signedOf 64 n) := by
  rcases hw with rfl | rfl | rfl | rfl
  · rw [if_pos (Nat.lt_trans hn (by decide))]
    exact intObj_wide 0xcc .uint Int.ofNat n hn r
  · rw [if_pos (Nat.lt_trans hn (by decide))]
    exact intObj_wide 0xcd .uint Int.ofNat n hn r
  · rw [if_pos (Nat.lt_trans hn (by decide))]
    exact intObj_wide 0xce .uint Int.ofNat n hn r
  · have := intObj_wide 0xcf .uint (signedOf 64) n hn r
    by_cases h5 : n < 2 ^ 63
    · rw [if_pos h5, ← signedOf_nonneg (w := 8) (by decide) (by omega : 2 * n < 256 ^ 8)]; exact this
    · rw [if_neg h5]; exact this

theorem intObj_sint {w : Nat} (hw : w = 1 ∨ w = 2 ∨ w = 4 ∨ w = 8) (n : Nat) (hn : n < 256 ^ w) (r : Bytes) :
    IntObj (sintDesc w) (beN w n ++ r) r (signedOf (8 * w) n) := by
  rcases hw with rfl | rfl | rfl | rfl
  · exact intObj_wide 0xd0 (fun n => .int (signedOf 8 n)) (signedOf 8) n hn r
  · exact intObj_wide 0xd1 (fun n => .int (signedOf 16 n)) (signedOf 16) n hn r
  · exact intObj_wide 0xd2 (fun n => .int (signedOf 32 n)) (signedOf 32) n hn r
  · exact intObj_wide 0xd3 (fun n => .int (signedOf 64 n)) (signedOf 64) n hn r

/-- for `n ≥ 2^63` go-codec's `int64(uint64)` wraps: `signedOf 64 n` -/
theorem intObj_encUInt (n : Nat) (h : n < 2 ^ 64) (r : Bytes) :
    ∃ x t, encUInt n ++ r = x :: t ∧ IntObj x t r (if n < 2 ^ 63 then (n : Int) else signedOf 64 n) := by
  by_cases h1 : n < 128
  · have ht : (UInt8.ofNat n).toNat = n := toNat_ofNat_lt _ (Nat.lt_trans h1 (by decide))
    have := intObj_posfix (UInt8.ofNat n) r (ht.symm ▸ h1)
    rw [ht] at this
    rw [encUInt_fix h1, if_pos (Nat.lt_trans h1 (by decide))]
    exact ⟨_, r, rfl, this⟩
  · rw [encUInt_eq h1]
    exact ⟨_, _, rfl, intObj_uint (width_cases n) n (lt_pow_width h) r⟩

theorem intObj_encInt (i : Int) (hlo : -(2 ^ 63 : Int) ≤ i) (hhi : i < (2 ^ 63 : Int)) (r : Bytes) :
    ∃ x t, encInt i ++ r = x :: t ∧ IntObj x t r i := by
  by_cases h0 : 0 ≤ i
  · obtain ⟨n, rfl⟩ := Int.eq_ofNat_of_zero_le h0
    obtain ⟨x, t, e, hobj⟩ := intObj_encUInt n (by omega) r
    rw [if_pos (by omega)] at hobj
    exact ⟨x, t, (encInt_natCast n).symm ▸ e, hobj⟩
  -- `i = -m` with `1 ≤ m ≤ 2^63`: the rest is about the natural number `m`
  obtain ⟨m, rfl, h1, h63⟩ : ∃ m : Nat, i = -(m : Int) ∧ 1 ≤ m ∧ m ≤ 2 ^ 63 := ⟨(-i).toNat, by omega, by omega, by omega⟩
  clear hlo hhi h0
  by_cases h32 : m ≤ 32
  · have ht : (UInt8.ofNat (256 - m)).toNat = 256 - m := toNat_ofNat_lt _ (Nat.sub_lt (by decide) h1)
    have hv : ((256 - m : Nat) : Int) - 256 = -(m : Int) := by omega
    have := intObj_negfix (UInt8.ofNat (256 - m)) r (by omega)
    rw [ht, show Int.ofNat (256 - m) - 256 = -(m : Int) from hv] at this
    rw [encInt_negfix h1 h32]
    exact ⟨_, r, rfl, this⟩
  · -- the two's complement of `m` in the least `w` bytes with `2 m ≤ 256 ^ w`
    have hlt := lt_pow_width (n := 2 * m - 1) (by omega)
    have := intObj_sint (width_cases (2 * m - 1)) (256 ^ width (2 * m - 1) - m) (by omega) r
    rw [signedOf_neg (by have := width_cases (2 * m - 1); omega) (by omega)] at this
    rw [encInt_neg h32]
    exact ⟨_, _, rfl, this⟩

/-- the whole range `ValWF` allows: up to `2^64`, where `DecodeInt64` wraps -/
theorem scalarObj_encInt (i : Int) (hlo : -(2 ^ 63 : Int) ≤ i) (hhi : i < (2 ^ 64 : Int)) (r : Bytes) :
    ∃ x t, encInt i ++ r = x :: t ∧ ScalarObj x t r := by
  by_cases h : i < (2 ^ 63 : Int)
  · obtain ⟨x, t, e, o⟩ := intObj_encInt i hlo h r
    exact ⟨x, t, e, o.toScalarObj⟩
  · have h0 : 0 ≤ i := by omega
    obtain ⟨x, t, e, o⟩ := intObj_encUInt i.toNat (by omega) r
    refine ⟨x, t, ?_, o.toScalarObj⟩
    rw [← e, encInt, if_pos h0]

/-! ### byte strings, booleans, array headers -/

/-- a bin/str object `x :: t` (rest `r`) from which `DecodeBytes` reads `b` -/
structure BytesObj (x : UInt8) (t r : Bytes) (b : Bytes) : Prop where
  ne : x ≠ 0xc0
  ct : ctype x.toNat = .bytes
  dec : decodeBytes (x :: t) = .ok (b, r)

theorem decodeBytes_of_bytes (x : UInt8) (t : Bytes) (h : ctype x.toNat = .bytes) :
    decodeBytes (x :: t) = (lenBytes x.toNat >>= readx) t := by
  rw [decodeBytes, bind_ok (peek1_cons _ _)]
  simp only [h]
  rw [bind_ok (readn1_cons _ _)]

theorem decBytesField_of_bytes (x : UInt8) (t : Bytes) (h : ctype x.toNat = .bytes) :
    decBytesField (x :: t) = decodeBytes (x :: t) := by
  rw [decBytesField, bind_ok (peek1_cons _ _)]
  simp only [h]

theorem bytesObj_wide (x : UInt8) (w : Nat) (b r : Bytes) (hne : x ≠ 0xc0) (hct : ctype x.toNat = .bytes)
    (hl : lenBytes x.toNat = readBE w) (hb : b.length < 256 ^ w) :
    ∃ y t, (x :: beN w b.length) ++ b ++ r = y :: t ∧ BytesObj y t r b := by
  refine ⟨x, beN w b.length ++ (b ++ r), by simp, hne, hct, ?_⟩
  rw [decodeBytes_of_bytes _ _ hct, hl, bind_ok (readBE_beN w b.length _ hb)]
  exact readx_append b r

theorem bytesObj_encBin (b : Bytes) (h : b.length < 2 ^ 32) (r : Bytes) :
    ∃ x t, encBin b ++ r = x :: t ∧ BytesObj x t r b := by
  unfold encBin encBinHdr
  by_cases h1 : b.length < 256
  · rw [if_pos h1, ← beN_one _ h1]
    exact bytesObj_wide 0xc4 1 b r (by decide) ctype_c4 rfl h1
  rw [if_neg h1]
  by_cases h2 : b.length < 65536
  · rw [if_pos h2]
    exact bytesObj_wide 0xc5 2 b r (by decide) ctype_c5 rfl h2
  · rw [if_neg h2]
    exact bytesObj_wide 0xc6 4 b r (by decide) ctype_c6 rfl h

theorem bytesObj_encStr (b : Bytes) (h : b.length < 2 ^ 32) (r : Bytes) :
    ∃ x t, encStr b ++ r = x :: t ∧ BytesObj x t r b := by
  unfold encStr encStrHdr
  by_cases h0 : b.length < 32
  · have ht : (UInt8.ofNat (0xa0 + b.length)).toNat = 0xa0 + b.length := toNat_ofNat_lt _ (by omega)
    have hct : ctype (UInt8.ofNat (0xa0 + b.length)).toNat = .bytes := by rw [ht]; exact ctype_fixstr _ (by omega) (by omega)
    rw [if_pos h0]
    refine ⟨UInt8.ofNat (0xa0 + b.length), b ++ r, rfl, ofNat_ne_c0 _ (by omega) (by omega), hct, ?_⟩
    rw [decodeBytes_of_bytes _ _ hct, ht, lenBytes, if_neg (by omega), if_neg (by omega), if_neg (by omega),
      bind_ok (pure_run _ _), Nat.add_sub_cancel_left]
    exact readx_append b r
  rw [if_neg h0]
  by_cases h1 : b.length < 256
  · rw [if_pos h1, ← beN_one _ h1]
    exact bytesObj_wide 0xd9 1 b r (by decide) ctype_d9 rfl h1
  rw [if_neg h1]
  by_cases h2 : b.length < 65536
  · rw [if_pos h2]
    exact bytesObj_wide 0xda 2 b r (by decide) ctype_da rfl h2
  · rw [if_neg h2]
    exact bytesObj_wide 0xdb 4 b r (by decide) ctype_db rfl h

theorem boolObj (f : Bool) (r : Bytes) :
    ∃ x, encBool f ++ r = x :: r ∧ ScalarObj x r r ∧ decodeBool (x :: r) = .ok (f, r) := by
  cases f
  · exact ⟨0xc2, rfl, ⟨by decide, by decide, .bool false, rfl⟩, rfl⟩
  · exact ⟨0xc3, rfl, ⟨by decide, by decide, .bool true, rfl⟩, rfl⟩

theorem readArrayStart_cons (x : UInt8) (t : Bytes) : readArrayStart (x :: t) = lenArr x.toNat t := rfl

theorem arrHdr_obj (n : Nat) (hn : n < 2 ^ 32) (r : Bytes) :
    ∃ x t, encArrayHdr n ++ r = x :: t ∧ x ≠ 0xc0 ∧ ctype x.toNat = .array ∧ readArrayStart (x :: t) = .ok (n, r) := by
  unfold encArrayHdr
  by_cases h1 : n < 16
  · have ht : (UInt8.ofNat (0x90 + n)).toNat = 0x90 + n := toNat_ofNat_lt _ (by omega)
    rw [if_pos h1]
    refine ⟨UInt8.ofNat (0x90 + n), r, rfl, ofNat_ne_c0 _ (by omega) (by omega), by rw [ht]; exact ctype_fixarr _ (by omega) (by omega), ?_⟩
    rw [readArrayStart_cons, ht, lenArr, if_neg (by omega), if_neg (by omega), Nat.add_sub_cancel_left]
    rfl
  rw [if_neg h1]
  by_cases h2 : n < 65536
  · rw [if_pos h2]
    exact ⟨0xdc, beN 2 n ++ r, rfl, by decide, ctype_dc, by rw [readArrayStart_cons]; exact readBE_beN 2 n r h2⟩
  · rw [if_neg h2]
    exact ⟨0xdd, beN 4 n ++ r, rfl, by decide, ctype_dd, by rw [readArrayStart_cons]; exact readBE_beN 4 n r hn⟩

/-! ### the name table of a struct: what `lookupField` finds is one of the fields -/

theorem mem_insertByName {σ : Type} {f g : Field σ} : ∀ {l : List (Field σ)}, g ∈ insertByName f l → g = f ∨ g ∈ l
  | [], h => .inl (List.mem_singleton.1 h)
  | x :: l, h => by
    unfold insertByName at h
    split at h
    · exact List.mem_cons.1 h
    · rcases List.mem_cons.1 h with rfl | h
      · exact .inr (.head _)
      · exact (mem_insertByName h).imp_right (.tail _)

theorem mem_sortFields {σ : Type} {g : Field σ} : ∀ {l : List (Field σ)}, g ∈ sortFields l → g ∈ l
  | [], h => nomatch h
  | x :: _, h => (mem_insertByName (f := x) h).elim (· ▸ .head _) fun h => .tail _ (mem_sortFields h)

theorem lookupField_mem {σ : Type} (fields : List (Field σ)) (key : Bytes) (f : Field σ)
    (h : lookupField fields key = .found f) : f ∈ fields := by
  -- `lookupField` answers `.found` in one branch only: key not empty, name found in the table, both
  -- index bytes there, index below 32768, `sorted[k]? = some f'`; every other branch closes by `cases h`
  unfold lookupField at h
  split at h
  · cases h
  · dsimp only at h
    split at h
    · cases h
    · split at h
      · split at h
        · cases h
        · split at h
          · -- the live branch
            rename_i f' hk
            cases h
            exact mem_sortFields (List.mem_of_getElem? hk)
          · cases h
      · cases h

/-! ### `swallow` on every well-formed value within the depth limit -/

/-- nesting depth as `swallow` counts it: a scalar 1, an array one more than
    its deepest element -/
def depth : Val → Nat
  | .arr l => 1 + depthList l
  | .nil => 1
  | .bool _ => 1
  | .int _ => 1
  | .bin _ => 1
  | .str _ => 1
  | .map _ => 1
  | .ext _ _ => 1
  | .float _ => 1
where
  depthList : List Val → Nat
    | [] => 0
    | v :: vs => max (depth v) (depthList vs)

theorem depthList_nil : depth.depthList [] = 0 := by rw [depth.depthList]
theorem depthList_cons (v : Val) (vs : List Val) :
    depth.depthList (v :: vs) = max (depth v) (depth.depthList vs) := by rw [depth.depthList]

theorem swallow_scalar (f rem : Nat) (hrem : rem ≠ 0) (x : UInt8) (t r : Bytes) (o : ScalarObj x t r) :
    swallow (f + 1) rem (x :: t) = .ok ((), r) := by
  obtain ⟨k, hk⟩ := o.naked
  rw [swallow, if_neg hrem, bind_ok (tryNil_other x t o.ne)]
  simp only [Bool.false_eq_true, if_false]
  rw [bind_ok (peek1_cons _ _)]
  simp only [o.ct]
  rw [bind_ok (readn1_cons _ _), bind_ok hk]
  rfl

theorem swallow_bytes (f rem : Nat) (hrem : rem ≠ 0) (x : UInt8) (t r b : Bytes) (o : BytesObj x t r b) :
    swallow (f + 1) rem (x :: t) = .ok ((), r) := by
  rw [swallow, if_neg hrem, bind_ok (tryNil_other x t o.ne)]
  simp only [Bool.false_eq_true, if_false]
  rw [bind_ok (peek1_cons _ _)]
  simp only [o.ct]
  rw [bind_ok o.dec]
  rfl

theorem swallow_nil (f rem : Nat) (hrem : rem ≠ 0) (r : Bytes) : swallow (f + 1) rem (0xc0 :: r) = .ok ((), r) := by
  rw [swallow, if_neg hrem, bind_ok (tryNil_c0 r)]
  rfl

theorem swallow_arr (f rem n : Nat) (hrem : rem ≠ 0) (x : UInt8) (t r : Bytes) (ne : x ≠ 0xc0)
    (ct : ctype x.toNat = .array) (hs : readArrayStart (x :: t) = .ok (n, r)) :
    swallow (f + 1) rem (x :: t) = swallowN f (rem - 1) n r := by
  rw [swallow, if_neg hrem, bind_ok (tryNil_other x t ne)]
  simp only [Bool.false_eq_true, if_false]
  rw [bind_ok (peek1_cons _ _)]
  simp only [ct]
  rw [bind_ok hs]

theorem depth_pos (v : Val) : 1 ≤ depth v := by
  cases v <;> simp only [depth, Nat.le_refl, Nat.le_add_right]

theorem swallow_start {v : Val} {fuel rem : Nat} (hf : 2 * (encode v).length ≤ fuel) (hd : depth v ≤ rem) :
    ∃ f, fuel = f + 1 ∧ rem ≠ 0 :=
  have hp := encode_pos v
  ⟨fuel - 1, by omega, Nat.ne_of_gt (Nat.lt_of_lt_of_le (depth_pos v) hd)⟩

theorem swallowN_of_swallow : (l : List Val) → (rest : Bytes) → (fuel rem : Nat) →
    (∀ v ∈ l, ∀ (rest : Bytes) (fuel rem : Nat), 2 * (encode v).length ≤ fuel → depth v ≤ rem →
      swallow fuel rem (encode v ++ rest) = .ok ((), rest)) →
    2 * (encode.encodeList l).length + 1 ≤ fuel → depth.depthList l ≤ rem →
    swallowN fuel rem l.length (encode.encodeList l ++ rest) = .ok ((), rest)
  | [], rest, f + 1, rem, _, _, _ => by
    rw [encodeList_nil, List.length_nil, swallowN]
    rfl
  | v :: vs, rest, f + 1, rem, hall, hf, hd => by
    have hp := encode_pos v
    rw [encodeList_cons, List.length_append] at hf
    rw [depthList_cons] at hd
    rw [encodeList_cons, List.length_cons, swallowN, List.append_assoc,
      bind_ok (hall v (.head _) _ f rem (by omega) (Nat.le_trans (Nat.le_max_left ..) hd))]
    exact swallowN_of_swallow vs rest f rem (fun x hx => hall x (.tail _ hx)) (by omega) (Nat.le_trans (Nat.le_max_right ..) hd)

theorem swallow_encode (v : Val) (hv : ValWF v) : ∀ (rest : Bytes) (fuel rem : Nat),
    2 * (encode v).length ≤ fuel → depth v ≤ rem → swallow fuel rem (encode v ++ rest) = .ok ((), rest) := by
  induction hv with
  | nil =>
    intro rest fuel rem hf hd
    obtain ⟨f, rfl, hrem⟩ := swallow_start hf hd
    rw [encode]; exact swallow_nil f rem hrem rest
  | bool b =>
    intro rest fuel rem hf hd
    obtain ⟨f, rfl, hrem⟩ := swallow_start hf hd
    obtain ⟨x, e, o, _⟩ := boolObj b rest
    rw [encode, e]; exact swallow_scalar f rem hrem x rest rest o
  | int i hlo hhi =>
    intro rest fuel rem hf hd
    obtain ⟨f, rfl, hrem⟩ := swallow_start hf hd
    obtain ⟨x, t, e, o⟩ := scalarObj_encInt i hlo hhi rest
    rw [encode, e]; exact swallow_scalar f rem hrem x t rest o
  | bin b h =>
    intro rest fuel rem hf hd
    obtain ⟨f, rfl, hrem⟩ := swallow_start hf hd
    obtain ⟨x, t, e, o⟩ := bytesObj_encBin b h rest
    rw [encode, e]; exact swallow_bytes f rem hrem x t rest b o
  | str b h =>
    intro rest fuel rem hf hd
    obtain ⟨f, rfl, hrem⟩ := swallow_start hf hd
    obtain ⟨x, t, e, o⟩ := bytesObj_encStr b h rest
    rw [encode, e]; exact swallow_bytes f rem hrem x t rest b o
  | arr l hl _ ih =>
    intro rest fuel rem hf hd
    obtain ⟨f, rfl, hrem⟩ := swallow_start hf hd
    have hp := encArrayHdr_pos l.length
    rw [encode, List.length_append] at hf
    rw [depth] at hd
    obtain ⟨x, t, e, ne, ct, hs⟩ := arrHdr_obj l.length hl (encode.encodeList l ++ rest)
    rw [encode, List.append_assoc, e, swallow_arr f rem l.length hrem x t _ ne ct hs]
    exact swallowN_of_swallow l rest f (rem - 1) ih (by omega) (by omega)

theorem swallowN_encodeList (l : List Val) (hall : ∀ v ∈ l, ValWF v) (rest : Bytes) (fuel rem : Nat)
    (hf : 2 * (encode.encodeList l).length + 1 ≤ fuel) (hd : depth.depthList l ≤ rem) :
    swallowN fuel rem l.length (encode.encodeList l ++ rest) = .ok ((), rest) :=
  swallowN_of_swallow l rest fuel rem (fun v hv => swallow_encode v (hall v hv)) hf hd

end Saltpack.Proofs.CodecP
