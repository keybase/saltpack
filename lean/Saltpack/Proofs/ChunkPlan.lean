/-
  The chunk plan (`Encrypt.chunkPlan`): what the plaintext bufferers of
  encrypt.go / sign_stream.go / signcrypt_seal.go emit — its shape, and what
  follows from it about sizes, final flags and empty chunks.
-/
import Saltpack.Model.Encrypt
import Saltpack.Proofs.Digits

namespace Saltpack.Proofs
open Saltpack Saltpack.Encrypt

theorem chunks_nonlast_length {α : Type} (n : Nat) (hn : 0 < n) :
    ∀ (k : Nat) (l : List α), l.length ≤ k → ∀ (pre : List (List α)) (c : List α) (rest : List (List α)),
      chunks n l = pre ++ c :: rest → rest ≠ [] → c.length = n := by
  intro k
  induction k with
  | zero =>
    intro l h pre c rest hc _
    rw [List.length_eq_zero_iff.mp (Nat.le_zero.mp h), chunks_nil] at hc
    cases pre <;> cases hc
  | succ k ih =>
    intro l h pre c rest hc hr
    by_cases hs : l.length ≤ n
    · -- at most one chunk: none has a successor
      by_cases hl : l = []
      · rw [hl, chunks_nil] at hc
        cases pre <;> cases hc
      · rw [chunks_short n l hl hs] at hc
        cases pre with
        | nil => cases hc; exact absurd rfl hr
        | cons q pre => cases pre <;> cases hc
    · have hlt : n < l.length := Nat.lt_of_not_le hs
      rw [chunks_long n hn l hlt] at hc
      cases pre with
      | nil =>
        cases hc
        rw [List.length_take, Nat.min_eq_left (Nat.le_of_lt hlt)]
      | cons p pre' =>
        have hlen : (l.drop n).length ≤ k := by
          rw [List.length_drop]
          omega
        exact ih (l.drop n) hlen pre' c rest (List.cons.inj hc).2 hr

theorem dropLast_append_getLast! {α : Type} [Inhabited α] (l : List α) (h : l ≠ []) :
    l.dropLast ++ [l.getLast!] = l := by
  rcases List.eq_nil_or_concat l with h0 | ⟨l', b, rfl⟩
  · exact absurd h0 h
  · simp

theorem v2_ne_v1 : v2 ≠ v1 := by decide

/-- the plan is the chunks with the last one flagged — or, for V1 always and
    otherwise for the empty message, the chunks followed by an empty final chunk -/
theorem chunkPlan_shape (v : Version) (bs : Nat) (pt : Bytes) :
    ∃ (init : List Bytes) (last : Bytes), chunkPlan v bs pt = init.map (·, false) ++ [(last, true)] ∧
      ((v ≠ v1 ∧ chunks bs pt = init ++ [last]) ∨
       (chunks bs pt = init ∧ last = [] ∧ (v = v1 ∨ init = []))) := by
  unfold chunkPlan
  by_cases hv : v = v1
  · exact ⟨chunks bs pt, [], by simp only [if_pos hv], .inr ⟨rfl, rfl, .inl hv⟩⟩
  · simp only [if_neg hv]
    rcases List.eq_nil_or_concat (chunks bs pt) with h0 | ⟨init, last, h1⟩
    · exact ⟨[], [], by simp [h0], .inr ⟨h0, rfl, .inr rfl⟩⟩
    · rw [List.concat_eq_append] at h1
      exact ⟨init, last, by rw [h1]; simp, .inl ⟨hv, h1⟩⟩

theorem chunkPlan_parts (v : Version) (bs : Nat) (pt : Bytes) :
    ∃ (init : List Bytes) (last : Bytes), chunkPlan v bs pt = init.map (·, false) ++ [(last, true)] ∧
      init.flatten ++ last = pt ∧ (∀ c ∈ init, c ∈ chunks bs pt) ∧ (last = [] ∨ last ∈ chunks bs pt) := by
  obtain ⟨init, last, hp, hs⟩ := chunkPlan_shape v bs pt
  have hf := chunks_flatten bs pt
  refine ⟨init, last, hp, ?_⟩
  rcases hs with ⟨_, hcs⟩ | ⟨hcs, rfl, _⟩
  · rw [hcs] at hf ⊢
    exact ⟨by simpa using hf, fun c hc => List.mem_append_left _ hc, .inr (by simp)⟩
  · rw [hcs] at hf
    exact ⟨by rw [List.append_nil, hf], fun c hc => hcs ▸ hc, .inl rfl⟩

theorem plan_split {α : Type} (last c : α) (rest : List (α × Bool)) :
    ∀ (init : List α) (pre : List (α × Bool)),
      init.map (·, false) ++ [(last, true)] = pre ++ (c, false) :: rest →
      ∃ l1 l3, init = l1 ++ c :: l3 ∧ rest.length = l3.length + 1 := by
  intro init
  induction init with
  | nil =>
    intro pre h
    cases pre with
    | nil => cases h
    | cons q pre => cases pre <;> cases h
  | cons a init ih =>
    intro pre h
    cases pre with
    | nil =>
      cases h
      exact ⟨[], init, rfl, by simp⟩
    | cons q pre =>
      obtain ⟨l1, l3, h1, h2⟩ := ih pre (List.cons.inj h).2
      exact ⟨a :: l1, l3, by rw [h1]; rfl, h2⟩

theorem chunkPlan_flatten (v : Version) (bs : Nat) (pt : Bytes) :
    ((chunkPlan v bs pt).map (·.1)).flatten = pt := by
  obtain ⟨init, last, hp, hf, _⟩ := chunkPlan_parts v bs pt
  rw [hp, ← hf]
  simp [List.map_append, List.map_map, Function.comp_def]

theorem chunkPlan_final (v : Version) (bs : Nat) (pt : Bytes) :
    ∃ pre c, chunkPlan v bs pt = pre ++ [(c, true)] ∧ ∀ p ∈ pre, p.2 = false := by
  obtain ⟨init, last, hp, _⟩ := chunkPlan_shape v bs pt
  refine ⟨init.map (·, false), last, hp, fun p hp => ?_⟩
  obtain ⟨a, _, rfl⟩ := List.mem_map.1 hp
  rfl

theorem chunkPlan_mem (v : Version) (bs : Nat) (pt : Bytes) :
    ∀ p ∈ chunkPlan v bs pt, p.1 ∈ chunks bs pt ∨ p = ([], true) := by
  obtain ⟨init, last, hp, _, hi, hl⟩ := chunkPlan_parts v bs pt
  intro p hmem
  rw [hp, List.mem_append, List.mem_singleton] at hmem
  rcases hmem with hmem | rfl
  · obtain ⟨a, ha, rfl⟩ := List.mem_map.1 hmem
    exact .inl (hi a ha)
  · rcases hl with rfl | hl
    · exact .inr rfl
    · exact .inl hl

theorem chunkPlan_size (v : Version) (bs : Nat) (hb : 0 < bs) (pt : Bytes) :
    ∀ p ∈ chunkPlan v bs pt, p.1.length ≤ bs := by
  intro p hp
  rcases chunkPlan_mem v bs pt p hp with h | rfl
  · exact (chunks_mem_length bs hb pt.length pt (Nat.le_refl _) _ h).2
  · exact Nat.zero_le _

theorem chunkPlan_empty_v2 (bs : Nat) (hb : 0 < bs) (pt : Bytes) :
    (∀ p ∈ chunkPlan v2 bs pt, p.1 = [] → pt = []) ∧ (pt = [] → chunkPlan v2 bs pt = [([], true)]) := by
  have hc := chunks_mem_length bs hb pt.length pt (Nat.le_refl _)
  obtain ⟨init, last, hp, hs⟩ := chunkPlan_shape v2 bs pt
  have hf := chunks_flatten bs pt
  rcases hs with ⟨_, hcs⟩ | ⟨hcs, rfl, hv | rfl⟩
  · have hne : ∀ c ∈ init ++ [last], c ≠ [] := fun c hcm he => by
      have := (hc c (hcs ▸ hcm)).1
      rw [he] at this
      exact absurd this (Nat.lt_irrefl 0)
    constructor
    · intro p hmem he
      rw [hp, List.mem_append, List.mem_singleton] at hmem
      rcases hmem with hmem | rfl
      · obtain ⟨a, ha, rfl⟩ := List.mem_map.1 hmem
        exact absurd he (hne a (List.mem_append_left _ ha))
      · exact absurd he (hne last (by simp))
    · rintro rfl
      rw [chunks_nil] at hcs
      exact absurd hcs.symm (by simp)
  · exact absurd hv v2_ne_v1
  · rw [hcs] at hf
    exact ⟨fun _ _ _ => hf.symm, fun _ => hp⟩

theorem chunkPlan_empty_v1 (bs : Nat) (hb : 0 < bs) (pt : Bytes) :
    ∀ p ∈ chunkPlan v1 bs pt, (p.1 = [] ↔ p.2 = true) := by
  have hc := chunks_mem_length bs hb pt.length pt (Nat.le_refl _)
  obtain ⟨init, last, hp, hs⟩ := chunkPlan_shape v1 bs pt
  rcases hs with ⟨hv, _⟩ | ⟨hcs, rfl, _⟩
  · exact absurd rfl hv
  · intro p hmem
    rw [hp, List.mem_append, List.mem_singleton] at hmem
    rcases hmem with hmem | rfl
    · obtain ⟨a, ha, rfl⟩ := List.mem_map.1 hmem
      have := (hc a (hcs ▸ ha)).1
      exact ⟨fun he => by rw [show a = [] from he] at this; exact absurd this (Nat.lt_irrefl 0),
        fun he => by cases he⟩
    · exact ⟨fun _ => rfl, fun _ => rfl⟩

/-- a non-final chunk is a full block — in V1 only if at least two entries
    follow it: there the last data chunk stands before the empty final chunk and
    may be short -/
theorem chunkPlan_full (v : Version) (bs : Nat) (hb : 0 < bs) (pt : Bytes) :
    ∀ pre c rest, chunkPlan v bs pt = pre ++ (c, false) :: rest →
      (rest.length ≥ 2 ∨ v = v2) → c.length = bs := by
  intro pre c rest h hr
  have hnl := chunks_nonlast_length bs hb pt.length pt (Nat.le_refl _)
  obtain ⟨init, last, hp, hs⟩ := chunkPlan_shape v bs pt
  obtain ⟨l1, l3, rfl, hlen⟩ := plan_split last c rest init pre (hp ▸ h)
  rcases hs with ⟨_, hcs⟩ | ⟨hcs, _, rfl | h0⟩
  · exact hnl l1 c (l3 ++ [last]) (by rw [hcs, List.append_assoc]; rfl) (by simp)
  · have hr2 : rest.length ≥ 2 := hr.resolve_right (fun h => v2_ne_v1 h.symm)
    exact hnl l1 c l3 hcs (fun h0 => by rw [h0] at hlen; simp at hlen; omega)
  · exact absurd h0 (by simp)

end Saltpack.Proofs
