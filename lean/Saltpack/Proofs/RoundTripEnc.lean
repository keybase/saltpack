/-
  Encryption round trip for the sender model `Encrypt.sealPackets`: the
  instances of Proofs/RingEnc for the Go sender's chunk plan and a keyring that
  holds exactly one recipient key; a keyring without any recipient key gets
  `noDecryptionKey`.
-/
import Saltpack.Proofs.RingEnc

namespace Saltpack.Proofs
open Saltpack Saltpack.Encrypt

theorem encSent_of_sealPackets (P : Prims) (bs : Nat) {v : Version} (hv : v = v1 ∨ v = v2)
    (sender : Option Bytes) (rs : List Recipient) (eph pk pt : Bytes)
    (h : EncHeader) (hb : Bytes) (blks : List EncBlock)
    (hseal : sealPackets P bs v sender rs eph pk pt = .ok (h, hb, blks)) :
    EncSent P v 0 sender rs eph pk (chunkPlan v bs pt) h hb blks :=
  encSent_of_sealPacketsPlan P hv sender rs eph pk _ h hb blks hseal

/-- `hpub`: a *visible* recipient's key id is not the empty string.  The receiver
    treats an empty key id like a nil one
    (`visibleIndices` / `isHidden` test `isEmpty`), so a visible recipient with
    an empty public key would be reported among the anonymous receivers, not the
    named ones.  Real box public keys are 32 bytes long. -/
theorem enc_roundtrip (P : Prims) (hP : P.Lawful) (bs : Nat) (hbs : 0 < bs)
    (v : Version) (hv : v = v1 ∨ v = v2)
    (sender : Option Bytes) (rs : List Recipient) (eph payloadKey pt : Bytes)
    (hpk : payloadKey.length = 32)
    (hnamed : ∀ s, sender = some s → P.boxPub s ≠ P.boxPub eph)
    (hpub : ∀ r ∈ rs, r.hidden = false → r.pub ≠ [])
    (hblocks : (chunkPlan v bs pt).length < 2 ^ 64 - 1)
    (i : Nat) (hi : i < rs.length) (sk : Bytes) (hsk : (rs.getD i default).pub = P.boxPub sk)
    (hns : NoSpuriousOpen P v eph payloadKey rs i sk)
    (h : EncHeader) (hb : Bytes) (blks : List EncBlock)
    (hseal : sealPackets P bs v sender rs eph payloadKey pt = .ok (h, hb, blks)) :
    Decrypt.openAll P knownMajor (faithfulKeyring P [sk]) (.ok hb h) ⟨blks.map some, .eof⟩ =
      .ok ({ senderKey := P.boxPub (sender.getD eph), senderIsAnon := sender.isNone,
             receiverKey := sk, receiverIsAnon := (rs.getD i default).hidden,
             namedReceivers := (rs.filter (fun r => !r.hidden)).map (·.pub),
             numAnonReceivers := if (rs.getD i default).hidden then (rs.filter (·.hidden)).length else 0 }, pt) := by
  have _ := hblocks
  obtain ⟨hcr, _⟩ := sealPackets_inv P bs v sender rs eph payloadKey pt h hb blks hseal
  have hplan := chunkPlan_valid v hv bs hbs pt
  have := enc_roundtrip_ring_unique P hP v hv 0 sender rs eph payloadKey (chunkPlan v bs pt) hplan.finalLast
    hplan.empty_v1 hplan.emptySole hpk hnamed hpub [sk] i hi sk List.mem_cons_self hsk
    (honly_single P rs (checkReceivers_inv hcr).2 i hi sk hsk) (RingNoSpuriousOpen.single hsk hns) h hb blks
    (encSent_of_sealPackets P bs hv sender rs eph payloadKey pt h hb blks hseal)
  rwa [chunkPlan_flatten] at this

theorem enc_no_key (P : Prims) (hP : P.Lawful) (bs : Nat)
    (v : Version) (hv : v = v1 ∨ v = v2)
    (sender : Option Bytes) (rs : List Recipient) (eph payloadKey pt : Bytes)
    (sks : List Bytes)
    (hnone : ∀ s ∈ sks, ∀ r ∈ rs, r.pub ≠ P.boxPub s)
    (hopen : ∀ s ∈ sks, ∀ j, j < rs.length → ∀ n, Nonce.payloadKeyBox v j = .ok n →
        P.unbox s (P.boxPub eph) n (P.box eph (rs.getD j default).pub n payloadKey) = none)
    (h : EncHeader) (hb : Bytes) (blks : List EncBlock)
    (hseal : sealPackets P bs v sender rs eph payloadKey pt = .ok (h, hb, blks)) :
    Decrypt.openAll P knownMajor (faithfulKeyring P sks) (.ok hb h) ⟨blks.map some, .eof⟩ =
      .error .noDecryptionKey ∧
    (Decrypt.openStream P knownMajor (faithfulKeyring P sks) (.ok hb h) ⟨blks.map some, .eof⟩).released = [] := by
  have _ := hP
  obtain ⟨_, hhdr, _⟩ := sealPackets_inv P bs v sender rs eph payloadKey pt h hb blks hseal
  have hh : HdrOK P v sender eph payloadKey rs h := by
    have := hdrOK_of_header P hv sender eph payloadKey rs h hhdr 0
    rwa [withMinor_self hv h (header_spec P hv sender eph payloadKey rs h hhdr).2.1] at this
  have hval := enc_header_validates v hv h hh.fmt hh.major hh.typ
  have htv := tryVisible_ring_miss P sender rs eph payloadKey sks h hh
    (fun i hi _ s hs => hnone s hs _ (List.getElem_mem hi))
  obtain ⟨log, hlog⟩ := tryHidden_miss P h (P.boxPub eph) sks (fun s hs =>
    tryHiddenOne_ring_none P sender rs eph payloadKey h hh s (fun j hj _ n hn => by
      have := hopen s hs j hj n hn
      rwa [getD_eq_getElem' rs j hj] at this))
  have hph : Decrypt.processHeader P knownMajor (faithfulKeyring P sks) (P.hash hb) h =
      ([] ++ log, .error .noDecryptionKey) := by
    simp only [Decrypt.processHeader, hval, fk_import, hh.ephPub, htv, fk_all, hlog]
  constructor
  · simp only [Decrypt.openAll, Decrypt.openStream, hph]
  · simp only [Decrypt.openStream, hph]

end Saltpack.Proofs
