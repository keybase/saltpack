/-
  What the layers of the armor reader stack above the punctuated reader have in
  common.  A state of a layer MEANS a pair `(t, oi)`: `t` is the most the state
  can still hand out, and `oi = some i` when a clean end can follow `t` (then
  `i` is the frame information the state will hold at that end), `none` when
  the read is bound to end in an error.  One `Read` refines that meaning
  (`Layer.Step`); reading until a condition is reported (`readLoop`) therefore
  hands out a prefix of `t`, all of `t` and a clean EOF exactly when `oi` is
  `some` (`Layer.readLoop_spec`).

  Core Lean only.
-/
import Saltpack.Proofs.PunctAll

namespace Saltpack.Proofs
open Saltpack Saltpack.Stream

/-- a reader layer with states `σ` and frame information `ι` -/
structure Layer (σ ι : Type) where
  /-- the most a state can still hand out, and the information held at a clean end (if one is possible) -/
  sem : σ → Bytes × Option ι
  /-- invariant of the states between calls -/
  inv : σ → Prop
  /-- bound on the bytes still to come -/
  size : σ → Nat
  info : σ → ι
  /-- what holds of the state that reported the clean end -/
  fin : σ → Prop

variable {σ ι : Type}

/-- what one `Read` that returned `(x, e)` and left the state given last may have done to `s`:
    handed out a non-empty piece of the meaning; reported the clean end; or
    reported an error, together with a prefix of a meaning that allows no clean end -/
inductive Layer.Step (L : Layer σ ι) (s : σ) : Bytes → Option RErr → σ → Prop
  | data {x : Bytes} {s' : σ} : x ≠ [] → L.inv s' → L.size s' + x.length ≤ L.size s →
      L.sem s = (x ++ (L.sem s').1, (L.sem s').2) → Layer.Step L s x none s'
  | eof {s' : σ} : L.fin s' → L.sem s = ([], some (L.info s')) → Layer.Step L s [] (some .eof) s'
  | err {x : Bytes} {z : Err} {s' : σ} : x <+: (L.sem s).1 → (L.sem s).2 = none → Layer.Step L s x (some (.err z)) s'

namespace Layer

theorem Step.of_eq (L : Layer σ ι) {s0 s : σ} (hsem : L.sem s0 = L.sem s) (hsize : L.size s ≤ L.size s0)
    {x : Bytes} {e : Option RErr} {s' : σ} (h : L.Step s x e s') : L.Step s0 x e s' := by
  cases h with
  | data h1 h2 h3 h4 => exact .data h1 h2 (by omega) (by rw [hsem, h4])
  | eof h1 h2 => exact .eof h1 (by rw [hsem, h2])
  | err h1 h2 => exact .err (by rw [hsem]; exact h1) (by rw [hsem]; exact h2)

end Layer

/-- read with buffer sizes `caps` (cycled) until a condition is reported -/
def readLoop (rd : Nat → σ → Bytes × Option RErr × σ) (caps : List Nat) :
    (fuel : Nat) → Nat → σ → Bytes → Bytes × Option RErr × σ
  | 0, _, s, acc => (acc, none, s)
  | fuel + 1, k, s, acc =>
    match rd (caps.getD (k % caps.length) 1) s with
    | (d, none, s1) => readLoop rd caps fuel (k + 1) s1 (acc ++ d)
    | (d, some x, s1) => (acc ++ d, some x, s1)

theorem readLoop_succ (rd : Nat → σ → Bytes × Option RErr × σ) (caps : List Nat) (fuel k : Nat) (s : σ) (acc : Bytes) :
    readLoop rd caps (fuel + 1) k s acc =
      match (rd (caps.getD (k % caps.length) 1) s).2.1 with
      | none => readLoop rd caps fuel (k + 1) (rd (caps.getD (k % caps.length) 1) s).2.2
          (acc ++ (rd (caps.getD (k % caps.length) 1) s).1)
      | some c => (acc ++ (rd (caps.getD (k % caps.length) 1) s).1, some c, (rd (caps.getD (k % caps.length) 1) s).2.2) := by
  rw [readLoop]
  rcases rd (caps.getD (k % caps.length) 1) s with ⟨d, e, s1⟩
  cases e <;> rfl

namespace Layer

/-- **a layer read to its end** with any positive buffer sizes: the same outcome for every fuel above the size of
    the state; a prefix of the meaning is handed out; the end is clean exactly when the meaning allows it, and
    then everything was handed out and the final state holds the announced information -/
theorem readLoop_spec (L : Layer σ ι) (rd : Nat → σ → Bytes × Option RErr × σ)
    (hstep : ∀ cap, 0 < cap → ∀ s, L.inv s → ∀ x e s', rd cap s = (x, e, s') → L.Step s x e s')
    (caps : List Nat) (hpos : ∀ c ∈ caps, 0 < c) :
    ∀ (n : Nat) (s : σ), L.inv s → L.size s < n → ∀ (k : Nat) (acc : Bytes),
    ∃ r e s', (∀ fuel, n ≤ fuel → readLoop rd caps fuel k s acc = (acc ++ r, some e, s')) ∧
      r <+: (L.sem s).1 ∧ ((L.sem s).2 = none → ∃ z, e = .err z) ∧
      (∀ i, (L.sem s).2 = some i → e = .eof ∧ r = (L.sem s).1 ∧ L.info s' = i ∧ L.fin s') := by
  intro n
  induction n with
  | zero => intro s _ h; omega
  | succ n ih =>
    intro s hi hn k acc
    have hcap := capsGetD_pos caps hpos (k % caps.length)
    rcases hr : rd (caps.getD (k % caps.length) 1) s with ⟨x, e, s1⟩
    have hfuel : ∀ fuel, n + 1 ≤ fuel → ∃ f, fuel = f + 1 ∧ n ≤ f := fun fuel hf => ⟨fuel - 1, by omega, by omega⟩
    cases hstep _ hcap s hi x e s1 hr with
    | data h1 h2 h3 h4 =>
      have hx : 0 < x.length := List.length_pos_iff.mpr h1
      obtain ⟨r, e', s', f1, f2, f3, f4⟩ := ih s1 h2 (by omega) (k + 1) (acc ++ x)
      refine ⟨x ++ r, e', s', fun fuel hf => ?_, ?_, ?_, ?_⟩
      · obtain ⟨f, rfl, hf'⟩ := hfuel fuel hf
        rw [readLoop_succ, hr]
        simp only
        rw [f1 f hf', List.append_assoc]
      · rw [h4]; exact (List.prefix_append_right_inj x).mpr f2
      · rw [h4]; exact f3
      · rw [h4]
        intro i hi'
        obtain ⟨g1, g2, g3⟩ := f4 i hi'
        exact ⟨g1, by rw [g2], g3⟩
    | eof h1 h2 =>
      refine ⟨[], .eof, s1, fun fuel hf => ?_, List.nil_prefix, ?_, ?_⟩
      · obtain ⟨f, rfl, _⟩ := hfuel fuel hf
        rw [readLoop_succ, hr]
      · rw [h2]; intro h; cases h
      · rw [h2]
        intro i hi'
        cases hi'
        exact ⟨rfl, rfl, rfl, h1⟩
    | @err _ z _ h1 h2 =>
      refine ⟨x, .err z, s1, fun fuel hf => ?_, h1, fun _ => ⟨z, rfl⟩, ?_⟩
      · obtain ⟨f, rfl, _⟩ := hfuel fuel hf
        rw [readLoop_succ, hr]
      · intro i hi'
        rw [h2] at hi'
        cases hi'

end Layer

/-- the meaning as "exactly this, then a clean end" -/
def semOf (m : Bytes × Option ι) : Option (Bytes × ι) := m.2.map (fun i => (m.1, i))

theorem semOf_eq_some {m : Bytes × Option ι} {t : Bytes} {i : ι} (h : semOf m = some (t, i)) : m = (t, some i) := by
  obtain ⟨t', oi⟩ := m
  cases oi with
  | none => cases h
  | some j => cases h; rfl

theorem semOf_eq_none {m : Bytes × Option ι} (h : semOf m = none) : m.2 = none := by
  obtain ⟨t', oi⟩ := m
  cases oi with
  | none => rfl
  | some j => cases h

end Saltpack.Proofs
