/-
  The sender streams over a faulting writer: every failing underlying write is
  reported by the call it happens in and the encoder's error flag is sticky
  (`FltStep`), generic in the underlying writer, observed through a fault counter
  `flt : ω → Nat`; and bounded buffering (`writeLoop_buf`).
-/
import Saltpack.Proofs.SenderStreamRun

namespace Saltpack.Proofs.SenderP
open Saltpack Saltpack.Sender

/-- `flt` counts the failed writes below `wr`: a `Write` that succeeds leaves it
    unchanged, no `Write` lowers it.  (A failing `Write` need not raise it: a
    writer that remembers its first error — the armor encoder stream since fix
    5ad1caa — refuses later calls without any write below it.  For the scripted
    writer `Wr` a failing write raises `faults` by exactly one: `wr_write_faults`
    in SenderStreamArmor.lean.) -/
structure FltWriter {ω : Type} (wr : ω → Bytes → Bool × ω) (flt : ω → Nat) : Prop where
  ok : ∀ w p w', wr w p = (true, w') → flt w' = flt w
  fail : ∀ w p w', wr w p = (false, w') → flt w ≤ flt w'

theorem wr_flt : FltWriter Wr.write Wr.faults := by
  constructor <;> intro w p w' h
  · rcases wr_write_cases w p with ⟨_, _, h3⟩ | ⟨h1, _⟩
    · rw [h] at h3; exact h3
    · rw [h] at h1; cases h1
  · rcases wr_write_cases w p with ⟨h1, _⟩ | ⟨_, _, h3⟩
    · rw [h] at h1; cases h1
    · rw [h] at h3; rw [h3]; exact Nat.le_succ _

section faults
variable {ω : Type} (wr : ω → Bytes → Bool × ω) (flt : ω → Nat)

theorem writePieces_flt (hw : FltWriter wr flt) : ∀ (ps : List Bytes) (w : ω),
    ((writePieces wr ps w).1 = true → flt (writePieces wr ps w).2 = flt w) ∧
    flt w ≤ flt (writePieces wr ps w).2 := by
  intro ps
  induction ps with
  | nil => intro w; exact ⟨fun _ => rfl, Nat.le_refl _⟩
  | cons p ps ih =>
    intro w
    unfold writePieces
    cases h : wr w p with
    | mk ok w' =>
      cases ok with
      | true =>
        simp only
        have h0 := hw.ok w p w' h
        obtain ⟨i1, i2⟩ := ih w'
        exact ⟨fun hh => by rw [i1 hh, h0], by omega⟩
      | false => exact ⟨fun hh => (by cases hh), hw.fail w p w' h⟩

theorem encode_flt (hw : FltWriter wr flt) (pieces : Bytes → List Bytes) (c : Codec ω) (b : Bytes) :
    ((Codec.encode wr pieces c b).1 = true → flt (Codec.encode wr pieces c b).2.w = flt c.w) ∧
    flt c.w ≤ flt (Codec.encode wr pieces c b).2.w := by
  unfold Codec.encode
  by_cases hf : c.failed = true
  · simp [hf]
  · simp only [hf, Bool.false_eq_true, if_false]
    exact writePieces_flt wr flt hw (pieces b) c.w

/-- what a call that returned `r` may have done, from encoder state `c` to `c'`:
    if it returned nil no underlying write failed; a new fault leaves the encoder
    failed; the flag is never cleared; the fault count never goes down -/
abbrev FltStep (r : Option Err) (c c' : Codec ω) : Prop :=
  (r = none → flt c'.w = flt c.w) ∧ (flt c'.w ≠ flt c.w → c'.failed = true) ∧
  (c.failed = true → c'.failed = true) ∧ flt c.w ≤ flt c'.w

theorem FltStep.refl (r : Option Err) (c : Codec ω) : FltStep flt r c c :=
  ⟨fun _ => rfl, fun h => absurd rfl h, id, Nat.le_refl _⟩

theorem FltStep.trans {c1 c2 c3 : Codec ω} {r : Option Err} (h12 : FltStep flt none c1 c2) (h : FltStep flt r c2 c3) :
    FltStep flt r c1 c3 := by
  unfold FltStep
  rw [← h12.1 rfl]
  exact ⟨h.1, h.2.1, fun h1 => h.2.2.1 (h12.2.2.1 h1), h.2.2.2⟩

theorem emit_flt (hw : FltWriter wr flt) (cfg : Cfg) (f : Bool) (st : PSt ω) :
    FltStep flt (emitBlock wr cfg f st).1 st.codec (emitBlock wr cfg f st).2.codec := by
  rcases emitBlock_eq wr cfg f st with ⟨e, h, _⟩ | ⟨b, _, _, _, h⟩
  · rw [h]
    exact FltStep.refl flt _ _
  · obtain ⟨h1, h2⟩ := encode_flt wr flt hw cfg.pieces st.codec b
    rw [h]
    cases hok : (Codec.encode wr cfg.pieces st.codec b).1 with
    | true =>
      have hh := encode_true_healthy wr cfg.pieces st.codec b hok
      refine ⟨fun _ => h1 hok, fun h => absurd (h1 hok) h, fun h => ?_, h2⟩
      rw [hh.1] at h
      cases h
    | false =>
      have hf := encode_false_failed wr cfg.pieces st.codec b hok
      exact ⟨nofun, fun _ => hf, fun _ => hf, h2⟩

theorem writeLoop_flt (hw : FltWriter wr flt) (cfg : Cfg) (len fuel : Nat) (st : PSt ω) :
    FltStep flt (writeLoop wr cfg len fuel st).2.1 st.codec (writeLoop wr cfg len fuel st).2.2.codec := by
  fun_induction writeLoop wr cfg len fuel st with
  | case1 st => exact FltStep.refl flt _ _
  | case2 fuel st hgt e st' he =>
    have h := emit_flt wr flt hw cfg false st
    rw [he] at h
    split <;> exact h
  | case3 fuel st hgt st' he ih =>
    have h := emit_flt wr flt hw cfg false st
    rw [he] at h
    exact h.trans flt ih
  | case4 fuel st hgt => exact FltStep.refl flt _ _

theorem write_flt (hw : FltWriter wr flt) (cfg : Cfg) (st : PSt ω) (p : Bytes) :
    FltStep flt (st.write wr cfg p).2.1 st.codec (st.write wr cfg p).2.2.codec := by
  unfold PSt.write
  split
  · exact FltStep.refl flt _ _
  · exact writeLoop_flt wr flt hw cfg p.length _ { st with buf := st.buf ++ p }

theorem close_flt (hw : FltWriter wr flt) (cfg : Cfg) (st : PSt ω) :
    FltStep flt (st.close wr cfg).1 st.codec (st.close wr cfg).2.codec := by
  have h1 := emit_flt wr flt hw cfg false st
  rcases close_cases wr cfg st with ⟨_, h⟩ | ⟨_, _, ⟨e, _, h⟩ | ⟨hn, _, h⟩ | ⟨hn, _, h⟩⟩
  · rw [h]; exact emit_flt wr flt hw cfg true st
  · rw [h]; exact h1
  · rw [h]; exact ⟨nofun, h1.2⟩
  · rw [h]
    rw [hn] at h1
    exact h1.trans flt (emit_flt wr flt hw cfg true _)

/-- the invariant "a fault since the writer had `f0` faults ⇒ the encoder is failed" -/
def FaultSeen (f0 : Nat) (st : PSt ω) : Prop := flt st.codec.w ≠ f0 → st.codec.failed = true

theorem faultSeen_write (hw : FltWriter wr flt) (cfg : Cfg) (f0 : Nat) (st : PSt ω) (p : Bytes)
    (h : FaultSeen flt f0 st) : FaultSeen flt f0 (st.write wr cfg p).2.2 := by
  obtain ⟨_, h2, h3, _⟩ := write_flt wr flt hw cfg st p
  intro hne
  by_cases hc : flt (st.write wr cfg p).2.2.codec.w = flt st.codec.w
  · exact h3 (h (by rw [← hc]; exact hne))
  · exact h2 hc

theorem faultSeen_writes (hw : FltWriter wr flt) (cfg : Cfg) (f0 : Nat) (ps : List Bytes) : ∀ (st : PSt ω),
    FaultSeen flt f0 st → FaultSeen flt f0 (PSt.writes wr cfg st ps).2 := by
  induction ps with
  | nil => intro st h; exact h
  | cons p ps ih => intro st h; exact ih _ (faultSeen_write wr flt hw cfg f0 st p h)

theorem faultSeen_init (hw : FltWriter wr flt) (pieces : Bytes → List Bytes) (w0 : ω) (hbytes : Bytes) :
    FaultSeen flt (flt w0) (PSt.init wr pieces w0 hbytes).2 ∧
    ((PSt.init wr pieces w0 hbytes).1 = true → flt (PSt.init wr pieces w0 hbytes).2.codec.w = flt w0) := by
  obtain ⟨h1, _⟩ := encode_flt wr flt hw pieces ({ w := w0 } : Codec ω) (headerPacket hbytes)
  refine ⟨fun hne => ?_, h1⟩
  cases hok : (Codec.encode wr pieces ({ w := w0 } : Codec ω) (headerPacket hbytes)).1 with
  | true => exact absurd (h1 hok) hne
  | false => exact encode_false_failed wr pieces _ _ hok

end faults

/-! ## bounded buffering -/

section bounded
variable {ω : Type} (wr : ω → Bytes → Bool × ω)

theorem writeLoop_buf (cfg : Cfg) (hb : 0 < cfg.bs) (len fuel : Nat) (st : PSt ω) :
    (writeLoop wr cfg len fuel st).2.2.buf.length ≤ st.buf.length ∧
    (st.buf.length < fuel → (writeLoop wr cfg len fuel st).2.1 = none →
      (writeLoop wr cfg len fuel st).2.2.buf.length ≤ cfg.bs) := by
  fun_induction writeLoop wr cfg len fuel st with
  | case1 st => exact ⟨Nat.le_refl _, fun h => absurd h (Nat.not_lt_zero _)⟩
  | case2 fuel st hgt e st' he =>
    have hbuf := emit_buf wr cfg false st
    rw [he] at hbuf
    have hlen : st'.buf.length ≤ st.buf.length := by rw [hbuf, List.length_drop]; exact Nat.sub_le _ _
    refine ⟨?_, fun _ => nofun⟩
    split <;> exact hlen
  | case3 fuel st hgt st' he ih =>
    have hbuf := emit_buf wr cfg false st
    rw [he] at hbuf
    rw [hbuf, List.length_drop] at ih
    exact ⟨Nat.le_trans ih.1 (Nat.sub_le _ _), fun hf => ih.2
      (Nat.lt_of_lt_of_le (Nat.sub_lt (Nat.lt_of_le_of_lt (Nat.zero_le _) hgt) hb) (Nat.le_of_lt_succ hf))⟩
  | case4 fuel st hgt => exact ⟨Nat.le_refl _, fun _ _ => Nat.le_of_not_gt hgt⟩

end bounded

end Saltpack.Proofs.SenderP
