/-
  Strict decoding of a string of alphabet characters is compositional at every
  multiple of the character block length — stated for the MODEL function
  `Basex.decode` (`decS` of Proofs/StackBasex.lean appears inside the proofs only).
-/
import Saltpack.Proofs.StackBasex
import Saltpack.Proofs.BasexLen

namespace Saltpack.Proofs
open Saltpack Saltpack.Basex

theorem toOption_eq_some {ε α : Type} (x : Except ε α) (y : α) : x.toOption = some y ↔ x = .ok y := by
  cases x <;> simp [Except.toOption]

theorem toOption_eq_none {ε α : Type} (x : Except ε α) : x.toOption = none ↔ ∃ err, x = .error err := by
  cases x <;> simp [Except.toOption]

theorem decode_strict_nil (e : Enc) : decode e.strict [] = .ok [] := by
  unfold decode
  exact decodeAux_nil _ _ _

theorem mapM_option_eq_none {α β : Type} (f : α → Option β) : ∀ (l : List α),
    l.mapM f = none ↔ ∃ a ∈ l, f a = none := by
  intro l
  induction l with
  | nil => simp
  | cons a as ih =>
    rw [List.mapM_cons]
    cases ha : f a with
    | none => simp [ha]
    | some b => cases hr : as.mapM f <;> simp [ha, hr, ← ih]

theorem decode_strict_append (e : Enc) (hN : 0 < e.charBlockLen) (k : Nat) (a b : List UInt8)
    (h : AllDig e (a ++ b)) (hl : a.length = k * e.charBlockLen) :
    (decode e.strict (a ++ b)).toOption =
      (decode e.strict a).toOption.bind (fun x => (decode e.strict b).toOption.map (fun m => x ++ m)) := by
  rw [decode_strict_digits e _ h, decode_strict_digits e _ (allDig_left h),
    decode_strict_digits e _ (allDig_right h)]
  exact decS_append e hN k a b hl

theorem decode_strict_blocks (e : Enc) (hN : 0 < e.charBlockLen) : ∀ (blocks : List (List UInt8)),
    AllDig e blocks.flatten →
    (∀ b ∈ blocks.dropLast, e.charBlockLen ∣ b.length) →
    (decode e.strict blocks.flatten).toOption =
      (blocks.mapM (fun b => (decode e.strict b).toOption)).map List.flatten := by
  intro blocks
  induction blocks with
  | nil =>
    intro _ _
    rw [List.flatten_nil, decode_strict_nil]
    rfl
  | cons b rest ih =>
    intro hd hb
    rw [List.mapM_cons]
    cases rest with
    | nil =>
      rw [List.flatten_cons, List.flatten_nil, List.append_nil, List.mapM_nil]
      cases (decode e.strict b).toOption with
      | none => rfl
      | some x => simp
    | cons c rest' =>
      rw [List.flatten_cons] at hd ⊢
      obtain ⟨k, hk⟩ := hb b (by simp [List.dropLast])
      have hrest := ih (allDig_right hd) (fun b' hb' => hb b' (by
        rw [List.dropLast_cons_cons]; exact List.mem_cons_of_mem _ hb'))
      rw [decode_strict_append e hN k b _ hd (by rw [hk, Nat.mul_comm]), hrest]
      cases (decode e.strict b).toOption with
      | none => rfl
      | some x =>
        cases List.mapM (fun b => (decode e.strict b).toOption) (c :: rest') with
        | none => rfl
        | some ys => simp

end Saltpack.Proofs
