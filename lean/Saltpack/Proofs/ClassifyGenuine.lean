/-
  The armored classifier on genuine messages once the first block is shown: a text that
  begins with a genuine frame line, its period, and alphanumerics-or-spaces `w`
  showing exactly the 43 characters of the first base62 block of a message whose
  first 32 bytes the binary classifier classifies, meets the hypotheses of
  `arm_ok_stable` — so that text and EVERY extension of it are classified with
  that mode, version and brand.
-/
import Saltpack.Proofs.ClassifyStable
import Saltpack.Proofs.ClassifyLemmas

namespace Saltpack.Proofs.ClsStable
open Saltpack Saltpack.Classify Saltpack.Msgpack Saltpack.Armor ClsAux

theorem block_chars (M32 : Bytes) (Z : Bytes) (hc : charsOf Z = Basex.encode Gen.base62Std.strict M32)
    (hlen : M32.length = 32) :
    firstBlockOf Z = M32 ∧ 32 ≤ (decOf Z).length := by
  have hwf : Gen.base62Std.strict.WF := params62_strict_wf
  have h43 : (Basex.encode Gen.base62Std.strict M32).length = 43 := by
    rw [Saltpack.Proofs.encode_length _ hwf, hlen]; decide
  have hfb : firstBlockOf Z = M32 := by
    unfold firstBlockOf
    rw [hc, List.take_of_length_le (by omega), Saltpack.Proofs.decode_encode _ hwf]
  refine ⟨hfb, ?_⟩
  unfold decOf
  rw [decodePrefix_first _ _ (by rw [hc]; omega), hc, List.take_of_length_le (by omega), Saltpack.Proofs.decode_encode _ hwf]
  simp only [List.length_append]
  omega

/-! ### the beginning of `Armor.seal62` -/

theorem filter_alnum (l : Bytes) (h : ∀ c ∈ l, isAlnum c = true) : l.filter (· != Armor.space) = l := by
  rw [List.filter_eq_self]
  intro c hc
  have := h c hc
  have hs : isAlnum Armor.space = false := by decide
  by_cases hcs : c = Armor.space
  · subst hcs; rw [hs] at this; cases this
  · simpa using hcs

theorem encode62_split (M : Bytes) (h : 32 ≤ M.length) :
    Basex.encode params62.enc M = Basex.encode params62.enc (M.take 32) ++ Basex.encode params62.enc (M.drop 32) := by
  have hl : (M.take 32).length = params62.enc.blockLen := by
    rw [List.length_take]; show min 32 M.length = 32; omega
  have h1 := Saltpack.Proofs.encode_append params62.enc params62_wf (M.take 32) (M.drop 32) hl
  have h2 := Saltpack.Proofs.encode_append params62.enc params62_wf (M.take 32) [] hl
  rw [List.take_append_drop] at h1
  rw [List.append_nil] at h2
  have h0 : Basex.encode params62.enc [] = [] := rfl
  rw [h0, List.append_nil] at h2
  rw [h1, h2]

theorem chunks_head_prefix (c R : Bytes) (hc : c.length ≤ 15) (hne : c ++ R ≠ []) :
    ∃ x ws, chunks 15 (c ++ R) = (c ++ x) :: ws := by
  by_cases hl : (c ++ R).length ≤ 15
  · exact ⟨R, [], chunks_short 15 _ hne hl⟩
  · refine ⟨R.take (15 - c.length), chunks 15 ((c ++ R).drop 15), ?_⟩
    rw [chunks_long 15 (by decide) _ (by omega), List.take_append]
    rw [List.take_of_length_le hc]

theorem spaceWords_head (par : Params) (k : Nat) (w : Bytes) (ws : List Bytes) :
    ∃ y, spaceWords par k (w :: ws) = w ++ y := by
  cases ws with
  | nil => exact ⟨[], by simp [spaceWords]⟩
  | cons v vs =>
    exact ⟨[if (k + 1) % par.wordsPerLine = 0 then newline else space] ++ spaceWords par (k + 1) (v :: vs), by
      rw [← List.append_assoc]; rfl⟩

theorem seal62_begins (typ : Int) (brand M : Bytes) (h : 32 ≤ M.length) :
    ∃ w rest, Armor.seal62 typ brand M = Armor.header typ brand ++ [Armor.period] ++ w ++ rest ∧
      (∀ c ∈ w, isAlnum c = true ∨ c = Armor.space) ∧
      w.filter (· != Armor.space) = Basex.encode Gen.base62Std.strict (M.take 32) := by
  -- the 43 characters of the first block are two full words of 15 (`params62.bytesPerWord`) and 13 characters of
  -- the third; a line has 200 words, so the separators after the first two words are spaces
  have hwf := params62_wf
  have hA : (M.take 32).length = 32 := by rw [List.length_take]; omega
  have h43 : (Basex.encode params62.enc (M.take 32)).length = 43 := by
    rw [Saltpack.Proofs.encode_length _ hwf, hA]; decide
  have hal : ∀ c ∈ Basex.encode params62.enc (M.take 32), isAlnum c = true :=
    fun c hc => (isAlnum_iff c).mpr (digit_alnum c (encode_chars params62.enc hwf _ c hc))
  generalize hc43 : Basex.encode params62.enc (M.take 32) = c43 at h43 hal
  generalize hR : Basex.encode params62.enc (M.drop 32) = R
  have hchars : Basex.encode params62.enc M = c43.take 15 ++ ((c43.drop 15).take 15 ++ (c43.drop 30 ++ R)) := by
    rw [encode62_split M h, hc43, hR]
    have : c43 = c43.take 15 ++ ((c43.drop 15).take 15 ++ c43.drop 30) := by
      rw [show c43.drop 30 = (c43.drop 15).drop 15 by rw [List.drop_drop], List.take_append_drop, List.take_append_drop]
    conv => lhs; rw [this]
    simp only [List.append_assoc]
  have hla : (c43.take 15).length = 15 := by rw [List.length_take]; omega
  have hlb : ((c43.drop 15).take 15).length = 15 := by rw [List.length_take, List.length_drop]; omega
  have hlc : (c43.drop 30).length = 13 := by rw [List.length_drop]; omega
  obtain ⟨x, ws, hch⟩ := chunks_head_prefix (c43.drop 30) R (by omega) (by
    intro h0
    have := congrArg List.length h0
    rw [List.length_append, hlc] at this
    simp at this)
  have hwords : chunks 15 (Basex.encode params62.enc M) =
      c43.take 15 :: (c43.drop 15).take 15 :: (c43.drop 30 ++ x) :: ws := by
    rw [hchars, chunks_append 15 (by decide) _ _ hla, chunks_append 15 (by decide) _ _ hlb, hch]
  obtain ⟨y, hy⟩ := spaceWords_head params62 2 (c43.drop 30 ++ x) ws
  have hsw : spaceWords params62 0 (chunks 15 (Basex.encode params62.enc M)) =
      c43.take 15 ++ [Armor.space] ++ ((c43.drop 15).take 15 ++ [Armor.space] ++ (c43.drop 30 ++ x ++ y)) := by
    rw [hwords]
    show c43.take 15 ++ [Armor.space] ++ ((c43.drop 15).take 15 ++ [Armor.space] ++
      spaceWords params62 2 ((c43.drop 30 ++ x) :: ws)) = _
    rw [hy]
  refine ⟨[Armor.space] ++ c43.take 15 ++ [Armor.space] ++ (c43.drop 15).take 15 ++ [Armor.space] ++ c43.drop 30, ?_, ?_, ?_, ?_⟩
  · exact x ++ y ++ (let words := chunks 15 (Basex.encode params62.enc M)
      let lastLen := (words.getLast?.getD []).length
      let nWords := if words.isEmpty then 1 else words.length
      (if lastLen = 15 then (if nWords % 200 = 0 then [newline] else [space]) else [])) ++
        [period, space] ++ footer typ brand ++ [period, newline]
  · unfold seal62 sealText
    show header typ brand ++ [period, space] ++ spaceWords params62 0 (chunks 15 (Basex.encode params62.enc M)) ++ _ ++
      [period, space] ++ footer typ brand ++ [period, newline] = _
    rw [hsw]
    simp only [List.append_assoc, List.cons_append, List.nil_append]
    rfl
  · intro c hc
    simp only [List.mem_append, List.mem_singleton] at hc
    rcases hc with ((((h1 | h1) | h1) | h1) | h1) | h1
    · exact Or.inr h1
    · exact Or.inl (hal c (List.mem_of_mem_take h1))
    · exact Or.inr h1
    · exact Or.inl (hal c (List.mem_of_mem_drop (List.mem_of_mem_take h1)))
    · exact Or.inr h1
    · exact Or.inl (hal c (List.mem_of_mem_drop h1))
  · have hs : [Armor.space].filter (· != Armor.space) = [] := by decide
    simp only [List.filter_append, hs, List.nil_append, List.append_nil]
    rw [filter_alnum _ (fun c hc => hal c (List.mem_of_mem_take hc)),
      filter_alnum _ (fun c hc => hal c (List.mem_of_mem_drop (List.mem_of_mem_take hc))),
      filter_alnum _ (fun c hc => hal c (List.mem_of_mem_drop hc))]
    rw [← hc43]
    show _ = Basex.encode params62.enc (M.take 32)
    rw [hc43]
    rw [show c43.drop 30 = (c43.drop 15).drop 15 by rw [List.drop_drop], List.append_assoc, List.take_append_drop,
      List.take_append_drop]


/-- the frame type a sender armors mode `t` with (`Armor62Seal` callers:
    encryption and signcryption → ENCRYPTED MESSAGE, attached → SIGNED MESSAGE,
    detached → DETACHED SIGNATURE) -/
def armorTypeOf (t : Int) : Int :=
  if t = mtAttached then mtAttached else if t = mtDetached then mtDetached else mtEncryption

theorem conclude_genuine (brand : Bytes) (t : Int) (v : Version) (hm : isMode t = true) (sffx : Bytes)
    (hs : typeString (armorTypeOf t) = some sffx) : conclude brand sffx (.ok (t, v)) = .ok (brand, t, v) := by
  rcases CodecMono.isMode_cases t hm with rfl | rfl | rfl | rfl
  all_goals
    have : sffx = _ := (Option.some.inj hs).symm
    subst this
    rfl

end Saltpack.Proofs.ClsStable
