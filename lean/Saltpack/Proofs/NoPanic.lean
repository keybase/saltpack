/-
  Hostile input never makes a receiver panic, and the gating of format name /
  version / mode on both sides.

  In the model every explicit `panic(` of the Go code and every index/nil
  dereference on attacker-controlled data is a branch returning
  `Err.panic site`.  "Never panics" = no run ends in such an error.
-/
import Saltpack.Model.Decrypt
import Saltpack.Model.Signcrypt
import Saltpack.Model.Sign
import Saltpack.Model.Encrypt
import Saltpack.Proofs.Receiver
import Saltpack.Proofs.DecHeader

namespace Saltpack.Proofs
open Saltpack

def Err.isPanic : Err → Bool
  | .panic _ => true
  | _ => false

/-- validators the library documents as legal: they admit only major versions the
    code implements ("Let caller be responsible for filtering out unknown versions") -/
def ValidatorOK (valid : Validator) : Prop := ∀ v, valid v = true → v.major = 1 ∨ v.major = 2

theorem knownMajor_ok : ValidatorOK knownMajor := by
  intro v h
  simpa [knownMajor] using h

theorem knownVersion_iff (v : Version) : knownVersion v = true ↔ v = v1 ∨ v = v2 := by
  simp [knownVersion]

theorem modes_distinct :
    mtEncryption ≠ mtAttached ∧ mtEncryption ≠ mtDetached ∧ mtEncryption ≠ mtSigncryption ∧
    mtAttached ≠ mtDetached ∧ mtAttached ≠ mtSigncryption ∧ mtDetached ≠ mtSigncryption := by
  simp only [mtEncryption, mtAttached, mtDetached, mtSigncryption,
    Gen.c_sp_MessageTypeEncryption, Gen.c_sp_MessageTypeAttachedSignature,
    Gen.c_sp_MessageTypeDetachedSignature, Gen.c_sp_MessageTypeSigncryption]
  decide

/-! ## C15: no panic, for all decoded headers/packets and all keyring behaviours

  NOTE on `htail` / `hsr`: the packet stream's `Tail.err e` (and `SigRead.none e`
  for detached signatures) carries the error the *underlying reader / decoder*
  reported, as an arbitrary `Err`, and the receivers hand it through unchanged.
  The theorems therefore assume that this input error is not itself `Err.panic _`
  (it is an I/O or decode error, never a panic of this code); without the
  assumption they are false, see `ver_tail_panic_propagates`,
  `det_sigread_panic_propagates`, `dec_run_tail_propagates`. -/

/-- "this result is not a panic" -/
def NotPanic {α : Type} (r : Except Err α) : Prop := ∀ e, r = .error e → Err.isPanic e = false

@[simp] theorem NotPanic_ok {α : Type} (a : α) : NotPanic (Except.ok a : Except Err α) := by
  intro e h; cases h

@[simp] theorem NotPanic_error {α : Type} (e : Err) : NotPanic (Except.error e : Except Err α) ↔ Err.isPanic e = false := by
  constructor
  · intro h; exact h e rfl
  · intro h e' h'; cases h'; exact h

theorem NotPanic_ite {α : Type} {c : Prop} [Decidable c] {a b : Except Err α} (ha : NotPanic a) (hb : NotPanic b) :
    NotPanic (if c then a else b) := by
  split
  · exact ha
  · exact hb

theorem NotPanic_andThen {α β : Type} {x : Decrypt.Logged α} {f : α → Decrypt.Logged β}
    (hx : NotPanic x.2) (hf : ∀ a, x.2 = .ok a → NotPanic (f a).2) : NotPanic (andThen x f).2 := by
  intro e he
  rcases andThen_err he with h | ⟨a, ha, h⟩
  · exact hx e h
  · exact hf a ha e h

theorem NotPanic_orErr {α : Type} {e : Err} (he : Err.isPanic e = false) (o : Option α) : NotPanic (orErr e o) := by
  cases o with
  | none => exact (NotPanic_error e).2 he
  | some a => exact NotPanic_ok a

theorem eq_of_not_bne {α : Type} [BEq α] [LawfulBEq α] {a b : α} (h : ¬ (a != b) = true) : a = b := by
  simpa using h

/-- the only `.panic` leaf below `processHeader`'s entry search (`tryVisible`,
    `tryHiddenOne`, `tryHidden`) is this nonce's, for a major other than 1 or 2 -/
theorem payloadKeyBox_no_panic (v : Version) (hv : v.major = 1 ∨ v.major = 2) (i : Nat) :
    NotPanic (Nonce.payloadKeyBox v i) := by
  unfold Nonce.payloadKeyBox
  rcases hv with hv | hv <;> simp [hv]

theorem unboxed_no_panic (sk : Bytes) (pos : Nat) (o : Option Bytes) : NotPanic (unboxed sk pos o) := by
  cases o with
  | none => exact (NotPanic_error _).2 rfl
  | some pk => exact NotPanic_ite ((NotPanic_error _).2 rfl) (NotPanic_ok _)

theorem tryVisible_no_panic (P : Prims) (kr : Keyring) (h : EncHeader) (eph : Bytes)
    (hv : h.version.major = 1 ∨ h.version.major = 2) : NotPanic (Decrypt.tryVisible P kr h eph).2 := by
  rcases tryVisible_cases P kr h eph with h0 | h0 | ⟨sk, i, pos, _, _, _, ⟨e, he, h0⟩ | ⟨nonce, _, h0⟩⟩
  · rw [h0]
    exact NotPanic_ok _
  · rw [h0]
    exact (NotPanic_error _).2 rfl
  · rw [h0]
    exact (NotPanic_error e).2 (payloadKeyBox_no_panic h.version hv pos e he)
  · rw [h0]
    exact unboxed_no_panic sk pos _

theorem tryHiddenOne_no_panic (P : Prims) (v : Version) (hv : v.major = 1 ∨ v.major = 2)
    (sk eph : Bytes) (l : List (RecvKeys × Nat)) : NotPanic (Decrypt.tryHiddenOne P v sk eph l).2 := by
  induction l with
  | nil => exact NotPanic_ok _
  | cons x rest ih =>
    obtain ⟨r, i⟩ := x
    rcases tryHiddenOne_cons_cases P v sk eph r i rest with
      ⟨_, h0⟩ | ⟨_, ⟨e, he, h0⟩ | ⟨nonce, _, ⟨_, h0⟩ | ⟨pk, _, ⟨_, h0⟩ | ⟨_, h0⟩⟩⟩⟩
    · rw [h0]
      exact ih
    · rw [h0]
      exact (NotPanic_error e).2 (payloadKeyBox_no_panic v hv i e he)
    · rw [h0]
      exact ih
    · rw [h0]
      exact (NotPanic_error _).2 rfl
    · rw [h0]
      exact NotPanic_ok _

theorem tryHidden_no_panic (P : Prims) (h : EncHeader) (hv : h.version.major = 1 ∨ h.version.major = 2)
    (eph : Bytes) (sks : List Bytes) : NotPanic (Decrypt.tryHidden P h eph sks).2 := by
  induction sks with
  | nil => exact NotPanic_ok _
  | cons sk sks ih =>
    rcases tryHidden_cons_cases P h eph sk sks with ⟨e, he, h0⟩ | ⟨pk, i, _, h0⟩ | ⟨_, h0⟩
    · rw [h0]
      exact (NotPanic_error e).2 (tryHiddenOne_no_panic P h.version hv sk eph h.receivers.zipIdx e he)
    · rw [h0]
      exact NotPanic_ok _
    · rw [h0]
      exact ih

theorem macKeyReceiver_no_panic (P : Prims) (v : Version) (hv : v.major = 1 ∨ v.major = 2)
    (index : Nat) (secret pub ePub hh : Bytes) :
    NotPanic (Decrypt.macKeyReceiver P v index secret pub ePub hh).2 := by
  unfold Decrypt.macKeyReceiver
  rcases hv with hv | hv <;> simp [hv]


theorem dec_validate_inv (valid : Validator) (h : EncHeader) (hok : Decrypt.validate valid h = .ok ()) :
    h.formatName = Gen.c_sp_FormatName ∧ valid h.version = true ∧ h.typ = mtEncryption := by
  unfold Decrypt.validate at hok
  by_cases h1 : (h.formatName != Gen.c_sp_FormatName) = true
  · rw [if_pos h1] at hok; cases hok
  by_cases h2 : (h.typ != mtEncryption) = true
  · rw [if_neg h1, if_pos h2] at hok; cases hok
  by_cases h3 : valid h.version = true
  · exact ⟨eq_of_not_bne h1, h3, eq_of_not_bne h2⟩
  · rw [if_neg h1, if_neg h2, if_neg h3] at hok; cases hok

theorem dec_validate_no_panic (valid : Validator) (h : EncHeader) : NotPanic (Decrypt.validate valid h) :=
  NotPanic_ite ((NotPanic_error _).2 rfl) (NotPanic_ite ((NotPanic_error _).2 rfl) (NotPanic_ite (NotPanic_ok _) ((NotPanic_error _).2 rfl)))


theorem dec_processHeader_validate (P : Prims) (valid : Validator) (kr : Keyring) (hh : Bytes) (h : EncHeader)
    (log : List KeyCall) (st : Decrypt.State)
    (hok : Decrypt.processHeader P valid kr hh h = (log, .ok st)) :
    Decrypt.validate valid h = .ok () := by
  obtain ⟨eph, vis, l1, r, l2, senderKey, senderPub, mk, l3, hval, -⟩ := processHeader_ok hok
  exact hval

theorem dec_processHeader_fields (P : Prims) (valid : Validator) (kr : Keyring) (hh : Bytes) (h : EncHeader)
    (log : List KeyCall) (st : Decrypt.State)
    (hok : Decrypt.processHeader P valid kr hh h = (log, .ok st)) :
    st.version = h.version ∧ st.headerHash = hh := by
  obtain ⟨eph, vis, l1, r, l2, senderKey, senderPub, mk, l3, -, rfl, -⟩ := processHeader_ok hok
  exact ⟨rfl, rfl⟩

theorem dec_processHeader_version (P : Prims) (valid : Validator) (kr : Keyring) (hh : Bytes) (h : EncHeader)
    (log : List KeyCall) (st : Decrypt.State)
    (hok : Decrypt.processHeader P valid kr hh h = (log, .ok st)) :
    st.version = h.version :=
  (dec_processHeader_fields P valid kr hh h log st hok).1

theorem findEntry_no_panic (P : Prims) (kr : Keyring) (h : EncHeader)
    (hv : h.version.major = 1 ∨ h.version.major = 2) (eph : Bytes) (vis : Option (Bytes × Bytes × Nat)) :
    NotPanic (findEntry P kr h eph vis).2 := by
  cases vis with
  | some r => exact NotPanic_ok _
  | none =>
    refine NotPanic_andThen (tryHidden_no_panic P h hv eph _) fun r _ => ?_
    cases r with
    | none => exact (NotPanic_error _).2 rfl
    | some r => exact NotPanic_ok _

/-- every step of `processHeader` fails without panic; the key steps need a
    major the validator has admitted -/
theorem dec_processHeader_no_panic (P : Prims) (valid : Validator) (hvalid : ValidatorOK valid)
    (kr : Keyring) (hh : Bytes) (h : EncHeader) :
    NotPanic (Decrypt.processHeader P valid kr hh h).2 := by
  rw [processHeader_eq]
  refine NotPanic_andThen (dec_validate_no_panic valid h) fun _ hval => ?_
  have hv := hvalid _ (dec_validate_inv valid h hval).2.1
  refine NotPanic_andThen (NotPanic_orErr rfl _) fun eph _ => ?_
  refine NotPanic_andThen (tryVisible_no_panic P kr h eph hv) fun vis _ => ?_
  refine NotPanic_andThen (findEntry_no_panic P kr h hv eph vis) fun r _ => ?_
  refine NotPanic_andThen (NotPanic_orErr rfl _) fun senderKey _ => ?_
  refine NotPanic_andThen (NotPanic_ite ((NotPanic_error _).2 rfl) (NotPanic_ok _)) fun _ _ => ?_
  refine NotPanic_andThen (NotPanic_orErr rfl _) fun senderPub _ => ?_
  exact NotPanic_andThen (macKeyReceiver_no_panic P h.version hv _ _ _ _ _) fun mk _ => NotPanic_ok _


theorem payloadHash_no_panic (P : Prims) (v : Version) (hv : v.major = 1 ∨ v.major = 2)
    (hh nonce ct : Bytes) (f : Bool) : NotPanic (payloadHash P v hh nonce ct f) := by
  unfold payloadHash
  rcases hv with hv | hv <;> simp [hv]

theorem dec_processBlock_no_panic (P : Prims) (s : Decrypt.State)
    (hv : s.version.major = 1 ∨ s.version.major = 2) (b : EncBlock) (f : Bool) (seqno : Nat) :
    NotPanic (Decrypt.processBlock P s b f seqno) := by
  have h1 := payloadHash_no_panic P s.version hv
  unfold Decrypt.processBlock
  simp only []
  repeat' split
  all_goals (try simp only [NotPanic_ok, NotPanic_error])
  -- every error leaf is a literal that is no panic, but the one handed up from `payloadHash`
  all_goals (first | rfl | (rename_i heq; exact h1 _ _ _ _ _ heq))

theorem dec_processBlock_len (P : Prims) (hP : P.Lawful) (s : Decrypt.State) (b : EncBlock) (f : Bool)
    (seqno : Nat) (chunk : Bytes) (h : Decrypt.processBlock P s b f seqno = .ok chunk) :
    b.ct.length = chunk.length + 16 := by
  unfold Decrypt.processBlock at h
  simp only [] at h
  repeat' split at h
  all_goals (try cases h)
  rename_i heq
  exact hP.sb_open_len _ _ _ _ heq

theorem checkChunkState_v1 (v : Version) (hv : v.major = 1) (n i : Nat) (f : Bool)
    (hf : (n == 0) = f) : checkChunkState v n i f = .ok () := by
  unfold checkChunkState
  simp [hv, hf]

theorem checkChunkState_v2_no_panic (v : Version) (hv : v.major = 2) (n i : Nat) (f : Bool) :
    NotPanic (checkChunkState v n i f) := by
  unfold checkChunkState
  have : ¬ v.major = 1 := by omega
  rw [if_neg this, if_pos hv]
  split <;> simp [Err.isPanic]

theorem dec_step_no_panic (P : Prims) (hP : P.Lawful) (s : Decrypt.State)
    (hv : s.version.major = 1 ∨ s.version.major = 2) (b : EncBlock) (seqno : Nat) :
    NotPanic (Dec.step P s b seqno) := by
  intro e h
  unfold Dec.step at h
  split at h
  · rename_i chunk heq
    have hlen := dec_processBlock_len P hP s b _ seqno chunk heq
    split at h
    · cases h
    · rename_i e' heq2
      cases h
      rcases hv with hv | hv
      · -- V1 derives the final flag from the very length `checkChunkState` tests
        rw [checkChunkState_v1 s.version hv] at heq2
        · cases heq2
        · simp [Decrypt.blockFinal, hv, hlen]
      · exact checkChunkState_v2_no_panic s.version hv _ _ _ _ heq2
  · rename_i e' heq
    cases h
    exact dec_processBlock_no_panic P s hv b _ seqno _ heq

/-- the errors of a run are those of its steps, the reader's, or stream errors
    (`grun_err`): none is a panic -/
theorem dec_run_no_panic (P : Prims) (hP : P.Lawful) (s : Decrypt.State)
    (hv : s.version.major = 1 ∨ s.version.major = 2) (tail : Tail)
    (htail : ∀ e, tail = .err e → Err.isPanic e = false) :
    ∀ (items : List (Option EncBlock)) (seqno : Nat) (e : Err),
      (Decrypt.run P s items tail seqno).err = some e → Err.isPanic e = false := by
  intro items seqno e h
  rw [Dec.run_eq] at h
  rcases grun_err _ _ _ _ _ _ h with ⟨b, k, _, hs⟩ | ht | rfl | rfl | rfl
  · exact dec_step_no_panic P hP s hv b k e hs
  · exact htail e ht
  · rfl
  · rfl
  · rfl


theorem dec_no_panic (P : Prims) (hP : P.Lawful) (valid : Validator) (hvalid : ValidatorOK valid)
    (kr : Keyring) (hr : HeaderRead EncHeader) (ps : PStream EncBlock)
    (htail : ∀ e, ps.tail = .err e → Err.isPanic e = false) (e : Err)
    (h : (Decrypt.openStream P valid kr hr ps).err = some e) : Err.isPanic e = false := by
  unfold Decrypt.openStream at h
  cases hr with
  | unreadable => cases h; rfl
  | undecodable hb => cases h; rfl
  | ok hb hd =>
    simp only [] at h
    split at h
    · rename_i log e' heq
      cases h
      have := dec_processHeader_no_panic P valid hvalid kr (P.hash hb) hd e
      rw [heq] at this
      exact this rfl
    · rename_i log st heq
      have hver := dec_processHeader_version P valid kr _ hd log st heq
      have hval := dec_processHeader_validate P valid kr _ hd log st heq
      have hv := hvalid _ (dec_validate_inv valid hd hval).2.1
      rw [← hver] at hv
      exact dec_run_no_panic P hP st hv ps.tail htail ps.items 1 e h

/-! ## the gate of the decrypting receiver (C17) -/

theorem enc_gate (P : Prims) (valid : Validator) (kr : Keyring) (hh : Bytes) (h : EncHeader)
    (log : List KeyCall) (st : Decrypt.State)
    (hok : Decrypt.processHeader P valid kr hh h = (log, .ok st)) :
    h.formatName = Gen.c_sp_FormatName ∧ valid h.version = true ∧ h.typ = mtEncryption :=
  dec_validate_inv valid h (dec_processHeader_validate P valid kr hh h log st hok)

theorem enc_gate_released (P : Prims) (valid : Validator) (kr : Keyring) (hb : Bytes) (h : EncHeader)
    (ps : PStream EncBlock)
    (hrel : (Decrypt.openStream P valid kr (.ok hb h) ps).released ≠ [] ∨
            (Decrypt.openStream P valid kr (.ok hb h) ps).err = none) :
    h.formatName = Gen.c_sp_FormatName ∧ valid h.version = true ∧ h.typ = mtEncryption := by
  unfold Decrypt.openStream at hrel
  simp only [] at hrel
  split at hrel
  · simp at hrel
  · rename_i log st heq
    exact enc_gate P valid kr _ h log st heq



/-! ## signcryption: no panic (C15) and the gate (C17) -/

theorem sc_validate_inv (h : EncHeader) (hok : Signcrypt.validate h = .ok ()) :
    h.formatName = Gen.c_sp_FormatName ∧ h.version.major = 2 ∧ h.typ = mtSigncryption := by
  unfold Signcrypt.validate at hok
  by_cases h1 : (h.formatName != Gen.c_sp_FormatName) = true
  · rw [if_pos h1] at hok; cases hok
  by_cases h2 : (h.typ != mtSigncryption) = true
  · rw [if_neg h1, if_pos h2] at hok; cases hok
  by_cases h3 : (h.version.major != 2) = true
  · rw [if_neg h1, if_neg h2, if_pos h3] at hok; cases hok
  · exact ⟨eq_of_not_bne h1, eq_of_not_bne h3, eq_of_not_bne h2⟩

theorem sc_validate_no_panic (h : EncHeader) : NotPanic (Signcrypt.validate h) :=
  NotPanic_ite ((NotPanic_error _).2 rfl) (NotPanic_ite ((NotPanic_error _).2 rfl) (NotPanic_ite ((NotPanic_error _).2 rfl) (NotPanic_ok _)))

theorem tryBoxOne_no_panic (P : Prims) (dks : List Bytes) (r : RecvKeys) (i : Nat) (e : Err)
    (h : Signcrypt.tryBoxOne P dks r i = some (.error e)) : Err.isPanic e = false := by
  induction dks with
  | nil => simp [Signcrypt.tryBoxOne] at h
  | cons dk rest ih =>
    unfold Signcrypt.tryBoxOne at h
    repeat' split at h
    -- a key that does not match passes the question on (`ih`); one that matches answers with a
    -- literal error or with a key, which `h` excludes
    all_goals (first | exact ih h | (cases h; rfl) | cases h)

theorem tryBox_no_panic (P : Prims) (dks : List Bytes) (l : List (RecvKeys × Nat)) :
    NotPanic (Signcrypt.tryBox P dks l) := by
  induction l with
  | nil => simp [Signcrypt.tryBox]
  | cons x rest ih =>
    obtain ⟨r, i⟩ := x
    unfold Signcrypt.tryBox
    split
    · simp
    · rename_i e heq
      simp only [NotPanic_error]
      exact tryBoxOne_no_panic P dks r i e heq
    · exact ih


theorem trySym_go_no_panic (P : Prims) (ephPub : Bytes) (l : List (Option Bytes × RecvKeys × Nat)) :
    NotPanic (Signcrypt.trySym.go P ephPub l) := by
  induction l with
  | nil => simp [Signcrypt.trySym.go]
  | cons x rest ih =>
    obtain ⟨k, r, i⟩ := x
    cases k with
    | none => unfold Signcrypt.trySym.go; exact ih
    | some k =>
      unfold Signcrypt.trySym.go
      simp only []
      repeat' split
      all_goals simp [Err.isPanic]

theorem trySym_no_panic (P : Prims) (res : Signcrypt.Resolver) (h : EncHeader) (ephPub : Bytes) :
    NotPanic (Signcrypt.trySym P res h ephPub) := by
  unfold Signcrypt.trySym
  simp only []
  repeat' split
  -- literal errors, or the result of `trySym.go`
  all_goals (first | exact trySym_go_no_panic P ephPub _ | simp [Err.isPanic])

theorem sc_processHeader_validate (P : Prims) (kr : Keyring) (res : Signcrypt.Resolver) (hh : Bytes)
    (h : EncHeader) (log : List KeyCall) (st : Signcrypt.State)
    (hok : Signcrypt.processHeader P kr res hh h = (log, .ok st)) :
    Signcrypt.validate h = .ok () := by
  unfold Signcrypt.processHeader at hok
  split at hok
  · cases hok
  · assumption

theorem sc_processHeader_no_panic (P : Prims) (kr : Keyring) (res : Signcrypt.Resolver) (hh : Bytes)
    (h : EncHeader) : NotPanic (Signcrypt.processHeader P kr res hh h).2 := by
  have h0 := sc_validate_no_panic h
  have h1 := tryBox_no_panic P
  have h2 := trySym_no_panic P res h
  intro e he
  generalize hres : Signcrypt.processHeader P kr res hh h = r at he
  obtain ⟨log, r⟩ := r
  simp only at he
  subst he
  unfold Signcrypt.processHeader at hres
  simp only [] at hres
  repeat' split at hres
  all_goals (try cases hres)
  all_goals (try rfl)
  · rename_i heq
    exact h0 _ heq
  · rename_i heq
    split at heq
    · rename_i heq2
      cases heq
      exact h1 _ _ _ heq2
    · cases heq
    · exact h2 _ _ heq


theorem sc_processBlock_no_panic (P : Prims) (s : Signcrypt.State) (b : SigncryptBlock) (seqno : Nat) :
    NotPanic (Signcrypt.processBlock P s b seqno) := by
  unfold Signcrypt.processBlock
  simp only []
  repeat' split
  all_goals simp [Err.isPanic]

theorem sc_step_no_panic (P : Prims) (s : Signcrypt.State) (b : SigncryptBlock) (seqno : Nat) :
    NotPanic (Sc.step P s b seqno) := by
  intro e h
  unfold Sc.step at h
  split at h
  · split at h
    · cases h
    · rename_i e' heq2
      cases h
      exact checkChunkState_v2_no_panic v2 rfl _ _ _ _ heq2
  · rename_i e' heq
    cases h
    exact sc_processBlock_no_panic P s b seqno _ heq

theorem sc_run_no_panic (P : Prims) (s : Signcrypt.State) (tail : Tail)
    (htail : ∀ e, tail = .err e → Err.isPanic e = false) :
    ∀ (items : List (Option SigncryptBlock)) (seqno : Nat) (e : Err),
      (Signcrypt.run P s items tail seqno).err = some e → Err.isPanic e = false := by
  intro items seqno e h
  rw [Sc.run_eq] at h
  rcases grun_err _ _ _ _ _ _ h with ⟨b, k, _, hs⟩ | ht | rfl | rfl | rfl
  · exact sc_step_no_panic P s b k e hs
  · exact htail e ht
  · rfl
  · rfl
  · rfl

theorem sc_no_panic (P : Prims) (kr : Keyring) (res : Signcrypt.Resolver)
    (hr : HeaderRead EncHeader) (ps : PStream SigncryptBlock)
    (htail : ∀ e, ps.tail = .err e → Err.isPanic e = false) (e : Err)
    (h : (Signcrypt.openStream P kr res hr ps).err = some e) : Err.isPanic e = false := by
  unfold Signcrypt.openStream at h
  cases hr with
  | unreadable => cases h; rfl
  | undecodable hb => cases h; rfl
  | ok hb hd =>
    simp only [] at h
    split at h
    · rename_i log e' heq
      cases h
      have := sc_processHeader_no_panic P kr res (P.hash hb) hd e
      rw [heq] at this
      exact this rfl
    · exact sc_run_no_panic P _ ps.tail htail ps.items 1 e h

theorem sc_gate (P : Prims) (kr : Keyring) (res : Signcrypt.Resolver) (hh : Bytes) (h : EncHeader)
    (log : List KeyCall) (st : Signcrypt.State)
    (hok : Signcrypt.processHeader P kr res hh h = (log, .ok st)) :
    h.formatName = Gen.c_sp_FormatName ∧ h.version.major = 2 ∧ h.typ = mtSigncryption :=
  sc_validate_inv h (sc_processHeader_validate P kr res hh h log st hok)

theorem sc_gate_released (P : Prims) (kr : Keyring) (res : Signcrypt.Resolver) (hb : Bytes) (h : EncHeader)
    (ps : PStream SigncryptBlock)
    (hrel : (Signcrypt.openStream P kr res (.ok hb h) ps).released ≠ [] ∨
            (Signcrypt.openStream P kr res (.ok hb h) ps).err = none) :
    h.formatName = Gen.c_sp_FormatName ∧ h.version.major = 2 ∧ h.typ = mtSigncryption := by
  unfold Signcrypt.openStream at hrel
  simp only [] at hrel
  split at hrel
  · simp at hrel
  · rename_i log st heq
    exact sc_gate P kr res _ h log st heq


/-! ## signatures: no panic (C15) and the gate (C17) -/

theorem sig_validate_ok (valid : Validator) (h : SigHeader) (typ : Int)
    (hok : Sign.validate valid h typ = .ok ()) :
    h.formatName = Gen.c_sp_FormatName ∧ valid h.version = true ∧ h.typ = typ := by
  unfold Sign.validate at hok
  by_cases h1 : (h.formatName != Gen.c_sp_FormatName) = true
  · rw [if_pos h1] at hok; cases hok
  by_cases h2 : (!valid h.version) = true
  · rw [if_neg h1, if_pos h2] at hok; cases hok
  by_cases h3 : (h.typ != typ) = true
  · rw [if_neg h1, if_neg h2, if_pos h3] at hok; cases hok
  · exact ⟨eq_of_not_bne h1, by simpa using h2, eq_of_not_bne h3⟩

theorem sig_validate_no_panic (valid : Validator) (h : SigHeader) (typ : Int) :
    NotPanic (Sign.validate valid h typ) :=
  NotPanic_ite ((NotPanic_error _).2 rfl) (NotPanic_ite ((NotPanic_error _).2 rfl) (NotPanic_ite ((NotPanic_error _).2 rfl) (NotPanic_ite ((NotPanic_error _).2 rfl) (NotPanic_ok _))))

theorem attachedSignatureInput_no_panic (P : Prims) (v : Version) (hv : v.major = 1 ∨ v.major = 2)
    (hh chunk : Bytes) (seqno : Nat) (f : Bool) : NotPanic (attachedSignatureInput P v hh chunk seqno f) := by
  unfold attachedSignatureInput
  rcases hv with hv | hv <;> simp [hv]

theorem sig_processBlock_no_panic (P : Prims) (s : Sign.State)
    (hv : s.version.major = 1 ∨ s.version.major = 2) (b : SigBlock) (f : Bool) (seqno : Nat) :
    NotPanic (Sign.processBlock P s b f seqno) := by
  have h1 := attachedSignatureInput_no_panic P s.version hv
  unfold Sign.processBlock
  repeat' split
  all_goals (try simp only [NotPanic_ok, NotPanic_error])
  -- `badSignature` is no panic; the other error is the one handed up from `attachedSignatureInput`
  all_goals (first | rfl | (rename_i heq; exact h1 _ _ _ _ _ heq))

theorem sig_step_no_panic (P : Prims) (s : Sign.State)
    (hv : s.version.major = 1 ∨ s.version.major = 2) (b : SigBlock) (seqno : Nat) :
    NotPanic (Ver.step P s b seqno) := by
  intro e h
  unfold Ver.step at h
  split at h
  · split at h
    · cases h
    · rename_i e' heq2
      cases h
      rcases hv with hv | hv
      · rw [checkChunkState_v1 s.version hv] at heq2
        · cases heq2
        · simp only [Sign.blockFinal, hv, if_true]
          cases b.chunk <;> rfl
      · exact checkChunkState_v2_no_panic s.version hv _ _ _ _ heq2
  · rename_i e' heq
    cases h
    exact sig_processBlock_no_panic P s hv b _ seqno _ heq

theorem sig_run_no_panic (P : Prims) (s : Sign.State)
    (hv : s.version.major = 1 ∨ s.version.major = 2) (tail : Tail)
    (htail : ∀ e, tail = .err e → Err.isPanic e = false) :
    ∀ (items : List (Option SigBlock)) (seqno : Nat) (e : Err),
      (Sign.run P s items tail seqno).err = some e → Err.isPanic e = false := by
  intro items seqno e h
  rw [Ver.run_eq] at h
  rcases grun_err _ _ _ _ _ _ h with ⟨b, k, _, hs⟩ | ht | rfl | rfl | rfl
  · exact sig_step_no_panic P s hv b k e hs
  · exact htail e ht
  · rfl
  · rfl
  · rfl

theorem ver_no_panic (P : Prims) (valid : Validator) (hvalid : ValidatorOK valid)
    (kr : Keyring) (hr : HeaderRead SigHeader) (ps : PStream SigBlock)
    (htail : ∀ e, ps.tail = .err e → Err.isPanic e = false) (e : Err)
    (h : (Sign.verifyStream P valid kr hr ps).err = some e) : Err.isPanic e = false := by
  unfold Sign.verifyStream at h
  cases hr with
  | unreadable => cases h; rfl
  | undecodable hb => cases h; rfl
  | ok hb hd =>
    simp only [] at h
    split at h
    · rename_i e' heq
      cases h
      exact sig_validate_no_panic valid hd _ _ heq
    · rename_i heq
      have hv := hvalid _ (sig_validate_ok valid hd _ heq).2.1
      split at h
      · cases h; rfl
      · split at h
        · rename_i hc
          exfalso
          rcases hv with hv | hv <;> simp [hv] at hc
        · exact sig_run_no_panic P _ hv ps.tail htail ps.items 1 e h

theorem det_no_panic (P : Prims) (valid : Validator) (kr : Keyring)
    (hr : HeaderRead SigHeader) (sr : Sign.SigRead) (msg : Bytes)
    (hsr : ∀ e, sr = .none e → Err.isPanic e = false) (e : Err)
    (h : Sign.verifyDetached P valid kr hr sr msg = .error e) : Err.isPanic e = false := by
  unfold Sign.verifyDetached at h
  repeat' split at h
  all_goals (try cases h)
  all_goals (try rfl)
  · rename_i heq
    exact sig_validate_no_panic valid _ _ _ heq
  · exact hsr _ rfl

theorem ver_gate (P : Prims) (valid : Validator) (kr : Keyring) (hb : Bytes) (h : SigHeader)
    (ps : PStream SigBlock)
    (hok : (Sign.verifyStream P valid kr (.ok hb h) ps).err = none) :
    h.formatName = Gen.c_sp_FormatName ∧ valid h.version = true ∧ h.typ = mtAttached := by
  unfold Sign.verifyStream at hok
  simp only [] at hok
  split at hok
  · cases hok
  · rename_i heq
    exact sig_validate_ok valid h _ heq

theorem ver_gate_released (P : Prims) (valid : Validator) (kr : Keyring) (hb : Bytes) (h : SigHeader)
    (ps : PStream SigBlock)
    (hrel : (Sign.verifyStream P valid kr (.ok hb h) ps).released ≠ []) :
    h.formatName = Gen.c_sp_FormatName ∧ valid h.version = true ∧ h.typ = mtAttached := by
  unfold Sign.verifyStream at hrel
  simp only [] at hrel
  split at hrel
  · simp at hrel
  · rename_i heq
    exact sig_validate_ok valid h _ heq


/-! ## C17: the sending side — what a sender that succeeds has written into the header -/

theorem enc_header_fields (P : Prims) (v : Version) (sender : Option Bytes) (eph pk : Bytes)
    (rs : List Encrypt.Recipient) (h : EncHeader) (hh : Encrypt.header P v sender eph pk rs = .ok h) :
    h.formatName = Gen.c_sp_FormatName ∧ h.version = v ∧ h.typ = mtEncryption := by
  unfold Encrypt.header at hh
  simp only [] at hh
  split at hh
  · cases hh
  · cases hh
    exact ⟨rfl, rfl, rfl⟩

theorem seal_labels (P : Prims) (bs : Nat) (v : Version) (sender : Option Bytes) (rs : List Encrypt.Recipient)
    (eph pk pt : Bytes) (h : EncHeader) (hb : Bytes) (blks : List EncBlock)
    (hs : Encrypt.sealPackets P bs v sender rs eph pk pt = .ok (h, hb, blks)) :
    h.formatName = Gen.c_sp_FormatName ∧ h.version = v ∧ (v = v1 ∨ v = v2) ∧ h.typ = mtEncryption := by
  unfold Encrypt.sealPackets at hs
  simp only [] at hs
  repeat' split at hs
  all_goals (try cases hs)
  -- what is left is the successful path: the version was known, the header was built
  rename_i hkv _ _ _ _ _ _ hhdr _ _
  have hk : knownVersion v = true := by simpa using hkv
  have := enc_header_fields P v sender eph pk rs h hhdr
  exact ⟨this.1, this.2.1, (knownVersion_iff v).1 hk, this.2.2⟩

theorem sign_labels (P : Prims) (bs : Nat) (v : Version) (signer nonce msg : Bytes)
    (h : SigHeader) (hb : Bytes) (blks : List SigBlock)
    (hs : Sign.attachedPackets P bs v signer nonce msg = .ok (h, hb, blks)) :
    h.formatName = Gen.c_sp_FormatName ∧ h.version = v ∧ (v = v1 ∨ v = v2) ∧ h.typ = mtAttached := by
  unfold Sign.attachedPackets at hs
  simp only [] at hs
  repeat' split at hs
  all_goals (try cases hs)
  rename_i hkv _ _
  have hk : knownVersion v = true := by simpa using hkv
  exact ⟨rfl, rfl, (knownVersion_iff v).1 hk, rfl⟩

/-! ## necessity of the input hypotheses `htail` / `hsr` -/

/-- without `htail`, `ver_no_panic` is false: a reader error that happens to be
    `Err.panic _` is handed through (for every `P`) -/
theorem ver_tail_panic_propagates (P : Prims) :
    ∃ (kr : Keyring) (h : SigHeader) (hb : Bytes),
      (Sign.verifyStream P knownMajor kr (.ok hb h) ⟨[], .err (.panic "reader")⟩).err
        = some (.panic "reader") := by
  refine ⟨⟨fun _ => (0, none), fun _ => none, [], fun _ => none, fun _ => some []⟩,
    ⟨Gen.c_sp_FormatName, v1, mtAttached, [], []⟩, [], ?_⟩
  simp [Sign.verifyStream, Sign.validate, Sign.run, knownMajor, v1, mtAttached, mtDetached]

/-- without `hsr`, `det_no_panic` is false -/
theorem det_sigread_panic_propagates (P : Prims) :
    ∃ (kr : Keyring) (h : SigHeader) (hb : Bytes),
      Sign.verifyDetached P knownMajor kr (.ok hb h) (.none (.panic "reader")) []
        = .error (.panic "reader") := by
  refine ⟨⟨fun _ => (0, none), fun _ => none, [], fun _ => none, fun _ => some []⟩,
    ⟨Gen.c_sp_FormatName, v1, mtDetached, [], []⟩, [], ?_⟩
  simp [Sign.verifyDetached, Sign.validate, knownMajor, v1, mtAttached, mtDetached]

/-- the same hand-through in the decryption and signcryption runs -/
theorem dec_run_tail_propagates (P : Prims) (st : Decrypt.State) (st' : Signcrypt.State) (e : Err) (n : Nat) :
    (Decrypt.run P st [] (.err e) n).err = some e ∧ (Signcrypt.run P st' [] (.err e) n).err = some e := by
  simp [Decrypt.run, Signcrypt.run]

end Saltpack.Proofs
