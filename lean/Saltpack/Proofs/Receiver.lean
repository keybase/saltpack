/-
  Stream logic (Level A) and binding (Level B) of the three packet receivers
  (`Decrypt.run`, `Signcrypt.run`, `Sign.run`).

  Level A is crypto-free: whatever the per-packet acceptance test is, a run
  releases the chunks of an accepted *prefix* of the packets, in order, numbered
  consecutively, and ends cleanly iff that prefix is the whole stream, its last
  packet is the (only) final one, and the input ends cleanly after it.

  Level B says what an accepted packet proves: which exact byte string was
  MACed / signed, and that this string determines header hash, chunk number,
  final flag and payload uniquely (fixed-width fields).
-/
import Saltpack.Model.Decrypt
import Saltpack.Model.Signcrypt
import Saltpack.Model.Sign
import Saltpack.Proofs.Digits

namespace Saltpack.Proofs
open Saltpack

/-! ## generic chain predicates -/

/-- `Chain acc fin n bs out`: every block of `bs` is accepted at its position
    (`n, n+1, …`) yielding the chunks whose concatenation is `out`, and every
    block except possibly the last is non-final. -/
inductive Chain {β : Type} (acc : β → Nat → Option Bytes) (fin : β → Bool) : Nat → List β → Bytes → Prop where
  | nil (n : Nat) : Chain acc fin n [] []
  | last (n : Nat) (b : β) (c : Bytes) : acc b n = some c → Chain acc fin n [b] c
  | cons (n : Nat) (b : β) (c : Bytes) (bs : List β) (r : Bytes) :
      acc b n = some c → fin b = false → bs ≠ [] → Chain acc fin (n + 1) bs r →
      Chain acc fin n (b :: bs) (c ++ r)

/-- a complete message: a chain whose last block is final -/
def Complete {β : Type} (acc : β → Nat → Option Bytes) (fin : β → Bool) (n : Nat) (bs : List β) (out : Bytes) : Prop :=
  Chain acc fin n bs out ∧ ∃ b, bs.getLast? = some b ∧ fin b = true


/-! ## the generic chunk-reader run

  All three receivers have the same shape: a per-packet step (`processBlock`
  followed by `checkChunkState`) and a final-flag function.  The stream logic is
  proved once for `grun` and transported along `run = grun`. -/
section generic
variable {β : Type}

/-- acceptance test belonging to a step function -/
def gacc (step : β → Nat → Except Err Bytes) (b : β) (n : Nat) : Option Bytes :=
  match step b n with
  | .ok c => some c
  | .error _ => none

/-- the common shape of `Decrypt.run`, `Signcrypt.run`, `Sign.run` -/
def grun (step : β → Nat → Except Err Bytes) (fin : β → Bool) :
    List (Option β) → Tail → Nat → Released
  | [], tail, _ =>
    match tail with
    | .eof => ⟨[], some .unexpectedEOF⟩
    | .err e => ⟨[], some e⟩
  | none :: _, _, _ => ⟨[], some .decodeError⟩
  | some b :: rest, tail, n =>
    match step b n with
    | .error e => ⟨[], some e⟩
    | .ok chunk =>
      if fin b then ⟨chunk, Decrypt.endOfStream rest tail⟩
      else
        let r := grun step fin rest tail (n + 1)
        ⟨chunk ++ r.bytes, r.err⟩

theorem endOfStream_none (rest : List (Option β)) (tail : Tail) :
    Decrypt.endOfStream rest tail = none ↔ rest = [] ∧ tail = .eof := by
  cases rest with
  | nil => cases tail <;> simp [Decrypt.endOfStream]
  | cons a t => simp [Decrypt.endOfStream]

theorem Chain.out_of_nil {acc : β → Nat → Option Bytes} {fin : β → Bool} {n : Nat} {out : Bytes}
    (h : Chain acc fin n [] out) : out = [] := by
  cases h; rfl

theorem grun_nil (step : β → Nat → Except Err Bytes) (fin : β → Bool) (tail : Tail) (n : Nat) :
    (grun step fin [] tail n).bytes = [] ∧ (grun step fin [] tail n).err ≠ none := by
  cases tail <;> simp [grun]

theorem grun_none (step : β → Nat → Except Err Bytes) (fin : β → Bool) (rest : List (Option β))
    (tail : Tail) (n : Nat) :
    grun step fin (none :: rest) tail n = ⟨[], some .decodeError⟩ := by
  simp [grun]

theorem grun_error (step : β → Nat → Except Err Bytes) (fin : β → Bool) (b : β)
    (rest : List (Option β)) (tail : Tail) (n : Nat) (e : Err) (hs : step b n = .error e) :
    grun step fin (some b :: rest) tail n = ⟨[], some e⟩ := by
  simp [grun, hs]

theorem grun_final (step : β → Nat → Except Err Bytes) (fin : β → Bool) (b : β)
    (rest : List (Option β)) (tail : Tail) (n : Nat) (c : Bytes) (hs : step b n = .ok c)
    (hf : fin b = true) :
    grun step fin (some b :: rest) tail n = ⟨c, Decrypt.endOfStream rest tail⟩ := by
  simp [grun, hs, hf]

theorem grun_more (step : β → Nat → Except Err Bytes) (fin : β → Bool) (b : β)
    (rest : List (Option β)) (tail : Tail) (n : Nat) (c : Bytes) (hs : step b n = .ok c)
    (hf : fin b = false) :
    grun step fin (some b :: rest) tail n =
      ⟨c ++ (grun step fin rest tail (n + 1)).bytes, (grun step fin rest tail (n + 1)).err⟩ := by
  simp [grun, hs, hf]

theorem eq_grun (step : β → Nat → Except Err Bytes) (fin : β → Bool)
    (run : List (Option β) → Tail → Nat → Released)
    (hnil : ∀ tail n, run [] tail n = grun step fin [] tail n)
    (hnone : ∀ rest tail n, run (none :: rest) tail n = ⟨[], some .decodeError⟩)
    (hsome : ∀ b rest tail n, run (some b :: rest) tail n =
      match step b n with
      | .error e => ⟨[], some e⟩
      | .ok chunk =>
        if fin b then ⟨chunk, Decrypt.endOfStream rest tail⟩
        else ⟨chunk ++ (run rest tail (n + 1)).bytes, (run rest tail (n + 1)).err⟩)
    (items : List (Option β)) (tail : Tail) (n : Nat) :
    run items tail n = grun step fin items tail n := by
  induction items generalizing n with
  | nil => exact hnil tail n
  | cons it rest ih =>
    cases it with
    | none => exact hnone rest tail n
    | some b =>
      rw [hsome, grun, ih]

theorem gacc_ok {step : β → Nat → Except Err Bytes} {b : β} {n : Nat} {c : Bytes}
    (hs : step b n = .ok c) : gacc step b n = some c := by
  simp [gacc, hs]

theorem gacc_some {step : β → Nat → Except Err Bytes} {b : β} {n : Nat} {c : Bytes}
    (h : gacc step b n = some c) : step b n = .ok c := by
  unfold gacc at h
  split at h
  · rename_i c' hc; simp at h; rw [hc, h]
  · simp at h

theorem grun_prefix (step : β → Nat → Except Err Bytes) (fin : β → Bool)
    (items : List (Option β)) (tail : Tail) (n : Nat) :
    ∃ bs : List β, (bs.map some) <+: items ∧
      Chain (gacc step) fin n bs (grun step fin items tail n).bytes := by
  induction items generalizing n with
  | nil =>
    refine ⟨[], List.nil_prefix, ?_⟩
    rw [(grun_nil step fin tail n).1]
    exact Chain.nil n
  | cons it rest ih =>
    cases it with
    | none =>
      refine ⟨[], List.nil_prefix, ?_⟩
      rw [grun_none]
      exact Chain.nil n
    | some b =>
      cases hs : step b n with
      | error e =>
        refine ⟨[], List.nil_prefix, ?_⟩
        rw [grun_error step fin b rest tail n e hs]
        exact Chain.nil n
      | ok c =>
        cases hf : fin b with
        | true =>
          refine ⟨[b], ?_, ?_⟩
          · exact ⟨rest, rfl⟩
          · rw [grun_final step fin b rest tail n c hs hf]
            exact Chain.last n b c (gacc_ok hs)
        | false =>
          obtain ⟨bs', hp, hc⟩ := ih (n + 1)
          rw [grun_more step fin b rest tail n c hs hf]
          cases hb : bs' with
          | nil =>
            subst hb
            refine ⟨[b], ⟨rest, rfl⟩, ?_⟩
            show Chain (gacc step) fin n [b] (c ++ (grun step fin rest tail (n + 1)).bytes)
            rw [Chain.out_of_nil hc, List.append_nil]
            exact Chain.last n b c (gacc_ok hs)
          | cons b' t =>
            refine ⟨b :: bs', ?_, ?_⟩
            · obtain ⟨u, hu⟩ := hp
              exact ⟨u, by simp [← hu]⟩
            · exact Chain.cons n b c bs' _ (gacc_ok hs) hf (by simp [hb]) hc

theorem grun_of_chain (step : β → Nat → Except Err Bytes) (fin : β → Bool)
    (n : Nat) (bs : List β) (out : Bytes) (hc : Chain (gacc step) fin n bs out)
    (hl : ∃ b, bs.getLast? = some b ∧ fin b = true) :
    grun step fin (bs.map some) .eof n = ⟨out, none⟩ := by
  induction hc with
  | nil n => obtain ⟨b, hb, _⟩ := hl; simp at hb
  | last n b c ha =>
    obtain ⟨b', hb, hf⟩ := hl
    simp at hb; subst hb
    show grun step fin [some b] .eof n = ⟨c, none⟩
    rw [grun_final step fin b [] .eof n c (gacc_some ha) hf]
    simp [Decrypt.endOfStream]
  | cons n b c bs r ha hf hne _ ih =>
    have hl' : ∃ b, bs.getLast? = some b ∧ fin b = true := by
      obtain ⟨b', hb, hf'⟩ := hl
      refine ⟨b', ?_, hf'⟩
      rwa [List.getLast?_cons_of_ne_nil hne] at hb
    have := ih hl'
    show grun step fin (some b :: bs.map some) .eof n = ⟨c ++ r, none⟩
    rw [grun_more step fin b _ .eof n c (gacc_some ha) hf, this]

theorem grun_ok_iff (step : β → Nat → Except Err Bytes) (fin : β → Bool)
    (items : List (Option β)) (tail : Tail) (n : Nat) :
    (grun step fin items tail n).err = none ↔
      ∃ bs : List β, items = bs.map some ∧ tail = .eof ∧
        Complete (gacc step) fin n bs (grun step fin items tail n).bytes := by
  constructor
  · induction items generalizing n with
    | nil => intro h; exact absurd h (grun_nil step fin tail n).2
    | cons it rest ih =>
      cases it with
      | none => intro h; rw [grun_none] at h; simp at h
      | some b =>
        cases hs : step b n with
        | error e => intro h; rw [grun_error step fin b rest tail n e hs] at h; simp at h
        | ok c =>
          cases hf : fin b with
          | true =>
            rw [grun_final step fin b rest tail n c hs hf]
            intro h
            obtain ⟨h1, h2⟩ := (endOfStream_none rest tail).1 h
            subst h1
            exact ⟨[b], rfl, h2, Chain.last n b c (gacc_ok hs), b, rfl, hf⟩
          | false =>
            rw [grun_more step fin b rest tail n c hs hf]
            intro h
            obtain ⟨bs', h1, h2, h3, b', h4, h5⟩ := ih (n + 1) h
            have hne : bs' ≠ [] := by
              intro h0; rw [h0] at h4; simp at h4
            refine ⟨b :: bs', by rw [h1]; rfl, h2, ?_, b', ?_, h5⟩
            · exact Chain.cons n b c bs' _ (gacc_ok hs) hf hne h3
            · rw [List.getLast?_cons_of_ne_nil hne]; exact h4
  · rintro ⟨bs, h1, h2, h3, h4⟩
    subst h1 h2
    rw [grun_of_chain step fin n bs _ h3 h4]

theorem grun_err (step : β → Nat → Except Err Bytes) (fin : β → Bool)
    (items : List (Option β)) (tail : Tail) (n : Nat) (e : Err)
    (h : (grun step fin items tail n).err = some e) :
    (∃ b k, some b ∈ items ∧ step b k = .error e) ∨ tail = .err e ∨
      e = .unexpectedEOF ∨ e = .decodeError ∨ e = .trailingGarbage := by
  induction items generalizing n with
  | nil =>
    cases tail with
    | eof => exact Or.inr (Or.inr (Or.inl (Option.some.inj h).symm))
    | err e' => exact Or.inr (Or.inl (congrArg Tail.err (Option.some.inj h)))
  | cons it rest ih =>
    cases it with
    | none => exact Or.inr (Or.inr (Or.inr (Or.inl (Option.some.inj h).symm)))
    | some b =>
      cases hs : step b n with
      | error e' =>
        rw [grun_error step fin b rest tail n e' hs] at h
        cases h
        exact Or.inl ⟨b, n, List.mem_cons_self, hs⟩
      | ok c =>
        cases hf : fin b with
        | true =>
          rw [grun_final step fin b rest tail n c hs hf] at h
          cases rest with
          | cons _ _ => exact Or.inr (Or.inr (Or.inr (Or.inr (Option.some.inj h).symm)))
          | nil =>
            cases tail with
            | eof => cases h
            | err e' => exact Or.inr (Or.inl (congrArg Tail.err (Option.some.inj h)))
        | false =>
          rw [grun_more step fin b rest tail n c hs hf] at h
          rcases ih (n + 1) h with ⟨b', k, hm, hk⟩ | hr
          · exact Or.inl ⟨b', k, List.mem_cons_of_mem _ hm, hk⟩
          · exact Or.inr hr

end generic

/-! ## encryption -/
namespace Dec
variable (P : Prims)

/-- the per-packet acceptance test of the decrypting receiver -/
def accept (s : Decrypt.State) (b : EncBlock) (seqno : Nat) : Option Bytes :=
  match Decrypt.processBlock P s b (Decrypt.blockFinal s.version b) seqno with
  | .ok chunk =>
    match checkChunkState s.version chunk.length (seqno - 1) (Decrypt.blockFinal s.version b) with
    | .ok () => some chunk
    | .error _ => none
  | .error _ => none

/-- `processBlock` followed by `checkChunkState`, as one step -/
def step (s : Decrypt.State) (b : EncBlock) (seqno : Nat) : Except Err Bytes :=
  match Decrypt.processBlock P s b (Decrypt.blockFinal s.version b) seqno with
  | .ok chunk =>
    match checkChunkState s.version chunk.length (seqno - 1) (Decrypt.blockFinal s.version b) with
    | .ok () => .ok chunk
    | .error e => .error e
  | .error e => .error e

theorem accept_eq (s : Decrypt.State) : accept P s = gacc (step P s) := by
  funext b n
  unfold accept gacc step
  split
  · split <;> simp_all
  · rfl

theorem run_eq (s : Decrypt.State) (items : List (Option EncBlock)) (tail : Tail) (n : Nat) :
    Decrypt.run P s items tail n = grun (step P s) (Decrypt.blockFinal s.version) items tail n := by
  refine eq_grun _ _ (Decrypt.run P s) (fun _ _ => rfl) (fun _ _ _ => rfl) ?_ items tail n
  intro b rest tail n
  rw [Decrypt.run, step]
  cases Decrypt.processBlock P s b (Decrypt.blockFinal s.version b) n with
  | error e => rfl
  | ok chunk =>
    dsimp only
    cases checkChunkState s.version chunk.length (n - 1) (Decrypt.blockFinal s.version b) with
    | error e => rfl
    | ok u => rfl

theorem run_prefix (s : Decrypt.State) (items : List (Option EncBlock)) (tail : Tail) (n : Nat) :
    ∃ bs : List EncBlock, (bs.map some) <+: items ∧
      Chain (accept P s) (Decrypt.blockFinal s.version) n bs (Decrypt.run P s items tail n).bytes := by
  rw [accept_eq, run_eq]
  exact grun_prefix _ _ items tail n

theorem run_ok_iff (s : Decrypt.State) (items : List (Option EncBlock)) (tail : Tail) (n : Nat) :
    (Decrypt.run P s items tail n).err = none ↔
      ∃ bs : List EncBlock, items = bs.map some ∧ tail = .eof ∧
        Complete (accept P s) (Decrypt.blockFinal s.version) n bs (Decrypt.run P s items tail n).bytes := by
  rw [accept_eq, run_eq]
  exact grun_ok_iff _ _ items tail n

theorem accept_binds (s : Decrypt.State) (b : EncBlock) (seqno : Nat) (c : Bytes)
    (h : accept P s b seqno = some c) :
    ∃ ph, payloadHash P s.version s.headerHash (Nonce.chunkSecretBox (seqno - 1)) b.ct
            (Decrypt.blockFinal s.version b) = .ok ph ∧
      b.auths[s.position]? = some (payloadAuthenticator P s.macKey ph) ∧
      P.sbOpen s.payloadKey (Nonce.chunkSecretBox (seqno - 1)) b.ct = some c ∧
      blockNumberOK (seqno - 1) = true := by
  unfold accept at h
  split at h
  · rename_i chunk hpb
    split at h
    · simp only [Option.some.injEq] at h
      subst h
      unfold Decrypt.processBlock at hpb
      simp only [] at hpb
      split at hpb
      · cases hpb
      · rename_i hbn
        split at hpb
        · cases hpb
        · rename_i ph hph
          split at hpb
          · cases hpb
          · rename_i a ha
            split at hpb
            · cases hpb
            · rename_i hne
              split at hpb
              · cases hpb
              · rename_i pt hpt
                cases hpb
                refine ⟨ph, hph, ?_, hpt, ?_⟩
                · have : a = payloadAuthenticator P s.macKey ph := by
                    simpa using hne
                  rw [ha, this]
                · simpa using hbn
    · cases h
  · cases h

end Dec

theorem finalByte_inj {f f' : Bool} (h : finalByte f = finalByte f') : f = f' := by
  cases f <;> cases f' <;> first | rfl | (exact absurd h (by decide))

theorem finalByte_length (f : Bool) : (finalByte f).length = 1 := rfl

/-- the MACed and the signed strings are of this shape: header hash, nonce or
    packet number, final byte (V2) or nothing (V1), payload -/
theorem append4_inj {a a' b b' o o' c c' : Bytes}
    (ha : a.length = a'.length) (hb : b.length = b'.length) (ho : o.length = o'.length)
    (h : a ++ b ++ o ++ c = a' ++ b' ++ o' ++ c') : a = a' ∧ b = b' ∧ o = o' ∧ c = c' := by
  simp only [List.append_assoc] at h
  obtain ⟨e1, h⟩ := List.append_inj h ha
  obtain ⟨e2, h⟩ := List.append_inj h hb
  obtain ⟨e3, e4⟩ := List.append_inj h ho
  exact ⟨e1, e2, e3, e4⟩

/-- the final byte as V2 hashes it; V1 hashes nothing in its place -/
def optFinal (v : Version) (f : Bool) : Bytes := if v.major = 1 then [] else finalByte f

theorem optFinal_length (v : Version) (f f' : Bool) : (optFinal v f).length = (optFinal v f').length := by
  unfold optFinal
  split <;> rfl

theorem optFinal_inj {v : Version} (hv : ¬ v.major = 1) {f f' : Bool} (h : optFinal v f = optFinal v f') :
    f = f' := by
  unfold optFinal at h
  rw [if_neg hv, if_neg hv] at h
  exact finalByte_inj h

theorem be64_length (i : Nat) : (be64 i).length = 8 := by
  unfold be64; exact bytesOfNat_length 8 _

theorem be64_inj (i j : Nat) (hi : i < 2 ^ 64) (hj : j < 2 ^ 64) (h : be64 i = be64 j) : i = j := by
  have h' := congrArg natOfBytes h
  unfold be64 at h'
  rw [natOfBytes_bytesOfNat, natOfBytes_bytesOfNat] at h'
  have e : (256 : Nat) ^ 8 = 2 ^ 64 := by decide
  rw [e, Nat.mod_mod, Nat.mod_mod, Nat.mod_eq_of_lt hi, Nat.mod_eq_of_lt hj] at h'
  exact h'

theorem chunkSecretBox_inj (i j : Nat) (hi : i < 2 ^ 64) (hj : j < 2 ^ 64)
    (h : Nonce.chunkSecretBox i = Nonce.chunkSecretBox j) : i = j := by
  unfold Nonce.chunkSecretBox at h
  exact be64_inj i j hi hj (List.append_cancel_left h)

theorem chunkSecretBox_length (i : Nat) : (Nonce.chunkSecretBox i).length = 24 := by
  unfold Nonce.chunkSecretBox
  rw [List.length_append, be64_length]
  rfl

theorem setLowBit_ne (x : UInt8) : Nonce.setLowBit x true ≠ Nonce.setLowBit x false := by
  have setLowBit_ne_nat : ∀ n : Nat, n < 256 →
      Nonce.setLowBit (UInt8.ofNat n) true ≠ Nonce.setLowBit (UInt8.ofNat n) false := by
    decide +kernel
  have := setLowBit_ne_nat x.toNat (UInt8.toNat_lt x)
  rwa [UInt8.ofNat_toNat] at this

theorem setLowBit_inj (x : UInt8) {f f' : Bool} (h : Nonce.setLowBit x f = Nonce.setLowBit x f') :
    f = f' := by
  cases f <;> cases f'
  · rfl
  · exact absurd h.symm (setLowBit_ne x)
  · exact absurd h (setLowBit_ne x)
  · rfl

/-- for a fixed header hash, `hashFlagCounter` — the shape of the signcryption
    chunk nonces and of the V2 MAC-key-box nonces — determines flag and counter -/
theorem hashFlagCounter_inj (hh : Bytes) (f f' : Bool) (i j : Nat) (hi : i < 2 ^ 64) (hj : j < 2 ^ 64)
    (h : Nonce.hashFlagCounter hh f i = Nonce.hashFlagCounter hh f' j) : f = f' ∧ i = j := by
  unfold Nonce.hashFlagCounter at h
  obtain ⟨e1, e2⟩ := List.append_inj h (by simp)
  have e3 := List.append_cancel_left e1
  simp only [List.cons.injEq, and_true] at e3
  exact ⟨setLowBit_inj _ e3, be64_inj i j hi hj e2⟩

theorem chunkSigncryption_inj (hh : Bytes) (f f' : Bool) (i j : Nat)
    (hi : i < 2 ^ 64) (hj : j < 2 ^ 64)
    (h : Nonce.chunkSigncryption hh f i = Nonce.chunkSigncryption hh f' j) : f = f' ∧ i = j :=
  hashFlagCounter_inj hh f f' i j hi hj h

theorem chunkSigncryption_length (hh : Bytes) (hl : hh.length = 64) (f : Bool) (i : Nat) :
    (Nonce.chunkSigncryption hh f i).length = 24 := by
  unfold Nonce.chunkSigncryption Nonce.hashFlagCounter
  simp only [List.length_append, List.length_take, List.length_cons, List.length_nil, be64_length, hl]
  omega

/-! ## signcryption -/
namespace Sc
variable (P : Prims)

/-- the per-packet acceptance test of the signcryption receiver -/
def accept (s : Signcrypt.State) (b : SigncryptBlock) (seqno : Nat) : Option Bytes :=
  match Signcrypt.processBlock P s b seqno with
  | .ok chunk =>
    match checkChunkState v2 chunk.length (seqno - 1) b.final with
    | .ok () => some chunk
    | .error _ => none
  | .error _ => none

/-- `processBlock` followed by `checkChunkState`, as one step; `accept` is its
    success (`accept_eq`) -/
def step (s : Signcrypt.State) (b : SigncryptBlock) (seqno : Nat) : Except Err Bytes :=
  match Signcrypt.processBlock P s b seqno with
  | .ok chunk =>
    match checkChunkState v2 chunk.length (seqno - 1) b.final with
    | .ok () => .ok chunk
    | .error e => .error e
  | .error e => .error e

theorem accept_eq (s : Signcrypt.State) : accept P s = gacc (step P s) := by
  funext b n
  unfold accept gacc step
  split
  · split <;> simp_all
  · rfl

theorem run_eq (s : Signcrypt.State) (items : List (Option SigncryptBlock)) (tail : Tail) (n : Nat) :
    Signcrypt.run P s items tail n = grun (step P s) (·.final) items tail n := by
  refine eq_grun _ _ (Signcrypt.run P s) (fun _ _ => rfl) (fun _ _ _ => rfl) ?_ items tail n
  intro b rest tail n
  rw [Signcrypt.run, step]
  cases Signcrypt.processBlock P s b n with
  | error e => rfl
  | ok chunk =>
    dsimp only
    cases checkChunkState v2 chunk.length (n - 1) b.final with
    | error e => rfl
    | ok u => rfl

theorem run_prefix (s : Signcrypt.State) (items : List (Option SigncryptBlock)) (tail : Tail) (n : Nat) :
    ∃ bs : List SigncryptBlock, (bs.map some) <+: items ∧
      Chain (accept P s) (·.final) n bs (Signcrypt.run P s items tail n).bytes := by
  rw [accept_eq, run_eq]
  exact grun_prefix _ _ items tail n

theorem run_ok_iff (s : Signcrypt.State) (items : List (Option SigncryptBlock)) (tail : Tail) (n : Nat) :
    (Signcrypt.run P s items tail n).err = none ↔
      ∃ bs : List SigncryptBlock, items = bs.map some ∧ tail = .eof ∧
        Complete (accept P s) (·.final) n bs (Signcrypt.run P s items tail n).bytes := by
  rw [accept_eq, run_eq]
  exact grun_ok_iff _ _ items tail n

theorem accept_some (s : Signcrypt.State) (b : SigncryptBlock) (seqno : Nat) (c : Bytes)
    (h : accept P s b seqno = some c) :
    Signcrypt.processBlock P s b seqno = .ok c ∧ checkChunkState v2 c.length (seqno - 1) b.final = .ok () := by
  unfold accept at h
  cases hpb : Signcrypt.processBlock P s b seqno with
  | error e => rw [hpb] at h; cases h
  | ok chunk =>
    rw [hpb] at h
    dsimp only at h
    cases hck : checkChunkState v2 chunk.length (seqno - 1) b.final with
    | error e => rw [hck] at h; cases h
    | ok u =>
      rw [hck] at h
      cases h
      exact ⟨rfl, hck⟩

theorem accept_binds (s : Signcrypt.State) (spk : Bytes) (hs : s.sender = some spk)
    (b : SigncryptBlock) (seqno : Nat) (c : Bytes) (h : accept P s b seqno = some c) :
    ∃ sig, sig.length = 64 ∧
      P.sbOpen s.payloadKey (Nonce.chunkSigncryption s.headerHash b.final (seqno - 1)) b.ct = some (sig ++ c) ∧
      P.verify spk (signcryptionSignatureInput P s.headerHash
          (Nonce.chunkSigncryption s.headerHash b.final (seqno - 1)) b.final c) sig = true ∧
      blockNumberOK (seqno - 1) = true := by
  have hpb := (accept_some P s b seqno c h).1
  unfold Signcrypt.processBlock at hpb
  dsimp only at hpb
  cases hbn : blockNumberOK (seqno - 1) with
  | false => rw [hbn] at hpb; cases hpb
  | true =>
    rw [hbn] at hpb
    cases hopen : P.sbOpen s.payloadKey (Nonce.chunkSigncryption s.headerHash b.final (seqno - 1)) b.ct with
    | none => rw [hopen] at hpb; cases hpb
    | some att =>
      rw [hopen, hs] at hpb
      dsimp only at hpb
      by_cases hlen : att.length < 64
      · rw [if_neg (by simp), if_pos hlen] at hpb; cases hpb
      · rw [if_neg (by simp), if_neg hlen] at hpb
        by_cases hv : P.verify spk (signcryptionSignatureInput P s.headerHash
            (Nonce.chunkSigncryption s.headerHash b.final (seqno - 1)) b.final (att.drop 64)) (att.take 64) = true
        · rw [if_pos hv] at hpb
          cases hpb
          exact ⟨att.take 64, by rw [List.length_take]; omega, by rw [List.take_append_drop], hv, rfl⟩
        · rw [if_neg hv] at hpb; cases hpb
theorem accept_empty (s : Signcrypt.State) (b : SigncryptBlock) (seqno : Nat)
    (h : accept P s b seqno = some []) : seqno - 1 = 0 ∧ b.final = true := by
  have hck := (accept_some P s b seqno [] h).2
  unfold checkChunkState at hck
  simp [v2] at hck
  exact hck

end Sc

theorem signcryptInput_inj (P : Prims) (hh hh' n n' c c' : Bytes) (f f' : Bool)
    (h1 : hh.length = 64) (h2 : hh'.length = 64) (h3 : n.length = 24) (h4 : n'.length = 24)
    (h : signcryptionSignatureInput P hh n f c = signcryptionSignatureInput P hh' n' f' c') :
    hh = hh' ∧ n = n' ∧ f = f' ∧ P.hash c = P.hash c' := by
  unfold signcryptionSignatureInput at h
  simp only [List.append_assoc] at h
  have h := List.append_cancel_left h
  simp only [← List.append_assoc] at h
  obtain ⟨e1, e2, e3, e4⟩ := append4_inj (h1.trans h2.symm) (h3.trans h4.symm)
    ((finalByte_length f).trans (finalByte_length f').symm) h
  exact ⟨e1, e2, finalByte_inj e3, e4⟩

/-! ## attached signatures -/
namespace Ver
variable (P : Prims)

/-- the per-packet acceptance test of the attached-signature verifier -/
def accept (s : Sign.State) (b : SigBlock) (seqno : Nat) : Option Bytes :=
  match Sign.processBlock P s b (Sign.blockFinal s.version b) seqno with
  | .ok () =>
    match checkChunkState s.version b.chunk.length (seqno - 1) (Sign.blockFinal s.version b) with
    | .ok () => some b.chunk
    | .error _ => none
  | .error _ => none

/-- `processBlock` followed by `checkChunkState`, as one step; `accept` is its
    success (`accept_eq`) -/
def step (s : Sign.State) (b : SigBlock) (seqno : Nat) : Except Err Bytes :=
  match Sign.processBlock P s b (Sign.blockFinal s.version b) seqno with
  | .ok () =>
    match checkChunkState s.version b.chunk.length (seqno - 1) (Sign.blockFinal s.version b) with
    | .ok () => .ok b.chunk
    | .error e => .error e
  | .error e => .error e

theorem accept_eq (s : Sign.State) : accept P s = gacc (step P s) := by
  funext b n
  unfold accept gacc step
  split
  · split <;> simp_all
  · rfl

theorem run_eq (s : Sign.State) (items : List (Option SigBlock)) (tail : Tail) (n : Nat) :
    Sign.run P s items tail n = grun (step P s) (Sign.blockFinal s.version) items tail n := by
  refine eq_grun _ _ (Sign.run P s) (fun _ _ => rfl) (fun _ _ _ => rfl) ?_ items tail n
  intro b rest tail n
  rw [Sign.run, step]
  cases Sign.processBlock P s b (Sign.blockFinal s.version b) n with
  | error e => rfl
  | ok u =>
    dsimp only
    cases checkChunkState s.version b.chunk.length (n - 1) (Sign.blockFinal s.version b) with
    | error e => rfl
    | ok u => rfl

theorem run_prefix (s : Sign.State) (items : List (Option SigBlock)) (tail : Tail) (n : Nat) :
    ∃ bs : List SigBlock, (bs.map some) <+: items ∧
      Chain (accept P s) (Sign.blockFinal s.version) n bs (Sign.run P s items tail n).bytes := by
  rw [accept_eq, run_eq]
  exact grun_prefix _ _ items tail n

theorem run_ok_iff (s : Sign.State) (items : List (Option SigBlock)) (tail : Tail) (n : Nat) :
    (Sign.run P s items tail n).err = none ↔
      ∃ bs : List SigBlock, items = bs.map some ∧ tail = .eof ∧
        Complete (accept P s) (Sign.blockFinal s.version) n bs (Sign.run P s items tail n).bytes := by
  rw [accept_eq, run_eq]
  exact grun_ok_iff _ _ items tail n

theorem accept_binds (s : Sign.State) (b : SigBlock) (seqno : Nat) (c : Bytes)
    (h : accept P s b seqno = some c) :
    c = b.chunk ∧
    ∃ inp, attachedSignatureInput P s.version s.headerHash b.chunk (seqno - 1)
              (Sign.blockFinal s.version b) = .ok inp ∧
      P.verify s.publicKey inp b.sig = true := by
  unfold accept at h
  split at h
  · rename_i hpb
    split at h
    · simp only [Option.some.injEq] at h
      refine ⟨h.symm, ?_⟩
      unfold Sign.processBlock at hpb
      split at hpb
      · cases hpb
      · rename_i inp hinp
        split at hpb
        · rename_i hv
          exact ⟨inp, hinp, hv⟩
        · cases hpb
    · cases h
  · cases h

end Ver

theorem domains_separate :
    Gen.c_sp_signatureAttachedString.length = Gen.c_sp_signatureDetachedString.length ∧
    Gen.c_sp_signatureAttachedString ≠ Gen.c_sp_signatureDetachedString ∧
    ¬ (Gen.c_sp_signatureAttachedString <+: Gen.c_sp_signatureEncryptedString) ∧
    ¬ (Gen.c_sp_signatureDetachedString <+: Gen.c_sp_signatureEncryptedString) ∧
    ¬ (Gen.c_sp_signatureEncryptedString <+: Gen.c_sp_signatureAttachedString) ∧
    ¬ (Gen.c_sp_signatureEncryptedString <+: Gen.c_sp_signatureDetachedString) := by
  decide

end Saltpack.Proofs
