/-
  Stream classification: the binary classifier is correct on
  every header a spec-following sender can write and short on fewer than 23
  bytes; whatever it classifies really carries that mode in its header; the
  armored classifier answers "short" on every prefix of a frame and of a text
  that does not yet show a full first block, and the right answer afterwards —
  never "not saltpack" on a prefix of a genuine message.
-/
import Saltpack.Model.Classify
import Saltpack.Proofs.MsgpackRT
import Saltpack.Proofs.ArmorRT
import Saltpack.Proofs.ClassifyAux
import Saltpack.Proofs.ClassifyCodec

namespace Saltpack.Proofs
open Saltpack Saltpack.Classify Saltpack.Msgpack Saltpack.Armor ClsAux CodecMono

/-- the outer bin tag of the header packet: `c4 nn`, `c5 nn nn` or `c6 nn nn nn nn` -/
def IsBinTag (t : Bytes) : Prop :=
  (∃ a, t = [0xc4, a]) ∨ (∃ a b, t = [0xc5, a, b]) ∨ (∃ a b c d, t = [0xc6, a, b, c, d])

/-- the array tag of a header with 3…15 fields (fixarray), or array16 / array32 -/
def IsArrTag (t : Bytes) : Prop :=
  (∃ n : UInt8, 0x93 ≤ n ∧ n ≤ 0x9f ∧ t = [n]) ∨ (∃ a b, t = [0xdc, a, b]) ∨ (∃ a b c d, t = [0xdd, a, b, c, d])

theorem binTag_skip {t : Bytes} (h : IsBinTag t) (x : Bytes) : binSkip ((t ++ x).getD 0 0).toNat = some t.length := by
  rcases h with ⟨a, rfl⟩ | ⟨a, b, rfl⟩ | ⟨a, b, c, d, rfl⟩ <;> rfl

theorem arrTag_skip {t : Bytes} (h : IsArrTag t) (x : Bytes) : arrSkip ((t ++ x).getD 0 0).toNat = some t.length := by
  rcases h with ⟨n, h1, h2, rfl⟩ | ⟨a, b, rfl⟩ | ⟨a, b, c, d, rfl⟩
  · exact if_pos ⟨UInt8.le_iff_toNat_le.mp h1, UInt8.le_iff_toNat_le.mp h2⟩
  · rfl
  · rfl

theorem bin_tags (btag atag rest : Bytes) (hb : IsBinTag btag) (ha : IsArrTag atag)
    (hlen : 23 ≤ (btag ++ atag ++ rest).length) : binarySlice (btag ++ atag ++ rest) = binBody rest := by
  rw [List.append_assoc] at hlen ⊢
  have getD_append_length : ∀ l m : Bytes, (l ++ m).getD l.length 0 = m.getD 0 0 := fun l m => by
    rw [List.getD_eq_getElem?_getD, List.getD_eq_getElem?_getD, List.getElem?_append_right (Nat.le_refl _), Nat.sub_self]
  rw [bin_reduce _ btag.length atag.length hlen (binTag_skip hb _)
      (by rw [getD_append_length]; exact arrTag_skip ha _),
    ← List.length_append, ← List.append_assoc, List.drop_left]

theorem bin_correct (btag atag tail : Bytes) (hb : IsBinTag btag) (ha : IsArrTag atag)
    (ma mi t : Nat) (hma : ma < 128) (hmi : mi < 128) (ht : isMode (t : Int) = true)
    (hlen : 23 ≤ (btag ++ atag ++ encode (.str Gen.c_sp_FormatName) ++ encode (.arr [.int ma, .int mi]) ++ encode (.int t) ++ tail).length) :
    binarySlice (btag ++ atag ++ encode (.str Gen.c_sp_FormatName) ++ encode (.arr [.int ma, .int mi]) ++ encode (.int t) ++ tail) =
      .ok ((t : Int), ⟨ma, mi⟩) := by
  simp only [List.append_assoc] at hlen ⊢
  rw [← List.append_assoc btag atag] at hlen ⊢
  rw [bin_tags btag atag _ hb ha hlen]
  exact binBody_correct ma mi t hma hmi ht tail

theorem encode_small_len (n : Nat) (h : n < 128) : (encode (.int (n : Int))).length = 1 := by
  rw [encode, encInt, if_pos (by omega), encUInt, if_pos (by simpa using h)]
  rfl

theorem bin_correct_prefix (btag atag tail : Bytes) (hb : IsBinTag btag) (ha : IsArrTag atag)
    (ma mi t : Nat) (hma : ma < 128) (hmi : mi < 128) (ht : isMode (t : Int) = true) (k : Nat) (hk : 23 ≤ k)
    (hlen : 23 ≤ (btag ++ atag ++ encode (.str Gen.c_sp_FormatName) ++ encode (.arr [.int ma, .int mi]) ++ encode (.int t) ++ tail).length) :
    binarySlice ((btag ++ atag ++ encode (.str Gen.c_sp_FormatName) ++ encode (.arr [.int ma, .int mi]) ++ encode (.int t) ++ tail).take k) =
      .ok ((t : Int), ⟨ma, mi⟩) := by
  have hbl : btag.length ≤ 5 := by
    rcases hb with ⟨a, rfl⟩ | ⟨a, b, rfl⟩ | ⟨a, b, c, d, rfl⟩ <;> simp
  have hal : atag.length ≤ 5 := by
    rcases ha with ⟨n, _, _, rfl⟩ | ⟨a', b', rfl⟩ | ⟨a', b', c', d', rfl⟩ <;> simp
  have h1 : (encode (.str Gen.c_sp_FormatName)).length = 9 := by decide
  have h2 : (encode (.arr [.int ma, .int mi])).length = 3 := by
    rw [encode, MsgpackRT.encodeList_cons, MsgpackRT.encodeList_cons, MsgpackRT.encodeList_nil]
    simp only [List.length_append, encode_small_len _ hma, encode_small_len _ hmi, List.length_cons, List.length_nil]
    rfl
  have h3 := encode_small_len t (by have := isMode_le t ht; omega)
  have hH : (btag ++ atag ++ encode (.str Gen.c_sp_FormatName) ++ encode (.arr [.int ma, .int mi]) ++ encode (.int t)).length ≤ k := by
    simp only [List.length_append]; omega
  rw [List.take_append, List.take_of_length_le hH]
  apply bin_correct btag atag _ hb ha ma mi t hma hmi ht
  have : (btag ++ atag ++ encode (.str Gen.c_sp_FormatName) ++ encode (.arr [.int ma, .int mi]) ++ encode (.int t) ++ tail).length
      = (btag ++ atag ++ encode (.str Gen.c_sp_FormatName) ++ encode (.arr [.int ma, .int mi]) ++ encode (.int t)).length + tail.length :=
    List.length_append
  rw [List.length_append, List.length_take]
  omega

theorem bin_sound (b : Bytes) (t : Int) (v : Version) (h : binarySlice b = .ok (t, v)) :
    isMode t = true ∧ 23 ≤ b.length ∧
    ∃ skip askip r1 r2 r3,
      (skip = 2 ∨ skip = 3 ∨ skip = 5) ∧ (askip = 1 ∨ askip = 3 ∨ askip = 5) ∧
      decName (b.drop (skip + askip)) = .ok (Gen.c_sp_FormatName, r1) ∧
      decVersionTop r1 = .ok (v, r2) ∧
      decMode r2 = .ok (t, r3) := by
  obtain ⟨hlen, skip, askip, hs, ha, hb⟩ := (binarySlice_ok_iff b t v).mp h
  obtain ⟨hm, r1, r2, r3, h1, h2, h3⟩ := binBody_sound _ t v hb
  exact ⟨hm, hlen, skip, askip, r1, r2, r3, binSkip_some hs, arrSkip_some ha, h1, h2, h3⟩

theorem bin_modes (b : Bytes) (t : Int) (v : Version) (h : binarySlice b = .ok (t, v)) :
    t = mtEncryption ∨ t = mtAttached ∨ t = mtDetached ∨ t = mtSigncryption :=
  isMode_cases t (bin_sound b t v h).1

/-! ## armored -/

theorem arm_frame_prefix_short (typ : Int) (ht : Armorable typ) (brand : Bytes) (hb : BrandOK brand) (k : Nat) :
    armoredPrefix ((Armor.header typ brand).take k) = .short := by
  obtain ⟨sffx, hts, hsm⟩ := armorable_sffx typ ht
  have hcol : collapse ((header typ brand).take k) = (header typ brand).take k :=
    collapseAux_take _ false k ((frame_canon _ headerMarker_ok (by decide) typ ht brand hb).2.1 false)
  have hBl : (Gen.c_sp_headerMarker ++ [space]).length = 6 := by decide
  -- the frame line: `BEGIN `, a brand and a space if there is one, `SALTPACK <type>`
  have hshape : header typ brand =
      Gen.c_sp_headerMarker ++ [space] ++ ((if brand.isEmpty then [] else brand ++ [space]) ++ frameRest sffx) := by
    rw [(header_shape typ sffx hts brand).1]
    split <;> simp [frameRest]
  rw [armoredPrefix_norm, hcol, hshape]
  by_cases hk1 : k ≤ 6
  · -- inside `BEGIN `
    rw [List.take_append_of_le_length (by omega)]
    have h := begin_fin k (by omega)
    rwa [armoredPrefix_norm, show collapse ((Gen.c_sp_headerMarker ++ [space]).take k) = _ from
      collapseAux_take (Gen.c_sp_headerMarker ++ [space]) false k (by decide)] at h
  rw [List.take_append, List.take_of_length_le (by omega), hBl]
  by_cases hbe : brand = []
  · -- no brand: `BEGIN ` and a started `SALTPACK <type>`
    rw [hbe, List.isEmpty_nil, if_pos rfl, List.nil_append]
    obtain ⟨hws, hne, hl3, hi, hchk⟩ := rest_fin sffx hsm (min (k - 6) 27) (Nat.min_le_right _ _) (by omega)
    -- at most 27 bytes of `SALTPACK <type>`; a trailing space is trimmed away; what is left are words
    rw [take_cap _ 27 (rest_len sffx hsm), trimEnd_eq ((frameRest sffx).take _), ← List.append_assoc,
      trimSpace_post _ _ (trimEnd_snd _)]
    rw [← hi, ← intercalateSp_cons1 _ _ hne]
    exact norm_nobrand _ hne hl3 hws hchk
  have hbAN : AlnumWord brand := ⟨hbe, fun c hc => (isAlnum_iff c).mpr (hb.2 c hc)⟩
  rw [if_neg (by simpa using hbe)]
  by_cases hk2 : k ≤ 6 + brand.length
  · -- inside the brand
    have hw : AlnumWord (brand.take (k - 6)) := by
      refine ⟨fun h => ?_, fun c hc => hbAN.2 c (List.mem_of_mem_take hc)⟩
      have h1 := congrArg List.length h
      rw [List.length_take, List.length_nil] at h1
      have : 0 < brand.length := List.length_pos_iff.mpr hbe
      omega
    rw [List.append_assoc brand, List.take_append_of_le_length (by omega),
      show Gen.c_sp_headerMarker ++ [space] ++ brand.take (k - 6) =
        intercalateSp [Gen.c_sp_headerMarker, brand.take (k - 6)] from by simp [intercalateSp]]
    exact norm_two _ hw
  · -- after the brand and its space
    obtain ⟨m, hm⟩ : ∃ m, k - 6 - brand.length = m + 1 := ⟨k - 6 - brand.length - 1, by omega⟩
    rw [List.append_assoc brand, List.take_append, List.take_of_length_le (by omega), hm, List.singleton_append,
      List.take_succ_cons,
      show Gen.c_sp_headerMarker ++ [space] ++ (brand ++ space :: (frameRest sffx).take m) =
        Gen.c_sp_headerMarker ++ [space] ++ brand ++ [space] ++ (frameRest sffx).take m from by simp]
    by_cases hj : m = 0
    · rw [hj, List.take_zero, List.append_nil,
        show Gen.c_sp_headerMarker ++ [space] ++ brand ++ [space] =
          intercalateSp [Gen.c_sp_headerMarker, brand] ++ [space] from by simp [intercalateSp],
        trimSpace_post _ _ (by decide)]
      exact norm_two _ hbAN
    · obtain ⟨hws, hne, hl3, hi, hchk⟩ := rest_fin sffx hsm (min m 27) (Nat.min_le_right _ _) (by omega)
      rw [take_cap _ 27 (rest_len sffx hsm), trimEnd_eq ((frameRest sffx).take _), ← List.append_assoc,
        trimSpace_post _ _ (trimEnd_snd _)]
      rw [← hi, ← intercalateSp_cons2 _ _ _ hne]
      exact norm_brand brand hbAN _ hne hl3 hws hchk

theorem collapseAux_take_prefix (b : Bytes) (r : Bool) (k : Nat) :
    ∃ j, collapseAux r (b.take k) = (collapseAux r b).take j := by
  refine ⟨(collapseAux r (b.take k)).length, ?_⟩
  have h : collapseAux r b = collapseAux r (b.take k) ++ collapseAux (endState r (b.take k)) (b.drop k) := by
    rw [← collapseAux_append, List.take_append_drop]
  rw [h, List.take_left' rfl]

theorem norm_frame_prefix_short (typ : Int) (ht : Armorable typ) (brand : Bytes) (hb : BrandOK brand) (j : Nat) :
    classifyNorm (trimSpace ((Armor.header typ brand).take j)) = .short := by
  have h := arm_frame_prefix_short typ ht brand hb j
  rw [armoredPrefix_norm] at h
  have hcol : collapse ((header typ brand).take j) = (header typ brand).take j :=
    collapseAux_take _ false j ((frame_canon _ headerMarker_ok (by decide) typ ht brand hb).2.1 false)
  rw [hcol] at h
  exact h

theorem frame_block_match (typ : Int) (ht : Armorable typ) (brand : Bytes) (hb : BrandOK brand) (w : Bytes)
    (hw : ∀ c ∈ w, isAlnum c = true ∨ c = Armor.space) :
    ∃ sffx Z, typeString typ = some sffx ∧
      matchHeader (trimSpace (collapse (Armor.header typ brand ++ [Armor.period] ++ w))) = some (brand, sffx, Z) ∧
      Z.filter (· != Armor.space) = w.filter (· != Armor.space) ∧
      (∀ c ∈ Armor.header typ brand ++ [Armor.period] ++ w, c < 128) := by
  obtain ⟨sffx, hts, hs⟩ := armorable_sffx typ ht
  have hcan := frame_canon _ headerMarker_ok (by decide) typ ht brand hb
  have hF : makeFrame Gen.c_sp_headerMarker typ brand = header typ brand := rfl
  rw [hF] at hcan
  have hcol : collapse (header typ brand ++ [period] ++ w) =
      (header typ brand ++ [period]) ++ collapseAux false w := by
    unfold collapse
    rw [List.append_assoc, collapseAux_append, hcan.2.1 false]
    have hp : isFrameSpace period = false := by decide
    simp [collapseAux, hp]
  have hW : ∀ c ∈ collapseAux false w, isAlnum c = true ∨ c = space := by
    intro c hc
    rcases collapseAux_mem w false c hc with h | h
    · exact hw c h
    · exact Or.inr h
  have hWf : (collapseAux false w).filter (· != space) = w.filter (· != space) :=
    collapseAux_filter w hw false
  obtain ⟨hZ, hZf⟩ := rtrim_facts _ hW
  have hhead : ∀ c ∈ (header typ brand ++ [period]).head?, isTrimSpace c = false := by
    rw [(header_shape typ sffx hts brand).1]
    split <;> (intro c hc; simp [Gen.c_sp_headerMarker] at hc; subst hc; decide)
  have hasc1 : ∀ c ∈ header typ brand ++ [period], c < 128 := by
    intro c hc
    rcases List.mem_append.mp hc with hc | hc
    · exact valid_lt c (hcan.1 c hc)
    · rw [List.mem_singleton] at hc; subst hc; decide
  have htrim := trim_tail (header typ brand ++ [period]) (collapseAux false w) hhead
    (by intro c hc; simp at hc; subst hc; decide) (by simp)
    (by
      intro c hc
      rcases List.mem_append.mp hc with hc | hc
      · exact hasc1 c hc
      · rcases hW c hc with h | h
        · exact alnum_lt c h
        · subst h; decide)
  refine ⟨sffx, rtrim (collapseAux false w), hts, ?_, ?_, ?_⟩
  · rw [hcol, htrim, List.append_assoc, List.singleton_append]
    exact matchHeader_frame typ sffx hts hs brand hb _ hZ
  · rw [hZf, hWf]
  · intro c hc
    rcases List.mem_append.mp hc with hc | hc
    · exact hasc1 c hc
    · rcases hw c hc with h | h
      · exact alnum_lt c h
      · subst h; decide

theorem arm_needs_block_gen (typ : Int) (ht : Armorable typ) (brand : Bytes) (hb : BrandOK brand) (w : Bytes)
    (hw : ∀ c ∈ w, isAlnum c = true ∨ c = Armor.space)
    (hfew : (w.filter (· != Armor.space)).length < 43) :
    armoredPrefix (Armor.header typ brand ++ [Armor.period] ++ w) = .short := by
  obtain ⟨sffx, Z, _, hm, hZ, _⟩ := frame_block_match typ ht brand hb w hw
  rw [armoredPrefix_norm]
  unfold classifyNorm
  rw [hm]
  simp only [hZ]
  rw [if_pos (decodePrefix_short _ hfew)]

/-! ## the stream classifier -/

theorem stream_take (size : Nat) (all : Bytes) : classifyStream size all = classifyStream size (all.take size) := by
  unfold classifyStream
  simp only [List.take_take, Nat.min_self]
  generalize (if (List.take size all).isEmpty = true then Verdict.notSaltpack else armoredPrefix (List.take size all)) = arm
  cases arm with
  | notSaltpack =>
    simp only
    by_cases hs : size < minLen
    · rw [if_pos hs, if_pos hs]
    · rw [if_neg hs, if_neg hs]
      have h1 : (all.length < minLen) ↔ ((all.take size).length < minLen) := by
        rw [List.length_take]; omega
      have h2 : min minLen size = minLen := by omega
      simp only [h1, h2]
  | _ => rfl

theorem arm_binlead (k : UInt8) (hk : BinLead k) (y : Bytes) : armoredPrefix (k :: y) = .notSaltpack := by
  have hfs : isFrameSpace k = false := by rcases hk with rfl | rfl | rfl <;> decide
  have hcl : clash (Gen.c_sp_headerMarker ++ [Armor.space]) [k] = true := by rcases hk with rfl | rfl | rfl <;> decide
  have han : (isAlnum k || k == Armor.space) = false := by rcases hk with rfl | rfl | rfl <;> decide
  rw [armoredPrefix_norm]
  have hcol : collapse (k :: y) = k :: collapseAux false y := by
    unfold collapse; rw [collapseAux, if_neg (by simp [hfs])]
  rw [hcol]
  obtain ⟨z, hz⟩ := trimSpace_binlead k hk (collapseAux false y)
  have hmh : matchHeader (k :: z) = none := by
    unfold matchHeader
    rw [show k :: z = [k] ++ z from rfl, stripPrefix_none _ [k] z hcl]
  have hfw : fewWords (k :: z) = false := by
    unfold fewWords
    simp [han]
  rw [hz, classifyNorm_none _ hmh, hfw]
  rfl

theorem stream_binary_correct (btag atag tail : Bytes) (hb : IsBinTag btag) (ha : IsArrTag atag)
    (ma mi t : Nat) (hma : ma < 128) (hmi : mi < 128) (ht : isMode (t : Int) = true) (size : Nat) (hs : 23 ≤ size)
    (hlen : 23 ≤ (btag ++ atag ++ encode (.str Gen.c_sp_FormatName) ++ encode (.arr [.int ma, .int mi]) ++ encode (.int t) ++ tail).length) :
    classifyStream size (btag ++ atag ++ encode (.str Gen.c_sp_FormatName) ++ encode (.arr [.int ma, .int mi]) ++ encode (.int t) ++ tail) =
      .ok (false, [], (t : Int), ⟨ma, mi⟩) := by
  have hbin := bin_correct_prefix btag atag tail hb ha ma mi t hma hmi ht 23 (Nat.le_refl _) hlen
  generalize hM : btag ++ atag ++ encode (.str Gen.c_sp_FormatName) ++ encode (.arr [.int ma, .int mi]) ++ encode (.int t) ++ tail = M at *
  have hlead : ∃ k y, BinLead k ∧ M = k :: y := by
    rcases hb with ⟨a, rfl⟩ | ⟨a, b, rfl⟩ | ⟨a, b, c, d, rfl⟩
    · exact ⟨0xc4, _, Or.inl rfl, by rw [← hM]; simp only [List.cons_append]; rfl⟩
    · exact ⟨0xc5, _, Or.inr (Or.inl rfl), by rw [← hM]; simp only [List.cons_append]; rfl⟩
    · exact ⟨0xc6, _, Or.inr (Or.inr rfl), by rw [← hM]; simp only [List.cons_append]; rfl⟩
  obtain ⟨k, y, hk, rfl⟩ := hlead
  unfold classifyStream
  obtain ⟨s', rfl⟩ : ∃ s', size = s' + 1 := ⟨size - 1, by omega⟩
  rw [List.take_succ_cons]
  simp only [List.isEmpty_cons, Bool.false_eq_true, if_false, arm_binlead k hk]
  rw [minLen_eq, if_neg (by omega), if_neg (by omega), hbin]

end Saltpack.Proofs
