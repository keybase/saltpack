/-
  Consequences of `Enc.WF` for the length helpers: on one block `encLen` /
  `decLen` are the table entries, they form a Galois connection
  (`encLen r ≤ c ↔ r ≤ decLen c`), and `validLen` singles out exactly the
  lengths `encLen r`.
-/
import Saltpack.Model.Basex
import Saltpack.Proofs.Digits

namespace Saltpack.Proofs
open Saltpack Saltpack.Basex

theorem base_le {e : Enc} (he : e.WF) : e.base ≤ 256 := by
  rw [← he.alpha_len]; exact nodup_bytes_length _ he.alpha_nodup

theorem base_pos {e : Enc} (he : e.WF) : 0 < e.base := by
  have := he.base_gt; omega

theorem encTab_zero {e : Enc} (he : e.WF) : e.encLenTab.getD 0 0 = 0 := by
  rcases (he.enc_least 0 (Nat.zero_le _)).2 with h | h
  · exact h
  · have : 0 < e.base ^ (e.encLenTab.getD 0 0 - 1) := Nat.pow_pos (base_pos he)
    rw [Nat.pow_zero] at h
    omega

theorem decTab_zero {e : Enc} (he : e.WF) : e.decLenTab.getD 0 0 = 0 := by
  have h := (he.dec_greatest 0 (Nat.zero_le _)).1
  rw [Nat.pow_zero] at h
  apply Classical.byContradiction
  intro hne
  have : 1 < 256 ^ (e.decLenTab.getD 0 0) := Nat.one_lt_pow hne (by omega)
  omega

theorem encLen_eq {e : Enc} (he : e.WF) (r : Nat) (hr : r ≤ e.blockLen) :
    e.encLen r = e.encLenTab.getD r 0 := by
  unfold Enc.encLen
  rcases Nat.lt_or_eq_of_le hr with h | h
  · rw [Nat.div_eq_of_lt h, Nat.mod_eq_of_lt h]; omega
  · subst h
    rw [Nat.div_self he.block_pos, Nat.mod_self, encTab_zero he, he.enc_full]; omega

theorem decLen_eq {e : Enc} (he : e.WF) (c : Nat) (hc : c ≤ e.charBlockLen) :
    e.decLen c = e.decLenTab.getD c 0 := by
  unfold Enc.decLen
  rcases Nat.lt_or_eq_of_le hc with h | h
  · rw [Nat.div_eq_of_lt h, Nat.mod_eq_of_lt h]; omega
  · subst h
    rw [Nat.div_self he.cblock_pos, Nat.mod_self, decTab_zero he, he.dec_full]; omega

theorem encLen_zero {e : Enc} (he : e.WF) : e.encLen 0 = 0 := by
  rw [encLen_eq he 0 (Nat.zero_le _), encTab_zero he]

theorem decLen_zero {e : Enc} (he : e.WF) : e.decLen 0 = 0 := by
  rw [decLen_eq he 0 (Nat.zero_le _), decTab_zero he]

theorem encLen_full {e : Enc} (he : e.WF) : e.encLen e.blockLen = e.charBlockLen := by
  rw [encLen_eq he _ (Nat.le_refl _), he.enc_full]

theorem decLen_full {e : Enc} (he : e.WF) : e.decLen e.charBlockLen = e.blockLen := by
  rw [decLen_eq he _ (Nat.le_refl _), he.dec_full]

theorem encLen_spec {e : Enc} (he : e.WF) (r : Nat) (hr : r ≤ e.blockLen) :
    256 ^ r ≤ e.base ^ (e.encLen r) ∧ (e.encLen r = 0 ∨ e.base ^ (e.encLen r - 1) < 256 ^ r) := by
  rw [encLen_eq he r hr]; exact he.enc_least r hr

theorem decLen_spec {e : Enc} (he : e.WF) (c : Nat) (hc : c ≤ e.charBlockLen) :
    256 ^ (e.decLen c) ≤ e.base ^ c ∧ e.base ^ c < 256 ^ (e.decLen c + 1) := by
  rw [decLen_eq he c hc]; exact he.dec_greatest c hc

theorem enc_galois {e : Enc} (he : e.WF) (r c : Nat) (hr : r ≤ e.blockLen) :
    256 ^ r ≤ e.base ^ c ↔ e.encLen r ≤ c := by
  obtain ⟨h1, h2⟩ := encLen_spec he r hr
  constructor
  · intro h
    rcases h2 with h2 | h2
    · omega
    · have := (Nat.pow_lt_pow_iff_right he.base_gt).mp (Nat.lt_of_lt_of_le h2 h)
      omega
  · intro h
    exact Nat.le_trans h1 (Nat.pow_le_pow_right (base_pos he) h)

theorem dec_galois {e : Enc} (he : e.WF) (r c : Nat) (hc : c ≤ e.charBlockLen) :
    256 ^ r ≤ e.base ^ c ↔ r ≤ e.decLen c := by
  obtain ⟨h1, h2⟩ := decLen_spec he c hc
  constructor
  · intro h
    have := (Nat.pow_lt_pow_iff_right (a := 256) (by omega)).mp (Nat.lt_of_le_of_lt h h2)
    omega
  · intro h
    exact Nat.le_trans (Nat.pow_le_pow_right (by omega) h) h1

theorem galois {e : Enc} (he : e.WF) (r c : Nat) (hr : r ≤ e.blockLen) (hc : c ≤ e.charBlockLen) :
    e.encLen r ≤ c ↔ r ≤ e.decLen c :=
  (enc_galois he r c hr).symm.trans (dec_galois he r c hc)

theorem encLen_le {e : Enc} (he : e.WF) (r : Nat) (hr : r ≤ e.blockLen) :
    e.encLen r ≤ e.charBlockLen := by
  rw [galois he r _ hr (Nat.le_refl _), decLen_full he]; exact hr

theorem decLen_le {e : Enc} (he : e.WF) (c : Nat) (hc : c ≤ e.charBlockLen) :
    e.decLen c ≤ e.blockLen := by
  have h1 := (decLen_spec he c hc).1
  have h2 := (decLen_spec he _ (Nat.le_refl e.charBlockLen)).2
  rw [decLen_full he] at h2
  have h3 : e.base ^ c ≤ e.base ^ e.charBlockLen := Nat.pow_le_pow_right (base_pos he) hc
  have := (Nat.pow_lt_pow_iff_right (a := 256) (by omega)).mp
    (Nat.lt_of_le_of_lt (Nat.le_trans h1 h3) h2)
  omega

theorem decLen_mono_pred {e : Enc} (he : e.WF) (c : Nat) (hc : c ≤ e.charBlockLen) :
    e.decLen (c - 1) ≤ e.decLen c := by
  rw [← dec_galois he _ c hc]
  exact Nat.le_trans (decLen_spec he (c - 1) (by omega)).1
    (Nat.pow_le_pow_right (base_pos he) (by omega))

theorem encLen_pos {e : Enc} (he : e.WF) (r : Nat) (hr0 : 0 < r) (hr : r ≤ e.blockLen) :
    0 < e.encLen r := by
  apply Nat.pos_of_ne_zero
  intro h0
  have h1 := (encLen_spec he r hr).1
  rw [h0, Nat.pow_zero] at h1
  have : 1 < 256 ^ r := Nat.one_lt_pow (by omega) (by omega)
  omega

theorem decLen_encLen {e : Enc} (he : e.WF) (r : Nat) (hr0 : 0 < r) (hr : r ≤ e.blockLen) :
    e.decLen (e.encLen r) = r := by
  have hc := encLen_le he r hr
  have hpos := encLen_pos he r hr0 hr
  have hge : r ≤ e.decLen (e.encLen r) := (galois he r _ hr hc).mp (Nat.le_refl _)
  have hle : ¬ (r + 1 ≤ e.decLen (e.encLen r)) := by
    rw [← dec_galois he (r + 1) _ hc]
    obtain ⟨_, h2⟩ := encLen_spec he r hr
    rcases h2 with h2 | h2
    · omega
    · have hb := base_le he
      have hsplit : e.base ^ (e.encLen r) = e.base ^ (e.encLen r - 1) * e.base := by
        rw [← Nat.pow_succ]; congr 1; omega
      rw [hsplit, Nat.pow_succ]
      have h3 : e.base ^ (e.encLen r - 1) * e.base ≤ e.base ^ (e.encLen r - 1) * 256 :=
        Nat.mul_le_mul_left _ hb
      have h4 : e.base ^ (e.encLen r - 1) * 256 < 256 ^ r * 256 :=
        Nat.mul_lt_mul_of_pos_right h2 (by omega)
      omega
  omega

theorem validLen_of_ne {e : Enc} (he : e.WF) (c : Nat) (hc0 : 0 < c) (hc : c ≤ e.charBlockLen)
    (h : e.decLen c ≠ e.decLen (c - 1)) : e.validLen c = true := by
  unfold Enc.validLen
  rw [he.valid_spec c hc]
  rw [decLen_eq he c hc, decLen_eq he (c - 1) (by omega)] at h
  have : (e.decLenTab.getD c 0 != e.decLenTab.getD (c - 1) 0) = true := bne_iff_ne.mpr h
  simp only [this, Bool.or_true]

theorem validLen_encLen {e : Enc} (he : e.WF) (r : Nat) (hr0 : 0 < r) (hr : r ≤ e.blockLen) :
    e.validLen (e.encLen r) = true := by
  have hc := encLen_le he r hr
  have hpos := encLen_pos he r hr0 hr
  apply validLen_of_ne he _ hpos hc
  rw [decLen_encLen he r hr0 hr]
  have : ¬ (r ≤ e.decLen (e.encLen r - 1)) := by
    rw [← galois he r _ hr (by omega)]; omega
  omega

theorem encLen_decLen {e : Enc} (he : e.WF) (c : Nat) (hc0 : 0 < c) (hc : c ≤ e.charBlockLen)
    (hv : e.validLen c = true) : e.encLen (e.decLen c) = c ∧ 0 < e.decLen c := by
  rcases Nat.lt_or_eq_of_le hc with hlt | heq
  · have hne : e.decLen c ≠ e.decLen (c - 1) := by
      unfold Enc.validLen at hv
      rw [he.valid_spec c hc] at hv
      rw [decLen_eq he c hc, decLen_eq he (c - 1) (by omega)]
      have h1 : (c == e.charBlockLen) = false := by simp; omega
      have h2 : (c == 0) = false := by simp; omega
      simp only [h1, h2, Bool.false_or, bne_iff_ne, ne_eq] at hv
      exact hv
    have hmono := decLen_mono_pred he c hc
    have hr := decLen_le he c hc
    have h1 : e.encLen (e.decLen c) ≤ c := (galois he _ c hr hc).mpr (Nat.le_refl _)
    have h2 : ¬ (e.encLen (e.decLen c) ≤ c - 1) := by
      rw [galois he _ (c - 1) hr (by omega)]; omega
    omega
  · subst heq
    rw [decLen_full he, encLen_full he]
    exact ⟨rfl, he.block_pos⟩

theorem validLen_zero {e : Enc} (he : e.WF) : e.validLen 0 = true := by
  unfold Enc.validLen
  rw [he.valid_spec 0 (Nat.zero_le _)]
  simp

theorem encLen_add_blocks (e : Enc) (hB : 0 < e.blockLen) (q r : Nat) :
    e.encLen (q * e.blockLen + r) = q * e.charBlockLen + e.encLen r := by
  unfold Enc.encLen
  rw [Nat.add_comm (q * e.blockLen) r, Nat.add_mul_div_right _ _ hB, Nat.add_mul_mod_self_right,
    Nat.add_mul]
  omega

theorem decLen_add_blocks (e : Enc) (hC : 0 < e.charBlockLen) (q r : Nat) :
    e.decLen (q * e.charBlockLen + r) = q * e.blockLen + e.decLen r := by
  unfold Enc.decLen
  rw [Nat.add_comm (q * e.charBlockLen) r, Nat.add_mul_div_right _ _ hC, Nat.add_mul_mod_self_right,
    Nat.add_mul]
  omega

end Saltpack.Proofs
