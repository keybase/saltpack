/-
  The bufio machine (Model/Bufio.lean) seen through `view`: what the reader will
  still deliver, bytes and final condition.  `Peek` returns a prefix of the view
  and keeps it (`peek_le`, `peek_gt`, `peek_keep`), `Read` takes bytes off its
  front, draining yields it, and `ClassifyStream` on the machine is the pure
  classifier of the view (`classify_view`).
-/
import Saltpack.Model.Bufio
import Saltpack.Proofs.ClassifyAux
import Saltpack.Proofs.ClassifyCodec

namespace Saltpack.Proofs.BufioP
open Saltpack Saltpack.Stream Saltpack.Bufio

/-- all bytes up to and including the first delivery that carries a condition,
    and that condition (EOF when the script runs out) -/
def total : Source → Bytes × RErr
  | [] => ([], .eof)
  | (d, none) :: rest => (d ++ (total rest).1, (total rest).2)
  | (d, some e) :: _ => (d, e)

/-- every scripted read brings data or a condition (no `(0, nil)` reads) -/
def Progress (src : Source) : Prop := ∀ p ∈ src, p.1 ≠ [] ∨ p.2 ≠ none

instance (src : Source) : Decidable (Progress src) :=
  inferInstanceAs (Decidable (∀ p ∈ src, p.1 ≠ [] ∨ p.2 ≠ none))

/-- what the reader will still deliver: bytes and final condition -/
def view (s : BState) : Bytes × BErr :=
  match s.err with
  | some e => (s.buf, e)
  | none => (s.buf ++ (total s.src).1, .src (total s.src).2)

theorem take_ne_nil {α : Type} {l : List α} {n : Nat} (hl : l ≠ []) (hn : 0 < n) : l.take n ≠ [] := by
  cases l with
  | nil => exact absurd rfl hl
  | cons a l =>
    cases n with
    | zero => exact absurd hn (Nat.lt_irrefl 0)
    | succ n => nofun

theorem length_drop_le {α : Type} {l : List α} {n m : Nat} (h : l.length ≤ m) : (l.drop n).length ≤ m :=
  List.length_drop ▸ Nat.le_trans (Nat.sub_le _ _) h

theorem srcRead_total (cap : Nat) (hcap : 0 < cap) (src : Source) (hp : Progress src)
    (d : Bytes) (e : Option RErr) (src' : Source) (h : srcRead cap src = (d, e, src')) :
    Progress src' ∧ d.length ≤ cap ∧
    (e = none → total src = (d ++ (total src').1, (total src').2) ∧ d ≠ []) ∧
    (∀ x, e = some x → total src = (d, x)) := by
  cases src with
  | nil =>
    simp only [srcRead, Prod.mk.injEq] at h
    obtain ⟨rfl, rfl, rfl⟩ := h
    refine ⟨?_, ?_, ?_, ?_⟩
    · intro p hp; cases hp
    · simp
    · intro h; cases h
    · intro x hx; cases hx; rfl
  | cons hd rest =>
    obtain ⟨D, E⟩ := hd
    have hrest : Progress rest := fun p hp' => hp p (List.mem_cons_of_mem _ hp')
    by_cases hl : D.length ≤ cap
    · simp only [srcRead, hl, if_true, Prod.mk.injEq] at h
      obtain ⟨rfl, rfl, rfl⟩ := h
      refine ⟨hrest, hl, ?_, ?_⟩
      · intro he
        subst he
        have := hp (D, none) (by simp)
        refine ⟨rfl, ?_⟩
        rcases this with h | h
        · exact h
        · exact absurd rfl h
      · intro x hx; subst hx; rfl
    · simp only [srcRead, hl, if_false, Prod.mk.injEq] at h
      obtain ⟨rfl, rfl, rfl⟩ := h
      have hdrop : D.drop cap ≠ [] := fun h => hl (List.drop_eq_nil_iff.mp h)
      have htake : D.take cap ≠ [] := take_ne_nil (fun h => hl (h ▸ Nat.zero_le _)) hcap
      refine ⟨?_, by rw [List.length_take]; omega, ?_, ?_⟩
      · intro p hp'
        simp only [List.mem_cons] at hp'
        rcases hp' with rfl | hp'
        · exact Or.inl hdrop
        · exact hrest p hp'
      · intro _
        refine ⟨?_, htake⟩
        cases E with
        | none => simp only [total]; rw [← List.append_assoc, List.take_append_drop]
        | some x => simp only [total]; rw [List.take_append_drop]
      · intro x hx; cases hx

/-- Invariant of the machine.  `prog`: no `(0, nil)` reads ahead, so the retry loop
    of `fill` never retries (its first underlying read brings data or a condition).
    `nofull`: `bufio.ErrBufferFull` is never STORED — it is the one `BErr` that
    `Peek` produces itself, so a view never ends in it. -/
structure Inv (s : BState) : Prop where
  prog : Progress s.src
  fits : s.buf.length ≤ s.size
  nofull : s.err ≠ some .bufferFull

theorem fill_view (s : BState) (hi : Inv s) (he : s.err = none) (hroom : s.buf.length < s.size) :
    Inv (fill s) ∧ view (fill s) = view s ∧ (fill s).size = s.size ∧
    ((fill s).err ≠ none ∨ s.buf.length < (fill s).buf.length) ∧ ∃ d, (fill s).buf = s.buf ++ d := by
  unfold fill maxConsecutiveEmptyReads
  -- only the first of the up to 100 rounds runs: under `Progress` the first
  -- underlying read brings data or a condition
  rw [show (100 : Nat) = 99 + 1 from rfl, fillLoop]
  generalize hsr : srcRead (s.size - s.buf.length) s.src = res
  obtain ⟨d, e, src'⟩ := res
  obtain ⟨hp', hlen, hnone, hsome⟩ := srcRead_total (s.size - s.buf.length) (Nat.sub_pos_of_lt hroom) s.src hi.prog d e src' hsr
  have hfits : (s.buf ++ d).length ≤ s.size := by
    rw [List.length_append, Nat.add_comm]
    exact Nat.add_le_of_le_sub (Nat.le_of_lt hroom) hlen
  simp only
  cases e with
  | some x =>
    have ht := hsome x rfl
    simp only
    refine ⟨?_, ?_, ?_, ?_, ?_⟩
    · exact { prog := hp', fits := hfits, nofull := by simp }
    · simp only [view, he, ht]
    · trivial
    · exact Or.inl (by simp)
    · exact ⟨d, rfl⟩
  | none =>
    obtain ⟨ht, hne⟩ := hnone rfl
    have hpos : d.length > 0 := List.length_pos_iff.mpr hne
    simp only [hpos, if_true]
    refine ⟨?_, ?_, ?_, ?_, ?_⟩
    · exact { prog := hp', fits := hfits, nofull := by simp [he] }
    · simp only [view, he, ht, List.append_assoc]
    · trivial
    · exact Or.inr (by rw [List.length_append]; exact Nat.lt_add_of_pos_right hpos)
    · exact ⟨d, rfl⟩

theorem peekLoop_view (n : Nat) : ∀ (fuel : Nat) (s : BState), Inv s → s.size - s.buf.length + 1 ≤ fuel →
    Inv (peekLoop n fuel s) ∧ view (peekLoop n fuel s) = view s ∧ (peekLoop n fuel s).size = s.size ∧
    ¬ ((peekLoop n fuel s).buf.length < n ∧ (peekLoop n fuel s).buf.length < s.size ∧ (peekLoop n fuel s).err = none) ∧
    ∃ d, (peekLoop n fuel s).buf = s.buf ++ d := by
  intro fuel
  induction fuel with
  | zero => intro s _ h; omega
  | succ fuel ih =>
    intro s hi hf
    rw [peekLoop]
    by_cases hc : s.buf.length < n ∧ s.buf.length < s.size ∧ s.err = none
    · rw [if_pos hc]
      obtain ⟨hi', hv, hs, hgrow, d, hd⟩ := fill_view s hi hc.2.2 hc.2.1
      by_cases herr : (fill s).err = none
      · have hg : s.buf.length < (fill s).buf.length := by
          rcases hgrow with h | h
          · exact absurd herr h
          · exact h
        obtain ⟨a, b, c, e, d2, hd2⟩ := ih (fill s) hi' (by
          rw [hs]
          exact Nat.le_trans (Nat.succ_le_of_lt (Nat.sub_lt_sub_left hc.2.1 hg)) (Nat.le_of_succ_le_succ hf))
        refine ⟨a, by rw [b, hv], by rw [c, hs], by rw [hs] at e; exact e, d ++ d2, by rw [hd2, hd, List.append_assoc]⟩
      · -- a condition is stored: the loop stops at once
        have hstop : peekLoop n fuel (fill s) = fill s := by
          cases fuel with
          | zero => rfl
          | succ f => rw [peekLoop, if_neg (by intro h; exact herr h.2.2)]
        rw [hstop]
        exact ⟨hi', hv, hs, by intro h; exact herr h.2.2, d, hd⟩
    · rw [if_neg hc]
      exact ⟨hi, rfl, rfl, hc, [], by simp⟩

theorem view_buf_prefix (s : BState) : ∃ r, (view s).1 = s.buf ++ r := by
  unfold view
  cases s.err with
  | some e => exact ⟨[], (List.append_nil _).symm⟩
  | none => exact ⟨_, rfl⟩

theorem view_cond_ne_bufferFull (s : BState) (hi : Inv s) : (view s).2 ≠ .bufferFull := by
  unfold view
  cases he : s.err with
  | some e => exact fun h => hi.nofull (he.trans (congrArg some h))
  | none => nofun

theorem peek_gt (n : Nat) (s : BState) (hi : Inv s) (hn : s.size < n)
    (out : Bytes) (e : Option BErr) (s' : BState) (h : peek n s = (out, e, s')) :
    e = some .bufferFull ∧ Inv s' ∧ s'.size = s.size ∧ view s' = view s ∧ ∃ r, (view s).1 = out ++ r := by
  obtain ⟨hi', hv, hs, -, -⟩ := peekLoop_view n (s.size + 1) s hi (Nat.succ_le_succ (Nat.sub_le _ _))
  rw [peek, if_pos (hs.symm ▸ hn)] at h
  cases h
  exact ⟨rfl, hi', hs, hv, hv ▸ view_buf_prefix _⟩

theorem peek_le (n : Nat) (s : BState) (hi : Inv s) (hn : n ≤ s.size)
    (out : Bytes) (e : Option BErr) (s' : BState) (h : peek n s = (out, e, s')) :
    out = (view s).1.take n ∧ Inv s' ∧ s'.size = s.size ∧
    (n ≤ (view s).1.length → e = none ∧ view s' = view s) ∧
    ((view s).1.length < n → e = some (view s).2 ∧ s'.err = none ∧ s'.buf = out) := by
  obtain ⟨hi', hv, hs, hexit, -⟩ := peekLoop_view n (s.size + 1) s hi (Nat.succ_le_succ (Nat.sub_le _ _))
  rw [peek] at h
  generalize peekLoop n (s.size + 1) s = s1 at hi' hv hs hexit h
  rw [if_neg (Nat.not_lt.mpr (hs.symm ▸ hn))] at h
  rw [← hv]
  by_cases h2 : s1.buf.length < n
  · rw [if_pos h2] at h
    cases h
    cases he : s1.err with
    | none => exact absurd ⟨h2, Nat.lt_of_lt_of_le h2 hn, he⟩ hexit
    | some x =>
      have hvx : view s1 = (s1.buf, x) := by simp only [view, he]
      rw [hvx]
      exact ⟨(List.take_of_length_le (Nat.le_of_lt h2)).symm, ⟨hi'.prog, hi'.fits, nofun⟩, hs,
        fun h => absurd h (Nat.not_le.mpr h2), fun _ => ⟨rfl, rfl, rfl⟩⟩
  · rw [if_neg h2] at h
    cases h
    obtain ⟨r, hr⟩ := view_buf_prefix s'
    refine ⟨by rw [hr, List.take_append_of_le_length (Nat.not_lt.mp h2)], hi', hs, fun _ => ⟨rfl, rfl⟩, fun h => ?_⟩
    rw [hr, List.length_append] at h
    exact absurd (Nat.lt_of_le_of_lt (Nat.le_add_right _ _) h) h2

theorem read_view (cap : Nat) (hcap : 0 < cap) (s : BState) (hi : Inv s)
    (d : Bytes) (e : Option BErr) (s' : BState) (h : Bufio.read cap s = (d, e, s')) :
    (e = none → Inv s' ∧ s'.size = s.size ∧ (view s).1 = d ++ (view s').1 ∧ (view s).2 = (view s').2 ∧ d ≠ []) ∧
    (∀ x, e = some x → view s = (d, x)) := by
  unfold Bufio.read at h
  rw [if_neg (Nat.ne_of_gt hcap)] at h
  by_cases hb : s.buf.isEmpty = true
  · rw [if_pos hb] at h
    have hbn : s.buf = [] := by simpa using hb
    cases he : s.err with
    | some x =>
      rw [he] at h
      simp only [Prod.mk.injEq] at h
      obtain ⟨rfl, rfl, rfl⟩ := h
      refine ⟨(by intro h0; cases h0), ?_⟩
      intro y hy; cases hy
      simp [view, he, hbn]
    | none =>
      rw [he] at h
      simp only at h
      by_cases hc : cap ≥ s.size
      · rw [if_pos hc] at h
        generalize hsr : srcRead cap s.src = res at h
        obtain ⟨d0, e0, src'⟩ := res
        obtain ⟨hp', _, hnone, hsome⟩ := srcRead_total cap hcap s.src hi.prog d0 e0 src' hsr
        simp only [Prod.mk.injEq] at h
        obtain ⟨rfl, rfl, rfl⟩ := h
        cases e0 with
        | none =>
          obtain ⟨ht, hne⟩ := hnone rfl
          refine ⟨?_, by intro x hx; cases hx⟩
          intro _
          refine ⟨{ prog := hp', fits := by simp [hbn], nofull := by simp }, rfl, ?_, ?_, hne⟩
          · simp [view, he, hbn, ht]
          · simp [view, he, ht]
        | some x =>
          refine ⟨(by intro h0; cases h0), ?_⟩
          intro y hy
          simp only [Option.map_some, Option.some.injEq] at hy
          subst hy
          simp [view, he, hbn, hsome x rfl]
      · rw [if_neg hc] at h
        generalize hsr : srcRead s.size s.src = res at h
        obtain ⟨d0, e0, src'⟩ := res
        obtain ⟨hp', hlen, hnone, hsome⟩ := srcRead_total s.size (by omega) s.src hi.prog d0 e0 src' hsr
        simp only at h
        by_cases hd0 : d0.isEmpty = true
        · rw [if_pos hd0] at h
          have hd0n : d0 = [] := by simpa using hd0
          simp only [Prod.mk.injEq] at h
          obtain ⟨rfl, rfl, rfl⟩ := h
          cases e0 with
          | none => exact absurd hd0n (hnone rfl).2
          | some x =>
            refine ⟨(by intro h0; cases h0), ?_⟩
            intro y hy
            simp only [Option.map_some, Option.some.injEq] at hy
            subst hy
            simp [view, he, hbn, hsome x rfl, hd0n]
        · rw [if_neg hd0] at h
          simp only [Prod.mk.injEq] at h
          obtain ⟨rfl, rfl, rfl⟩ := h
          have htake : d0.take cap ≠ [] := take_ne_nil (by simpa using hd0) hcap
          refine ⟨?_, by intro x hx; cases hx⟩
          intro _
          refine ⟨{ prog := hp', fits := length_drop_le hlen, nofull := by cases e0 <;> simp }, rfl, ?_, ?_, htake⟩
          · cases e0 with
            | none =>
              simp only [view, he, hbn, (hnone rfl).1, Option.map_none, List.nil_append]
              rw [← List.append_assoc, List.take_append_drop]
            | some x =>
              simp only [view, he, hbn, hsome x rfl, Option.map_some, List.nil_append]
              rw [List.take_append_drop]
          · cases e0 with
            | none => simp only [view, he, (hnone rfl).1, Option.map_none]
            | some x => simp only [view, he, hsome x rfl, Option.map_some]
  · rw [if_neg hb] at h
    simp only [Prod.mk.injEq] at h
    obtain ⟨rfl, rfl, rfl⟩ := h
    have htake : s.buf.take cap ≠ [] := take_ne_nil (by simpa using hb) hcap
    refine ⟨?_, by intro x hx; cases hx⟩
    intro _
    refine ⟨{ prog := hi.prog, fits := length_drop_le hi.fits, nofull := hi.nofull }, rfl, ?_, ?_, htake⟩
    · unfold view
      cases s.err with
      | some x => simp
      | none => simp only; rw [← List.append_assoc, List.take_append_drop]
    · unfold view
      cases s.err with
      | some x => rfl
      | none => rfl

theorem drain_view (cap : Nat) (hcap : 0 < cap) : ∀ (fuel : Nat) (s : BState) (acc : Bytes), Inv s →
    (view s).1.length + 1 ≤ fuel →
    (drain cap fuel s acc).1 = acc ++ (view s).1 ∧ (drain cap fuel s acc).2.1 = some (view s).2 := by
  intro fuel
  induction fuel with
  | zero => intro s acc _ h; omega
  | succ fuel ih =>
    intro s acc hi hf
    rw [drain]
    generalize hr : Bufio.read cap s = res
    obtain ⟨d, e, s1⟩ := res
    obtain ⟨hnone, hsome⟩ := read_view cap hcap s hi d e s1 hr
    simp only
    cases e with
    | some x =>
      have := hsome x rfl
      simp only [this]
      exact ⟨trivial, trivial⟩
    | none =>
      obtain ⟨hi1, _, hv1, hv2, hne⟩ := hnone rfl
      have hl : 0 < d.length := List.length_pos_iff.mpr hne
      have hlen : (view s).1.length = d.length + (view s1).1.length := by rw [hv1, List.length_append]
      obtain ⟨a, b⟩ := ih s1 (acc ++ d) hi1 (by omega)
      simp only
      rw [a, b, hv1, hv2, List.append_assoc]
      exact ⟨rfl, rfl⟩


/-! ## EOF-sticky scripts

  `Peek(size)` on a stream shorter than the buffer reports `io.EOF` together
  with all the bytes and FORGETS the condition (`readErr`); the next `Peek`
  (`IsSaltpackBinary` after `IsSaltpackArmored`) and the later `Read`s ask the
  underlying reader again.  What they get depends on the reader: the theorems
  about such streams need the script to be EOF-STICKY (`EofSticky`: after a
  delivery that carries `io.EOF` every later read is `(0, io.EOF)`, as for every
  reader that keeps answering EOF at its end — a script that simply ends is such
  a reader, the exhausted script answers `(0, EOF)` forever).  A machine-checked
  counterexample without that hypothesis is in Props/C16More.lean. -/

def AllEof (src : Source) : Prop := ∀ p ∈ src, p = (([] : Bytes), some RErr.eof)

/-- once a delivery carried `io.EOF`, all later reads are `(0, io.EOF)` (errors
    other than EOF may be transient) -/
def EofSticky : Source → Prop
  | [] => True
  | (_, some .eof) :: rest => AllEof rest
  | (_, _) :: rest => EofSticky rest

theorem allEof_sticky : ∀ (src : Source), AllEof src → EofSticky src := by
  intro src
  induction src with
  | nil => intro _; trivial
  | cons p rest ih =>
    intro h
    have hp := h p (by simp)
    have hr : AllEof rest := fun q hq => h q (List.mem_cons_of_mem _ hq)
    subst hp
    exact hr

theorem allEof_total (src : Source) (h : AllEof src) : total src = ([], .eof) := by
  cases src with
  | nil => rfl
  | cons p rest =>
    have hp := h p (by simp)
    subst hp
    rfl

theorem sticky_tail (d : Bytes) (e : Option RErr) (rest : Source) (h : EofSticky ((d, e) :: rest)) :
    EofSticky rest ∧ (e = some .eof → AllEof rest) := by
  cases e with
  | none => exact ⟨h, fun h0 => by cases h0⟩
  | some x =>
    cases x with
    | eof => exact ⟨allEof_sticky rest h, fun _ => h⟩
    | err z => exact ⟨h, fun h0 => by cases h0⟩

theorem sticky_head (d d' : Bytes) (e : Option RErr) (rest : Source) (h : EofSticky ((d, e) :: rest)) :
    EofSticky ((d', e) :: rest) := by
  cases e with
  | none => exact h
  | some x =>
    cases x with
    | eof => exact h
    | err z => exact h

theorem srcRead_sticky (cap : Nat) (src : Source) (hs : EofSticky src)
    (d : Bytes) (e : Option RErr) (src' : Source) (h : srcRead cap src = (d, e, src')) :
    EofSticky src' ∧ (e = some .eof → AllEof src') := by
  cases src with
  | nil =>
    simp only [srcRead, Prod.mk.injEq] at h
    obtain ⟨_, _, rfl⟩ := h
    exact ⟨trivial, fun _ p hp => by cases hp⟩
  | cons hd rest =>
    obtain ⟨D, E⟩ := hd
    by_cases hl : D.length ≤ cap
    · simp only [srcRead, hl, if_true, Prod.mk.injEq] at h
      obtain ⟨_, rfl, rfl⟩ := h
      exact sticky_tail D E rest hs
    · simp only [srcRead, hl, if_false, Prod.mk.injEq] at h
      obtain ⟨_, rfl, rfl⟩ := h
      exact ⟨sticky_head D _ E rest hs, fun h0 => by cases h0⟩

/-- the part of the machine state the stickiness argument needs -/
def StickyInv (s : BState) : Prop :=
  EofSticky s.src ∧ (s.err = some (.src .eof) → AllEof s.src)

theorem fillLoop_sticky : ∀ (i : Nat) (s : BState), s.err = none → EofSticky s.src → StickyInv (fillLoop i s) := by
  intro i
  induction i with
  | zero => intro s _ hs; exact ⟨hs, fun h => by simp [fillLoop] at h⟩
  | succ i ih =>
    intro s he hs
    rw [fillLoop]
    generalize hsr : srcRead (s.size - s.buf.length) s.src = res
    obtain ⟨d, e, src'⟩ := res
    obtain ⟨h1, h2⟩ := srcRead_sticky _ s.src hs d e src' hsr
    simp only
    cases e with
    | some x =>
      simp only
      refine ⟨h1, fun hx => ?_⟩
      simp only [Option.some.injEq, BErr.src.injEq] at hx
      exact h2 (by rw [hx])
    | none =>
      simp only
      split
      · exact ⟨h1, fun hx => by simp [he] at hx⟩
      · exact ih _ he h1

theorem peekLoop_sticky (n : Nat) : ∀ (fuel : Nat) (s : BState), StickyInv s → StickyInv (peekLoop n fuel s) := by
  intro fuel
  induction fuel with
  | zero => intro s h; exact h
  | succ fuel ih =>
    intro s h
    rw [peekLoop]
    split
    · rename_i hc
      exact ih _ (fillLoop_sticky _ s hc.2.2 h.1)
    · exact h

theorem peek_sticky (n : Nat) (s : BState) (hs : StickyInv s)
    (out : Bytes) (e : Option BErr) (s' : BState) (h : peek n s = (out, e, s')) :
    StickyInv s' ∧ (e = some (.src .eof) → AllEof s'.src) := by
  have h1 := peekLoop_sticky n (s.size + 1) s hs
  unfold peek at h
  simp only at h
  split at h
  · simp only [Prod.mk.injEq] at h
    obtain ⟨_, rfl, rfl⟩ := h
    exact ⟨h1, fun h0 => by cases h0⟩
  · split at h
    · simp only [Prod.mk.injEq] at h
      obtain ⟨_, rfl, rfl⟩ := h
      refine ⟨⟨h1.1, fun h0 => by cases h0⟩, fun h0 => ?_⟩
      apply h1.2
      cases he : (peekLoop n (s.size + 1) s).err with
      | none => rw [he] at h0; simp at h0
      | some x => rw [he] at h0; simpa using h0
    · simp only [Prod.mk.injEq] at h
      obtain ⟨_, rfl, rfl⟩ := h
      exact ⟨h1, fun h0 => by cases h0⟩

theorem sticky_new (src : Source) (size : Nat) (h : EofSticky src) : StickyInv (newReaderSize src size) :=
  ⟨h, fun h0 => by simp [newReaderSize] at h0⟩

/-- in the sticky-EOF case the EOF that `Peek` forgot is answered again by the script -/
theorem peek_keep (n : Nat) (s : BState) (hi : Inv s) (hn : n ≤ s.size)
    (hk : n ≤ (view s).1.length ∨ ((view s).2 = .src .eof ∧ StickyInv s))
    (out : Bytes) (e : Option BErr) (s' : BState) (h : peek n s = (out, e, s')) :
    out = (view s).1.take n ∧ e = (if n ≤ (view s).1.length then none else some (.src .eof)) ∧
    Inv s' ∧ s'.size = s.size ∧ view s' = view s := by
  obtain ⟨ho, hi', hs, hfull, hshort⟩ := peek_le n s hi hn out e s' h
  by_cases hl : n ≤ (view s).1.length
  · obtain ⟨he, hv⟩ := hfull hl
    exact ⟨ho, by rw [if_pos hl, he], hi', hs, hv⟩
  · obtain ⟨heof, hst⟩ := hk.resolve_left hl
    obtain ⟨he, herr, hbuf⟩ := hshort (Nat.lt_of_not_le hl)
    rw [heof] at he
    have hall := (peek_sticky n s hst out e s' h).2 he
    refine ⟨ho, by rw [if_neg hl, he], hi', hs, ?_⟩
    rw [view, herr, hbuf, allEof_total s'.src hall, List.append_nil, ho,
      List.take_of_length_le (Nat.le_of_lt (Nat.lt_of_not_le hl)), ← heof]

/-! ## `ClassifyStream` on the machine -/

open Classify

theorem inv_new (src : Source) (size : Nat) (hp : Progress src) : Inv (newReaderSize src size) :=
  { prog := hp, fits := by simp [newReaderSize], nofull := by simp [newReaderSize] }

theorem view_new (src : Source) (size : Nat) :
    view (newReaderSize src size) = ((total src).1, .src (total src).2) := by
  simp [view, newReaderSize]

theorem ite_ne_of {α : Type} {c : Prop} [Decidable c] {a b x : α} (ha : a ≠ x) (hb : b ≠ x) :
    (if c then a else b) ≠ x := by
  split <;> assumption

theorem binarySlice_ne_eof (b : Bytes) : Classify.binarySlice b ≠ .eof := by
  unfold Classify.binarySlice
  refine ite_ne_of nofun ?_
  dsimp only
  split
  · nofun
  · split
    · nofun
    · exact (Saltpack.Proofs.CodecMono.binBody_ne_short _).2

/-- every leaf of `classifyNorm` is a constructor other than `.eof`, or the
    verdict of `binarySlice` -/
theorem armoredPrefix_ne_eof (pref : Bytes) : Classify.armoredPrefix pref ≠ .eof := by
  rw [Saltpack.Proofs.ClsAux.armoredPrefix_norm]
  unfold Saltpack.Proofs.ClsAux.classifyNorm
  dsimp only
  split
  · exact ite_ne_of nofun (ite_ne_of (ite_ne_of nofun nofun) (ite_ne_of (ite_ne_of nofun nofun)
      (ite_ne_of (ite_ne_of nofun nofun) nofun)))
  · refine ite_ne_of nofun ?_
    split
    · nofun
    · next hb => exact absurd hb (binarySlice_ne_eof _)
    · nofun
    · nofun
    · exact ite_ne_of nofun nofun

/-- the `bin` continuation of `ClassifyStream`: the local `bin` of
    `Bufio.classifyStreamM`, copied (`classifyStreamM_eq` holds by `rfl` only while
    the two texts agree) -/
def binCont (s1 : BState) : MVerdict (Bool × Bytes × Int × Version) × BState :=
  let (b, s2) := isSaltpackBinary s1
  match b with
  | .v (.ok (t, v)) => (.v (.ok (false, [], t, v)), s2)
  | .v .short => (.v .short, s2)
  | .v .eof => (.v .eof, s2)
  | .v .notSaltpack => (.v .notSaltpack, s2)
  | .v (.unmodelled w) => (.v (.unmodelled w), s2)
  | .fail e => (.fail e, s2)

theorem classifyStreamM_eq (s : BState) : classifyStreamM s =
    match (isSaltpackArmored s).1 with
    | .v (.ok (b, t, v)) => (.v (.ok (true, b, t, v)), (isSaltpackArmored s).2)
    | .v .short => (.v .short, (isSaltpackArmored s).2)
    | .v (.unmodelled w) => (.v (.unmodelled w), (isSaltpackArmored s).2)
    | .fail e => (.fail e, (isSaltpackArmored s).2)
    | .v .notSaltpack => binCont (isSaltpackArmored s).2
    | .v .eof => binCont (isSaltpackArmored s).2 := by
  unfold classifyStreamM binCont
  generalize isSaltpackArmored s = r
  obtain ⟨a, s1⟩ := r
  rfl


/-- the state left is that after the first or after the second peek, so it has
    every property `J` both have -/
theorem classify_combine (s s1 s2 : BState) (size : Nat) (all : Bytes)
    (ha : isSaltpackArmored s =
      (.v (if (all.take size).isEmpty then .eof else armoredPrefix (all.take size)), s1))
    (hb : isSaltpackBinary s1 = (.v (if size < minLen then .short else if all.length < minLen then .eof
      else binarySlice (all.take minLen)), s2)) :
    (classifyStreamM s).1 = .v (classifyStream size all) ∧
    ∀ J : BState → Prop, J s1 → J s2 → J (classifyStreamM s).2 := by
  have hbin : binCont s1 = (.v (if size < minLen then .short else if all.length < minLen then .eof else
      match binarySlice (all.take minLen) with
      | .ok (t, v) => .ok (false, [], t, v)
      | .short => .short
      | .eof => .eof
      | .notSaltpack => .notSaltpack
      | .unmodelled w => .unmodelled w), s2) := by
    rw [binCont, hb]
    dsimp only
    by_cases h1 : size < minLen
    · simp only [if_pos h1]
    · by_cases h2 : all.length < minLen
      · simp only [if_neg h1, if_pos h2]
      · simp only [if_neg h1, if_neg h2]
        cases binarySlice (all.take minLen) <;> first | rfl | (rename_i x; cases x; rfl)
  rw [classifyStreamM_eq, ha, classifyStream]
  dsimp only
  by_cases hemp : (all.take size).isEmpty = true
  · simp only [if_pos hemp]
    exact ⟨congrArg Prod.fst hbin, fun J _ h2 => hbin ▸ h2⟩
  · simp only [if_neg hemp]
    cases harm : armoredPrefix (all.take size) with
    | ok x => obtain ⟨b, t, v⟩ := x; exact ⟨rfl, fun _ h1 _ => h1⟩
    | short => exact ⟨rfl, fun _ h1 _ => h1⟩
    | unmodelled w => exact ⟨rfl, fun _ h1 _ => h1⟩
    | eof => exact absurd harm (armoredPrefix_ne_eof _)
    | notSaltpack => exact ⟨congrArg Prod.fst hbin, fun J _ h2 => hbin ▸ h2⟩

theorem classify_view (s : BState) (hi : Inv s) (hsz : 0 < s.size)
    (hcase : s.size ≤ (view s).1.length ∨ ((view s).2 = .src .eof ∧ StickyInv s)) :
    Inv (classifyStreamM s).2 ∧ view (classifyStreamM s).2 = view s ∧
    (classifyStreamM s).1 = .v (classifyStream s.size (view s).1) ∧
    (StickyInv s → StickyInv (classifyStreamM s).2) := by
  generalize hpa : peek s.size s = ra
  obtain ⟨out, e, s1⟩ := ra
  obtain ⟨ho, he, hi1, hs1, hv1⟩ := peek_keep s.size s hi (Nat.le_refl _) hcase out e s1 hpa
  have hst1 : StickyInv s → StickyInv s1 := fun h => (peek_sticky s.size s h out e s1 hpa).1
  have ha : isSaltpackArmored s = (.v (if ((view s).1.take s.size).isEmpty then .eof
      else armoredPrefix ((view s).1.take s.size)), s1) := by
    rw [isSaltpackArmored, hpa, he, ← ho]
    dsimp only
    by_cases hl : s.size ≤ (view s).1.length
    · have hne : out.isEmpty = false := by
        rw [List.isEmpty_eq_false_iff, ← List.length_pos_iff, ho, List.length_take]
        omega
      simp only [if_pos hl, hne, Bool.false_eq_true, if_false]
    · simp only [if_neg hl]
      split <;> rfl
  generalize hpb : peek minLen s1 = rb
  obtain ⟨out2, e2, s2⟩ := rb
  have hst2 : StickyInv s1 → StickyInv s2 := fun h => (peek_sticky minLen s1 h out2 e2 s2 hpb).1
  have hb : Inv s2 ∧ view s2 = view s ∧ isSaltpackBinary s1 = (.v (if s.size < minLen then .short
      else if (view s).1.length < minLen then .eof else binarySlice ((view s).1.take minLen)), s2) := by
    rw [isSaltpackBinary, hpb]
    by_cases hlt : s.size < minLen
    · obtain ⟨rfl, hi2, -, hv2, -⟩ := peek_gt minLen s1 hi1 (by rw [hs1]; exact hlt) out2 e2 s2 hpb
      exact ⟨hi2, hv2.trans hv1, by rw [if_pos hlt]⟩
    · obtain ⟨ho2, he2, hi2, -, hv2⟩ := peek_keep minLen s1 hi1 (hs1.symm ▸ Nat.not_lt.mp hlt)
        (hcase.imp (fun h => hv1.symm ▸ Nat.le_trans (Nat.not_lt.mp hlt) h) (fun h => ⟨by rw [hv1]; exact h.1, hst1 h.2⟩)) out2 e2 s2 hpb
      rw [hv1] at ho2 he2
      refine ⟨hi2, hv2.trans hv1, ?_⟩
      rw [if_neg hlt, he2, ho2]
      by_cases hl : minLen ≤ (view s).1.length
      · rw [if_pos hl, if_neg (Nat.not_lt.mpr hl)]
      · rw [if_neg hl, if_pos (Nat.lt_of_not_le hl)]
        rfl
  obtain ⟨hi2, hv2, hb⟩ := hb
  obtain ⟨hr, hJ⟩ := classify_combine s s1 s2 s.size (view s).1 ha hb
  obtain ⟨h1, h2, h3⟩ := hJ (fun t => Inv t ∧ view t = view s ∧ (StickyInv s → StickyInv t))
    ⟨hi1, hv1, hst1⟩ ⟨hi2, hv2, fun h => hst2 (hst1 h)⟩
  exact ⟨h1, h2, hr, h3⟩

theorem classify_reports_cond (s : BState) (hi : Inv s) (hshort : (view s).1.length < s.size)
    (hc : (view s).2 ≠ .src .eof) : (classifyStreamM s).1 = .fail (view s).2 := by
  generalize hpk : peek s.size s = res
  obtain ⟨out, e, s1⟩ := res
  obtain ⟨he, -⟩ := (peek_le s.size s hi (Nat.le_refl _) out e s1 hpk).2.2.2.2 hshort
  have ha : isSaltpackArmored s = (.fail (view s).2, s1) := by
    rw [isSaltpackArmored, hpk, he]
    generalize (view s).2 = c at hc
    cases c with
    | src r => cases r with
      | eof => exact absurd rfl hc
      | err x => rfl
    | bufferFull => rfl
    | noProgress => rfl
  rw [classifyStreamM_eq, ha]

theorem classify_then_drain_of (src : Source) (size cap fuel : Nat) (hp : Progress src) (hcap : 0 < cap)
    (hcase : max size minReadBufferSize ≤ (total src).1.length ∨ ((total src).2 = .eof ∧ EofSticky src))
    (hfuel : (total src).1.length + 1 ≤ fuel) :
    let r := classifyStreamM (newReaderSize src size)
    r.1 = .v (classifyStream (max size minReadBufferSize) (total src).1) ∧
    (drain cap fuel r.2 []).1 = (total src).1 ∧
    (drain cap fuel r.2 []).2.1 = some (.src (total src).2) := by
  have hvw := view_new src size
  have hsz : (newReaderSize src size).size = max size minReadBufferSize := rfl
  obtain ⟨hi1, hv1, hr, -⟩ := classify_view (newReaderSize src size) (inv_new src size hp)
    (by rw [hsz]; unfold minReadBufferSize; omega)
    (by rw [hsz, hvw]; exact hcase.imp id fun h => ⟨congrArg BErr.src h.1, sticky_new src size h.2⟩)
  rw [hvw, hsz] at hr
  obtain ⟨a, b⟩ := drain_view cap hcap fuel (classifyStreamM (newReaderSize src size)).2 [] hi1
    (by rw [hv1, hvw]; exact hfuel)
  rw [hv1, hvw] at a b
  exact ⟨hr, by simpa using a, b⟩

end Saltpack.Proofs.BufioP
